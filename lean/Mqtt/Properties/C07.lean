/-
C07 — SUBSCRIBE and UNSUBSCRIBE are always acknowledged and take effect at the
acknowledgement.

Property theorems only (helper lemmas: `Proofs/BrokerFanout*.lean`; the last section specialises the
refinement theorem of `Proofs/BrokerRefine*.lean`).

The clauses of C07, C01 and C08, as the section headings of the three files letter them:
  (a) one SUBACK, first, same identifier, one code per filter - `C07_suback_shape`, `C07_codes_spec_partial`
  (b) one UNSUBACK - `C07_unsuback`
  (c) every listed filter takes effect at the acknowledgement - `C07_subscribe_effect`, `C07_unsubscribe_effect`
  (d) the fan-out loop over a subscriber list - `C01_fanout_char`, `C01_fanout_loop`
  (e) a publish reaches exactly the matching subscriptions - `C01_publish_reaches_matching_partial`
  (f) forwards to existing subscriptions carry RETAIN = 0 - `C08_forward_retain_zero`, `C08_step_retain_zero`
  (g) one retained message per topic, the last non-empty one - `C08_retain_step_partial`, `C08_retain_refines_partial`
  (h) a new subscription receives the matching retained messages - `C08_subscribe_delivers_retained`
  (i) so does an in-process subscriber - `C08_srvSub_delivers_retained_partial`

Model:
`Model/Broker.lean` (`packet`, `subscribeLoop`, `sendRetained`) over the topic
store `Model/Topics.lean`; specification: `Spec/Broker.lean` (`subCode`).  All
theorems quantify over every state satisfying the representation invariant
`Inv` (which `step` preserves from the initial state: `C07_inv_step`).

"Path of a filter": `(entryLevels f).1`, the levels the store's entry points
walk - `levels f` (the iteration of `nextTopicLevel`) unless `f` is empty or
begins with '$', in which case `checkTopic` turns it away before any level is
read and `entryLevels f = ([], false)` (`Proofs.Topics.entryLevels_of_not_checkTopic/_of_checkTopic`).
`good f`: no empty level (finding B3) and not beginning with '$' (outside the
property's quantifier).
-/
import Mqtt.Proofs.BrokerFanoutGen
import Mqtt.Proofs.BrokerRefineCorX
import Mqtt.Proofs.BrokerAckOrder

namespace Mqtt.Properties.C07
open Mqtt.Iface.Broker Mqtt.Model.Broker Mqtt.Proofs.Broker
open Mqtt.Model.Topics (MemTopics)
open Mqtt.Proofs.Topics (good abs entryLevels)
open Mqtt.Spec.Match (split validName matchLevels dollar)

/-- the return code for one requested (filter, QoS byte), read off the topic
store's own answer: the granted QoS `min(requested, server maximum)` if
`MemTopics.subscribe` accepts the pair, 0x80 if it rejects it -/
def grantCode (mt : MemTopics) (c : Nat) (tq : Bytes × Nat) : Nat :=
  match (mt.subscribe Mqtt.Generated.maxQosAllowed tq.1 tq.2 c).2 with
  | some _ => min tq.2 Mqtt.Generated.maxQosAllowed
  | none => 0x80

/-! ### the representation invariant -/

/-- `Inv` (both tries well-formed - unique Go-map keys, one entry per subscriber
and node -; every stored retained message has RETAIN set; every live
connection's session reference resolves) holds of the initial state and is
preserved by every event. -/
theorem C07_inv_step : Inv {} ∧ ∀ (b : B) (e : Ev), Inv b → Inv (step b e).1 :=
  ⟨Inv_init, fun _ e h => Inv_step h e⟩

/-- hence of every reachable state -/
theorem C07_inv_run (es : List Ev) : Inv (run {} es).1 := Inv_run Inv_init es

/-! ### (a) one SUBACK, first, same identifier, one code per filter in request order -/

/-- A SUBSCRIBE on a live connection: the first output is the SUBACK to that
connection with the request's identifier and exactly one return code per
requested filter, in request order - `min(requested, maximum)` where the store
accepts the filter, 0x80 where it rejects it (whatever state `mt` the store is
in: acceptance depends on the request only).  Everything after the SUBACK is a
PUBLISH to the same connection (retained delivery), so there is no second
SUBACK and the request is never dropped. -/
theorem C07_suback_shape (b : B) (hinv : Inv b) (c id : Nat) (topics : List (Bytes × Nat))
    (hl : b.alive c = true) :
    ∃ codes rest, (packet b c (.subscribe id topics)).2 = .send c (.suback id codes) :: rest ∧
      codes.length = topics.length ∧
      (∀ mt : MemTopics, codes = topics.map (grantCode mt c)) ∧
      (∀ o ∈ rest, isPublishTo c o = true) ∧
      (∀ o ∈ rest, ∀ d i cs, o ≠ .send d (.suback i cs)) := by
  obtain ⟨cn, s, hc, ha, hs⟩ := hinv.live hl
  rw [packet_subscribe_snd id topics hc ha hs]
  have hshape := sendRetained_out c (topics.flatMap fun tq =>
    if accepts tq.1 tq.2 then (retainedOf b.topics tq.1).map (conv (min tq.2 Mqtt.Generated.maxQosAllowed)) else [])
    (({ b with topics := resubscribe b.topics c topics } : B).setSess { s with topics := subTopics topics s.topics })
  refine ⟨_, _, rfl, List.length_map _, fun mt => List.map_congr_left fun tq _ => (modelCode_eq mt c tq.1 tq.2).symm,
    hshape, fun o ho d i cs he => ?_⟩
  have := hshape o ho
  rw [he] at this
  cases this

def exConnect (c : Nat) (cid : Bytes) : Ev :=
  .first c (.connect { protoName := [77, 81, 84, 84], version := 4, clean := true, will := none, clientId := cid }) true

def exState : B :=
  (run {} [exConnect 1 [97], exConnect 2 [98],
           .srvPub { qos := 1, retain := true, topic := [97, 47, 98], payload := [1, 2] }]).1

/-- the example state satisfies the hypotheses of the theorems -/
example : Inv exState := C07_inv_run _

/-- non-vacuity: a broker with one client ("a", connection 1) and a retained
message on "a/b"; SUBSCRIBE id 7 for "a/+" (QoS 1), "a/#/x" (invalid), "a/b"
with QoS byte 3 (invalid), "a/b" (QoS 0): SUBACK [1, 0x80, 0x80, 0] first, then
the retained message once per granted filter. -/
example :
    exState.alive 1 = true ∧
    (packet exState 1 (.subscribe 7 [([97, 47, 43], 1), ([97, 47, 35, 47, 120], 1), ([97, 47, 98], 3), ([97, 47, 98], 0)])).2 =
      [.send 1 (.suback 7 [1, 0x80, 0x80, 0]),
       .send 1 (.publish { qos := 1, retain := true, topic := [97, 47, 98], pktid := 1, payload := [1, 2] }),
       .send 1 (.publish { qos := 0, retain := true, topic := [97, 47, 98], pktid := 0, payload := [1, 2] })] := by
  decide +kernel

/-- For filters without empty levels (finding B3 is outside) that do not begin
with '$' (outside the property's quantifier), the codes are the
specification's: `min(q, 2)` for a valid filter with QoS byte <= 2, else 0x80. -/
theorem C07_codes_spec_partial (mt : MemTopics) (c : Nat) (topics : List (Bytes × Nat))
    (hg : ∀ tq ∈ topics, good tq.1 = true) :
    topics.map (grantCode mt c) = topics.map (fun tq => Mqtt.Spec.Broker.subCode tq.1 tq.2) := by
  exact List.map_congr_left (fun tq htq => (modelCode_eq mt c tq.1 tq.2).trans (modelCode_good tq.1 tq.2 (hg tq htq)))

/-- "a/$b" and "+/$b" are valid filters without empty levels;
the broker grants them like the specification does, a wildcard level still may
not continue with '$' ("+$b": 0x80 on both sides), and a filter beginning with
'$' is refused by the code (the specification's `subCode` is not asked about
those: they are outside the property's quantifier). -/
theorem C07_codes_dollar_level :
    good [97, 47, 36, 98] = true ∧ good [43, 47, 36, 98] = true ∧
    [([97, 47, 36, 98], 1), ([43, 47, 36, 98], 2), ([43, 36, 98], 1)].map (grantCode MemTopics.new 1) = [1, 2, 0x80] ∧
    [([97, 47, 36, 98], 1), ([43, 47, 36, 98], 2), ([43, 36, 98], 1)].map
      (fun tq => Mqtt.Spec.Broker.subCode tq.1 tq.2) = [1, 2, 0x80] ∧
    grantCode MemTopics.new 1 ([36, 83, 89, 83], 1) = 0x80 := by decide +kernel

/-- the full statement: all filters that do not begin with '$' -/
def C07_codes_spec_full : Prop :=
  ∀ (mt : MemTopics) (c : Nat) (topics : List (Bytes × Nat)), (∀ tq ∈ topics, dollar tq.1 = false) →
    topics.map (grantCode mt c) = topics.map (fun tq => Mqtt.Spec.Broker.subCode tq.1 tq.2)

/-- The full statement holds.  The empty filter - not a filter at all by
MQTT-4.7.3-1 - is turned away by `checkTopic`: 0x80 on both sides.  No hypothesis about empty levels is needed: finding B3 changes which
levels are stored and matched, not which filters are accepted
(`Proofs.Topics.levels_ok`: the walk ends without an error exactly when every
level is valid, for every byte string). -/
theorem C07_codes_spec_full_holds : C07_codes_spec_full := by
  intro mt c topics hd
  exact List.map_congr_left (fun tq htq =>
    (modelCode_eq mt c tq.1 tq.2).trans (modelCode_not_dollar tq.1 tq.2 (hd tq htq)))

/-- the empty filter gets 0x80 on both sides; filters with empty levels ("/a", "a/", "a//b",
"/") are valid and granted on both sides, "#/" (a level after '#') is refused on
both sides -/
theorem C07_codes_empty_filter :
    grantCode MemTopics.new 1 ([], 1) = 0x80 ∧ Mqtt.Spec.Broker.subCode [] 1 = 0x80 ∧
    [([47, 97], 1), ([97, 47], 2), ([97, 47, 47, 98], 0), ([47], 1), ([35, 47], 1)].map (grantCode MemTopics.new 1) =
      [1, 2, 0, 1, 0x80] ∧
    [([47, 97], 1), ([97, 47], 2), ([97, 47, 47, 98], 0), ([47], 1), ([35, 47], 1)].map
      (fun tq => Mqtt.Spec.Broker.subCode tq.1 tq.2) = [1, 2, 0, 1, 0x80] := by decide +kernel

/-- the server maximum extracted from the Go source is the protocol's -/
theorem C07_facts_maxQos : Mqtt.Generated.maxQosAllowed = Mqtt.Spec.Broker.maxQos := facts_maxQos

/-- "From that acknowledgement on": the model performs the effects of a SUBSCRIBE /
UNSUBSCRIBE and emits the SUBACK / UNSUBACK in one atomic step, so every later
event sees the new subscriptions.  That describes the code because
`processSubscribe` / `processUnsubscribe` write the acknowledgement after the last
change to the subscription store and the session (statement order extracted from the source,
extract/facts_broker.go section `brokerack`): an acknowledgement written first
would let a PUBLISH of another connection, processed between the acknowledgement
and the effects, still be forwarded (resp. not yet be forwarded) - the seeded
change `C07-unsuback-before-removal`; the harness event `unsubrace` looks for the
same window dynamically. -/
theorem C07_ack_follows_effects :
    Mqtt.Generated.subscribeAckAfterEffects = true ∧ Mqtt.Generated.unsubscribeAckAfterEffects = true :=
  facts_ack_after_effects

/-! ### (b) UNSUBSCRIBE -/

/-- An UNSUBSCRIBE on a live connection is answered by exactly one packet: the
UNSUBACK with the request's identifier. -/
theorem C07_unsuback (b : B) (hinv : Inv b) (c id : Nat) (topics : List Bytes) (hl : b.alive c = true) :
    (packet b c (.unsubscribe id topics)).2 = [.send c (.unsuback id)] := by
  obtain ⟨cn, s, hc, ha, hs⟩ := hinv.live hl
  rw [packet_unsubscribe b c cn s id topics hc ha hs]
  simp [send, hl]

example : exState.alive 2 = true ∧
    (packet exState 2 (.unsubscribe 9 [[97, 47, 43], [120]])).2 = [.send 2 (.unsuback 9)] := by decide +kernel

/-! ### (c) every listed filter takes effect -/

/-- The SUBSCRIBE step on the subscription trie.  `entriesAfterSub c topics es`
is the loop "for each requested (filter, QoS) in order: if the store accepts
it, replace-or-add the entry (path of the filter, `c`, granted QoS)" over the
entry list `es`.  The trie after the step holds exactly these entries; the
entries of every other subscriber are the same as before; the invariant holds
again.  (Paths are the level lists the code's own walk produces: no hypothesis
on the filters.) -/
theorem C07_subscribe_effect (b : B) (hinv : Inv b) (c id : Nat) (topics : List (Bytes × Nat))
    (hl : b.alive c = true) :
    Inv (packet b c (.subscribe id topics)).1 ∧
    (abs (packet b c (.subscribe id topics)).1.topics.sroot).Perm (entriesAfterSub c topics (abs b.topics.sroot)) ∧
    ((abs (packet b c (.subscribe id topics)).1.topics.sroot).filter (fun e => e.2.1 != c)).Perm
      ((abs b.topics.sroot).filter (fun e => e.2.1 != c)) := by
  have hp := packet_subscribe_sroot b hinv c id topics hl
  refine ⟨Inv_step hinv (.packet c _), hp, ?_⟩
  have := hp.filter (fun e => e.2.1 != c)
  rw [entriesAfterSub_others] at this
  exact this

/-- Every granted filter is subscribed when the SUBACK goes out: if the request
at position `pre.length` is accepted, and no later accepted request of the same
packet names the same filter (which would replace the QoS), the trie holds the
entry (path of the filter, `c`, that request's return code). -/
theorem C07_granted_is_held (b : B) (hinv : Inv b) (c id : Nat) (pre post : List (Bytes × Nat))
    (t : Bytes) (q : Nat) (hl : b.alive c = true) (ha : accepts t q = true)
    (hpost : ∀ tq ∈ post, accepts tq.1 tq.2 = true → (entryLevels tq.1).1 ≠ (entryLevels t).1) :
    ((entryLevels t).1, c, grantCode b.topics c (t, q)) ∈
      abs (packet b c (.subscribe id (pre ++ (t, q) :: post))).1.topics.sroot := by
  have hp := packet_subscribe_sroot b hinv c id (pre ++ (t, q) :: post) hl
  rw [hp.mem_iff]
  rw [show grantCode b.topics c (t, q) = _ from modelCode_eq b.topics c t q, modelCode, if_pos ha]
  exact entriesAfterSub_mem c pre post t q _ ha hpost

/-- The UNSUBSCRIBE step on the subscription trie: exactly the entries of
`c` under the paths of the listed filters disappear (`entriesAfterUnsub`); in
particular no listed filter is subscribed for `c` afterwards, and the entries
of every other subscriber are the same as before. -/
theorem C07_unsubscribe_effect (b : B) (hinv : Inv b) (c id : Nat) (topics : List Bytes)
    (hl : b.alive c = true) :
    Inv (packet b c (.unsubscribe id topics)).1 ∧
    (abs (packet b c (.unsubscribe id topics)).1.topics.sroot).Perm
      (entriesAfterUnsub c topics (abs b.topics.sroot)) ∧
    (∀ t ∈ topics, (entryLevels t).2 = true → ∀ q,
      ((entryLevels t).1, c, q) ∉ abs (packet b c (.unsubscribe id topics)).1.topics.sroot) ∧
    ((abs (packet b c (.unsubscribe id topics)).1.topics.sroot).filter (fun e => e.2.1 != c)).Perm
      ((abs b.topics.sroot).filter (fun e => e.2.1 != c)) := by
  have hp := packet_unsubscribe_sroot b hinv c id topics hl
  refine ⟨Inv_step hinv (.packet c _), hp, ?_, ?_⟩
  · intro t ht hlv q hmem
    exact entriesAfterUnsub_absent c topics t ht hlv _ q (hp.mem_iff.mp hmem)
  · have := hp.filter (fun e => e.2.1 != c)
    rw [entriesAfterUnsub_others] at this
    exact this

/-- "A subscription applies to every message the broker accepts after sending
the SUBACK": in the state right after the SUBSCRIBE step, every decoded PUBLISH
(QoS <= 2, identifier unless QoS 0) on a good valid topic name that the granted
filter's path matches is forwarded to the connection - same topic, same
payload, QoS min(publish QoS, return code of that filter), RETAIN 0. -/
theorem C07_effective_after_suback_partial (b : B) (hinv : Inv b) (c id : Nat) (pre post : List (Bytes × Nat))
    (t : Bytes) (q : Nat) (hl : b.alive c = true) (ha : accepts t q = true)
    (hpost : ∀ tq ∈ post, accepts tq.1 tq.2 = true → (entryLevels tq.1).1 ≠ (entryLevels t).1)
    (p : Pub) (hg : good p.topic = true) (hn : validName p.topic = true) (hq : p.qos ≤ 2)
    (hid : p.pktid ≠ 0 ∨ p.qos = 0) (hm : matchLevels (entryLevels t).1 (split p.topic) = true) :
    delivery p c (grantCode b.topics c (t, q)) ∈
      (onPublish (packet b c (.subscribe id (pre ++ (t, q) :: post))).1 ⟨p, false⟩).2.2.1 := by
  have hmem := C07_granted_is_held b hinv c id pre post t q hl ha hpost
  have hinv' : Inv (packet b c (.subscribe id (pre ++ (t, q) :: post))).1 := Inv_step hinv (.packet c _)
  have hal' : (packet b c (.subscribe id (pre ++ (t, q) :: post))).1.alive c = true := by
    rw [alive_congr b _ (packet_subscribe_conns b c id _)]; exact hl
  obtain ⟨_, hperm⟩ := onPublish_char_gen _ p hinv' hg hn hq hid
  rw [hperm.mem_iff]
  refine List.mem_map.mpr ⟨_, List.mem_filter.mpr ⟨hmem, ?_⟩, rfl⟩
  simp [hm, reachable, hal']

/-- "... and to none it accepts after sending the UNSUBACK": in the state right
after the UNSUBSCRIBE step, whatever a PUBLISH makes the broker hand to `c`
stems from a subscription of `c` under a path other than those of the listed
filters, and is exactly the `delivery` for that subscription. -/
theorem C07_none_after_unsuback_partial (b : B) (hinv : Inv b) (c id : Nat) (topics : List Bytes)
    (hl : b.alive c = true)
    (p : Pub) (hg : good p.topic = true) (hn : validName p.topic = true) (hq : p.qos ≤ 2)
    (hid : p.pktid ≠ 0 ∨ p.qos = 0) :
    ∀ o ∈ (onPublish (packet b c (.unsubscribe id topics)).1 ⟨p, false⟩).2.2.1, target o = some c →
      ∃ e ∈ abs (packet b c (.unsubscribe id topics)).1.topics.sroot,
        e.2.1 = c ∧ matchLevels e.1 (split p.topic) = true ∧
        (∀ t ∈ topics, (entryLevels t).2 = true → e.1 ≠ (entryLevels t).1) ∧
        o = delivery p c e.2.2 := by
  intro o ho htc
  obtain ⟨hinv', _, habs, _⟩ := C07_unsubscribe_effect b hinv c id topics hl
  obtain ⟨e, he1, hce, hm, _, ho'⟩ := onPublish_target _ p hinv' hg hn hq hid o ho c htc
  refine ⟨e, he1, hce, hm, fun t ht hlv hpath => habs t ht hlv e.2.2 ?_, ho'⟩
  rw [show ((entryLevels t).1, c, e.2.2) = e by rw [← hpath, ← hce]]
  exact he1

/-- non-vacuity: connection 2 subscribes "a/+" (QoS 1): a QoS 1 PUBLISH on "a/b"
reaches it; after UNSUBSCRIBE of "a/+" the same PUBLISH reaches nobody -/
example :
    let p : Pub := { qos := 1, topic := [97, 47, 98], pktid := 3, payload := [9] }
    let b1 := (packet exState 2 (.subscribe 1 [([97, 47, 43], 1)])).1
    let b2 := (packet b1 2 (.unsubscribe 2 [[97, 47, 43]])).1
    (onPublish exState ⟨p, false⟩).2.2.1 = [] ∧
    (onPublish b1 ⟨p, false⟩).2.2.1 = [.send 2 (.publish { qos := 1, topic := [97, 47, 98], pktid := 3, payload := [9] })] ∧
    (onPublish b2 ⟨p, false⟩).2.2.1 = [] := by decide +kernel

/-- Against the reference broker, for requests whose filters have no empty
level and do not begin with '$': if the trie holds exactly the specification's held
subscriptions (`HeldInv`: entry (split filter, owner, QoS) per held
subscription), it does so again after a SUBSCRIBE or UNSUBSCRIBE step of both
(`Spec.Broker.step1`, any specification state with these held subscriptions
that knows the connection). -/
theorem C07_held_refines_partial (b : B) (hinv : Inv b) (c id : Nat) (hl : b.alive c = true)
    (s : Mqtt.Spec.Broker.S) (hs : (Mqtt.Spec.Broker.getConn s c).isSome = true)
    (hh : HeldInv b.topics.sroot s.held) :
    (∀ topics : List (Bytes × Nat), (∀ tq ∈ topics, good tq.1 = true) →
      HeldInv (packet b c (.subscribe id topics)).1.topics.sroot
        (Mqtt.Spec.Broker.step1 s (.packet c (.subscribe id topics))).1.held) ∧
    (∀ topics : List Bytes, (∀ t ∈ topics, good t = true) →
      HeldInv (packet b c (.unsubscribe id topics)).1.topics.sroot
        (Mqtt.Spec.Broker.step1 s (.packet c (.unsubscribe id topics))).1.held) := by
  cases hcn : Mqtt.Spec.Broker.getConn s c with
  | none => rw [hcn] at hs; exact absurd hs (by simp)
  | some cn =>
    constructor
    · intro topics hg
      simp only [Mqtt.Spec.Broker.step1, hcn, specSubHeld_eq]
      exact packet_subscribe_held b hinv c id hl s.held hh topics hg
    · intro topics hg
      simp only [Mqtt.Spec.Broker.step1, hcn]
      exact packet_unsubscribe_held b hinv c id hl s.held hh topics hg

/-- The same for the in-process API (`Server.Subscribe` / `Server.Unsubscribe`
of a callback), and a publish of any kind leaves the subscription trie as it
is - so `HeldInv` is maintained along every history of these events. -/
theorem C07_held_refines_srv_partial (b : B) (hinv : Inv b) (cb : Nat) (f : Bytes) (hg : good f = true)
    (s : Mqtt.Spec.Broker.S) (hh : HeldInv b.topics.sroot s.held) :
    (∀ q, HeldInv (step b (.srvSub cb f q)).1.topics.sroot (Mqtt.Spec.Broker.step1 s (.srvSub cb f q)).1.held) ∧
    HeldInv (step b (.srvUnsub cb f)).1.topics.sroot (Mqtt.Spec.Broker.step1 s (.srvUnsub cb f)).1.held ∧
    (∀ m : Msg, (onPublish b m).1.topics.sroot = b.topics.sroot) := by
  refine ⟨?_, ?_, ?_⟩
  · intro q
    have := srvSub_held b hinv cb f q hg s.held hh
    simp only [step, Mqtt.Spec.Broker.step1]
    split
    · rename_i hc; rw [if_pos hc] at this; exact this
    · rename_i hc; rw [if_neg hc] at this; exact this
  · exact srvUnsub_held b hinv cb f hg s.held hh
  · exact fun m => (Mqtt.Proofs.BrokerQos.onPublish_frame b m).sroot

/-- the full statement of the SUBSCRIBE half: all filters -/
def C07_held_refines_full : Prop :=
  ∀ (b : B) (c id : Nat) (s : Mqtt.Spec.Broker.S) (topics : List (Bytes × Nat)),
    Inv b → b.alive c = true → (Mqtt.Spec.Broker.getConn s c).isSome = true → HeldInv b.topics.sroot s.held →
    HeldInv (packet b c (.subscribe id topics)).1.topics.sroot
      (Mqtt.Spec.Broker.step1 s (.packet c (.subscribe id topics))).1.held

/-- False of the code as it is (finding B3): the filter "/a" (first level
empty) is stored under the path of "+/a". -/
theorem C07_held_refines_full_counterexample : ¬ C07_held_refines_full := by
  intro h
  have h0 : HeldInv exState.topics.sroot [] := by
    have : abs exState.topics.sroot = [] := by decide +kernel
    exact ⟨by rw [this]; exact List.Perm.refl _, by simp⟩
  have := (h exState 1 1 { conns := [⟨1, [97], true, none, []⟩] } [([47, 97], 1)] (C07_inv_run _) (by decide +kernel)
    (by decide +kernel) h0).perm
  have e1 : abs (packet exState 1 (.subscribe 1 [([47, 97], 1)])).1.topics.sroot = [([[43], [97]], 1, 1)] := by
    decide +kernel
  have e2 : (Mqtt.Spec.Broker.step1 { conns := [⟨1, [97], true, none, []⟩] }
      (.packet 1 (.subscribe 1 [([47, 97], 1)]))).1.held = [⟨1, [47, 97], 1⟩] := by decide +kernel
  rw [e1, e2] at this
  exact absurd (List.perm_singleton.mp this) (by decide +kernel)

/-- non-vacuity: connection 1 subscribes "a/+" (1), "a/b" (2), "a/+" again (0):
the later grant replaces the earlier; then unsubscribes "a/b"; the in-process
subscriber's entry is untouched throughout. -/
example :
    let b0 := (step exState (.srvSub 1000 [97, 47, 35] 1)).1
    let b1 := (packet b0 1 (.subscribe 1 [([97, 47, 43], 1), ([97, 47, 98], 2), ([97, 47, 43], 0)])).1
    let b2 := (packet b1 1 (.unsubscribe 2 [[97, 47, 98], [120]])).1
    b0.alive 1 = true ∧ b1.alive 1 = true ∧
    abs b1.topics.sroot = [([[97], [35]], 1000, 1), ([[97], [43]], 1, 0), ([[97], [98]], 1, 2)] ∧
    abs b2.topics.sroot = [([[97], [35]], 1000, 1), ([[97], [43]], 1, 0)] := by
  decide +kernel

/-! ### the refinement theorem, specialised: SUBSCRIBE / UNSUBSCRIBE after any history -/

open Mqtt.Proofs.BrokerRefine (okRun specRun) in
open Mqtt.Spec.Broker (Accepts) in
/-- **Refinement (Proofs/BrokerRefine.lean: `Broker_refines_spec`) for C07.**
After any history admitted by `okRun` (side condition `okEv`: filters `good`,
...; see C01_refines_reference), a SUBSCRIBE / UNSUBSCRIBE with `good` filters on a live
connection is accepted by the reference broker; explicitly: the SUBACK is the
first output and carries the reference broker's return codes (`subCode`: the
granted QoS, 0x80 for an invalid filter or QoS byte), the UNSUBACK is the only
output; and the request is effective when it is acknowledged - afterwards the
subscription trie holds exactly the subscriptions the reference broker holds
(`HeldInv` with the `held` list of `Spec.Broker.step`), so that by
C01_refines_reference every later PUBLISH is forwarded according to them. -/
theorem C07_refines_reference (es : List Ev) (hok : okRun {} es = true) (c id : Nat)
    (hl : (run {} es).1.alive c = true) :
    (∀ ts : List (Bytes × Nat), (∀ tq ∈ ts, good tq.1 = true) →
      Accepts (Mqtt.Spec.Broker.step (specRun {} es).1 (.packet c (.subscribe id ts))).2
        (step (run {} es).1 (.packet c (.subscribe id ts))).2 ∧
      (∃ rest, (step (run {} es).1 (.packet c (.subscribe id ts))).2 =
        .send c (.suback id (ts.map (fun t => Mqtt.Spec.Broker.subCode t.1 t.2))) :: rest) ∧
      HeldInv (step (run {} es).1 (.packet c (.subscribe id ts))).1.topics.sroot
        (Mqtt.Spec.Broker.step (specRun {} es).1 (.packet c (.subscribe id ts))).1.held) ∧
    (∀ ts : List Bytes, (∀ t ∈ ts, good t = true) →
      Accepts (Mqtt.Spec.Broker.step (specRun {} es).1 (.packet c (.unsubscribe id ts))).2
        (step (run {} es).1 (.packet c (.unsubscribe id ts))).2 ∧
      (step (run {} es).1 (.packet c (.unsubscribe id ts))).2 = [.send c (.unsuback id)] ∧
      HeldInv (step (run {} es).1 (.packet c (.unsubscribe id ts))).1.topics.sroot
        (Mqtt.Spec.Broker.step (specRun {} es).1 (.packet c (.unsubscribe id ts))).1.held) :=
  Mqtt.Proofs.BrokerRefine.subunsub_refines_of_R _ _ (Mqtt.Proofs.BrokerRefine.reach es hok) c id hl

open Mqtt.Proofs.BrokerRefine (EvX okRunX runX specRunX) in
open Mqtt.Spec.Broker (Accepts) in
/-- **C07_refines_reference after a history with failed handshakes** (Proofs/BrokerRefineFail.lean:
`BrokerX_refines_spec`).  The same statement for SUBSCRIBE / UNSUBSCRIBE on a live connection, after a
history that may also contain first packets whose answer could not be written (`EvX.failFirst`). -/
theorem C07_refines_reference_with_failed_handshakes (es : List EvX) (hok : okRunX {} es = true) (c id : Nat)
    (hl : (runX {} es).1.alive c = true) :
    (∀ ts : List (Bytes × Nat), (∀ tq ∈ ts, good tq.1 = true) →
      Accepts (Mqtt.Spec.Broker.step (specRunX {} es).1 (.packet c (.subscribe id ts))).2
        (step (runX {} es).1 (.packet c (.subscribe id ts))).2 ∧
      (∃ rest, (step (runX {} es).1 (.packet c (.subscribe id ts))).2 =
        .send c (.suback id (ts.map (fun t => Mqtt.Spec.Broker.subCode t.1 t.2))) :: rest) ∧
      HeldInv (step (runX {} es).1 (.packet c (.subscribe id ts))).1.topics.sroot
        (Mqtt.Spec.Broker.step (specRunX {} es).1 (.packet c (.subscribe id ts))).1.held) ∧
    (∀ ts : List Bytes, (∀ t ∈ ts, good t = true) →
      Accepts (Mqtt.Spec.Broker.step (specRunX {} es).1 (.packet c (.unsubscribe id ts))).2
        (step (runX {} es).1 (.packet c (.unsubscribe id ts))).2 ∧
      (step (runX {} es).1 (.packet c (.unsubscribe id ts))).2 = [.send c (.unsuback id)] ∧
      HeldInv (step (runX {} es).1 (.packet c (.unsubscribe id ts))).1.topics.sroot
        (Mqtt.Spec.Broker.step (specRunX {} es).1 (.packet c (.unsubscribe id ts))).1.held) :=
  Mqtt.Proofs.BrokerRefine.subunsub_refines_of_R _ _ (Mqtt.Proofs.BrokerRefine.reachX es hok) c id hl

end Mqtt.Properties.C07
