/-
C05 — Bad input or a sudden disconnect hurts nobody else.

"Whatever bytes a connection sends, before or after CONNECT — truncated,
oversized or garbage packets included — and whenever and however it
disconnects, the broker process keeps running, at most that one connection is
closed, and every other client's connection stays open and keeps receiving
exactly the messages it should."

Property theorems only (helper lemmas: `Proofs/Framing.lean`, `Proofs/FramingIso.lean`,
`Proofs/BrokerIso.lean`, `Proofs/BrokerQos.lean`, `Proofs/BrokerLife*.lean`, `Properties/C04.lean`);
the tie to the Go source (the theorems `C05_…_is_source…` over the regenerated translation
`Mqtt.Generated.Xlate`) is in `Properties/C05Source.lean`, which nothing imports.  Models: `Model/Framing.lean` (getMessageBuffer,
getConnectMessage, peekMessageSize, peekMessage over byte streams; `panicked` is
an explicit outcome), `Model/Codec.lean` (the decoders), `Model/Broker.lean` (one
event = one step).  The theorems quantify over *every* byte stream
(`List UInt8`, no length bound), every ring size, every broker state (with the
proved invariant where a session reference has to be fresh) and every
connection identifier.

(i)   the decoders the connection paths call never panic (`C05_decode_total`);
(ii)  framing ends in packet | needMore | closeThis, consumes only bytes of
      its own stream, allocates boundedly (`C05_framing_…`);
(iii) an event of connection A leaves every other connection's table entry,
      liveness and session object alone; what it emits to others is the
      fan-out of an accepted PUBLISH or of A's will and nothing else
      (`C05_other_…`, `C05_outputs`, `C05_…_fanout`);
(iv)  any number of events of A, its end included, never closes B; a byte
      stream on A is such a sequence of events, ending at most in `close A`
      (`C05_events_never_close_others`, `C05_stream_is_events_of_A`,
      `C05_bytes_hurt_nobody_else`).

What stays outside: a real panic, out-of-memory or goroutine death is a runtime
event; the model has it only as the explicit outcome of the steps it contains
(decoders, framing).  Logging, TLS, the websocket bridge are not modelled.  The
step granularity (one event = one atomic step) is the broker model's (C01).
-/
import Mqtt.Proofs.FramingIso
import Mqtt.Proofs.BrokerQos
import Mqtt.Properties.C04

namespace Mqtt.Properties.C05

open Mqtt.Model.Framing Mqtt.Model.Broker
open Mqtt.Iface.Broker hiding Bytes
open Mqtt.Model.Codec (decodeNew)
open Mqtt.Proofs.Framing Mqtt.Proofs.BrokerIso Mqtt.Proofs.BrokerLife

/-- The limits the framing model takes from the source are the ones the bounds below are
stated for: at most four remaining-length bytes before CONNECT (`l > 4`), `cnt` from 2 to 5
after it; the default ring holds 256 KiB; `peekMessage` refuses a QoS 1/2 PUBLISH without packet
identifier; `handleConnection` and `processor` recover from a panic; an error of
`processIncoming` other than DISCONNECT does not end the processor. -/
theorem C05_facts :
    Generated.framingPreMaxHeader = 4 ∧ Generated.framingPostCntStart = 2 ∧ Generated.framingPostMaxCnt = 5 ∧
    Generated.defaultBufferSize = 262144 ∧ Generated.framingRejectsPublishIdZero = true ∧
    Generated.framingAcceptRecovers = true ∧
    Generated.framingProcessorRecovers = true ∧ Generated.framingNonFatalContinues = true := by decide

/-- `Type(t).New()` followed by `Decode(src)` — what `peekMessage` does with the bytes of a
packet and `getConnectMessage` with the first packet (t = 1) — never panics, for every type
number and every byte string, and a success reports at most the bytes it was given
(corollary of C04). -/
theorem C05_decode_total (t : Nat) (src : Bytes) :
    decodeNew t src ≠ .panic ∧ ∀ d, decodeNew t src = .ok d → d.n ≤ src.length :=
  ⟨Mqtt.Properties.C04.decode_total t src, fun d h => Mqtt.Properties.C04.decode_count_le t src d h⟩

/-- **Before CONNECT**, for every byte stream: `getConnectMessage` ends in a decoded CONNECT,
a refusal (decode error, with or without CONNACK code), `needMore` (the stream ends inside the
first packet: read error or connect deadline) or a framing error — never in a panic.  It
consumes a prefix of that stream (`n ≤ length`, and the decoder sees exactly `stream.take n`),
and every slice it allocates has at most 1 + 4 + 268 435 455 bytes: what a four-byte remaining
length can announce. -/
theorem C05_framing_total_pre (stream : Bytes) :
    (getConnectMessage stream).outcome ≠ .panicked ∧
    FirstOutcome.consumed (getConnectMessage stream).outcome ≤ stream.length ∧
    (∀ c n, (getConnectMessage stream).outcome = .connect c n →
      2 ≤ n ∧ ∃ d h, decodeNew Generated.tCONNECT (stream.take n) = .ok d ∧ d.msg = .connect h c) ∧
    (∀ a ∈ (getConnectMessage stream).allocs, a ≤ 1 + 4 + 268435455) := by
  obtain ⟨h, hal⟩ := getConnectMessage_ok stream
  revert h
  cases (getConnectMessage stream).outcome with
  | connect c n => exact fun h => ⟨nofun, h.2.1, fun _ _ e => by cases e; exact ⟨h.1, h.2.2⟩, hal⟩
  | refused code n => exact fun h => ⟨nofun, h, (fun _ _ e => nomatch e), hal⟩
  | needMore | error => exact fun _ => ⟨nofun, Nat.zero_le _, (fun _ _ e => nomatch e), hal⟩
  | panicked => exact False.elim

/-- **After CONNECT**, for every ring size and every byte stream: one round of the processor
loop (`peekMessageSize`, `peekMessage`) ends in a decoded packet, `needMore` or `closeThis` —
never in a panic (nor in the model's own loop bound).  A packet is decoded from exactly the
first `total` bytes of that stream, with `1 ≤ total ≤` ring size, it is not a QoS 1/2 PUBLISH
without packet identifier, and every (copying) read asks for at most the ring size. -/
theorem C05_framing_total_post (sz : Nat) (avail : Bytes) :
    (nextPacket sz avail).outcome ≠ .panicked ∧ (nextPacket sz avail).outcome ≠ .stuck ∧
    (∀ d total, (nextPacket sz avail).outcome = .packet d total →
      1 ≤ total ∧ total ≤ avail.length ∧ total ≤ sz ∧ (∃ t, decodeNew t (avail.take total) = .ok d) ∧
      publishIdMissing d.msg = false) ∧
    (∀ a ∈ (nextPacket sz avail).allocs, a ≤ sz) := by
  obtain ⟨h, hal⟩ := nextPacket_ok sz avail
  revert h
  cases (nextPacket sz avail).outcome with
  | packet d total => exact fun h => ⟨nofun, nofun, fun _ _ e => by cases e; exact h, hal⟩
  | needMore | closeThis => exact fun _ => ⟨nofun, nofun, (fun _ _ e => nomatch e), hal⟩
  | panicked | stuck => exact False.elim

/-- The outcomes, spelled out: packet | needMore | closeThis. -/
theorem C05_framing_outcomes (sz : Nat) (avail : Bytes) :
    (∃ d total, (nextPacket sz avail).outcome = .packet d total) ∨
    (nextPacket sz avail).outcome = .needMore ∨ (nextPacket sz avail).outcome = .closeThis := by
  have h := (nextPacket_ok sz avail).1
  revert h
  cases (nextPacket sz avail).outcome with
  | packet d total => exact fun _ => .inl ⟨d, total, rfl⟩
  | needMore => exact fun _ => .inr (.inl rfl)
  | closeThis => exact fun _ => .inr (.inr rfl)
  | panicked | stuck => exact False.elim

/-- non-vacuity: a PINGREQ is framed and decoded; one byte of it is `needMore`; a fifth length
byte, a packet larger than the ring, packet types 0 and 15, a PUBLISH with a topic running
past its remaining length and a QoS 1 PUBLISH with packet identifier 0 are `closeThis`; before
CONNECT `10 ff ff ff ff 7f` is an error after five bytes (no allocation beyond them), and
`10 ff ff ff 7f` waits with 268 435 455 bytes allocated. -/
example :
    (match (nextPacket 16384 [0xc0, 0x00, 0x30]).outcome with | .packet _ 2 => true | _ => false) = true ∧
    (nextPacket 16384 [0xc0]).outcome = .needMore ∧
    (nextPacket 16384 [0x30, 0x80, 0x80, 0x80, 0x80, 0x01]).outcome = .closeThis ∧
    (nextPacket 16384 [0x30, 0x80, 0x80, 0x01]).outcome = .closeThis ∧
    (nextPacket 16384 [0x00, 0x00]).outcome = .closeThis ∧
    (nextPacket 16384 [0xf0, 0x00]).outcome = .closeThis ∧
    (nextPacket 16384 [0x30, 0x03, 0x00, 0x09, 0x61, 0x62]).outcome = .closeThis ∧
    (nextPacket 16384 [0x32, 0x06, 0x00, 0x01, 0x77, 0x00, 0x00, 0xaa]).outcome = .closeThis ∧
    getConnectMessage [0x10, 0xff, 0xff, 0xff, 0xff, 0x7f] = ⟨.error, [1, 5]⟩ ∧
    getConnectMessage [0x10, 0xff, 0xff, 0xff, 0x7f] = ⟨.needMore, [1, 5, 268435455, 268435460]⟩ := by
  decide +kernel

/-- **Table entry and liveness of every other connection are untouched** by an event of `A`
(first packet — accepted or refused —, any packet, the end of the connection), in every
broker state — with the one exception MQTT demands: an acceptable CONNECT that carries the
client identifier of a live connection disconnects that connection (MQTT-3.1.4-2;
`noTakeOver b e`: the event is not such a CONNECT, `takenOver b f a = []`). -/
theorem C05_other_connections_untouched (b : B) (A B' : Nat) (e : Ev) (he : onConn A e = true) (hne : B' ≠ A)
    (hto : noTakeOver b e) :
    (step b e).1.getConn B' = b.getConn B' ∧ (step b e).1.alive B' = b.alive B' :=
  ⟨step_getConn_other b A B' e he hne hto, step_alive_other b A B' e he hne hto⟩

/-- ... and a CONNECT that does take over ends exactly the live connections that carry its
client identifier: every other connection keeps its table entry (`takenOver`). -/
theorem C05_take_over_ends_only_same_client (b : B) (A B' : Nat) (f : First) (a : Bool) (hne : B' ≠ A)
    (hB : B' ∉ takenOver b f a) :
    (step b (.first A f a)).1.getConn B' = b.getConn B' :=
  step_conn_kept b (.first A f a) B' (fun h => h.elim (fun e => hne e.symm) hB)

/-- **Session objects of others are untouched**: every session object `r` that is not the one
serving `A` and not the one an accepted CONNECT of `A` resumes (same client identifier) is
exactly what it was — subscriptions, will, open QoS 2 exchanges. -/
theorem C05_other_sessions_untouched (b : B) (hi : Inv b) (A : Nat) (e : Ev) (he : onConn A e = true)
    (r : Nat) (s : Sess) (hs : b.getSess r = some s) (hsh : ¬ sharesSession b A r e) (hto : noTakeOver b e) :
    (step b e).1.getSess r = some s :=
  step_getSess_other hi A e he r s hs hsh hto

/-- **What an event of `A` emits**: packets to `A` itself, the close of `A`, and fan-out items
(`fwdOk`: a PUBLISH with RETAIN = 0 written to a connection, or an in-process callback).  In
particular no other connection is closed, and nothing but such a PUBLISH is written to one. -/
theorem C05_outputs (b : B) (A : Nat) (e : Ev) (he : onConn A e = true) (hto : noTakeOver b e) :
    (∀ o ∈ (step b e).2, isoOut A o = true) ∧
    ∀ B', B' ≠ A → Out.closed B' ∉ (step b e).2 ∧
      ∀ p, Out.send B' p ∈ (step b e).2 → ∃ w, p = .publish w ∧ w.retain = false :=
  ⟨step_iso b A e he hto, fun _ hne => iso_others hne (step_iso b A e he hto)⟩

/-- **Only messages reach others.**  An event of `A` that hands no application message to the
fan-out — a refused or accepted first packet, SUBSCRIBE, UNSUBSCRIBE, every acknowledgement,
PINGREQ, DISCONNECT, a QoS 2 PUBLISH (held until its PUBREL), packets a client has no business
sending, anything on a connection that is not live — emits to `A` alone. -/
theorem C05_quiet_events_reach_nobody (b : B) (A : Nat) (e : Ev) (he : onConn A e = true) (hq : quietEv e = true)
    (hto : noTakeOver b e) : ∀ o ∈ (step b e).2, ownOut A o = true :=
  step_quiet_own b A e he hq hto

/-- **…and the messages are exactly the prescribed fan-out.**  On a live connection a QoS 0
PUBLISH emits exactly the fan-out `onPublish` computes, a QoS 1 PUBLISH the PUBACK to `A`
followed by it, a PUBREL the fan-out of the released messages followed by the PUBCOMP to `A`;
`C01_fanout_char` / `C01_publish_*` say what that fan-out is (one copy per matching
subscription at min(QoS)), `C08` what the retain step does. -/
theorem C05_publish_is_fanout (b : B) (A : Nat) (cn : Conn) (s : Sess) (p : Pub)
    (hc : b.getConn A = some cn) (ha : cn.alive = true) (hs : b.getSess cn.sess = some s) :
    (p.qos = 0 → (step b (.packet A (.publish p))).2 = (onPublish b ⟨p, false⟩).2.2.1) ∧
    (p.qos = 1 → (step b (.packet A (.publish p))).2 =
      .send A (.puback p.pktid) :: (onPublish b ⟨p, false⟩).2.2.1) ∧
    (∀ id, (step b (.packet A (.pubrel id))).2 =
      (releaseAll (b.setSess { s with pub2in := (q2Acked (q2Ack s.pub2in id)).1 })
        (q2Acked (q2Ack s.pub2in id)).2).2 ++ [.send A (.pubcomp id)]) := by
  refine ⟨fun h => ?_, fun h => ?_, fun id => ?_⟩
  · show (packet b A (.publish p)).2 = _
    rw [Mqtt.Proofs.BrokerQos.packet_publish0 hc ha hs p h]
  · show (packet b A (.publish p)).2 = _
    rw [Mqtt.Proofs.BrokerQos.packet_publish1 hc ha hs p h]
  · show (packet b A (.pubrel id)).2 = _
    rw [Mqtt.Proofs.BrokerQos.packet_pubrel hc ha hs id]

/-- The end of `A` without DISCONNECT — peer close, keep-alive expiry, framing or decoding
error, all `stop()` — emits the close of `A` followed by exactly the fan-out of `A`'s will
(`C09_will_published_once` and C01 say what that is), or the close alone when there is no
will; afterwards `A` is not live and everybody else is as live as before. -/
theorem C05_end_is_will_fanout (b : B) (A : Nat) (cn : Conn) (s : Sess)
    (hc : b.getConn A = some cn) (ha : cn.alive = true) (hs : b.getSess cn.sess = some s) :
    (s.willFlag = false → (step b (.close A)).2 = [.closed A]) ∧
    (∀ w, s.willFlag = true → s.will = some w →
      (step b (.close A)).2 = .closed A :: (onPublish (stopBase b A s) w).2.2.1) ∧
    (step b (.close A)).1.alive A = false ∧
    ∀ B', B' ≠ A → (step b (.close A)).1.alive B' = b.alive B' :=
  ⟨fun hf => stop_out_nowill b A cn s hc ha hs hf, fun w hf hw => stop_out_will b A cn s w hc ha hs hf hw,
   stop_not_alive b A, fun B' hne => stop_alive_ne b A B' hne.symm⟩

/-- non-vacuity on the example state (connection 1: persistent, will on "w", subscribed to
"a/b" and "w"; connection 2: subscribed to "a/b" and "w"; callback 1000 on "w"): garbage on a
new connection 3 closes 3 and nothing else; connection 1 dropping publishes its will to
connection 2 and the callback and closes only itself; a QoS 0 PUBLISH of 2 reaches 1. -/
example :
    (step Ex.base2 (.first 3 .garbage true)).2 = [.closed 3] ∧
    (step Ex.base2 (.close 1)).2 =
      [.closed 1, .send 2 (.publish { qos := 1, topic := Ex.tW, pktid := 2, payload := [1] }),
       .call 1000 { qos := 0, topic := Ex.tW, pktid := 2, payload := [1] }] ∧
    (step Ex.base2 (.close 1)).1.alive 2 = true ∧ (step Ex.base2 (.close 1)).1.alive 1 = false ∧
    (step Ex.base2 (.packet 2 (.publish { qos := 0, topic := Ex.tAB, payload := [5] }))).2 =
      [.send 1 (.publish { qos := 0, topic := Ex.tAB, payload := [5] }),
       .send 2 (.publish { qos := 0, topic := Ex.tAB, payload := [5] })] := by
  decide +kernel

/-- **Any sequence of events of `A`** — refused and accepted first packets, packets, its end,
in any number and order — leaves every other connection's table entry and liveness as they
were, closes nobody else, and writes to others nothing but PUBLISH packets with RETAIN = 0. -/
theorem C05_events_never_close_others (b : B) (A : Nat) (evs : List Ev) (h : ∀ e ∈ evs, onConn A e = true)
    (hto : noTakeOverRun b evs) (B' : Nat) (hne : B' ≠ A) :
    (run b evs).1.getConn B' = b.getConn B' ∧ (run b evs).1.alive B' = b.alive B' ∧
    ∀ os ∈ (run b evs).2, Out.closed B' ∉ os ∧
      ∀ p, Out.send B' p ∈ os → ∃ w, p = .publish w ∧ w.retain = false := by
  obtain ⟨h1, h2⟩ := run_iso A evs b h hto
  exact ⟨h1 B' hne, by unfold B.alive; rw [h1 B' hne], fun os hos => iso_others hne (h2 os hos)⟩

/-- **A byte stream is such a sequence.**  Whatever bytes arrive on accepted connection `A`
(any ring size, any packet bound of the model), the framing model turns them into packets of
`A` followed by at most one end of `A`, last (`StreamShape`); the bytes it leaves are a
suffix of the stream.  The first packet of a new connection is one `first` event of `A`.
More fuel than bytes changes nothing (`postEvents_fuel`). -/
theorem C05_stream_is_events_of_A (sz A fuel : Nat) (avail : Bytes) :
    StreamShape A (postEvents sz A fuel avail).1 ∧
    (∀ e ∈ (postEvents sz A fuel avail).1, onConn A e = true) ∧
    (∃ k, (postEvents sz A fuel avail).2 = avail.drop k) ∧
    (avail.length < fuel → postEvents sz A (fuel + 1) avail = postEvents sz A fuel avail) ∧
    ∀ auth ends e rest, firstEvent A auth avail ends = some (e, rest) →
      onConn A e = true ∧ ∃ k, rest = avail.drop k := by
  refine ⟨(postEvents_shape sz A fuel avail).1, shape_onConn (postEvents_shape sz A fuel avail).1,
    (postEvents_shape sz A fuel avail).2, postEvents_fuel sz A fuel avail, ?_⟩
  intro auth ends e rest h
  obtain ⟨⟨f, a, rfl⟩, hk⟩ := firstEvent_shape A auth avail ends e rest h
  exact ⟨by simp [onConn], hk⟩

/-- **No malformed PUBLISH is passed on.**  Every PUBLISH the framing hands to the broker model
has QoS 0 or a non-zero packet identifier — so the hypothesis of `C01_fanout_char` /
`C01_fanout_ids` on identifiers holds for everything a byte stream can make the broker forward,
and no subscriber is written a QoS 1/2 PUBLISH without identifier because of what another
connection sent. -/
theorem C05_forwarded_publish_has_id (sz A fuel : Nat) (avail : Bytes) (p : Pub)
    (h : Ev.packet A (.publish p) ∈ (postEvents sz A fuel avail).1) : p.qos = 0 ∨ p.pktid ≠ 0 :=
  postEvents_publish_ids sz A fuel avail p h

/-- **The property on the model.**  For every broker state, every connection `A`, every byte
stream sent as the first thing on `A` and every byte stream sent afterwards, cut anywhere
(`ends`: the peer closes or the connect deadline passes), followed or not by the end of `A`:
every other connection `B'` keeps its table entry and its liveness, is never closed, and is
written nothing but PUBLISH packets with RETAIN = 0 (the fan-out of `A`'s accepted publishes and
of its will: `C05_publish_is_fanout`, `C05_end_is_will_fanout`) — unless the first packet is an
acceptable CONNECT carrying the client identifier of a live connection, which MQTT-3.1.4-2
requires to disconnect that connection (`hto`; `C05_take_over_ends_only_same_client` says whom). -/
theorem C05_bytes_hurt_nobody_else (b : B) (sz A fuel : Nat) (auth : Auth) (first later : Bytes) (ends closes : Bool)
    (B' : Nat) (hne : B' ≠ A)
    (hto : ∀ e rest, firstEvent A auth first ends = some (e, rest) → noTakeOver b e) :
    let evs : List Ev :=
      (match firstEvent A auth first ends with
        | some (e, rest) => e :: (postEvents sz A fuel (rest ++ later)).1
        | none => []) ++ (if closes then [Ev.close A] else [])
    (run b evs).1.getConn B' = b.getConn B' ∧ (run b evs).1.alive B' = b.alive B' ∧
    ∀ os ∈ (run b evs).2, Out.closed B' ∉ os ∧
      ∀ p, Out.send B' p ∈ os → ∃ w, p = .publish w ∧ w.retain = false := by
  intro evs
  obtain ⟨hon, hrun⟩ := connEvents_ok b sz A fuel auth first later ends closes hto
  exact C05_events_never_close_others b A evs hon hrun B' hne

/-- a CONNECT of client "C" (clean, will [9] on "w" at QoS 1, keep-alive 60) -/
def exFirst : Bytes := [0x10, 0x13, 0, 4, 77, 81, 84, 84, 4, 0x0e, 0, 60, 0, 1, 67, 0, 1, 119, 0, 1, 9]
/-- PUBLISH QoS 0 "a/b" [5], then a packet of reserved type 15 -/
def exLater : Bytes := [0x30, 6, 0, 3, 97, 47, 98, 5, 0xf0, 0]

/-- non-vacuity: connection 3 sends `exFirst`, then `exLater`; the stream amounts to `first`,
one packet and the end of 3; on the example state connection 3 gets its CONNACK, its PUBLISH
reaches the subscribers 1 and 2, then 3 is closed; its will goes to connections 1 and 2 and
the callback, which are live as before. -/
example :
    (match firstEvent 3 (fun _ _ => true) exFirst false with
      | some (.first 3 (.connect req) true, []) => req.clientId == [67] && req.will.isSome
      | _ => false) = true ∧
    (match (postEvents 16384 3 20 exLater).1 with
      | [.packet 3 (.publish p), .close 3] => p.topic == Ex.tAB && p.qos == 0 && p.payload == [5]
      | _ => false) = true ∧
    (match firstEvent 3 (fun _ _ => true) exFirst false with
      | some (e, _) =>
        let r := run Ex.base2 (e :: (postEvents 16384 3 20 exLater).1)
        decide (r.2 = [[.send 3 (.connack false 0)],
               [.send 1 (.publish { qos := 0, topic := Ex.tAB, payload := [5] }),
                .send 2 (.publish { qos := 0, topic := Ex.tAB, payload := [5] })],
               [.closed 3, .send 1 (.publish { qos := 1, topic := Ex.tW, pktid := 2, payload := [9] }),
                .send 2 (.publish { qos := 1, topic := Ex.tW, pktid := 2, payload := [9] }),
                .call 1000 { qos := 0, topic := Ex.tW, pktid := 2, payload := [9] }]] ∧
        r.1.alive 1 = true ∧ r.1.alive 2 = true ∧ r.1.alive 3 = false)
      | none => false) = true := by
  decide +kernel

end Mqtt.Properties.C05
