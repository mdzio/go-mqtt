/-
C08 — Retained messages: one per topic, delivered to new subscriptions with
RETAIN = 1, forwarded to existing subscriptions with RETAIN = 0.

Property theorems only (helper lemmas: `Proofs/BrokerFanout*.lean`; the last section specialises the
refinement theorem of `Proofs/BrokerRefine*.lean`).  The clause letters (f)-(i) are listed in the header
of `Properties/C07.lean`.  Model:
`Model/Broker.lean` (`retainStep`, `onPublish`, `subscribeLoop`, `sendRetained`,
`srvSub`) over the retained trie of `Model/Topics.lean` and its finished
theorems (`Properties/C06.lean`); specification: `Spec/Broker.lean`.
-/
import Mqtt.Proofs.BrokerFanoutHistory
import Mqtt.Proofs.BrokerRefineCorX

namespace Mqtt.Properties.C08
open Mqtt.Iface.Broker Mqtt.Model.Broker Mqtt.Proofs.Broker
open Mqtt.Model.Topics (RMsg)
open Mqtt.Proofs.Topics (RWF absR good subscribe_rroot)
open Mqtt.Spec.Match (split validName validFilter matchLevels)
open Mqtt.Spec.Broker (subCode)

def exConnect (c : Nat) (cid : Bytes) : Ev :=
  .first c (.connect { protoName := [77, 81, 84, 84], version := 4, clean := true, will := none, clientId := cid }) true

/-- example state: connection 1 holds "a/+" (QoS 1), connection 2 "#" (QoS 1),
in-process subscriber 1000 "a/#" (QoS 1) -/
def exState : B :=
  (run {} [exConnect 1 [97], exConnect 2 [98], .srvSub 1000 [97, 47, 35] 1,
           .packet 1 (.subscribe 1 [([97, 47, 43], 1)]),
           .packet 2 (.subscribe 1 [([35], 1)])]).1

/-! ### (f) forwards to existing subscriptions carry RETAIN = 0 -/

/-- Every output of `onPublish` (any state, any message object - no
hypothesis at all) is a PUBLISH with RETAIN = 0 written to a connection, or an
invocation of an in-process callback (`Server.Subscribe`) with RETAIN = 0. -/
theorem C08_forward_retain_zero (b : B) (m : Msg) :
    ∀ o ∈ (onPublish b m).2.2.1,
      (∃ d w, o = .send d (.publish w) ∧ d < cbBase ∧ w.retain = false) ∨
      (∃ cb w, o = .call cb w ∧ cbBase ≤ cb ∧ w.retain = false) :=
  fun o ho => (onPublish_like b m o ho).imp (fun ⟨d, w, e, hd, hw, _⟩ => ⟨d, w, e, hd, hw⟩)
    (fun ⟨cb, w, e, hc, hw, _⟩ => ⟨cb, w, e, hc, hw rfl⟩)

/-- the same in the words of the property - "messages forwarded to already
existing subscriptions carry retain flag 0": whatever `onPublish` writes to a
connection or hands to an in-process callback has RETAIN = 0 -/
theorem C08_forward_retain_zero_all (b : B) (m : Msg) :
    ∀ o ∈ (onPublish b m).2.2.1,
      match o with
      | .send _ (.publish w) => w.retain = false
      | .call _ w => w.retain = false
      | _ => True := by
  intro o ho
  rcases C08_forward_retain_zero b m o ho with ⟨d, w, rfl, _, h⟩ | ⟨cb, w, rfl, _, h⟩
  · exact h
  · exact h

/-- the same for the live fan-out itself (`fanoutLive`: flag cleared before the
loop), with the message object's own flag intact afterwards; and for the bare
loop as far as connections go (the closure clears the flag for its own write) -/
theorem C08_fanout_retain_zero (b : B) (m : Msg) (subs : List (Nat × Nat)) :
    (∀ d w, Out.send d (.publish w) ∈ (fanoutLive b m subs).2.2 → w.retain = false) ∧
    (∀ cb w, Out.call cb w ∈ (fanoutLive b m subs).2.2 → w.retain = false) ∧
    (fanoutLive b m subs).2.1.p.retain = m.p.retain ∧
    (∀ d w, Out.send d (.publish w) ∈ (fanout b m subs).2.2 → w.retain = false) := by
  obtain ⟨_, h1, _, h2⟩ := fanoutLive_like subs b m
  refine ⟨fun d w ho => ?_, fun cb w ho => ?_, h2, fun d w ho => ?_⟩
  · rcases h1 _ ho with ⟨_, _, h, _, hw, _⟩ | ⟨_, _, h, _⟩
    · exact (Packet.publish.inj (Out.send.inj h).2) ▸ hw
    · cases h
  · rcases h1 _ ho with ⟨_, _, h, _⟩ | ⟨_, _, h, _, hw, _⟩
    · cases h
    · exact (Out.call.inj h).2 ▸ hw rfl
  · rcases (fanout_like subs b m).2.1 _ ho with ⟨_, _, h, _, hw, _⟩ | ⟨_, _, h, _⟩
    · exact (Packet.publish.inj (Out.send.inj h).2) ▸ hw
    · cases h

/-- On the whole step function: whatever the event - a PUBLISH of any QoS, a
PUBREL releasing stored messages, the will at a connection end, the in-process
`Publish`, ... - no PUBLISH with RETAIN = 1 is written to any connection,
except by the retained delivery of a SUBSCRIBE packet; and no in-process
callback is invoked with RETAIN = 1, except by the retained delivery of its own
`Server.Subscribe`. -/
theorem C08_step_retain_zero (b : B) (e : Ev) :
    (isSubscribeEv e = false → ∀ d w, Out.send d (.publish w) ∈ (step b e).2 → w.retain = false) ∧
    (isSrvSubEv e = false → ∀ cb w, Out.call cb w ∈ (step b e).2 → w.retain = false) := by
  refine ⟨fun he d w ho => ?_, fun he cb w ho => ?_⟩
  · refine step_out (fun o => ∀ d w, o = .send d (.publish w) → w.retain = false) b e
      (hpub := fun b m o ho d w h => ?_) (hclosed := fun _ _ _ h => Out.noConfusion h)
      (hsend := fun c q hq d w h => absurd (Out.send.inj h).2 (hq w)) (herr := fun _ _ h => Out.noConfusion h)
      (hret := fun h => absurd (he ▸ h) (by decide)) (hcall := fun _ _ _ _ _ h => Out.noConfusion h) _ ho d w rfl
    rcases C08_forward_retain_zero b m o ho with ⟨_, _, rfl, _, hw⟩ | ⟨_, _, rfl, _⟩
    · exact Packet.publish.inj (Out.send.inj h).2 ▸ hw
    · cases h
  · refine step_out (fun o => ∀ cb w, o = .call cb w → w.retain = false) b e
      (hpub := fun b m o ho cb w h => ?_) (hclosed := fun _ _ _ h => Out.noConfusion h)
      (hsend := fun _ _ _ _ _ h => Out.noConfusion h) (herr := fun _ _ h => Out.noConfusion h)
      (hret := fun _ _ _ _ _ h => Out.noConfusion h) (hcall := fun h => absurd (he ▸ h) (by decide)) _ ho cb w rfl
    rcases C08_forward_retain_zero b m o ho with ⟨_, _, rfl, _⟩ | ⟨_, _, rfl, _, hw⟩
    · cases h
    · exact (Out.call.inj h).2 ▸ hw

/-- An in-process subscriber sees what a connection
sees: RETAIN = 0 on a live forward (here: of a retained QoS 1 PUBLISH on "a/b",
and of the same message published through `Server.Publish`), RETAIN = 1 on the
retained delivery at subscription time. -/
theorem C08_callback_retain :
    (∀ (b : B) (m : Msg) (cb : Nat) (w : Pub), Out.call cb w ∈ (onPublish b m).2.2.1 → w.retain = false) ∧
    (∀ (b : B), Inv b → ∀ (cb : Nat) (f : Bytes) (q : Nat) (w : Pub),
      Out.call cb w ∈ (srvSub b cb f q).2 → w.retain = true) ∧
    (step exState (.packet 2 (.publish { qos := 1, retain := true, topic := [97, 47, 98], pktid := 5, payload := [7] }))).2 =
      [.send 2 (.puback 5),
       .call 1000 { qos := 1, retain := false, topic := [97, 47, 98], pktid := 5, payload := [7] },
       .send 1 (.publish { qos := 1, retain := false, topic := [97, 47, 98], pktid := 5, payload := [7] }),
       .send 2 (.publish { qos := 1, retain := false, topic := [97, 47, 98], pktid := 5, payload := [7] })] ∧
    (let b1 := (step exState (.srvPub { qos := 1, retain := true, topic := [97, 47, 98], payload := [7] })).1
     (step exState (.srvPub { qos := 1, retain := true, topic := [97, 47, 98], payload := [7] })).2 =
       [.call 1000 { qos := 1, retain := false, topic := [97, 47, 98], pktid := 1, payload := [7] },
        .send 1 (.publish { qos := 1, retain := false, topic := [97, 47, 98], pktid := 1, payload := [7] }),
        .send 2 (.publish { qos := 1, retain := false, topic := [97, 47, 98], pktid := 1, payload := [7] })] ∧
     (step b1 (.srvSub 1001 [97, 47, 98] 1)).2 =
       [.call 1001 { qos := 1, retain := true, topic := [97, 47, 98], pktid := 1, payload := [7] }]) := by
  refine ⟨?_, ?_, by decide +kernel⟩
  · intro b m cb w ho
    exact C08_forward_retain_zero_all b m _ ho
  · intro b hinv cb f q w ho
    exact srvSub_retain b hinv cb f q w ho

/-! ### (g) the retain step: one message per topic, last non-empty one wins, empty clears -/

/-- The retain step of `onPublish` on a well-formed retained trie, for a topic
name without empty levels that does not begin with '$' (`good`; finding B3 and
the topics outside the property's quantifier are outside).  RETAIN = 0: nothing changes.  RETAIN = 1 with an empty payload:
exactly the entry under the topic's path disappears, every other entry stays.
RETAIN = 1 with a non-empty payload: the entry under the topic's path is
replaced by (or added as) one message with the PUBLISH's topic, QoS and payload
and RETAIN = 1; every other entry stays.  The subscription trie, connections
and sessions are never touched. -/
theorem C08_retain_step_partial (b : B) (m : Msg) (hwf : RWF b.topics.rroot)
    (hg : good m.p.topic = true) (hn : validName m.p.topic = true) :
    RWF (retainStep b m).1.topics.rroot ∧
    (m.p.retain = false → retainStep b m = (b, m)) ∧
    (m.p.retain = true → m.p.payload = [] →
      (absR (retainStep b m).1.topics.rroot).Perm
        ((absR b.topics.rroot).filter (fun e => !(e.1 == split m.p.topic)))) ∧
    (m.p.retain = true → m.p.payload ≠ [] →
      ∃ r : RMsg, r.topic = m.p.topic ∧ r.qos = m.p.qos ∧ r.payload = m.p.payload ∧ r.retain = true ∧
        (absR (retainStep b m).1.topics.rroot).Perm
          ((absR b.topics.rroot).filter (fun e => !(e.1 == split m.p.topic)) ++ [(split m.p.topic, r)])) ∧
    (retainStep b m).1.topics.sroot = b.topics.sroot ∧ (retainStep b m).1.conns = b.conns ∧
    (retainStep b m).1.sess = b.sess := by
  obtain ⟨f1, f2, f3, _, _⟩ := retainStep_frame b m
  refine ⟨?_, retainStep_noretain b m, fun hr hp => ?_, fun hr hp => ?_, f1, f2, f3⟩
  · cases hr : m.p.retain with
    | false => rw [retainStep_noretain b m hr]; exact hwf
    | true => exact (retainStep_absR b m hwf hg hn hr).1
  · obtain ⟨_, st, hperm, hst, _⟩ := retainStep_absR b m hwf hg hn hr
    rw [hst hp, List.append_nil] at hperm
    exact hperm
  · obtain ⟨_, st, hperm, _, hst⟩ := retainStep_absR b m hwf hg hn hr
    obtain ⟨r, rfl, r1, r2, r3, r4⟩ := hst hp
    exact ⟨r, r1, r2, r3, r4, hperm⟩

/-- "At most one retained message per topic": after a retained PUBLISH with a
non-empty payload the trie holds exactly one message under the topic's path. -/
theorem C08_one_per_topic_partial (b : B) (m : Msg) (hwf : RWF b.topics.rroot)
    (hg : good m.p.topic = true) (hn : validName m.p.topic = true)
    (hr : m.p.retain = true) (hp : m.p.payload ≠ []) :
    ∃ r : RMsg, r.topic = m.p.topic ∧ r.qos = m.p.qos ∧ r.payload = m.p.payload ∧
      ((absR (retainStep b m).1.topics.rroot).filter (fun e => e.1 == split m.p.topic)).Perm
        [(split m.p.topic, r)] := by
  obtain ⟨r, r1, r2, r3, _, hperm⟩ := (C08_retain_step_partial b m hwf hg hn).2.2.2.1 hr hp
  refine ⟨r, r1, r2, r3, ?_⟩
  have := hperm.filter (fun e => e.1 == split m.p.topic)
  refine this.trans ?_
  rw [List.filter_append, List.filter_filter]
  simp

/-- The retain step against the specification's retained store
(`Spec.Broker.retainStep`: drop the topic's message, append the new one unless
the payload is empty): if the trie holds exactly the messages `rets` - each
under the path of its topic, with topic, QoS and payload as listed and
RETAIN = 1 - then after the step it holds exactly the specification's next
list.  By induction over histories: the retained message of a topic is the
most recent retained PUBLISH with a non-empty payload since the last empty one. -/
theorem C08_retain_refines_partial (b : B) (m : Msg) (rets : List Mqtt.Spec.Broker.Ret)
    (h : RetInv b.topics.rroot rets) (hg : good m.p.topic = true) (hn : validName m.p.topic = true) :
    RetInv (retainStep b m).1.topics.rroot (Mqtt.Spec.Broker.retainStep { rets := rets } m.p).rets :=
  retainStep_refines b m rets h hg hn

/-- the full statement: all valid topic names -/
def C08_retain_refines_full : Prop :=
  ∀ (b : B) (m : Msg) (rets : List Mqtt.Spec.Broker.Ret), RetInv b.topics.rroot rets → validName m.p.topic = true →
    RetInv (retainStep b m).1.topics.rroot (Mqtt.Spec.Broker.retainStep { rets := rets } m.p).rets

/-- False of the code as it is (finding B3): a retained message on "a/" (two
levels, the second empty) is stored under the path of "a" and replaces the
message retained there. -/
theorem C08_retain_refines_full_counterexample : ¬ C08_retain_refines_full := by
  intro h
  let m0 : Msg := ⟨{ qos := 0, retain := true, topic := [97], payload := [1] }, false⟩
  let m1 : Msg := ⟨{ qos := 0, retain := true, topic := [97, 47], payload := [2] }, false⟩
  have h0 := retainStep_refines {} m0 [] RetInv_empty (by decide +kernel) (by decide +kernel)
  have h1 := (h (retainStep {} m0).1 m1 _ h0 (by decide +kernel)).perm.length_eq
  exact absurd h1 (by decide +kernel)

/-- non-vacuity: store on "a/b", replace it, store on "a", clear "a/b" -/
example :
    let pub (t : Bytes) (q : Nat) (pl : Bytes) : Ev := .packet 2 (.publish { qos := q, retain := true, topic := t, payload := pl })
    let b1 := (run exState [pub [97, 47, 98] 0 [1], pub [97, 47, 98] 0 [2], pub [97] 0 [3]]).1
    let b2 := (step b1 (pub [97, 47, 98] 0 [])).1
    (absR b1.topics.rroot).map retOf = [([[97]], ⟨[97], 0, [3]⟩), ([[97], [98]], ⟨[97, 47, 98], 0, [2]⟩)] ∧
    (absR b2.topics.rroot).map retOf = [([[97]], ⟨[97], 0, [3]⟩)] := by
  decide +kernel

/-! ### stored messages survive all other traffic -/

/-- "No matter what traffic happened since": an event that carries no
application message into the broker (CONNECT, SUBSCRIBE, UNSUBSCRIBE, acks,
pings, the in-process Subscribe/Unsubscribe) leaves the retained trie exactly
as it is; and the fan-out part of a publish does not touch it either - after
`onPublish` the store is what the retain step made of it. -/
theorem C08_retained_untouched (b : B) (hinv : Inv b) :
    (∀ e : Ev, carriesNoMessage e = true → (step b e).1.topics.rroot = b.topics.rroot) ∧
    (∀ m : Msg, (onPublish b m).1.topics = (retainStep b m).1.topics) :=
  ⟨fun e he => step_rroot b e he, fun m => onPublish_topics b m⟩

/-- "... or retained updates": a PUBLISH on one topic (retained or not, empty or
not) leaves the messages stored for all other topics as they are. -/
theorem C08_other_topics_untouched_partial (b : B) (m : Msg) (hinv : Inv b)
    (hg : good m.p.topic = true) (hn : validName m.p.topic = true) :
    ((absR (onPublish b m).1.topics.rroot).filter (fun e => !(e.1 == split m.p.topic))).Perm
      ((absR b.topics.rroot).filter (fun e => !(e.1 == split m.p.topic))) := by
  rw [onPublish_topics]
  exact retainStep_others b m hinv.rwf hg hn

/-! ### over histories: the most recent non-empty retained PUBLISH per topic -/

/-- The specification's retained store, started empty and fed the accepted
messages `ps` in order, holds for every topic `T` at most one message: that of
the most recent PUBLISH with RETAIN = 1 on `T` if its payload is non-empty,
nothing if that payload is empty (or there was no such PUBLISH). -/
theorem C08_spec_most_recent (T : Bytes) (ps : List Pub) :
    (specRets [] ps).filter (fun r => r.topic == T) =
      match (ps.filter (fun p => p.retain && p.topic == T)).getLast? with
      | some p => if p.payload.isEmpty then [] else [⟨T, p.qos, p.payload⟩]
      | none => [] :=
  specRets_char T ps

/-- Histories.  From the initial state, along ANY sequence of moves - events
that carry no application message (a first packet without client identifier or that is
no CONNECT - a CONNECT with a client identifier may end an existing connection of that
client, MQTT-3.1.4-2, and publish its will: histories with such events are covered by
`C08_refines_reference` -, SUBSCRIBE, UNSUBSCRIBE, acks, pings,
in-process Subscribe/Unsubscribe: `Act.ev`) interleaved with acceptances of
messages on good valid topic names (`Act.pub`: `onPublish`) - the invariant
holds and the retained trie holds exactly the specification's store for the
accepted messages: by `C08_spec_most_recent`, per topic the most recent
retained PUBLISH with a non-empty payload since the last empty one - topic, QoS
and payload as received, no matter what happened in between. -/
theorem C08_history_partial (acts : List Act) (hok : ∀ a ∈ acts, a.ok = true) :
    Inv (acts.foldl actStep {}) ∧
    RetInv (acts.foldl actStep {}).topics.rroot (specRets [] (pubsOf acts)) :=
  acts_refine acts {} [] Inv_init RetInv_empty hok

/-- non-vacuity: connect, retain "a" twice, subscribe, clear "a", retain "b", ping -/
example :
    let pub (t pl : Bytes) : Act := .pub ⟨{ qos := 1, retain := true, topic := t, pktid := 4, payload := pl }, false⟩
    let acts : List Act := [.ev (exConnect 1 []), pub [97] [1], pub [97] [2], .ev (.packet 1 (.subscribe 1 [([35], 1)])),
                            pub [97] [], pub [98] [3], .ev (.packet 1 .pingreq)]
    (∀ a ∈ acts, a.ok = true) ∧ specRets [] (pubsOf acts) = [⟨[98], 1, [3]⟩] ∧
    (absR (acts.foldl actStep {}).topics.rroot).map retOf = [([[98]], ⟨[98], 1, [3]⟩)] := by
  decide +kernel

/-! ### (h) a new subscription immediately receives exactly the matching retained messages -/

/-- The SUBSCRIBE step without any hypothesis on the filters: after the SUBACK
the connection is sent, per accepted filter in request order, the list
`Retained(filter)` returned (`retainedOf`), each stored message `r` as
`retainedPub r granted`: stored topic, payload, DUP and RETAIN flag, QoS
min(stored, granted), the stored identifier (none at QoS 0).  Nothing else is
written.  (`htop`: stored topics are non-empty - true of everything stored for a
valid topic name.) -/
theorem C08_subscribe_delivers_retained (b : B) (hinv : Inv b) (c id : Nat) (topics : List (Bytes × Nat))
    (hl : b.alive c = true) (htop : ∀ e ∈ absR b.topics.rroot, e.2.topic ≠ []) :
    (packet b c (.subscribe id topics)).2 =
      Out.send c (.suback id (topics.map (fun tq => modelCode tq.1 tq.2))) ::
      topics.flatMap (fun tq =>
        if accepts tq.1 tq.2 then
          (retainedOf b.topics tq.1).map (fun r =>
            Out.send c (.publish (retainedPub r (min tq.2 Mqtt.Generated.maxQosAllowed))))
        else []) :=
  packet_subscribe_out b hinv c id topics hl htop

/-- For requests whose filters have no empty level and do not begin with '$'
(finding B3 is outside): the output of the SUBSCRIBE step is the SUBACK with the
specification's codes, followed - per granted filter, in request order - by the
stored retained messages whose path matches the filter under section 4.7, in
some order within the filter (Go map iteration), each with RETAIN = 1, QoS
min(stored QoS, granted QoS), topic and payload as stored. -/
theorem C08_subscribe_delivers_retained_partial (b : B) (hinv : Inv b) (c id : Nat)
    (topics : List (Bytes × Nat)) (hl : b.alive c = true)
    (htop : ∀ e ∈ absR b.topics.rroot, e.2.topic ≠ []) (hg : ∀ tq ∈ topics, good tq.1 = true) :
    (packet b c (.subscribe id topics)).2 =
      Out.send c (.suback id (topics.map (fun tq => subCode tq.1 tq.2))) ::
      topics.flatMap (fun tq =>
        if subCode tq.1 tq.2 = 0x80 then []
        else (retainedOf b.topics tq.1).map (fun r => Out.send c (.publish (retainedPub r (subCode tq.1 tq.2))))) ∧
    ∀ tq ∈ topics, subCode tq.1 tq.2 ≠ 0x80 →
      (retainedOf b.topics tq.1).Perm
        (((absR b.topics.rroot).filter (fun e => matchLevels (split tq.1) e.1)).map (·.2)) ∧
      ∀ r ∈ retainedOf b.topics tq.1, (retainedPub r (subCode tq.1 tq.2)).retain = true := by
  constructor
  · rw [packet_subscribe_out b hinv c id topics hl htop,
      List.map_congr_left fun tq htq => modelCode_good tq.1 tq.2 (hg tq htq),
      Mqtt.Proofs.Topics.flatMap_congr' _ _ _ fun tq htq => ite_accepts tq.1 tq.2 (hg tq htq)
        (fun g => (retainedOf b.topics tq.1).map (fun r => Out.send c (.publish (retainedPub r g)))) []]
  · exact fun tq htq hcode => retainedOf_good b hinv tq.1 (hg tq htq) (subCode_valid _ _ hcode)

/-- Against the reference broker: if the retained trie holds exactly the
specification's retained messages (`RetInv`, maintained by
`C08_retain_refines_partial`), then for every granted good filter the messages
sent for it are - DUP bit and packet identifier apart, which the specification
leaves open - exactly `Spec.Broker.retainedFor`: the retained messages whose
topic matches, RETAIN = 1, QoS min(stored, granted), payload as stored. -/
theorem C08_subscribe_retained_spec_partial (b : B) (rets : List Mqtt.Spec.Broker.Ret)
    (h : RetInv b.topics.rroot rets) (t : Bytes) (q : Nat)
    (hg : good t = true) (hgr : subCode t q ≠ 0x80) :
    ((retainedOf b.topics t).map (fun r => normPub (retainedPub r (subCode t q)))).Perm
      (Mqtt.Spec.Broker.retainedFor { rets := rets } t (subCode t q)) := by
  exact retained_spec b.topics rets h t _ hg (subCode_valid t q hgr)

/-- the full statement of the matching clause: all valid filters -/
def C08_subscribe_delivers_retained_full : Prop :=
  ∀ (b : B) (t : Bytes), Inv b → validFilter t = true →
    (retainedOf b.topics t).Perm (((absR b.topics.rroot).filter (fun e => matchLevels (split t) e.1)).map (·.2))

/-- False of the code as it is (finding B3): the filter "/a" (first level
empty) is walked as "+/a" and returns the message retained for "x/a". -/
theorem C08_subscribe_delivers_retained_full_counterexample : ¬ C08_subscribe_delivers_retained_full := by
  intro h
  let b : B := (run {} [.srvPub { qos := 0, retain := true, topic := [120, 47, 97], payload := [1] }]).1
  have := (h b [47, 97] (Inv_run Inv_init _) (by decide +kernel)).length_eq
  exact absurd this (by decide +kernel)

/-- non-vacuity: retained "a/b" (QoS 1) and "a" (QoS 0) are stored; connection
1 subscribes "a/+" at QoS 0, "a/#/x" (rejected), "#" at QoS 2 -/
def exRetState : B :=
  (run exState [.packet 2 (.publish { qos := 1, retain := true, topic := [97, 47, 98], pktid := 9, payload := [1] }),
                .packet 2 (.publish { qos := 0, retain := true, topic := [97], payload := [2] })]).1

example :
    Inv exRetState ∧ exRetState.alive 1 = true ∧
    (absR exRetState.topics.rroot).map retOf = [([[97]], ⟨[97], 0, [2]⟩), ([[97], [98]], ⟨[97, 47, 98], 1, [1]⟩)] ∧
    (packet exRetState 1 (.subscribe 3 [([97, 47, 43], 0), ([97, 47, 35, 47, 120], 1), ([35], 2)])).2 =
      [.send 1 (.suback 3 [0, 0x80, 2]),
       .send 1 (.publish { qos := 0, retain := true, topic := [97, 47, 98], pktid := 0, payload := [1] }),
       .send 1 (.publish { qos := 0, retain := true, topic := [97], pktid := 0, payload := [2] }),
       .send 1 (.publish { qos := 1, retain := true, topic := [97, 47, 98], pktid := 9, payload := [1] })] := by
  exact ⟨Inv_run (Inv_run Inv_init _) _, by decide +kernel⟩

/-! ### (i) in-process subscribers get the retained set at subscribe time -/

/-- `Server.Subscribe(filter, qos, callback)`: a rejected request returns an
error and calls nothing; an accepted one calls the callback once per message
`Retained(filter)` returned, with the stored topic, payload, RETAIN flag and
QoS min(stored, granted) - and nothing else happens.  For a filter without
empty levels, not beginning with '$', these are exactly the stored messages whose path
matches the filter under section 4.7, all with RETAIN = 1. -/
theorem C08_srvSub_delivers_retained_partial (b : B) (hinv : Inv b) (cb : Nat) (f : Bytes) (q : Nat)
    (hg : good f = true) :
    (srvSub b cb f q).2 =
      (if subCode f q = 0x80 then [.apiErr]
       else (retainedOf b.topics f).map (fun r => Out.call cb (retainedCall r (subCode f q)))) ∧
    (subCode f q ≠ 0x80 →
      (retainedOf b.topics f).Perm
        (((absR b.topics.rroot).filter (fun e => matchLevels (split f) e.1)).map (·.2)) ∧
      ∀ r ∈ retainedOf b.topics f, (retainedCall r (subCode f q)).retain = true) := by
  exact ⟨(srvSub_char b cb f q).1.trans
      (ite_accepts f q hg (fun g => (retainedOf b.topics f).map (fun r => Out.call cb (retainedCall r g))) [.apiErr]),
    fun hcode => retainedOf_good b hinv f hg (subCode_valid _ _ hcode)⟩

/-- the callback's subscription itself is in the trie afterwards (and nothing else changed) -/
theorem C08_srvSub_effect (b : B) (hinv : Inv b) (cb : Nat) (f : Bytes) (q : Nat) :
    Inv (srvSub b cb f q).1 ∧
    (Mqtt.Proofs.Topics.abs (srvSub b cb f q).1.topics.sroot).Perm
      (if accepts f q then
        addEntry (Mqtt.Proofs.Topics.abs b.topics.sroot) (Mqtt.Proofs.Topics.entryLevels f).1 cb
          (min q Mqtt.Generated.maxQosAllowed)
       else Mqtt.Proofs.Topics.abs b.topics.sroot) ∧
    (srvSub b cb f q).1.topics.rroot = b.topics.rroot := by
  refine ⟨Inv_step hinv (.srvSub cb f q), ?_, ?_⟩
  · rw [(srvSub_char b cb f q).2]
    exact subscribe_abs b.topics f q cb hinv.wf
  · rw [(srvSub_char b cb f q).2]
    exact subscribe_rroot _ _ _ _ _

/-- non-vacuity: callback 1001 subscribes "a/#" at QoS 0 and is called with both retained messages -/
example :
    (srvSub exRetState 1001 [97, 47, 35] 0).2 =
      [.call 1001 { qos := 0, retain := true, topic := [97], pktid := 0, payload := [2] },
       .call 1001 { qos := 0, retain := true, topic := [97, 47, 98], pktid := 9, payload := [1] }] ∧
    (srvSub exRetState 1001 [97, 47, 35, 98] 0).2 = [.apiErr] := by
  decide +kernel

/-! ### the refinement theorem, specialised: retained messages after any history -/

open Mqtt.Proofs.BrokerRefine (okRun specRun) in
open Mqtt.Spec.Broker (Accepts pubOf wild) in
/-- **Refinement (Proofs/BrokerRefine.lean: `Broker_refines_spec`) for C08.**
After any history admitted by `okRun` (see C01_refines_reference for the side
condition) the retained trie holds exactly the reference broker's retained
messages (`RetInv`: the last non-empty retained PUBLISH per topic), and a
SUBSCRIBE with `good` filters on a live connection is answered - after the
SUBACK - with PUBLISH packets to that connection only, all with RETAIN = 1, which
are, DUP and identifier wildcarded and as a multiset, exactly the retained
messages the reference broker demands: for every granted filter, in request
order, the stored messages whose topic the filter matches, at the lower of
stored and granted QoS. -/
theorem C08_refines_reference (es : List Ev) (hok : okRun {} es = true) (c id : Nat)
    (hl : (run {} es).1.alive c = true) (ts : List (Bytes × Nat)) (hg : ∀ tq ∈ ts, good tq.1 = true) :
    RetInv (run {} es).1.topics.rroot (specRun {} es).1.rets ∧
    Accepts (Mqtt.Spec.Broker.step (specRun {} es).1 (.packet c (.subscribe id ts))).2
      (step (run {} es).1 (.packet c (.subscribe id ts))).2 ∧
    ∃ rest, (step (run {} es).1 (.packet c (.subscribe id ts))).2 =
        .send c (.suback id (ts.map (fun t => subCode t.1 t.2))) :: rest ∧
      ((rest.filterMap pubOf).map wild).Perm
        ((((ts.zip (ts.map (fun t => subCode t.1 t.2))).filter (fun p => p.2 != 0x80)).map
          (fun p => Mqtt.Spec.Broker.retainedFor (specRun {} es).1 p.1.1 p.2)).flatten) ∧
      ∀ y ∈ rest, ∃ w, y = .send c (.publish w) ∧ w.retain = true :=
  Mqtt.Proofs.BrokerRefine.retained_refines_of_R _ _ (Mqtt.Proofs.BrokerRefine.reach es hok) c id hl ts hg

open Mqtt.Proofs.BrokerRefine (EvX okRunX runX specRunX) in
open Mqtt.Spec.Broker (Accepts pubOf wild) in
/-- **C08_refines_reference after a history with failed handshakes** (Proofs/BrokerRefineFail.lean:
`BrokerX_refines_spec`).  The same statement for the retained messages and the answer to a SUBSCRIBE, after
a history that may also contain first packets whose answer could not be written (`EvX.failFirst`). -/
theorem C08_refines_reference_with_failed_handshakes (es : List EvX) (hok : okRunX {} es = true) (c id : Nat)
    (hl : (runX {} es).1.alive c = true) (ts : List (Bytes × Nat)) (hg : ∀ tq ∈ ts, good tq.1 = true) :
    RetInv (runX {} es).1.topics.rroot (specRunX {} es).1.rets ∧
    Accepts (Mqtt.Spec.Broker.step (specRunX {} es).1 (.packet c (.subscribe id ts))).2
      (step (runX {} es).1 (.packet c (.subscribe id ts))).2 ∧
    ∃ rest, (step (runX {} es).1 (.packet c (.subscribe id ts))).2 =
        .send c (.suback id (ts.map (fun t => subCode t.1 t.2))) :: rest ∧
      ((rest.filterMap pubOf).map wild).Perm
        ((((ts.zip (ts.map (fun t => subCode t.1 t.2))).filter (fun p => p.2 != 0x80)).map
          (fun p => Mqtt.Spec.Broker.retainedFor (specRunX {} es).1 p.1.1 p.2)).flatten) ∧
      ∀ y ∈ rest, ∃ w, y = .send c (.publish w) ∧ w.retain = true :=
  Mqtt.Proofs.BrokerRefine.retained_refines_of_R _ _ (Mqtt.Proofs.BrokerRefine.reachX es hok) c id hl ts hg

end Mqtt.Properties.C08
