/-
C10 — Clean and persistent sessions.

Model: `Model/Broker.lean` — `first` (getSession / Session.Init / Update / start) and
`stop`.  `Inv` is the representation invariant of the session bookkeeping
(`Proofs/BrokerLifeInv.lean`): true initially, kept by every event, hence true
of every state `(run {} evs).1`.
-/
import Mqtt.Proofs.BrokerLifeTrie
import Mqtt.Proofs.BrokerRefineCor
import Mqtt.Proofs.BrokerRefineFail

namespace Mqtt.Properties.C10
open Mqtt.Iface.Broker Mqtt.Model.Broker Mqtt.Proofs.BrokerLife

/-- The invariant used below holds in every reachable state. -/
theorem C10_inv_reachable (evs : List Ev) : Inv (run {} evs).1 := linv_reachable evs

/-- In an accepting `first`, the SessionPresent bit of the CONNACK is 1 exactly
when the CONNECT has CleanSession=0 and a non-empty client identifier, and the
store maps that identifier to a session object whose stored CleanSession is 0
(state kept from an earlier CleanSession=0 connection). -/
theorem C10_session_present (b : B) (c : Nat) (req : Connect) (authOk sp : Bool)
    (h : Out.send c (.connack sp 0) ∈ (first b c (.connect req) authOk).2) :
    sp = true ↔
      req.clean = false ∧ req.clientId ≠ [] ∧
      ∃ r s, b.storeGet req.clientId = some r ∧ b.getSess r = some s ∧ s.clean = false := by
  have ha := (accepts_iff_emits b c (.connect req) authOk).mpr ⟨sp, h⟩
  rw [first_accepted b c req authOk ha] at h
  simp only [List.mem_singleton, Out.send.injEq, Packet.connack.injEq, and_true, true_and] at h
  rw [h, accepted_sp, resumed_isSome_iff]

/-- non-vacuity: "A" is filed from a CleanSession=0 connection, "B" from a
CleanSession=1 connection, "C" is unknown: only A with CleanSession=0 gets
SessionPresent=1. -/
example :
    let b := (run Ex.base2 [.close 1]).1
    (first b 3 (.connect (Ex.conn Ex.idA false)) true).2 = [.send 3 (.connack true 0)] ∧
    (first b 3 (.connect (Ex.conn Ex.idA true)) true).2 = [.send 3 (.connack false 0)] ∧
    (first b 3 (.connect (Ex.conn Ex.idB false)) true).2 = [.send 3 (.connack false 0)] ∧
    (first b 3 (.connect (Ex.conn [67] false)) true).2 = [.send 3 (.connack false 0)] := by decide +kernel

/-- An accepted CONNECT with CleanSession=1 (or with an empty identifier, which
forces it) is answered with SessionPresent=0 and served by a new session object
(reference `b.nextRef`, which resolved to nothing before) with no subscriptions
and no inbound QoS 2 state; the subscription tries are exactly those of before —
nothing is subscribed for `c`. -/
theorem C10_clean_starts_empty (b : B) (c : Nat) (req : Connect) (authOk : Bool)
    (h : ∃ sp, Out.send c (.connack sp 0) ∈ (first b c (.connect req) authOk).2)
    (hcl : req.clean = true ∨ req.clientId = []) :
    (first b c (.connect req) authOk).2 = [.send c (.connack false 0)] ∧
    (first b c (.connect req) authOk).1.topics = b.topics ∧
    (∃ cn s, (first b c (.connect req) authOk).1.getConn c = some cn ∧ cn.alive = true ∧
      (first b c (.connect req) authOk).1.getSess cn.sess = some s ∧
      s.ref = b.nextRef ∧ s.clean = true ∧ s.topics = [] ∧ s.pub2in = []) ∧
    (Inv b → b.getSess b.nextRef = none) := by
  have hec := effClean_of req hcl
  obtain ⟨h1, h2, h3, h4⟩ := first_fresh ((accepts_iff_emits b c (.connect req) authOk).mpr h)
    (resumed_none_of_clean b c req hec)
  exact ⟨h1, h2, ⟨_, _, h3, rfl, h4, rfl, hec, rfl, rfl⟩, fun hi => hi.fresh _ (Nat.le_refl _)⟩

/-- non-vacuity: "A" has a filed session with two subscriptions; a CONNECT of
"A" with CleanSession=1 gets a new object without any. -/
example :
    let b := (run Ex.base2 [.close 1]).1
    let b' := (first b 3 (.connect (Ex.conn Ex.idA true)) true).1
    (b.getSess 1).map (·.topics) = some [(Ex.tW, 2), (Ex.tAB, 1)] ∧ b.storeGet Ex.idA = some 1 ∧
    b'.storeGet Ex.idA = some 3 ∧ (b'.getSess 3).map (fun s => (s.topics, s.clean)) = some ([], true) ∧
    b'.topics.subscribers Ex.tAB 1 = some [(2, 0)] := by decide +kernel

/-- When a connection with a clean session ends (`stop`: any cause; a
DISCONNECT packet ends in `stop` too), the store no longer maps its client
identifier, and no store entry refers to its session object any more: no later
CONNECT can reach it. -/
theorem C10_clean_discarded (b : B) (hi : Inv b) (c : Nat) (cn : Conn) (s : Sess)
    (hc : b.getConn c = some cn) (ha : cn.alive = true) (hs : b.getSess cn.sess = some s)
    (hcl : s.clean = true) :
    (stop b c).1.storeGet s.cid = none ∧ ∀ p ∈ (stop b c).1.store, p.2 ≠ s.ref :=
  stop_clean_discarded hi c cn s hc ha hs hcl

/-- the same without the invariant, for a session whose will flag comes with a will message -/
theorem C10_clean_discarded_any_state (b : B) (c : Nat) (cn : Conn) (s : Sess)
    (hc : b.getConn c = some cn) (ha : cn.alive = true) (hs : b.getSess cn.sess = some s)
    (hcl : s.clean = true) (hw : s.willFlag = true → s.will.isSome = true) :
    (stop b c).1.storeGet s.cid = none := by
  have hst := stop_store b c cn s hc ha hs hw
  simp only [hcl, ↓reduceIte] at hst
  unfold B.storeGet; rw [hst]; exact List.lookup_filter_self _ _

/-- DISCONNECT on a clean session discards it as well. -/
theorem C10_clean_discarded_disconnect (b : B) (hi : Inv b) (c : Nat) (cn : Conn) (s : Sess)
    (hc : b.getConn c = some cn) (ha : cn.alive = true) (hs : b.getSess cn.sess = some s)
    (hcl : s.clean = true) :
    (packet b c .disconnect).1.storeGet s.cid = none := by
  rw [packet_disconnect_eq b c cn s hc ha hs]
  have hr : s.ref = cn.sess := getSess_ref hs
  have hi' : Inv (b.setSess { s with willFlag := false }) :=
    linv_setSess (s := s) (s' := { s with willFlag := false }) hi hs hr rfl (fun hf => by cases hf)
  have hs' : (b.setSess { s with willFlag := false }).getSess cn.sess = some { s with willFlag := false } := by
    rw [← hr]; exact getSess_setSess b { s with willFlag := false }
  exact (stop_clean_discarded hi' c cn _ (by exact hc) ha hs' hcl).1

/-- A persistent session (CleanSession=0) stays filed when its connection ends,
with its subscriptions and inbound QoS 2 state. -/
theorem C10_persistent_kept (b : B) (hi : Inv b) (c : Nat) (cn : Conn) (s : Sess)
    (hc : b.getConn c = some cn) (ha : cn.alive = true) (hs : b.getSess cn.sess = some s)
    (hcl : s.clean = false) :
    (stop b c).1.store = b.store ∧
    ∃ s', (stop b c).1.getSess s.ref = some s' ∧ s'.cid = s.cid ∧ s'.clean = false ∧
      s'.topics = s.topics ∧ s'.pub2in = s.pub2in := by
  refine ⟨stop_persistent_kept hi c cn s hc ha hs hcl, ?_⟩
  obtain ⟨s', h1, h2, h3, h4, h5, _⟩ := stop_sess b c cn s hc ha hs
  exact ⟨s', h1, h2, h3.trans hcl, h4, h5⟩

/-- non-vacuity: connection 2 (client "B", clean) drops: "B" is gone from the
store; connection 1 (client "A", persistent) drops: "A" stays with its topics. -/
example :
    Ex.base2.storeGet Ex.idB = some 2 ∧ (stop Ex.base2 2).1.storeGet Ex.idB = none ∧
    (stop Ex.base2 1).1.storeGet Ex.idA = some 1 ∧
    ((stop Ex.base2 1).1.getSess 1).map (·.topics) = some [(Ex.tW, 2), (Ex.tAB, 1)] := by decide +kernel

/-- After an accepted CONNECT answered with SessionPresent=1 the session object
`s` that the store held for the identifier serves the new connection — same
subscription list (filters and QoS), same inbound QoS 2 state — and the topic
store of the resulting state is `resubscribe` of that list for `c`: each
`(filter, qos)` of the kept session has been passed to the tries' `Subscribe`
for the new connection before `first` returns, hence before any later event. -/
theorem C10_resume_resubscribes (b : B) (c : Nat) (req : Connect) (authOk : Bool)
    (h : Out.send c (.connack true 0) ∈ (first b c (.connect req) authOk).2) :
    ∃ s, b.storeGet req.clientId = some s.ref ∧ b.getSess s.ref = some s ∧
      (first b c (.connect req) authOk).1.topics = resubscribe b.topics c s.topics ∧
      ∃ cn s', (first b c (.connect req) authOk).1.getConn c = some cn ∧ cn.alive = true ∧ cn.sess = s.ref ∧
        (first b c (.connect req) authOk).1.getSess s.ref = some s' ∧
        s'.topics = s.topics ∧ s'.pub2in = s.pub2in ∧ s'.cid = s.cid := by
  obtain ⟨hacc, s, hres⟩ := resumed_of_connack_sp h
  obtain ⟨_, _, hst, hs, _⟩ := resumed_store hres
  obtain ⟨_, h2, h3, h4⟩ := first_resumes hacc hres
  exact ⟨s, hst, hs, h2, _, _, h3, rfl, rfl, h4, rfl, rfl, rfl⟩

/-- `resubscribe` is the list of tree-subscribe calls, in order. -/
theorem C10_resubscribe_unfold (ts : Mqtt.Model.Topics.MemTopics) (c : Nat) (t : Bytes) (q : Nat)
    (rest : List (Bytes × Nat)) :
    resubscribe ts c [] = ts ∧
    resubscribe ts c ((t, q) :: rest) = resubscribe (ts.subscribe Generated.maxQosAllowed t q c).1 c rest :=
  ⟨rfl, rfl⟩

/-- non-vacuity: "A" returns as connection 3 with CleanSession=0: SessionPresent=1,
and without any SUBSCRIBE a publish to a/b at QoS 1 reaches 3 (granted QoS 1, as
before) besides 2, and "w" reaches 3 at QoS 2. -/
example :
    let b := (run Ex.base2 [.close 1]).1
    let b' := (first b 3 (.connect (Ex.conn Ex.idA false)) true).1
    (first b 3 (.connect (Ex.conn Ex.idA false)) true).2 = [.send 3 (.connack true 0)] ∧
    b.topics.subscribers Ex.tAB 1 = some [(2, 0)] ∧
    b'.topics.subscribers Ex.tAB 1 = some [(2, 0), (3, 1)] ∧
    b'.topics.subscribers Ex.tW 2 = some [(2, 1), (1000, 0), (3, 2)] := by decide +kernel

/-- An accepting `first` whose identifier in force is X (`effCid`: the CONNECT's
identifier, or the generated one for an empty identifier) changes neither the
store entry of any other identifier Y nor the session object filed under Y — its
subscriptions, queue, will and flags are untouched. -/
theorem C10_keyed_by_id (b : B) (hi : Inv b) (c : Nat) (req : Connect) (authOk : Bool) (y : Bytes)
    (h : ∃ sp, Out.send c (.connack sp 0) ∈ (first b c (.connect req) authOk).2)
    (hy : y ≠ effCid c req) :
    (first b c (.connect req) authOk).1.storeGet y = b.storeGet y ∧
    ∀ r, b.storeGet y = some r → (first b c (.connect req) authOk).1.getSess r = b.getSess r := by
  have ha := (accepts_iff_emits b c (.connect req) authOk).mpr h
  rw [first_accepted b c req authOk ha]
  exact accepted_other_id hi c req y hy

/-- the identifier in force is the CONNECT's own whenever that is not empty -/
theorem C10_effCid (c : Nat) (req : Connect) (h : req.clientId ≠ []) : effCid c req = req.clientId :=
  effCid_of_ne c req h

/-- non-vacuity: "A" reconnects (resuming): the session object filed under "B"
is the same as before, subscriptions included. -/
example :
    let b := (run Ex.base2 [.close 1]).1
    let b' := (first b 3 (.connect (Ex.conn Ex.idA false)) true).1
    b'.storeGet Ex.idB = some 2 ∧
    (b'.getSess 2).map (·.topics) = some [(Ex.tW, 1), (Ex.tAB, 0)] ∧
    (b.getSess 2).map (·.topics) = some [(Ex.tW, 1), (Ex.tAB, 0)] := by decide +kernel

/-- In every reachable state the subscription trie is well-formed (unique map
keys, `Proofs.Topics.WF`) — the hypothesis of the C06 trie theorems. -/
theorem C10_trie_wf_reachable (evs : List Ev) : Mqtt.Proofs.Topics.WF (run {} evs).1.topics.sroot :=
  (Mqtt.Proofs.Broker.Inv_run Mqtt.Proofs.Broker.Inv_init evs).wf

/-- After an accepted CONNECT answered with SessionPresent=1, every entry
`(filter, qos)` of the kept session's topic list that the store accepts (QoS ≤ 2,
the filter does not begin with '$' and `nextTopicLevel` parses it:
`entryLevels f = levels f` unless `checkTopic f` (empty, or beginning with '$'), and `([], false)` then -
`C10_entryLevels`), and whose level path is not shared with
another entry of the list, is held in the trie for the new connection `c` at its
granted QoS (`abs`: the entries of the trie).  Consequently (`Proofs.Topics.smatch_char`)
the subscriber lookup for every name whose levels the filter path matches
returns `c` with QoS min(publish QoS, granted QoS) — without any SUBSCRIBE on
the new connection. -/
theorem C10_resume_trie (b : B) (hwf : Mqtt.Proofs.Topics.WF b.topics.sroot) (c : Nat) (req : Connect)
    (authOk : Bool) (h : Out.send c (.connack true 0) ∈ (first b c (.connect req) authOk).2) :
    ∃ s, b.storeGet req.clientId = some s.ref ∧ b.getSess s.ref = some s ∧
      Mqtt.Proofs.Topics.WF (first b c (.connect req) authOk).1.topics.sroot ∧
      (s.topics.Pairwise (fun p p' => (Mqtt.Proofs.Topics.entryLevels p.1).1 ≠ (Mqtt.Proofs.Topics.entryLevels p'.1).1) →
        ∀ p ∈ s.topics, Mqtt.Model.Topics.validQos p.2 = true → (Mqtt.Proofs.Topics.entryLevels p.1).2 = true →
          ((Mqtt.Proofs.Topics.entryLevels p.1).1, c, grant Generated.maxQosAllowed p.2) ∈
            Mqtt.Proofs.Topics.abs (first b c (.connect req) authOk).1.topics.sroot ∧
          ∀ (ns : List Mqtt.Model.Topics.Level) (q : Nat),
            Mqtt.Proofs.Topics.walk (Mqtt.Proofs.Topics.entryLevels p.1).1 ns = true →
            ∃ r, (first b c (.connect req) authOk).1.topics.sroot.smatchL ns true q = some r ∧
              (c, min q (grant Generated.maxQosAllowed p.2)) ∈ r) := by
  obtain ⟨s, h1, h2, h3, _⟩ := C10_resume_resubscribes b c req authOk h
  have hwf' : Mqtt.Proofs.Topics.WF (first b c (.connect req) authOk).1.topics.sroot := by
    rw [h3]; exact Mqtt.Proofs.Broker.resubscribe_WF c s.topics b.topics hwf
  refine ⟨s, h1, h2, hwf', ?_⟩
  intro hpw p hp hq hl
  have hm : ((Mqtt.Proofs.Topics.entryLevels p.1).1, c, grant Generated.maxQosAllowed p.2) ∈
      Mqtt.Proofs.Topics.abs (first b c (.connect req) authOk).1.topics.sroot := by
    rw [h3]; exact resubscribe_holds c s.topics b.topics hwf hpw p hp ((Bool.and_eq_true _ _).mpr ⟨hq, hl⟩)
  refine ⟨hm, ?_⟩
  intro ns q hwalk
  obtain ⟨r, hr, hperm⟩ := Mqtt.Proofs.Topics.smatch_char _ ns q hwf'
  refine ⟨r, hr, hperm.mem_iff.mpr ?_⟩
  rw [List.mem_filterMap]
  exact ⟨_, hm, by simp [hwalk]⟩

/-- `entryLevels`: what the entry points of the topic store walk of a filter -/
theorem C10_entryLevels (f : Bytes) :
    (Mqtt.Model.Topics.checkTopic f = false → Mqtt.Proofs.Topics.entryLevels f = Mqtt.Model.Topics.levels f) ∧
    (Mqtt.Model.Topics.checkTopic f = true → Mqtt.Proofs.Topics.entryLevels f = ([], false)) :=
  ⟨Mqtt.Proofs.Topics.entryLevels_of_not_checkTopic f, Mqtt.Proofs.Topics.entryLevels_of_checkTopic f⟩

/-- the granted QoS is the requested one for QoS ≤ 2 (`Generated.maxQosAllowed` = 2) -/
theorem C10_grant (q : Nat) (h : Mqtt.Model.Topics.validQos q = true) : grant Generated.maxQosAllowed q = q := by
  unfold grant Generated.maxQosAllowed
  simp only [Mqtt.Model.Topics.validQos, Bool.or_eq_true, beq_iff_eq] at h
  split
  · omega
  · rfl

/-- the regenerated constants the session code uses are the specification's -/
theorem C10_facts : Generated.maxQosAllowed = Spec.Broker.maxQos ∧ Model.Broker.cbBase = Spec.Broker.cbBase :=
  ⟨rfl, rfl⟩

/-- non-vacuity: the kept session of "A" holds ("w", 2) and ("a/b", 1): both
subscribable, different paths; after the resume both entries are in the trie
for connection 3. -/
example :
    let b := (run Ex.base2 [.close 1]).1
    let b' := (first b 3 (.connect (Ex.conn Ex.idA false)) true).1
    (b.getSess 1).map (·.topics) = some [(Ex.tW, 2), (Ex.tAB, 1)] ∧
    Mqtt.Proofs.Topics.entryLevels Ex.tW = ([[119]], true) ∧
    Mqtt.Proofs.Topics.entryLevels Ex.tAB = ([[97], [98]], true) ∧
    Mqtt.Proofs.Topics.abs b.topics.sroot = [([[97], [98]], 2, 0), ([[119]], 2, 1), ([[119]], 1000, 0)] ∧
    Mqtt.Proofs.Topics.abs b'.topics.sroot =
      [([[97], [98]], 2, 0), ([[97], [98]], 3, 1), ([[119]], 2, 1), ([[119]], 1000, 0), ([[119]], 3, 2)] := by
  decide +kernel

open Mqtt.Proofs.BrokerRefine (okRun specRun okEv specPrior liveSess) in
open Mqtt.Spec.Broker (Accepts addHeld) in
/-- **Refinement (Proofs/BrokerRefine*.lean: `reach` keeps the relation `R` along the history, then `connect_accepted_of_R`) for C10.**
After any history admitted by `okRun` (see C01_refines_reference for the side
condition), an accepted CONNECT admitted by `okEv` (connection number not in
use, will topic a `good` topic name - a live connection with the same client
identifier is *admitted*) first takes over: if the client identifier belongs to
a live connection `c0` (there is at most one: `R.cidUniq` is an invariant), that
connection is ended on both sides - `stop` / `endConn`, not gracefully - and the
outputs of that end come first; otherwise nothing happens (MQTT-3.1.4-2).  Then
exactly one packet: CONNACK code 0 with SessionPresent = 1 precisely when
CleanSession = 0 and the reference broker stores a session for the client
identifier *after the take-over* (`specPrior`: it does so exactly for the
identifiers whose last connection ended with CleanSession = 0 - after a take-over:
iff the connection taken over had CleanSession = 0).  Afterwards the subscription
trie holds exactly what the reference broker holds: the subscriptions of
everybody else - none of the connection taken over -, and for the new connection
the stored subscriptions of the resumed session at their granted QoS (`HeldInv`). -/
theorem C10_refines_reference (es : List Ev) (hok : okRun {} es = true) (c : Nat) (req : Connect) (a : Bool)
    (he : okEv (run {} es).1 (.first c (.connect req) a) = true) (hacc : accepts (.connect req) a = true) :
    Accepts (Mqtt.Spec.Broker.step (specRun {} es).1 (.first c (.connect req) a)).2
      (step (run {} es).1 (.first c (.connect req) a)).2 ∧
    (step (run {} es).1 (.first c (.connect req) a)).2 = (takeOver (run {} es).1 (.connect req) a).2 ++
      [.send c (.connack (specPrior (Mqtt.Spec.Broker.takeOver (specRun {} es).1 (.connect req) a).1 c req).isSome 0)] ∧
    Mqtt.Proofs.Broker.HeldInv (step (run {} es).1 (.first c (.connect req) a)).1.topics.sroot
      (((specPrior (Mqtt.Spec.Broker.takeOver (specRun {} es).1 (.connect req) a).1 c req).getD ([], [])).1.foldl
        (fun h p => addHeld h c p.1 p.2) (Mqtt.Spec.Broker.takeOver (specRun {} es).1 (.connect req) a).1.held) ∧
    ((takeOver (run {} es).1 (.connect req) a = ((run {} es).1, []) ∧
      Mqtt.Spec.Broker.takeOver (specRun {} es).1 (.connect req) a = ((specRun {} es).1, [])) ∨
     ∃ c0 σ k, liveSess (run {} es).1 c0 = some σ ∧ σ.cid = req.clientId ∧
       Mqtt.Spec.Broker.getConn (specRun {} es).1 c0 = some k ∧ k.clean = σ.clean ∧
       takeOver (run {} es).1 (.connect req) a = stop (run {} es).1 c0 ∧
       Mqtt.Spec.Broker.takeOver (specRun {} es).1 (.connect req) a =
         Mqtt.Spec.Broker.endConn (specRun {} es).1 c0 false ∧
       (specPrior (Mqtt.Spec.Broker.takeOver (specRun {} es).1 (.connect req) a).1 c req).isSome =
         (!req.clean && !k.clean)) :=
  Mqtt.Proofs.BrokerRefine.connect_accepted_of_R _ _ (Mqtt.Proofs.BrokerRefine.reach es hok) c req a he hacc

open Mqtt.Proofs.BrokerRefine (EvX okRunX runX specRunX R AcceptsAll) in
/-- **Refinement with failed handshakes (Proofs/BrokerRefineFail.lean: `BrokerX_refines_spec`).**
A history may contain, besides the events of `Ev`, first packets whose answer cannot be
written to the connection (`EvX.failFirst`: the peer has gone; model `connectFail`, reference
broker `Spec.Broker.connectFail`).  Along every such history admitted by `okRunX`, started in
the initial states, the output of every event is accepted by the reference broker's output for
it and the states stay related (`R`) - in particular (`R.stored`) the model resumes exactly the
sessions the reference broker stores, with the same subscriptions and open QoS 2 exchanges:
a failed handshake loses nothing of a persistent session. -/
theorem C10_failed_handshake_refines (es : List EvX) (hok : okRunX {} es = true) :
    R (runX {} es).1 (specRunX {} es).1 ∧ AcceptsAll (specRunX {} es).2 (runX {} es).2 :=
  Mqtt.Proofs.BrokerRefine.BrokerX_refines_spec es hok

/-- Reference broker: an acceptable CONNECT with CleanSession=0 of a client that has a stored
session and no live connection, whose CONNACK cannot be written, leaves the stored session of
that client exactly as it was, and every other stored session, every held subscription, the
retained messages and the connections as well. -/
theorem C10_failed_handshake_keeps_session (s : Mqtt.Spec.Broker.S) (c : Nat) (req : Connect) (a : Bool)
    (st : List (Bytes × Nat) × List (Nat × Bool × Pub))
    (href : Mqtt.Spec.Broker.refusals req a = []) (hne : req.clientId ≠ []) (hcl : req.clean = false)
    (hst : s.stored.lookup req.clientId = some st)
    (hlive : s.conns.find? (fun x => x.cid == req.clientId) = none) :
    (Mqtt.Spec.Broker.connectFail s c (.connect req) a).1.stored.lookup req.clientId = some st ∧
    (∀ x, x ≠ req.clientId →
      (Mqtt.Spec.Broker.connectFail s c (.connect req) a).1.stored.lookup x = s.stored.lookup x) ∧
    (Mqtt.Spec.Broker.connectFail s c (.connect req) a).1.held = s.held ∧
    (Mqtt.Spec.Broker.connectFail s c (.connect req) a).1.rets = s.rets ∧
    (Mqtt.Spec.Broker.connectFail s c (.connect req) a).1.conns = s.conns := by
  have hemp : req.clientId.isEmpty = false := List.isEmpty_eq_false_iff.mpr hne
  have hto : Mqtt.Spec.Broker.takeOver s (.connect req) a = (s, []) := by
    unfold Mqtt.Spec.Broker.takeOver
    simp only [href, List.isEmpty_nil, Bool.not_true, hemp, Bool.or_self, Bool.false_eq_true, ↓reduceIte, hlive]
  have hXs : Mqtt.Proofs.BrokerRefine.specCid c req = req.clientId := by
    unfold Mqtt.Proofs.BrokerRefine.specCid; simp [hemp]
  have hcls : Mqtt.Proofs.BrokerRefine.specClean req = false := by
    unfold Mqtt.Proofs.BrokerRefine.specClean; simp [hcl, hemp]
  rw [Mqtt.Proofs.BrokerRefine.spec_connectFail_eq, hto,
    Mqtt.Proofs.BrokerRefine.spec_firstFail_accepted s c req a href]
  refine ⟨?_, ?_, rfl, rfl, rfl⟩
  · have := Mqtt.Proofs.BrokerRefine.failStored_lookup_keep s c req hcls
    rw [hXs, hst] at this
    exact this
  · intro x hx
    exact Mqtt.Proofs.BrokerRefine.failStored_lookup_ne s c req x (by rw [hXs]; exact hx)

open Mqtt.Proofs.BrokerRefine (resumable) in
/-- Model: an accepted CONNECT with CleanSession=0 of a client that has no live connection
(the take-over does nothing) and a resumable session object `σ` in the store, whose CONNACK
cannot be written: the store still holds a resumable session object for the client - the same
object (`ref`), with the same subscription list and the same inbound QoS 2 queue -, and the
subscription tries and the connection table are untouched. -/
theorem C10_failed_handshake_model_keeps_session (b : B) (_hi : Inv b) (c : Nat) (req : Connect) (a : Bool)
    (σ : Sess) (hacc : accepts (.connect req) a = true) (hcl : req.clean = false) (hne : req.clientId ≠ [])
    (hfree : sameClient b req.clientId = []) (hres : resumable b req.clientId = some σ) :
    (∃ σ', resumable (connectFail b c (.connect req) a).1 req.clientId = some σ' ∧
      σ'.topics = σ.topics ∧ σ'.pub2in = σ.pub2in ∧ σ'.ref = σ.ref) ∧
    (connectFail b c (.connect req) a).1.topics = b.topics ∧
    (connectFail b c (.connect req) a).1.conns = b.conns := by
  have hemp : req.clientId.isEmpty = false := List.isEmpty_eq_false_iff.mpr hne
  have hto : takeOver b (.connect req) a = (b, []) := by
    rw [takeOver_accepted b req a hacc, hfree]
    simp only [hemp, Bool.false_eq_true, ↓reduceIte, Mqtt.Proofs.Connect.stopAll_nil]
  have hX := effCid_of_ne c req hne
  have hec : effClean req = false := by unfold effClean; simp [hemp, hcl]
  have hresd : resumed b c req = some σ := by
    have : resumed b c req = resumable b req.clientId := by
      unfold resumed resumable; simp [hec, hX]
    rw [this]; exact hres
  obtain ⟨_, hst, hσ, _⟩ := resumed_some hresd
  rw [hX] at hst
  have hfail : Mqtt.Proofs.BrokerRefine.failed b c req = b.setSess (updSess σ req) := by
    unfold Mqtt.Proofs.BrokerRefine.failed; rw [hresd]
  rw [Mqtt.Proofs.BrokerRefine.connectFail_eq, hto,
    Mqtt.Proofs.BrokerRefine.firstFail_accepted b c req a hacc, hfail]
  refine ⟨⟨updSess σ req, ?_, rfl, rfl, rfl⟩, rfl, rfl⟩
  unfold resumable
  show ((b.storeGet req.clientId).bind (b.setSess (updSess σ req)).getSess).filter _ = _
  rw [hst]
  simp only [Option.bind_some]
  have hr : (updSess σ req).ref = σ.ref := rfl
  rw [← hr, getSess_setSess b (updSess σ req)]
  have : (updSess σ req).clean = false := hec
  simp [Option.filter, this]

/-- non-vacuity: "A" (persistent, subscribed to "w" at QoS 2 and "a/b" at QoS 1) has lost its
connection; a CONNECT of "A" with CleanSession=0 on connection 3 cannot be answered (only the
close is seen, no connection exists, the tries are as before); the next CONNECT of "A" with
CleanSession=0, on connection 4, is answered SessionPresent=1 and holds the subscriptions again. -/
example :
    let b := (run Ex.base2 [.close 1]).1
    let b1 := (connectFail b 3 (.connect (Ex.conn Ex.idA false)) true).1
    let b2 := (connect b1 4 (.connect (Ex.conn Ex.idA false)) true).1
    (connectFail b 3 (.connect (Ex.conn Ex.idA false)) true).2 = [.closed 3] ∧
    b1.alive 3 = false ∧ b1.storeGet Ex.idA = some 1 ∧
    (b1.getSess 1).map (·.topics) = some [(Ex.tW, 2), (Ex.tAB, 1)] ∧
    b1.topics.subscribers Ex.tAB 1 = some [(2, 0)] ∧
    (connect b1 4 (.connect (Ex.conn Ex.idA false)) true).2 = [.send 4 (.connack true 0)] ∧
    b2.topics.subscribers Ex.tAB 1 = some [(2, 0), (4, 1)] := by decide +kernel

end Mqtt.Properties.C10
