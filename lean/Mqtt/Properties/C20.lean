/-
C20 — client library: `Client.Connect` and the message callbacks of Subscribe.

The property theorems and their closed demo histories; the lemmas are in `Proofs/Client*.lean`.
Model: `Model/Client.lean`; matching relation: `Spec/Match.lean` (section 4.7), via the
topic-trie theorems of C06.
-/
import Mqtt.Proofs.ClientRefine


namespace Mqtt.Properties.C20
open Mqtt.Iface.Broker (Pub Bytes)
open Mqtt.Iface.Client
open Mqtt.Model.Client
open Mqtt.Proofs.Client
open Mqtt.Proofs.Topics (good)
open Mqtt.Spec.Match (validName topicMatches)
open Mqtt.Spec.TopicStore (Sub)

/-- `Connect`, for every client state and every answer of the peer: it reports
success exactly when the answer is a well-formed CONNACK with code 0; it
reports `refused k` exactly when the answer is a well-formed CONNACK with code
`k ≠ 0`; it reports another error in all remaining cases (undecodable CONNACK,
another packet, connection closed).  Exactly one result is reported.  In every
non-success case the state is unchanged - nothing was started, and a client
that was not connected still rejects every API call; on success the only
change is that the client is connected. -/
theorem C20_connect (c : C) (a : Answer) :
    step c (.connect a) = connect c a ∧
    ((connect c a).2 = [.connected] ↔ ∃ sp, a = .connack sp 0) ∧
    (∀ k, (connect c a).2 = [.refused k] ↔ k ≠ 0 ∧ ∃ sp, a = .connack sp k) ∧
    ((connect c a).2 = [.connectErr] ↔ ¬ ∃ sp k, a = .connack sp k) ∧
    ((connect c a).2 = [.connected] → (connect c a).1 = { c with connected := true }) ∧
    ((connect c a).2 ≠ [.connected] → (connect c a).1 = c ∧
      (c.connected = false → ∀ call, step (connect c a).1 (.api call) = (c, [.apiErr]))) := by
  refine ⟨rfl, ?_⟩
  have hapi : c.connected = false → ∀ call, step c (.api call) = (c, [.apiErr]) := by
    intro hc call; simp [step, hc]
  cases a with
  | connack sp code =>
    by_cases h0 : code = 0
    · subst h0
      simp [connect]
      omega
    · have hb : (code == 0) = false := by simpa using h0
      simp only [connect, hb, Bool.false_eq_true, ↓reduceIte]
      refine ⟨?_, ?_, ?_, ?_, ?_⟩
      · simp [h0]
      · intro k
        constructor
        · intro h
          have : code = k := by simpa using h
          subst this
          exact ⟨h0, sp, rfl⟩
        · rintro ⟨_, sp', h⟩
          cases h; rfl
      · simp
      · simp
      · intro _
        exact ⟨by trivial, hapi⟩
  | badConnack | other | close => simp [connect]; exact hapi

/-- every kind of answer, on a fresh client and on a client with requests in flight -/
example :
    (step init (.connect (.connack true 0))).2 = [.connected] ∧
    (step init (.connect (.connack true 0))).1.connected = true ∧
    (step init (.connect (.connack false 5))).2 = [.refused 5] ∧
    (step init (.connect .badConnack)).2 = [.connectErr] ∧
    (step init (.connect .other)).2 = [.connectErr] ∧
    (step init (.connect .close)).2 = [.connectErr] ∧
    (runOuts init [.connect (.connack false 4), .api (.ping 1), .connect (.connack false 0), .api (.ping 2)]) =
      [[.refused 4], [.apiErr], [.connected], [.wrote .pingreq]] := by
  decide +kernel

/-- An inbound QoS 2 PUBLISH is never handed to a callback when it arrives: the
only output is the PUBREC with its identifier.  If an exchange with that
identifier is already open (a repeated PUBLISH, whatever its DUP flag and
content) nothing at all changes: no second entry is added. -/
theorem C20_qos2_publish_not_dispatched (c : C) (hc : c.connected = true) (p : Pub) (hq : p.qos = 2) :
    (step c (.peer (.publish p))).2 = [.wrote (.pubrec p.pktid)] ∧
    ((∃ e ∈ c.pub2in, e.id = p.pktid) → (step c (.peer (.publish p))).1 = c) ∧
    ((¬ ∃ e ∈ c.pub2in, e.id = p.pktid) →
      (step c (.peer (.publish p))).1 = { c with pub2in := c.pub2in ++ [{ id := p.pktid, pub := some p }] }) := by
  rw [step_peer c hc]
  exact ⟨by rw [peer_publish2 c p hq], fun h => by rw [peer_publish2_dup c p hq h],
    fun h => by rw [peer_publish2_new c p hq h]⟩

/-- **QoS 2 duplicates suppressed.**  One whole exchange on a connected client
with no other inbound QoS 2 exchange open: the PUBLISH, then any number of
repeated PUBLISHes with the same identifier (any content, any flags), then the
PUBREL.  Every PUBLISH is answered by a PUBREC and dispatches nothing; the
PUBREL step dispatches the content of the *first* PUBLISH exactly once
(`onPublish c p`: the callbacks the topic trie holds for it), then writes the
PUBCOMP; afterwards the client is in the state it started from. -/
theorem C20_qos2_duplicates_suppressed (c : C) (hc : c.connected = true) (he : c.pub2in = []) (p : Pub)
    (hq : p.qos = 2) (dups : List Pub) (hd : ∀ d ∈ dups, d.qos = 2 ∧ d.pktid = p.pktid) :
    runOuts c (.peer (.publish p) :: dups.map (fun d => Ev.peer (.publish d)) ++ [.peer (.pubrel p.pktid)]) =
      [.wrote (.pubrec p.pktid)] :: dups.map (fun _ => [Out.wrote (.pubrec p.pktid)]) ++
        [onPublish c p ++ [.wrote (.pubcomp p.pktid)]] ∧
    runState c (.peer (.publish p) :: dups.map (fun d => Ev.peer (.publish d)) ++ [.peer (.pubrel p.pktid)]) = c := by
  let c1 : C := { c with pub2in := [{ id := p.pktid, pub := some p }] }
  have h1 : step c (.peer (.publish p)) = (c1, [.wrote (.pubrec p.pktid)]) := by
    rw [step_peer c hc, peer_publish2_new c p hq (by rw [he]; rintro ⟨e, he, _⟩; cases he), he]; rfl
  have hc1 : c1.connected = true := hc
  obtain ⟨d1, d2⟩ := run_dups c1 hc1 p.pktid ⟨_, List.mem_singleton.mpr rfl, rfl⟩ dups hd
  have h3 : step c1 (.peer (.pubrel p.pktid)) = (c, onPublish c p ++ [.wrote (.pubcomp p.pktid)]) := by
    rw [step_peer c1 hc1, peer_pubrel, ack_acked_head { id := p.pktid, pub := some p } [] _ [] terminal_PUBREL
      (fun _ h => nomatch h) (fun _ h => nomatch h), show ({ c1 with pub2in := [] } : C) = c by rw [← he]]
    simp only [List.flatMap_cons, List.flatMap_nil, List.append_nil]
    rfl
  constructor
  · rw [List.cons_append, runOuts, h1]
    show _ :: runOuts c1 _ = _
    rw [runOuts_append, d1, d2]
    simp only [runOuts, h3, List.cons_append]
  · rw [List.cons_append, runState_cons, h1]
    show runState c1 _ = _
    rw [runState_append, d1]
    simp only [runState, List.foldl_cons, List.foldl_nil, h3]

/-- With several exchanges open the receive queue is the FIFO of C13: a PUBREL
dispatches, in the order the exchanges were opened, the first PUBLISH of every
exchange of the longest prefix whose PUBRELs have all arrived (the one
released now included), then writes the PUBCOMP. -/
theorem C20_qos2_dispatch_at_pubrel (c : C) (hc : c.connected = true) (id : Nat) :
    (step c (.peer (.pubrel id))).2 =
      ((c.pub2in.ack Mqtt.Generated.tPUBREL id).takeWhile (fun e => terminal e.state)).flatMap
        (fun r => match r.pub with | some pb => onPublish c pb | none => []) ++ [.wrote (.pubcomp id)] := by
  rw [step_peer c hc, peer_pubrel]
  rfl

/-- a subscription to `a/#` (callback 9), an open exchange 100, then the exchange 101 with two
repeated PUBLISHes of different content; PUBREL 101 is held back behind 100 -/
def demoI : List Ev :=
  [.connect (.connack false 0),
   .api (.subscribe 1 [([97, 47, 35], 2)] 0 9),
   .peer (.suback 1 [2]),
   .peer (.publish { qos := 2, topic := [97, 47, 98], pktid := 101, payload := [1] }),
   .peer (.publish { dup := true, qos := 2, topic := [97, 47, 98], pktid := 101, payload := [1] }),
   .peer (.publish { dup := true, qos := 2, topic := [97, 47, 99], pktid := 101, payload := [2] }),
   .peer (.pubrel 101),
   .peer (.publish { qos := 2, topic := [97], pktid := 100, payload := [3] }),
   .peer (.publish { qos := 2, topic := [97, 47, 100], pktid := 102, payload := [4] }),
   .peer (.pubrel 102),
   .peer (.pubrel 100)]

example : runOuts init demoI =
    [[.connected],
     [.wrote (.subscribe 1 [([97, 47, 35], 2)])],
     [],
     [.wrote (.pubrec 101)], [.wrote (.pubrec 101)], [.wrote (.pubrec 101)],
     [.deliver 9 { qos := 2, topic := [97, 47, 98], pktid := 101, payload := [1] }, .wrote (.pubcomp 101)],
     [.wrote (.pubrec 100)], [.wrote (.pubrec 102)],
     [.wrote (.pubcomp 102)],
     [.deliver 9 { qos := 2, topic := [97], pktid := 100, payload := [3] },
      .deliver 9 { qos := 2, topic := [97, 47, 100], pktid := 102, payload := [4] }, .wrote (.pubcomp 100)]] ∧
    (runState init demoI).pub2in.length = 0 := by
  decide +kernel

/-! ## after a completed Subscribe the callback gets every matching message exactly once

`TI c.topics store`: the client's topic trie is well-formed and holds exactly
the (callback, filter, QoS) entries of the abstract store `store`
(`Proofs/ClientTopics.lean`, on top of the C06 refinement `Inv`); it holds of a
fresh client (`ti_new`) and is preserved by the Subscribe / Unsubscribe
wrappers for `good` filters (`ti_subscribeDone`, `ti_unsubscribeDone`).
`grantedOf (topics.zip codes)` are the filters of the request the SUBACK
grants (return code 0, 1 or 2 and a valid filter); `deliveriesTo cb outs` the
messages handed to callback `cb`; `onPublish c p` is what an inbound PUBLISH
`p` dispatches - immediately for QoS 0 and 1, at its PUBREL for QoS 2
(`C20_qos2_duplicates_suppressed`). -/

/-- The hypothesis `TI c.topics store` of the theorems below is met in every
state reached from a fresh client by an admitted history (`Ok`, see
`C12_refines_spec_partial`: `good` valid filters, …; acknowledgements that
arrive before the sending call has registered its request included): the trie is in step with an abstract store that names exactly the
(callback, filter) pairs the reference client holds. -/
theorem C20_trie_in_step (evs : List Ev) (hok : Ok {} evs = true) :
    ∃ store, TI (runState init evs).topics store ∧
      HeldRel store (evs.foldl (fun s ev => (Mqtt.Spec.Client.step s ev).1) {}).held :=
  (run_sim evs init {} R_init hok).2.trie

/-- **C20, dispatch.**  Let the oldest outstanding Subscribe `r` of a connected
client (trie in step with `store`, `r`'s callback not yet registered anywhere,
`r`'s filters without empty levels and not beginning with `$`) be acknowledged
by a SUBACK with one return code per filter.  Then for every message `p`
(valid topic name without empty levels, not beginning with `$`, QoS <= 2) the
dispatch of `p` invokes `r`'s callback exactly once if a granted filter
matches the topic (section 4.7 matching, `Spec.Match.topicMatches`) -
*however many* of the request's granted filters match it - and not at all
otherwise; every message handed over has `p`'s topic and payload.  For QoS 0
and QoS 1 the dispatch happens in the step that receives the PUBLISH. -/
theorem C20_dispatch (c : C) (store : List Sub) (r : Req) (rest : Queue) (codes : List Nat) (p : Pub)
    (hc : c.connected = true) (hti : TI c.topics store) (hq : c.suback = r :: rest)
    (hid : ∀ e ∈ rest, e.id ≠ r.id) (hh : ∀ e, rest.head? = some e → terminal e.state = false)
    (hlen : r.topics.length = codes.length) (hgood : ∀ t ∈ r.topics, good t.1 = true)
    (hfresh : ∀ e ∈ store, e.sub ≠ r.cb)
    (hgp : good p.topic = true) (hn : validName p.topic = true) (hq2 : p.qos ≤ 2) :
    (deliveriesTo r.cb (onPublish (step c (.peer (.suback r.id codes))).1 p)).length =
      (if (grantedOf (r.topics.zip codes)).any (fun f => topicMatches f p.topic) then 1 else 0) ∧
    (∀ m ∈ deliveriesTo r.cb (onPublish (step c (.peer (.suback r.id codes))).1 p),
      m.topic = p.topic ∧ m.payload = p.payload ∧ m.qos ≤ p.qos) ∧
    (p.qos = 0 → (step (step c (.peer (.suback r.id codes))).1 (.peer (.publish p))).2 =
      onPublish (step c (.peer (.suback r.id codes))).1 p) ∧
    (p.qos = 1 → (step (step c (.peer (.suback r.id codes))).1 (.peer (.publish p))).2 =
      .wrote (.puback p.pktid) :: onPublish (step c (.peer (.suback r.id codes))).1 p) := by
  have hd := deliveries_count _ _ (ti_step_suback_head c store r rest codes hc hti hq hid hh hlen hgood) p hgp hn hq2 r.cb
  rw [any_heldBy_grantStore_fresh r.cb _ (fun tc htc => hgood tc.1 (List.of_mem_zip htc).1) store hfresh] at hd
  rw [step_peer _ (step_connected c _ hc)]
  exact ⟨hd.1, hd.2, fun h => by rw [peer_publish0 _ p h], fun h => by rw [peer_publish1 _ p h]⟩

/-- … and for QoS 2 at its PUBREL: under the hypotheses of `C20_dispatch`, a
whole inbound QoS 2 exchange after the SUBACK - the PUBLISH, any number of
repeated PUBLISHes with its identifier, the PUBREL, with no other inbound
exchange open - invokes the request's callback, over all its steps together,
exactly once if a granted filter matches and not at all otherwise. -/
theorem C20_dispatch_qos2 (c : C) (store : List Sub) (r : Req) (rest : Queue) (codes : List Nat) (p : Pub)
    (dups : List Pub)
    (hc : c.connected = true) (hti : TI c.topics store) (hq : c.suback = r :: rest)
    (hid : ∀ e ∈ rest, e.id ≠ r.id) (hh : ∀ e, rest.head? = some e → terminal e.state = false)
    (hlen : r.topics.length = codes.length) (hgood : ∀ t ∈ r.topics, good t.1 = true)
    (hfresh : ∀ e ∈ store, e.sub ≠ r.cb)
    (hgp : good p.topic = true) (hn : validName p.topic = true) (hq2 : p.qos = 2)
    (hin : c.pub2in = []) (hd : ∀ d ∈ dups, d.qos = 2 ∧ d.pktid = p.pktid) :
    (deliveriesTo r.cb (runOuts (step c (.peer (.suback r.id codes))).1
      (.peer (.publish p) :: dups.map (fun d => Ev.peer (.publish d)) ++ [.peer (.pubrel p.pktid)])).flatten).length =
      (if (grantedOf (r.topics.zip codes)).any (fun f => topicMatches f p.topic) then 1 else 0) := by
  have hc' : (step c (.peer (.suback r.id codes))).1.connected = true := step_connected c _ hc
  have hin' : (step c (.peer (.suback r.id codes))).1.pub2in = [] := by
    rw [step_peer c hc]
    simp only [peer]
    rw [(foldDone_frame subscribeDone subscribeDone_frame _ _).pub2in]
    exact hin
  rw [(C20_qos2_duplicates_suppressed _ hc' hin' p hq2 dups hd).1, deliveriesTo_exchange]
  exact (C20_dispatch c store r rest codes p hc hti hq hid hh hlen hgood hfresh hgp hn (by omega)).1

/-- **Overlapping filters of one request: exactly one invocation per delivered
message.**  Under the hypotheses of `C20_dispatch`, if two *different* granted
filters of the request both match the topic of `p` (`a/+` and `a/b` for `a/b`),
the callback is still invoked exactly once (not once per matching filter). -/
theorem C20_dispatch_overlapping_once (c : C) (store : List Sub) (r : Req) (rest : Queue) (codes : List Nat)
    (p : Pub) (hc : c.connected = true) (hti : TI c.topics store) (hq : c.suback = r :: rest)
    (hid : ∀ e ∈ rest, e.id ≠ r.id) (hh : ∀ e, rest.head? = some e → terminal e.state = false)
    (hlen : r.topics.length = codes.length) (hgood : ∀ t ∈ r.topics, good t.1 = true)
    (hfresh : ∀ e ∈ store, e.sub ≠ r.cb)
    (hgp : good p.topic = true) (hn : validName p.topic = true) (hq2 : p.qos ≤ 2)
    (f g : Bytes) (hf : f ∈ grantedOf (r.topics.zip codes)) (_hg : g ∈ grantedOf (r.topics.zip codes))
    (_hne : f ≠ g) (hmf : topicMatches f p.topic = true) (_hmg : topicMatches g p.topic = true) :
    (deliveriesTo r.cb (onPublish (step c (.peer (.suback r.id codes))).1 p)).length = 1 := by
  rw [(C20_dispatch c store r rest codes p hc hti hq hid hh hlen hgood hfresh hgp hn hq2).1]
  have : (grantedOf (r.topics.zip codes)).any (fun f => topicMatches f p.topic) = true :=
    List.any_eq_true.mpr ⟨f, hf, hmf⟩
  simp [this]

/-- Which QoS the one invocation carries (the property does not say; the code
is deterministic about it): in every state whose trie is in step with `store`,
a message handed to callback `cb` carries at least `min (its QoS) (granted
QoS)` of *every* entry of `cb` whose filter matches - the highest QoS the
matching filters of the request allow, whatever order the trie walk (a Go map
iteration) yields them in. -/
theorem C20_dispatch_highest_qos (c : C) (store : List Sub) (hti : TI c.topics store) (p : Pub)
    (hgp : good p.topic = true) (hn : validName p.topic = true) (hq2 : p.qos ≤ 2) (cb : Nat) :
    ∀ m ∈ deliveriesTo cb (onPublish c p), ∀ e ∈ store, e.sub = cb → topicMatches e.filter p.topic = true →
      min p.qos e.qos ≤ m.qos := by
  obtain ⟨r, hr, hp⟩ := onPublish_perm c store hti p hgp hn hq2
  rw [hr, deliveriesTo_map]
  intro m hm e he hs hmatch
  simp only [List.mem_map, List.mem_filter, beq_iff_eq] at hm
  obtain ⟨s, ⟨hsm, hscb⟩, rfl⟩ := hm
  have hx : (e.sub, min p.qos e.qos) ∈ r := by
    apply hp.symm.subset
    simp only [Mqtt.Proofs.Topics.specAnswer, List.mem_map, List.mem_filter]
    exact ⟨e, ⟨he, hmatch⟩, rfl⟩
  exact firstPerCb_max r [] s hsm _ hx (by rw [hs, hscb])

/-- the request `a/+`, `a/b` (callback 9) and a second request `a/#` (callback 4): one delivered
`a/b` invokes callback 9 once (with the higher QoS of its two matching filters) and callback 4 once -/
def demoO : List Ev :=
  [.connect (.connack false 0),
   .api (.subscribe 1 [([97, 47, 43], 1), ([97, 47, 98], 0)] 5 9),
   .peer (.suback 1 [1, 0]),
   .api (.subscribe 2 [([97, 47, 35], 1)] 6 4),
   .peer (.suback 2 [1]),
   .peer (.publish { qos := 1, topic := [97, 47, 98], pktid := 100, payload := [7] }),
   .peer (.publish { qos := 0, topic := [97, 47, 99], payload := [8] })]

example :
    ((runOuts init demoO).drop 5).map (fun o => ((deliveriesTo 9 o).map (·.qos), (deliveriesTo 4 o).map (·.qos), o.length)) =
      [([1], [1], 3), ([0], [0], 2)] := by
  decide +kernel

/-- the hypotheses of `C20_dispatch_overlapping_once` are met by the first request of `C12.demoE9` (both
filters granted) -/
example :
    let c := runState init [.connect (.connack false 0), .api (.subscribe 1 [([97, 47, 43], 1), ([97, 47, 98], 1)] 5 9)]
    (deliveriesTo 9 (onPublish (step c (.peer (.suback 1 [1, 1]))).1
      { qos := 0, topic := [97, 47, 98], payload := [7] })).length = 1 := by
  intro c
  exact C20_dispatch_overlapping_once c [] { id := 1, tag := 5, topics := [([97, 47, 43], 1), ([97, 47, 98], 1)], cb := 9 }
    [] [1, 1] { qos := 0, topic := [97, 47, 98], payload := [7] }
    (by decide +kernel) ti_new rfl (by simp) (by simp) (by decide +kernel) (by decide +kernel) (by simp) (by decide +kernel) (by decide +kernel)
    (by decide +kernel) [97, 47, 43] [97, 47, 98] (by decide +kernel) (by decide +kernel) (by decide +kernel) (by decide +kernel) (by decide +kernel)

/-- a second subscriber's request (callback 9: `a/+` at QoS 1, `b`, and `c/#` refused by the
server) completes on a client that already holds callback 3 for `#`; messages on `a/b`, `b`, `c/d` -/
def demoG : List Ev :=
  [.connect (.connack false 0),
   .api (.subscribe 1 [([35], 0)] 0 3),
   .peer (.suback 1 [0]),
   .api (.subscribe 2 [([97, 47, 43], 1), ([98], 2), ([99, 47, 35], 1)] 5 9),
   .peer (.suback 2 [1, 2, 128]),
   .peer (.publish { qos := 1, topic := [97, 47, 98], pktid := 100, payload := [1] }),
   .peer (.publish { qos := 0, topic := [98], payload := [2] }),
   .peer (.publish { qos := 0, topic := [99, 47, 100], payload := [3] })]

example : (runOuts init demoG).drop 4 =
    [[.complete 5 true],
     [.wrote (.puback 100),
      .deliver 3 { qos := 0, topic := [97, 47, 98], pktid := 100, payload := [1] },
      .deliver 9 { qos := 1, topic := [97, 47, 98], pktid := 100, payload := [1] }],
     [.deliver 3 { qos := 0, topic := [98], payload := [2] }, .deliver 9 { qos := 0, topic := [98], payload := [2] }],
     [.deliver 3 { qos := 0, topic := [99, 47, 100], payload := [3] }]] ∧
    grantedOf ([(([97, 47, 43] : Bytes), 1), ([98], 2), ([99, 47, 35], 1)].zip [1, 2, 128]) = [[97, 47, 43], [98]] := by
  decide +kernel

/-- the hypotheses of `C20_dispatch` are met: the request of `demoG` on a fresh connected
client, message `a/b` (one granted filter matches) and message `c/d` (only the refused filter would) -/
example :
    let c := runState init [.connect (.connack false 0),
      .api (.subscribe 2 [([97, 47, 43], 1), ([98], 2), ([99, 47, 35], 1)] 5 9)]
    (deliveriesTo 9 (onPublish (step c (.peer (.suback 2 [1, 2, 128]))).1
      { qos := 1, topic := [97, 47, 98], pktid := 100, payload := [1] })).length = 1 ∧
    (deliveriesTo 9 (onPublish (step c (.peer (.suback 2 [1, 2, 128]))).1
      { qos := 0, topic := [99, 47, 100], payload := [3] })).length = 0 := by
  intro c
  -- what the theorem asks of the state once, what it asks of the message per message
  have key := fun p => C20_dispatch c [] { id := 2, tag := 5, topics := [([97, 47, 43], 1), ([98], 2), ([99, 47, 35], 1)], cb := 9 }
    [] [1, 2, 128] p
    (by decide +kernel) ti_new rfl (by simp) (by simp) (by decide +kernel) (by decide +kernel) (by simp)
  exact ⟨(key { qos := 1, topic := [97, 47, 98], pktid := 100, payload := [1] }
      (by decide +kernel) (by decide +kernel) (by decide +kernel)).1,
    (key { qos := 0, topic := [99, 47, 100], payload := [3] }
      (by decide +kernel) (by decide +kernel) (by decide +kernel)).1⟩

/-- **C20, Unsubscribe.**  Let the oldest outstanding Unsubscribe `r` of a
connected client (trie in step with `store`, `r`'s filters without empty
levels and not beginning with `$`) be acknowledged by its UNSUBACK.  Afterwards the trie holds
exactly the entries of `store` whose filter is not listed in `r` - every
callback registered under exactly a listed filter is removed
(`C06_sremove_refines`, "remove all" mode), entries under other filters are
untouched - and for every later message `p` and every callback `cb`, `cb` is
invoked exactly once if an *unlisted* filter it is still held under matches
`p`, and not at all otherwise.  In particular a callback held only under listed
filters is never invoked again. -/
theorem C20_unsubscribe_stops (c : C) (store : List Sub) (r : Req) (rest : Queue) (p : Pub)
    (hc : c.connected = true) (hti : TI c.topics store) (hq : c.unsuback = r :: rest)
    (hid : ∀ e ∈ rest, e.id ≠ r.id) (hh : ∀ e, rest.head? = some e → terminal e.state = false)
    (hgood : ∀ t ∈ r.topics, good t.1 = true)
    (hgp : good p.topic = true) (hn : validName p.topic = true) (hq2 : p.qos ≤ 2) :
    TI (step c (.peer (.unsuback r.id))).1.topics
      (store.filter (fun e => !(r.topics.map (·.1)).contains e.filter)) ∧
    (∀ cb, (deliveriesTo cb (onPublish (step c (.peer (.unsuback r.id))).1 p)).length =
      (if (heldBy cb store).any (fun f => !(r.topics.map (·.1)).contains f && topicMatches f p.topic) then 1 else 0)) ∧
    (∀ cb, (∀ f ∈ heldBy cb store, f ∈ r.topics.map (·.1)) →
      deliveriesTo cb (onPublish (step c (.peer (.unsuback r.id))).1 p) = []) := by
  have hti' := ti_step_unsuback_head c store r rest hc hti hq hid hh hgood
  have hd := deliveries_count_filter _ store (fun f => !(r.topics.map (·.1)).contains f) hti' p hgp hn hq2
  exact ⟨hti', fun cb => (hd cb).1, fun cb hall => (hd cb).2 fun f hf => by
    rw [List.contains_iff_mem.mpr (hall f hf)]; rfl⟩

/-- callbacks 3 (`a/+`, `b`) and 4 (`a/+`); Unsubscribe `a/+`; afterwards `a/b` reaches nobody,
`b` still reaches callback 3 -/
def demoH : List Ev :=
  [.connect (.connack false 0),
   .api (.subscribe 1 [([97, 47, 43], 1), ([98], 0)] 0 3),
   .peer (.suback 1 [1, 0]),
   .api (.subscribe 2 [([97, 47, 43], 0)] 0 4),
   .peer (.suback 2 [0]),
   .peer (.publish { qos := 0, topic := [97, 47, 98], payload := [1] }),
   .api (.unsubscribe 3 [[97, 47, 43]] 8),
   .peer (.publish { qos := 0, topic := [97, 47, 98], payload := [2] }),
   .peer (.unsuback 3),
   .peer (.publish { qos := 0, topic := [97, 47, 98], payload := [3] }),
   .peer (.publish { qos := 0, topic := [98], payload := [4] })]

example : (runOuts init demoH).drop 5 =
    [[.deliver 3 { qos := 0, topic := [97, 47, 98], payload := [1] },
      .deliver 4 { qos := 0, topic := [97, 47, 98], payload := [1] }],
     [.wrote (.unsubscribe 3 [[97, 47, 43]])],
     [.deliver 3 { qos := 0, topic := [97, 47, 98], payload := [2] },
      .deliver 4 { qos := 0, topic := [97, 47, 98], payload := [2] }],
     [.complete 8 false],
     [],
     [.deliver 3 { qos := 0, topic := [98], payload := [4] }]] := by
  decide +kernel

/-- the hypotheses of `C20_unsubscribe_stops` are met (Unsubscribe of a filter on a fresh client) -/
example :
    let c := runState init [.connect (.connack false 0), .api (.unsubscribe 3 [[97, 47, 43], [98]] 8)]
    ∀ cb, deliveriesTo cb (onPublish (step c (.peer (.unsuback 3))).1
      { qos := 0, topic := [97, 47, 98], payload := [3] }) = [] := by
  intro c cb
  exact (C20_unsubscribe_stops c [] { id := 3, tag := 8, topics := [([97, 47, 43], 0), ([98], 0)] } []
    { qos := 0, topic := [97, 47, 98], payload := [3] } (by decide +kernel) ti_new rfl (by simp) (by simp) (by decide +kernel)
    (by decide +kernel) (by decide +kernel) (by decide +kernel)).2.2 cb (by simp [heldBy])

end Mqtt.Properties.C20
