/-
C06 — The topic store implements MQTT filter matching over any subscribe history.

Property theorems only.  Model: `Model/Topics.lean` (tries of maps +
`nextTopicLevel`, as repaired by the five `fix:` commits B1, B2, B5, B4, B6).
Specification: `Spec/Match.lean` (§4.7) and `Spec/TopicStore.lean`.

Hypotheses.  `noEmptyLevel s`: no empty level (finding B3, the one deviation
left).  `good s`: `noEmptyLevel s` and `s` does not begin with '$' - topics
beginning with '$' are outside the property's quantifier (§4.7.2); the five
entry points of `MemTopics` turn them away (`C06_dollar_topics_rejected`).  A
'$' anywhere else is an ordinary character ("a/$b" is good).  `admitted s`
(histories): `noEmptyLevel s` or `s` is the empty topic - which is not a topic
(MQTT-4.7.3-1) and which the entry points turn away as well
(`C06_empty_topic_rejected`).
-/
import Mqtt.Proofs.TopicsRetainedHistory

namespace Mqtt.Properties.C06
open Mqtt.Model.Topics Mqtt.Proofs.Topics Mqtt.Iface.Topics
open Mqtt.Spec.Match (split validFilter validName topicMatches dollar)

/-- Re-subscribing the same subscriber at a node replaces its QoS, keeps one
entry for it and leaves every other subscriber's entry as it was. -/
theorem C06_resubscribe_replaces (subs : List (Nat × Nat)) (sub qos : Nat)
    (hu : (subs.map (·.1)).Nodup) :
    (subsInsert subs sub qos).lookup sub = some qos ∧
    ((subsInsert subs sub qos).map (·.1)).Nodup ∧
    ∀ s, s ≠ sub → (subsInsert subs sub qos).lookup s = subs.lookup s :=
  subsInsert_spec subs sub qos hu

/-! ### what `smatch` returns, for every trie and every name -/

/-- For every trie whose Go maps have unique keys (`WF`) and every list of name
levels, the walk of `smatch` succeeds and returns - up to the order of map
iteration - exactly the entries `(path, subscriber, g)` of the trie (`abs`)
whose path is matched by the name (`walk`), each with QoS `min q g`. -/
theorem C06_smatch_char (n : SNode) (ns : List Level) (q : Nat) (hwf : WF n) :
    ∃ r, n.smatchL ns true q = some r ∧
      r.Perm ((abs n).filterMap (fun e => if walk e.1 ns then some (e.2.1, min q e.2.2) else none)) :=
  smatch_char n ns q hwf

/-- non-vacuity: a well-formed trie holding `a/+` (sub 1, QoS 2), `a/#` (sub 2, QoS 0),
`b` (sub 3, QoS 1); the name `a/b` at QoS 1 reaches subscribers 1 and 2. -/
example :
    let a : Level := [97]; let b : Level := [98]
    let t : SNode := .mk [] [(a, .mk [] [(SWC, .mk [(1, 2)] []), (MWC, .mk [(2, 0)] [])]), (b, .mk [(3, 1)] [])]
    WF t ∧ t.smatchL [a, b] true 1 = some [(1, 1), (2, 0)] ∧
      (abs t).filterMap (fun e => if walk e.1 [a, b] then some (e.2.1, min 1 e.2.2) else none) = [(1, 1), (2, 0)] := by
  refine ⟨?_, by decide +kernel, by decide +kernel⟩
  simp only [WF, WFKids]
  decide

/-! ### the walk is the section 4.7 relation -/

/-- The relation between stored paths and name levels that the trie walk
computes is MQTT 3.1.1 section 4.7 matching on level lists, for all level
lists (in particular for valid filters). -/
theorem C06_walk_eq_spec (fs ns : List Level) : walk fs ns = Mqtt.Spec.Match.matchLevels fs ns :=
  walk_eq_matchLevels fs ns

/-- the same under the hypothesis that the filter is valid, which is not needed -/
theorem C06_walk_eq_spec_valid (fs ns : List Level) (_ : Mqtt.Spec.Match.validFilterLevels fs = true) :
    walk fs ns = Mqtt.Spec.Match.matchLevels fs ns :=
  walk_eq_matchLevels fs ns

example : walk [[97], SWC, MWC] [[97], [], [98], [99]] = true ∧
    Mqtt.Spec.Match.validFilterLevels [[97], SWC, MWC] = true := by decide +kernel

/-! ### the store: insert, remove, histories -/

/-- `sinsert` on a well-formed trie: the result is well-formed; after a
successful walk the entry of (path, subscriber) is replaced or added and every
other entry is untouched; after a failed walk (`ok = false`, invalid filter) no
entry changes (the nodes left behind hold nothing). -/
theorem C06_sinsert_refines (n : SNode) (ls : List Level) (s q : Nat) (hwf : WF n) :
    (∀ ok, WF (n.sinsertL ls ok s q)) ∧
    (abs (n.sinsertL ls true s q)).Perm
      ((abs n).filter (fun e => !(e.1 == ls && e.2.1 == s)) ++ [(ls, s, q)]) ∧
    (abs (n.sinsertL ls false s q)).Perm (abs n) :=
  ⟨fun ok => sinsertL_WF ls ok s q n hwf, sinsertL_abs ls s q n hwf, sinsertL_abs_false ls s q n hwf⟩

/-- `sremove` on a well-formed trie: well-formed result; exactly the entry of
(path, subscriber) disappears (all entries of the path for the "remove all"
mode `none`), every other entry stays; the call reports success exactly when
there was such an entry; after a failed walk nothing changes at all. -/
theorem C06_sremove_refines (n : SNode) (ls : List Level) (s : Nat) (hwf : WF n) :
    (∀ ok sub, WF (n.sremoveL ls ok sub).1) ∧
    (abs (n.sremoveL ls true (some s)).1).Perm ((abs n).filter (fun e => !(e.1 == ls && e.2.1 == s))) ∧
    (n.sremoveL ls true (some s)).2 = (abs n).any (fun e => e.1 == ls && e.2.1 == s) ∧
    (abs (n.sremoveL ls true none).1).Perm ((abs n).filter (fun e => !(e.1 == ls))) ∧
    (∀ sub, n.sremoveL ls false sub = (n, false)) := by
  refine ⟨fun ok sub => sremoveL_WF ls ok sub n hwf, sremoveL_abs ls (some s) n hwf, sremoveL_snd ls s n hwf, ?_,
    fun sub => sremoveL_false ls sub n hwf⟩
  rw [hitPath_all]
  exact sremoveL_abs ls none n hwf

/-- Pruning invariant: "no childless, subscriber-less node below the root" is
kept by every successful insert and by every remove. -/
theorem C06_pruned_preserved (n : SNode) (ls : List Level) (hwf : WF n) (hp : Pruned n) :
    (∀ s q, Pruned (n.sinsertL ls true s q)) ∧ (∀ ok sub, Pruned (n.sremoveL ls ok sub).1) :=
  ⟨fun s q => sinsertL_Pruned ls s q n hp, fun ok sub => sremoveL_Pruned ls ok sub n hwf hp⟩

/-- Store refinement over histories.  `mrun` folds the driver's `modelStep`
(the function the differential runs tie to topics/memtopics.go), `srun` folds
the specification's `step`.  If no topic argument in the history has an empty
level - the empty topic itself is allowed (`admitted`) - the trie is
well-formed and holds exactly the abstract store's subscriptions.  (Operations
on topics beginning with '$' and on the empty topic may occur in the history:
the store turns them away, the specification ignores or rejects them.) -/
theorem C06_store_refines (ops : List Op) (hg : ∀ op ∈ ops, admitted (opTopic op) = true) :
    WF (mrun ops).sroot ∧
    (abs (mrun ops).sroot).Perm ((srun ops).subs.map (fun e => (split e.filter, e.sub, e.qos))) :=
  ⟨(inv_run_any ops hg).wf, (inv_run_any ops hg).perm⟩

/-- The full statement of the subscribers part of C06 (all histories, all valid names). -/
def C06_subscribers_full : Prop :=
  ∀ (ops : List Op) (t : List UInt8) (q : Nat), validName t = true → q ≤ 2 →
    ∃ r, (mrun ops).subscribers t q = some r ∧
      r.Perm (((srun ops).subs.filter (fun e => topicMatches e.filter t)).map (fun e => (e.sub, min q e.qos)))

/-- It is false of the code as it is (finding B3): filter "/a" receives "x/a". -/
theorem C06_subscribers_full_counterexample : ¬ C06_subscribers_full := by
  intro h
  obtain ⟨r, hr, hp⟩ := h [.sub [47, 97] 1 7] [120, 47, 97] 1 (by decide) (by decide)
  have h1 : (mrun [.sub [47, 97] 1 7]).subscribers [120, 47, 97] 1 = some [(7, 1)] := by decide +kernel
  have h2 : ((srun [.sub [47, 97] 1 7]).subs.filter (fun e => topicMatches e.filter [120, 47, 97])).map
      (fun e => (e.sub, min 1 e.qos)) = [] := by decide +kernel
  rw [h1] at hr
  rw [h2] at hp
  cases hr
  exact absurd hp.length_eq (by decide)

/-- The part that holds: for every history of admitted topics (no empty level,
or the empty topic) and every
valid name without empty levels that does not begin with '$' (`good`),
`Subscribers` reports exactly the still-subscribed (subscriber, filter) pairs
whose filter matches the name under section 4.7, each with QoS min(publish QoS,
subscription QoS). -/
theorem C06_subscribers_partial (ops : List Op) (t : List UInt8) (q : Nat)
    (hg : ∀ op ∈ ops, admitted (opTopic op) = true) (hgt : good t = true)
    (hn : validName t = true) (hq : q ≤ 2) :
    ∃ r, (mrun ops).subscribers t q = some r ∧
      r.Perm (((srun ops).subs.filter (fun e => topicMatches e.filter t)).map (fun e => (e.sub, min q e.qos))) :=
  subscribers_refines (mrun ops) (srun ops).subs t q (inv_run_any ops hg) hgt hn hq

/-- the right-hand side is the specification's own answer -/
theorem C06_spec_answer (s : Mqtt.Spec.TopicStore.S) (t : List UInt8) (q : Nat)
    (hgt : good t = true) (hn : validName t = true) (hq : q ≤ 2) :
    ∃ l, Mqtt.Spec.TopicStore.step s (.subs t q) = (s, .subs l) ∧
      l = (s.subs.filter (fun e => topicMatches e.filter t)).map (fun e => (e.sub, min q e.qos)) := by
  have hd := good_not_dollar t hgt
  have hq' : ¬ q > 2 := Nat.not_lt.mpr hq
  refine ⟨_, ?_, rfl⟩
  simp [Mqtt.Spec.TopicStore.step, hd, hq', hn]

set_option linter.unusedVariables false in
/-- An invalid filter is rejected without side effects (on the entries) -
whether or not it begins with '$', and also when it is the empty filter. -/
theorem C06_invalid_filter_rejected (mt : MemTopics) (f : List UInt8) (q s : Nat)
    (hwf : WF mt.sroot) (hg : admitted f = true) (hv : validFilter f = false) :
    (mt.subscribe 2 f q s).2 = none ∧ (abs (mt.subscribe 2 f q s).1.sroot).Perm (abs mt.sroot) := by
  -- (`hg` is not used: which walks fail is known for every byte string, `entryLevels_ok`)
  have hok : (validQos q && (entryLevels f).2) = false := by rw [entryLevels_ok, hv]; exact Bool.and_false _
  have hp := (subscribe_contract mt 2 f q s hwf).entries
  rw [hok] at hp
  exact ⟨by rw [subscribe_snd, hok]; rfl, hp⟩

/-- Topics beginning with '$' (outside the property's quantifier) are turned
away by every entry point of the store, and the store is left exactly as it
was.  The test is made at the entry points (`checkTopic`), not inside
`nextTopicLevel`, for which '$' is an ordinary byte. -/
theorem C06_dollar_topics_rejected (mt : MemTopics) (t : List UInt8) (hd : dollar t = true) :
    (∀ mq q s, mt.subscribe mq t q s = (mt, none)) ∧ (∀ sub, mt.unsubscribe t sub = (mt, false)) ∧
    (∀ q, mt.subscribers t q = none) ∧ (∀ m : RMsg, m.topic = t → mt.retain m = (mt, false)) ∧
    mt.retained t = none :=
  checkTopic_rejected mt t (checkTopic_of_dollar t hd)

example : dollar [36, 83, 89, 83] = true ∧ dollar [97, 47, 36, 98] = false := by decide +kernel

/-- The empty topic - neither a topic name nor a topic filter (MQTT-4.7.3-1: at
least one character) - is turned away by every entry point of the store and the
store is left exactly as it was.
Consequently no entry point reaches the root node of either trie: the
levels an entry point walks are never "no level, successfully". -/
theorem C06_empty_topic_rejected (mt : MemTopics) :
    ((∀ mq q s, mt.subscribe mq [] q s = (mt, none)) ∧ (∀ sub, mt.unsubscribe [] sub = (mt, false)) ∧
     (∀ q, mt.subscribers [] q = none) ∧ (∀ m : RMsg, m.topic = [] → mt.retain m = (mt, false)) ∧
     mt.retained [] = none) ∧
    ∀ t, entryLevels t ≠ ([], true) :=
  ⟨checkTopic_rejected mt [] rfl, entryLevels_ne_root⟩

/-- the specification agrees: the empty filter is invalid (`err`, state unchanged) -/
example (s : Mqtt.Spec.TopicStore.S) (q sub : Nat) :
    validFilter [] = false ∧ validName [] = false ∧
    ((Mqtt.Spec.TopicStore.step s (.sub [] q sub)).1.subs = s.subs) := by
  refine ⟨by decide +kernel, by decide +kernel, ?_⟩
  simp only [Mqtt.Spec.TopicStore.step]
  split
  · rfl
  · split
    · rfl
    · rfl

/-- `admitted` is exactly: no empty level, or the empty topic. -/
theorem C06_admitted_iff (s : List UInt8) : admitted s = true ↔ noEmptyLevel s = true ∨ s = [] := by
  simp [admitted]

/-- What the calls report, after any history of admitted topics: for a `good`
filter `Subscribe` grants the requested QoS exactly when the filter is valid
(and QoS <= 2), `Unsubscribe` succeeds exactly when the abstract store holds
that (subscriber, filter) pair - the outcomes the specification's `step`
prescribes (`granted q` / `ok` / `err`). -/
theorem C06_outcomes_partial (ops : List Op) (f : List UInt8) (q s : Nat)
    (hg : ∀ op ∈ ops, admitted (opTopic op) = true) (hgf : good f = true) :
    ((mrun ops).subscribe 2 f q s).2 = (if q ≤ 2 ∧ validFilter f = true then some q else none) ∧
    ((mrun ops).unsubscribe f (some s)).2 = (srun ops).subs.any (fun e => e.sub == s && e.filter == f) :=
  ⟨subscribe_outcome (mrun ops) f q s hgf,
    unsubscribe_outcome (mrun ops) (srun ops).subs f s (inv_run_any ops hg) hgf⟩

/-- non-vacuity: a history with re-subscription, removal, an invalid filter, a
'$'-led level below the first ("a/$b"), a filter beginning with '$'
("$SYS/#", turned away) and the empty filter (subscribed, unsubscribed,
"unsubscribe all": turned away) -/
example :
    let ops : List Op := [.sub [97, 47, 43] 1 1, .sub [97, 47, 35] 2 2, .sub [97, 47, 43] 0 1,
                          .sub [97, 35] 1 3, .sub [97, 47, 98, 43] 1 5, .sub [98] 1 4, .unsub [98] 4,
                          .sub [97, 47, 36, 98] 2 6, .sub [36, 83, 89, 83, 47, 35] 1 7,
                          .sub [] 1 8, .unsub [] 1, .unsubAll []]
    (∀ op ∈ ops, admitted (opTopic op) = true) ∧ good [97, 47, 98] = true ∧ validName [97, 47, 98] = true ∧
      (mrun ops).subscribers [97, 47, 98] 1 = some [(1, 0), (2, 1)] ∧
      good [97, 47, 36, 98] = true ∧ validName [97, 47, 36, 98] = true ∧
      (mrun ops).subscribers [97, 47, 36, 98] 1 = some [(1, 0), (2, 1), (6, 1)] ∧
      (srun ops).subs.length = 3 := by decide +kernel

/-! ### the byte state machine against `split` -/

/-- For byte strings without empty levels, iterating `nextTopicLevel` yields
the specification's levels and succeeds exactly on the valid filters ('$' is an
ordinary byte, wherever it stands). -/
theorem C06_levels_spec (s : List UInt8) (hg : noEmptyLevel s = true) :
    (validFilter s = true ↔ levels s = (split s, true)) ∧
    (validFilter s = false ↔ (levels s).2 = false) := by
  obtain ⟨h1, h2⟩ := levels_spec s hg
  refine ⟨⟨h1, fun h => ?_⟩, ⟨h2, fun h => ?_⟩⟩
  · cases hv : validFilter s with
    | true => rfl
    | false => have := h2 hv; rw [h] at this; exact absurd this (by simp)
  · cases hv : validFilter s with
    | false => rfl
    | true => have := h1 hv; rw [this] at h; exact absurd h (by simp)

example : noEmptyLevel [97, 47, 43, 47, 35] = true ∧ validFilter [97, 47, 43, 47, 35] = true ∧
    noEmptyLevel [97, 43] = true ∧ validFilter [97, 43] = false := by decide +kernel

/-- `good` is exactly: no empty level, and the first byte is not '$'. -/
theorem C06_good_iff (s : List UInt8) : good s = true ↔ noEmptyLevel s = true ∧ dollar s = false :=
  good_iff s

/-- The full statement (without the restriction) - `levels` is `split` on valid filters. -/
def C06_levels_full : Prop := ∀ s : List UInt8, validFilter s = true → levels s = (split s, true)

/-- B3: a non-final empty level becomes `+` ("/a"), a final empty level is dropped ("a/"). -/
theorem C06_levels_counterexample_empty_level :
    validFilter [47, 97] = true ∧ levels [47, 97] = ([SWC, [97]], true) ∧ split [47, 97] = [[], [97]] ∧
    validFilter [97, 47] = true ∧ levels [97, 47] = ([[97]], true) ∧ split [97, 47] = [[97], []] := by decide +kernel

/-- A '$'-led level below the first ("a/$b", valid per 4.7.2) is
an ordinary level - the walk yields the specification's levels; "a/$b" is good;
a subscription to it is granted and a PUBLISH on it reaches that subscriber
and nobody else ("a/+" matches it, "a/b" does not); it can hold a retained
message; and a level that starts with a wildcard still may not continue with
'$' ("+$x", "a/#$"). -/
theorem C06_dollar_level_literal :
    validFilter [97, 47, 36, 98] = true ∧ good [97, 47, 36, 98] = true ∧
    levels [97, 47, 36, 98] = (split [97, 47, 36, 98], true) ∧
    (MemTopics.new.subscribe 2 [97, 47, 36, 98] 1 7).2 = some 1 ∧
    (mrun [.sub [97, 47, 36, 98] 1 7, .sub [97, 47, 43] 2 8, .sub [97, 47, 98] 2 9]).subscribers [97, 47, 36, 98] 2 =
      some [(7, 1), (8, 2)] ∧
    (mrun [.sub [97, 47, 36, 98] 1 7]).subscribers [97, 47, 98] 2 = some [] ∧
    ((mrun [.retain [97, 47, 36, 98] 1 [5]]).retained [97, 47, 35]).map (·.map toRet) =
      some [⟨[97, 47, 36, 98], 1, [5]⟩] ∧
    (levels [43, 36, 120]).2 = false ∧ (levels [97, 47, 35, 36]).2 = false := by decide +kernel

theorem C06_levels_full_counterexample : ¬ C06_levels_full := by
  intro h
  have := h [47, 97] (by decide)
  exact absurd this (by decide)

/-! ### the retained trie -/

/-- For every retained trie with unique map keys and every list of filter
levels, `rmatch` succeeds and returns - up to map order - exactly the stored
messages whose path is selected by the filter walk `rwalk`. -/
theorem C06_rmatch_char (n : RNode) (fs : List Level) (hwf : RWF n) :
    ∃ r, n.rmatchL fs true = some r ∧
      r.Perm ((absR n).filterMap (fun e => if rwalk fs e.1 then some e.2 else none)) :=
  rmatch_char n fs hwf

/-- For valid filters that walk is section 4.7 matching.  (For an invalid list
with `#` before the end it is not: `rmatch` stops at the first `#`.) -/
theorem C06_rwalk_eq_spec (fs p : List Level) (hv : Mqtt.Spec.Match.validFilterLevels fs = true) :
    rwalk fs p = Mqtt.Spec.Match.matchLevels fs p :=
  rwalk_eq_matchLevels fs hv p

theorem C06_rwalk_invalid_counterexample :
    rwalk [MWC, [97]] [[98]] = true ∧ Mqtt.Spec.Match.matchLevels [MWC, [97]] [[98]] = false := by decide +kernel

example :
    let a : Level := [97]; let b : Level := [98]
    let m1 : RMsg := { topic := [97], qos := 1, payload := [1] }
    let m2 : RMsg := { topic := [97, 47, 98], qos := 0, payload := [2] }
    let t : RNode := .mk none [(a, .mk (some m1) [(b, .mk (some m2) [])])]
    RWF t ∧ t.rmatchL [a, MWC] true = some [m1, m2] ∧ t.rmatchL [a, SWC] true = some [m2] := by
  refine ⟨?_, by decide +kernel, by decide +kernel⟩
  simp only [RWF, RWFKids]
  decide

/-- `rinsert` / `rremove` on a well-formed retained trie: well-formed result;
storing under a path replaces that path's message and leaves all others;
clearing a path deletes exactly that path's message - in particular the
message of a parent survives the pruning of its child; failed walks change no
entry. -/
theorem C06_retained_trie_refines (n : RNode) (ls : List Level) (m : RMsg) (hwf : RWF n) :
    (∀ ok, RWF (n.rinsertL ls ok m)) ∧ (∀ ok, RWF (n.rremoveL ls ok).1) ∧
    (absR (n.rinsertL ls true m)).Perm ((absR n).filter (fun e => !(e.1 == ls)) ++ [(ls, m)]) ∧
    (absR (n.rinsertL ls false m)).Perm (absR n) ∧
    (absR (n.rremoveL ls true).1).Perm ((absR n).filter (fun e => !(e.1 == ls))) ∧
    n.rremoveL ls false = (n, false) :=
  ⟨fun ok => rinsertL_RWF ls ok m n hwf, fun ok => rremoveL_RWF ls ok n hwf, rinsertL_absR ls m n hwf,
    rinsertL_absR_false ls m n hwf, rremoveL_absR ls n hwf, rremoveL_false ls n hwf⟩

/-- Pruning invariant of the retained trie: every node below the root has a
child or holds a message; kept by successful inserts and by all removes. -/
theorem C06_retained_pruned_preserved (n : RNode) (ls : List Level) (hwf : RWF n) (hp : RPruned n) :
    (∀ m, RPruned (n.rinsertL ls true m)) ∧ (∀ ok, RPruned (n.rremoveL ls ok).1) :=
  ⟨fun m => rinsertL_RPruned ls m n hp, fun ok => rremoveL_RPruned ls ok n hwf hp⟩

/-- Over histories of admitted operations (`okOp`: no empty level or the empty
topic, retained topics are valid names or empty; topics beginning with '$' may
occur) the retained trie
holds exactly the abstract store's retained messages (the last non-empty
message per topic). -/
theorem C06_retained_store_refines (ops : List Op) (hg : ∀ op ∈ ops, okOp op = true) :
    RWF (mrun ops).rroot ∧
    (absR (mrun ops).rroot).Perm ((srun ops).rets.map (fun r => (split r.topic, toRMsg r))) :=
  ⟨(rinv_run_any ops hg).wf, (rinv_run_any ops hg).perm⟩

/-- The full statement of the retained part of C06. -/
def C06_retained_full : Prop :=
  ∀ (ops : List Op) (f : List UInt8), validFilter f = true →
    ∃ r, (mrun ops).retained f = some r ∧
      (r.map toRet).Perm ((srun ops).rets.filter (fun r => topicMatches f r.topic))

/-- False of the code as it is (finding B3): filter "/a" returns the message retained for "x/a". -/
theorem C06_retained_full_counterexample : ¬ C06_retained_full := by
  intro h
  obtain ⟨r, hr, hp⟩ := h [.retain [120, 47, 97] 0 [1]] [47, 97] (by decide)
  have h1 : (mrun [.retain [120, 47, 97] 0 [1]]).retained [47, 97] =
      some [{ topic := [120, 47, 97], qos := 0, payload := [1] }] := by decide +kernel
  have h2 : (srun [.retain [120, 47, 97] 0 [1]]).rets.filter (fun r => topicMatches [47, 97] r.topic) = [] := by
    decide +kernel
  rw [h1] at hr
  rw [h2] at hp
  cases hr
  exact absurd hp.length_eq (by decide)

/-- The part that holds: after any history of admitted operations (`okOp`: no
empty level or the empty topic, retained topics are valid names or empty) and
for every valid filter
without empty levels that does not begin with '$' (`good`), `Retained` returns
exactly the last non-empty message of every topic matching the filter under
section 4.7. -/
theorem C06_retained_partial (ops : List Op) (f : List UInt8)
    (hg : ∀ op ∈ ops, okOp op = true) (hgf : good f = true) (hv : validFilter f = true) :
    ∃ r, (mrun ops).retained f = some r ∧
      (r.map toRet).Perm ((srun ops).rets.filter (fun r => topicMatches f r.topic)) :=
  retained_refines (mrun ops) (srun ops).rets f (rinv_run_any ops hg) hgf hv

/-- non-vacuity: replace, clear a child (the parent's message survives), a
retained PUBLISH on "$S" and one on the empty topic (turned away), query with
`#` and `+` -/
example :
    let ops : List Op := [.retain [97] 1 [1], .retain [97, 47, 98] 0 [2], .retain [97, 47, 98] 0 [3],
                          .retain [97, 47, 99] 1 [4], .retain [97, 47, 99] 0 [], .retain [36, 83] 1 [9],
                          .retain [] 1 [7], .retained []]
    (∀ op ∈ ops, okOp op = true) ∧ good [97, 47, 35] = true ∧ validFilter [97, 47, 35] = true ∧
      ((mrun ops).retained [97, 47, 35]).map (·.map toRet) = some [⟨[97], 1, [1]⟩, ⟨[97, 47, 98], 0, [3]⟩] ∧
      ((mrun ops).retained [97, 47, 43]).map (·.map toRet) = some [⟨[97, 47, 98], 0, [3]⟩] := by decide +kernel

/-! The tie to the Go source (the theorems `C06_…_is_source…` over the regenerated translation
`Mqtt.Generated.Xlate`) is in `Properties/C06Source.lean`. -/

end Mqtt.Properties.C06
