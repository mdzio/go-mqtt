/-
C06 — tie to the Go source.

The model's `nextTopicLevel`, `checkTopic` and `validQos` are tied to the regenerated translation of `topics.nextTopicLevel`,
`topics.checkTopic` (`topics/memtopics.go`) and `message.ValidQos`.

Nothing may import this module (BUILDING.md, "Source-tie modules").
-/
import Mqtt.Properties.C06
import Mqtt.Proofs.XlateTopics
import Mqtt.Proofs.XlateValid

namespace Mqtt.Properties.C06

open Mqtt.Model.Topics

/-- On every byte string the translation of the Go function `nextTopicLevel`
returns what the model's level splitter returns (`ntlToSource`: an error made
by `fmt.Errorf`, or level and remainder with a nil error); in particular the Go
function never panics on a slice bound.  Every theorem of `Properties/C06.lean` that goes through
`levels` is therefore about the function in the source tree. -/
theorem C06_nextTopicLevel_is_source (bs : List UInt8) :
    Mqtt.Generated.Xlate.Topics.nextTopicLevel bs
      = Mqtt.Proofs.XlateTopics.ntlToSource (nextTopicLevel bs) :=
  Mqtt.Proofs.XlateTopics.nextTopicLevel_is_source bs

/-- non-vacuity: "a/b" splits into "a" and "b"; "/x" yields the level "+"
(the recorded empty-level quirk B3); "a#" is an error -/
example :
    Mqtt.Generated.Xlate.Topics.nextTopicLevel [97, 47, 98] = .ok ([97], [98], .nil) ∧
    Mqtt.Generated.Xlate.Topics.nextTopicLevel [47, 120] = .ok ([43], [120], .nil) ∧
    Mqtt.Generated.Xlate.Topics.nextTopicLevel [97, 35] = .ok ([], [], .dyn) := by decide

/-- `checkTopic`, the test in front of the five entry points of `MemTopics`, is the model's
(an error made by `fmt.Errorf` exactly for the empty topic and for topics beginning with '$';
never an index panic) -/
theorem C06_checkTopic_is_source (t : List UInt8) :
    Mqtt.Generated.Xlate.Topics.checkTopic t
      = .ok (if checkTopic t then Mqtt.Generated.Xlate.Err.dyn else Mqtt.Generated.Xlate.Err.nil) :=
  Mqtt.Proofs.XlateValid.checkTopic_is_source t

/-- `message.ValidQos`, which `Subscribe` and `Subscribers` call first, is the model's `validQos` -/
theorem C06_ValidQos_is_source (q : UInt8) : Mqtt.Generated.Xlate.Message.ValidQos q = validQos q.toNat :=
  -- stated there for `Model.Codec.validQos`; the topic store model's `validQos` is written differently and unfolds to the same term
  Mqtt.Proofs.XlateValid.ValidQos_is_source q

end Mqtt.Properties.C06
