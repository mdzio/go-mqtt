/-
C03 — tie to the Go source.

The model's length arithmetic of package `message` (`msglen`, `Len`, `SetRemainingLength`), `putUvarint`, validators,
`Hdr.type` and `Hdr.encode` are tied to the regenerated translation of the Go functions.

Nothing may import this module (BUILDING.md, "Source-tie modules").
-/
import Mqtt.Properties.C03
import Mqtt.Proofs.XlateCodec
import Mqtt.Proofs.XlatePutUvarint
import Mqtt.Proofs.XlateValid
import Mqtt.Proofs.XlateHeader

namespace Mqtt.Properties.C03

open Mqtt.Model.Codec

/-! `XlateCodec.hdrOf` / `msgOf…` map a translated message structure to the model's `Msg` (`mtypeflags[0]`, the packet
identifier bytes, `remlen`, `dbuf`, `dirty`, the fields). -/

open Mqtt.Generated.Xlate Mqtt.Proofs.XlateCodec

/-- `header.msglen()` is the model's `hdrLen` of the stored remaining length (for every header:
a negative `remlen`, which neither `SetRemainingLength` nor `decode` lets in, gives 2 on both sides) -/
theorem C03_header_msglen_is_source (h : Message.header) :
    Message.header.msglen h = hdrLen (hdrOf h).remlen :=
  header_msglen_is_source h

/-- `header.SetRemainingLength`: refused exactly outside `0 … 268435455` (the model's `maxRemainingLength`) -/
theorem C03_SetRemainingLength_is_source (h : Message.header) (remlen : Int) :
    Message.header.SetRemainingLength h remlen =
      if remlen > 268435455 ∨ remlen < 0 then (h, Err.dyn)
      else ({ h with remlen := remlen, dirty := true }, Err.nil) :=
  header_SetRemainingLength_spec h remlen

/-- `Len()` of every message type is the model's `Msg.len`; the receiver afterwards is the message
with `lenHdr` (remaining length stored unless the message is clean or the length is out of range) -/
theorem C03_Len_is_source_connack (m : Message.ConnackMessage) :
    Message.ConnackMessage.Len m = ({ m with header := lenHdr m.header (msgOfConnack m).msglen }, (msgOfConnack m).len) :=
  ConnackMessage_Len_is_source m

theorem C03_Len_is_source_puback (m : Message.PubackMessage) :
    Message.PubackMessage.Len m = ({ m with header := lenHdr m.header (msgOfPuback m).msglen }, (msgOfPuback m).len) :=
  PubackMessage_Len_is_source m

theorem C03_Len_is_source_suback (m : Message.SubackMessage) :
    Message.SubackMessage.Len m = ({ m with header := lenHdr m.header (msgOfSuback m).msglen }, (msgOfSuback m).len) :=
  SubackMessage_Len_is_source m

theorem C03_Len_is_source_subscribe (m : Message.SubscribeMessage) :
    Message.SubscribeMessage.Len m =
      ({ m with header := lenHdr m.header (msgOfSubscribe m).msglen }, (msgOfSubscribe m).len) :=
  SubscribeMessage_Len_is_source m

theorem C03_Len_is_source_unsubscribe (m : Message.UnsubscribeMessage) :
    Message.UnsubscribeMessage.Len m =
      ({ m with header := lenHdr m.header (msgOfUnsubscribe m).msglen }, (msgOfUnsubscribe m).len) :=
  UnsubscribeMessage_Len_is_source m

theorem C03_Len_is_source_connect (m : Message.ConnectMessage) :
    Message.ConnectMessage.Len m = ({ m with header := lenHdr m.header (msgOfConnect m).msglen }, (msgOfConnect m).len) :=
  ConnectMessage_Len_is_source m

/-- PINGREQ, PINGRESP, DISCONNECT -/
theorem C03_Len_is_source_disconnect (m : Message.DisconnectMessage) :
    Message.DisconnectMessage.Len m = (msgOfDisconnect m).len :=
  DisconnectMessage_Len_is_source' m

/-- PUBLISH reads the QoS bits through `mtypeflags[0]`: with the type/flags byte present (always,
after `NewPublishMessage` or `Decode`) `Len()` is the model's; a `PublishMessage{}` literal that is
marked dirty panics there (`XlateCodec.PublishMessage_Len_panics`) — the model, which keeps the
byte itself, has no such object. -/
theorem C03_Len_is_source_publish_partial (m : Message.PublishMessage) (hf : 0 < m.header.mtypeflags.length) :
    Message.PublishMessage.Len m =
      Res.ok ({ m with header := lenHdr m.header (msgOfPublish m).msglen }, (msgOfPublish m).len) :=
  PublishMessage_Len_is_source m hf

/-- the per-type `msglen()` (remaining length from the fields) is the model's `Msg.msglen` -/
theorem C03_msglen_is_source (c : Message.ConnackMessage) (a : Message.PubackMessage) (s : Message.SubackMessage)
    (su : Message.SubscribeMessage) (u : Message.UnsubscribeMessage) (cn : Message.ConnectMessage) :
    Message.ConnackMessage.msglen c = (msgOfConnack c).msglen ∧
    Message.PubackMessage.msglen a = (msgOfPuback a).msglen ∧
    Message.SubackMessage.msglen s = (msgOfSuback s).msglen ∧
    Message.SubscribeMessage.msglen su = (msgOfSubscribe su).msglen ∧
    Message.UnsubscribeMessage.msglen u = (msgOfUnsubscribe u).msglen ∧
    Message.ConnectMessage.msglen cn = (msgOfConnect cn).msglen :=
  ⟨ConnackMessage_msglen_is_source c, PubackMessage_msglen_is_source a, SubackMessage_msglen_is_source s,
   SubscribeMessage_msglen_is_source su, UnsubscribeMessage_msglen_is_source u, ConnectMessage_msglen_is_source cn⟩

theorem C03_msglen_is_source_publish_partial (m : Message.PublishMessage) (hf : 0 < m.header.mtypeflags.length) :
    Message.PublishMessage.msglen m = Res.ok (msgOfPublish m).msglen :=
  PublishMessage_msglen_is_source m hf

/-- the remaining-length encoder: the standard library's `binary.PutUvarint` (as found in the
toolchain that builds the library) writes the model's `putUvarint` bytes into the front of the
buffer and returns their number; a buffer that is too short is the run-time panic the model's
`Hdr.encode` has.  `fuel` bounds the loop of the translation: 10 iterations always suffice. -/
theorem C03_PutUvarint_is_source (buf : List UInt8) (x : UInt64) (fuel : Nat) (hf : 10 ≤ fuel) :
    Binary.PutUvarint fuel buf x =
      if buf.length < (putUvarint x.toNat).length then .panic
      else .ok (putUvarint x.toNat ++ buf.drop (putUvarint x.toNat).length, (putUvarint x.toNat).length) :=
  Mqtt.Proofs.XlatePutUvarint.putUvarint_eq buf x fuel hf

theorem C03_validators_are_source (q v t c : UInt8) (topic : List UInt8) :
    Message.ValidQos q = validQos q.toNat ∧
    Message.ValidTopic topic = validTopic topic ∧
    Message.ValidVersion v = (versionName v.toNat).isSome ∧
    Go.mapGet Message.SupportedVersions v = versionName v.toNat ∧
    Message.Type_.Valid t = validType t.toNat ∧
    (Message.Type_.DefaultFlags t).toNat = defaultFlagsOf t.toNat ∧
    Message.ConnackCode.Valid c = decide (c.toNat ≤ Mqtt.Generated.connackMaxCode) :=
  ⟨Mqtt.Proofs.XlateValid.ValidQos_is_source q, Mqtt.Proofs.XlateValid.ValidTopic_is_source topic,
   Mqtt.Proofs.XlateValid.ValidVersion_is_source v, Mqtt.Proofs.XlateValid.SupportedVersions_is_source v,
   Mqtt.Proofs.XlateValid.Type_Valid_is_source t, Mqtt.Proofs.XlateValid.Type_DefaultFlags_is_source t,
   Mqtt.Proofs.XlateValid.ConnackCode_Valid_is_source c⟩

/-- `ValidConnackError`: exactly the five refusal codes (as `error` values) -/
theorem C03_ValidConnackError_is_source (e : Err) :
    Message.ValidConnackError e = true ↔ ∃ n, 1 ≤ n ∧ n ≤ 5 ∧ e = .val "message.ConnackCode" n :=
  Mqtt.Proofs.XlateValid.ValidConnackError_iff e

/-- `header.Type()`: with the type/flags byte present it changes nothing and returns the model's
`Hdr.type`; otherwise it allocates a zero byte and marks the header dirty (`XlateHeader.header_Type_alloc`) -/
theorem C03_header_Type_is_source (h : Message.header) (h1 : h.mtypeflags.length = 1) :
    Message.header.Type_ h = .ok (h, UInt8.ofNat (hdrOf h).type) ∧ (UInt8.ofNat (hdrOf h).type).toNat = (hdrOf h).type :=
  ⟨Mqtt.Proofs.XlateHeader.header_Type_is_source h h1, Mqtt.Proofs.XlateHeader.header_Type_toNat h⟩

/-- `header.encode(dst)` — type/flags byte and remaining length — is the model's `Hdr.encode`
(`encToRes`: an error return leaves `dst` alone; success writes the model's bytes to the front of `dst`
and returns their number; the model's `.panic` case is empty).  `_partial`: the type/flags byte exists
(`h1`) and the stored remaining length is not negative (`h0`; the model has a natural number — a
negative one makes the Go code return an error: `XlateHeader.header_encode_negative`). -/
theorem C03_header_encode_is_source_partial (h : Message.header) (h1 : h.mtypeflags.length = 1) (h0 : 0 ≤ h.remlen)
    (dst : List UInt8) (fuel : Nat) (hf : 10 ≤ fuel) :
    Message.header.encode fuel h dst
      = Mqtt.Proofs.XlateHeader.encToRes h dst (Hdr.encode (hdrOf h) h.remlen.toNat dst.length) :=
  Mqtt.Proofs.XlateHeader.header_encode_is_source h h1 h0 dst fuel hf

/-- non-vacuity: a dirty SUBSCRIBE with two filters has length 2 + 2 + (2+3+1) + (2+1+1);
PutUvarint 321 = c1 02 -/
example :
    (Message.SubscribeMessage.Len ⟨⟨0, [0x82], [], [], true⟩, [[97, 47, 98], [35]], [1, 0]⟩).2 = 14 ∧
    Binary.PutUvarint 10 [0, 0, 0, 0] 321 = .ok ([0xc1, 0x02, 0, 0], 2) := by decide

end Mqtt.Properties.C03
