/-
C09 — The will is published exactly when the connection ends without DISCONNECT.

Model: `Model/Broker.lean` — `first` (`Session.Init/Update` build the will from the
CONNECT), `packet … .disconnect` (clears the will flag, then `stop`), `stop`
(every other end of a connection: peer close, keep-alive expiry, protocol
error).  The theorems hold for every broker state in which the connection is
live and its session reference resolves; `Inv` (kept by every event, so true of
every state reachable from the initial one) guarantees the latter.  The statements with a history
(`*_reachable`, `*_refines_reference*`) speak of the states that history reaches.
-/
import Mqtt.Proofs.BrokerLifeWillKept
import Mqtt.Proofs.BrokerRefineCorX

namespace Mqtt.Properties.C09
open Mqtt.Iface.Broker Mqtt.Model.Broker Mqtt.Proofs.BrokerLife

/-- The invariant holds initially and is kept by every event. -/
theorem C09_inv (b : B) (e : Ev) : Inv ({} : B) ∧ (Inv b → Inv (step b e).1) :=
  ⟨linv_init, fun h => linv_step h e⟩

/-- In every state reachable from the initial one, a live connection has a
session object. -/
theorem C09_live_has_session (evs : List Ev) (c : Nat) (h : (run {} evs).1.alive c = true) :
    ∃ cn s, (run {} evs).1.getConn c = some cn ∧ cn.alive = true ∧ (run {} evs).1.getSess cn.sess = some s :=
  (linv_reachable evs).live h

/-- A DISCONNECT packet on a live connection produces the close of that
connection and nothing else — no PUBLISH to anybody, no callback — whatever will
the session holds; the connection is not live afterwards, so its later socket
close (`stop`) and any further packet produce nothing either. -/
theorem C09_disconnect_no_will (b : B) (c : Nat) (cn : Conn) (s : Sess)
    (hc : b.getConn c = some cn) (ha : cn.alive = true) (hs : b.getSess cn.sess = some s) :
    (packet b c .disconnect).2 = [.closed c] ∧
    (packet b c .disconnect).1.alive c = false ∧
    stop (packet b c .disconnect).1 c = ((packet b c .disconnect).1, []) ∧
    ∀ p, packet (packet b c .disconnect).1 c p = ((packet b c .disconnect).1, []) := by
  have hd : (packet b c .disconnect).1.alive c = false := by
    rw [packet_disconnect_eq b c cn s hc ha hs]; exact stop_not_alive _ c
  exact ⟨packet_disconnect b c cn s hc ha hs, hd, Mqtt.Proofs.Broker.stop_idle _ c hd, fun p => Mqtt.Proofs.Broker.packet_dead _ c p hd⟩

/-- the same for every reachable state -/
theorem C09_disconnect_no_will_reachable (evs : List Ev) (c : Nat) (h : (run {} evs).1.alive c = true) :
    (packet (run {} evs).1 c .disconnect).2 = [.closed c] := by
  obtain ⟨cn, s, hc, ha, hs⟩ := (linv_reachable evs).live h
  exact packet_disconnect _ c cn s hc ha hs

/-- non-vacuity: connection 1 holds a will on "w" to which connection 2 and a
callback listen; DISCONNECT, then the socket close: only the close is emitted. -/
example :
    Ex.base2.alive 1 = true ∧
    (Ex.base2.getSess 1).map (fun s => (s.willFlag, s.will.map (·.p.topic))) = some (true, some Ex.tW) ∧
    (run Ex.base2 [.packet 1 .disconnect, .close 1]).2 = [[.closed 1], []] := by decide +kernel

/-- `stop` (network drop, keep-alive expiry, protocol error) on a live connection
whose session has the will flag and will message `w`: the output is the close
followed by exactly the outputs of the normal publish path (`onPublish`: retain
step, subscriber lookup, fan-out) for `w`, in the state where `c` is already
marked closed and its subscriptions are removed.  Afterwards the connection is
not live: a second `stop` and any packet on `c` emit nothing and change nothing,
so the will is published once. -/
theorem C09_will_published_once (b : B) (c : Nat) (cn : Conn) (s : Sess) (w : Msg)
    (hc : b.getConn c = some cn) (ha : cn.alive = true) (hs : b.getSess cn.sess = some s)
    (hf : s.willFlag = true) (hw : s.will = some w) :
    (stop b c).2 = .closed c :: (onPublish (stopBase b c s) w).2.2.1 ∧
    (stop b c).1.alive c = false ∧
    stop (stop b c).1 c = ((stop b c).1, []) ∧
    ∀ p, packet (stop b c).1 c p = ((stop b c).1, []) :=
  ⟨stop_out_will b c cn s w hc ha hs hf hw, stop_not_alive b c, Mqtt.Proofs.Broker.stop_idle _ c (stop_not_alive b c),
    fun p => Mqtt.Proofs.Broker.packet_dead _ c p (stop_not_alive b c)⟩

/-- Without a will flag (no will in the CONNECT, or cleared by DISCONNECT) the
end of the connection publishes nothing. -/
theorem C09_no_will_no_publish (b : B) (c : Nat) (cn : Conn) (s : Sess)
    (hc : b.getConn c = some cn) (ha : cn.alive = true) (hs : b.getSess cn.sess = some s)
    (hf : s.willFlag = false) :
    (stop b c).2 = [.closed c] :=
  stop_out_nowill b c cn s hc ha hs hf

/-- `stopBase` is the state the will meets: other connections are as live as
before, `c` is not, nothing else but the tries differs. -/
theorem C09_stopBase (b : B) (c : Nat) (s : Sess) :
    (stopBase b c s).alive c = false ∧ (∀ d, d ≠ c → (stopBase b c s).alive d = b.alive d) ∧
    (stopBase b c s).sess = b.sess ∧ (stopBase b c s).store = b.store ∧ (stopBase b c s).ctr = b.ctr ∧
    (stopBase b c s).topics = unsubAll b.topics c s.topics :=
  ⟨markDead_alive_self b c, fun d hd => markDead_alive_ne b c d hd.symm, rfl, rfl, rfl, rfl⟩

/-- non-vacuity: the peer of connection 1 drops.  Its will (topic "w", payload
[1], QoS 1) goes to connection 2 at QoS 1 and to the callback at QoS 0, once;
a second close and a late packet are silent. -/
example :
    (run Ex.base2 [.close 1, .close 1, .packet 1 .pingreq]).2 =
      [[.closed 1,
        .send 2 (.publish { qos := 1, topic := Ex.tW, pktid := 2, payload := [1] }),
        .call 1000 { qos := 0, topic := Ex.tW, pktid := 2, payload := [1] }], [], []] := by decide +kernel

/-- After an accepted CONNECT — on a new session object or on a resumed one —
the connection is live, its session object resolves, and that object's will
flag and will message are those built from THIS CONNECT (`initWill`), not from
any earlier one. -/
theorem C09_will_is_current_connect (b : B) (c : Nat) (req : Connect) (authOk : Bool)
    (h : ∃ sp, Out.send c (.connack sp 0) ∈ (first b c (.connect req) authOk).2) :
    ∃ cn s, (first b c (.connect req) authOk).1.getConn c = some cn ∧ cn.alive = true ∧
      (first b c (.connect req) authOk).1.getSess cn.sess = some s ∧
      s.willFlag = req.will.isSome ∧ s.will = initWill req := by
  have ha := (accepts_iff_emits b c (.connect req) authOk).mpr h
  rw [first_accepted b c req authOk ha]
  exact ⟨_, _, accepted_getConn b c req, rfl, accepted_getSess b c req, (acceptedSess_will b c req).1,
    (acceptedSess_will b c req).2⟩

/-- The will message built from a CONNECT carries its will topic, payload, QoS
and retain flag, for a will topic that is a valid topic name (`initWill` leaves the topic empty
otherwise: `SetTopic` refuses).  Under `h` the second conjunct says nothing. -/
theorem C09_initWill_fields (req : Connect) (w : Will) (h : req.will = some w) (hv : validTopic w.topic = true) :
    initWill req = some ⟨{ qos := w.qos, retain := w.retain, topic := w.topic, payload := w.payload }, true⟩ ∧
    (req.will = none → initWill req = none) :=
  ⟨initWill_some req w h hv, fun hn => by rw [hn] at h; cases h⟩

/-- Together: if the connection ends abnormally right after its accepted
CONNECT with will `(T, p, q, r)`, exactly that message goes through the publish
path — fresh and resumed sessions alike. -/
theorem C09_current_will_published (b : B) (c : Nat) (req : Connect) (authOk : Bool) (w : Will)
    (h : ∃ sp, Out.send c (.connack sp 0) ∈ (first b c (.connect req) authOk).2)
    (hw : req.will = some w) (hv : validTopic w.topic = true) :
    ∃ s, (stop (first b c (.connect req) authOk).1 c).2 =
      .closed c :: (onPublish (stopBase (first b c (.connect req) authOk).1 c s)
        ⟨{ qos := w.qos, retain := w.retain, topic := w.topic, payload := w.payload }, true⟩).2.2.1 := by
  obtain ⟨cn, s, hc, ha, hs, hf, hwl⟩ := C09_will_is_current_connect b c req authOk h
  refine ⟨s, ?_⟩
  rw [initWill_some req w hw hv] at hwl
  rw [hw] at hf
  exact stop_out_will _ c cn s _ hc ha hs hf hwl

/-- non-vacuity (resumed session): connection 1 drops, the client returns as
connection 3 with CleanSession=0 and a different will (topic "x", retained,
QoS 0), SessionPresent=1; when 3 drops, the new will is published (retained on
"x"; nobody listens) — not the first one again. -/
example :
    let req := Ex.conn Ex.idA false (some ⟨[120], [5], 0, true⟩)
    let b := (run Ex.base2 [.close 1]).1
    (first b 3 (.connect req) true).2 = [.send 3 (.connack true 0)] ∧
    ((first b 3 (.connect req) true).1.getSess 1).map (·.will) =
      some (some ⟨{ qos := 0, retain := true, topic := [120], payload := [5] }, true⟩) ∧
    (stop (first b 3 (.connect req) true).1 3).2 = [.closed 3] ∧
    ((stop (first b 3 (.connect req) true).1 3).1.topics.retained [120]).map (·.map (·.payload)) = some [[5]] := by
  decide +kernel

/-- `eraseWills b` is `b` with every stored will message removed: tries,
connections, store, counters and all other session fields (the will flags
included) are those of `b`. -/
theorem C09_eraseWills_spec (b : B) (r : Nat) :
    (eraseWills b).getSess r = (b.getSess r).map (fun s => { s with will := none }) ∧
    (eraseWills b).topics = b.topics ∧ (eraseWills b).conns = b.conns ∧ (eraseWills b).store = b.store ∧
    (eraseWills b).nextRef = b.nextRef ∧ (eraseWills b).ctr = b.ctr :=
  ⟨ew_getSess b r, rfl, rfl, rfl, rfl, rfl⟩

/-- Every event that cannot run `stop` with a will flag set (`mayStop` names those that can: the end of a
connection, and a CONNECT with a supplied client identifier, which ends an existing connection of
that client first - MQTT-3.1.4-2 - and so publishes *its* will) — a first
packet without client identifier or that is no CONNECT, PUBLISH,
PUBREL, SUBSCRIBE, UNSUBSCRIBE, DISCONNECT (it runs `stop`, but clears the will flag first), any other
packet, the in-process API — produces exactly the same outputs in `b` and in `b` without its will
messages, and the resulting states again differ at most in will messages: no
such event sends anything that stems from a stored will. -/
theorem C09_only_stop_reads_will (b : B) (e : Ev) (h : mayStop e = false) :
    (step (eraseWills b) e).2 = (step b e).2 ∧
    eraseWills (step (eraseWills b) e).1 = eraseWills (step b e).1 :=
  step_ew b e h

/-- the same for any sequence of such events -/
theorem C09_only_stop_reads_will_run (b : B) (evs : List Ev) (h : ∀ e ∈ evs, mayStop e = false) :
    (run (eraseWills b) evs).2 = (run b evs).2 :=
  (run_ew evs h b (eraseWills b) (eraseWills_idem b)).1

/-- and `stop` itself reads it only under a set will flag -/
theorem C09_stop_reads_will_only_with_flag (b : B) (c : Nat) (cn : Conn) (s : Sess)
    (hc : b.getConn c = some cn) (ha : cn.alive = true) (hs : b.getSess cn.sess = some s)
    (hf : s.willFlag = false) :
    stop (eraseWills b) c = (eraseWills (stop b c).1, (stop b c).2) :=
  stop_ew_noflag b c cn s hc ha hs hf

/-- non-vacuity: with listeners on the will topic "w", a run of publishes,
(un)subscribes, an anonymous CONNECT and a DISCONNECT gives the
same outputs with and without the stored wills, while a `close` of connection 1
does not (so the exclusion is needed). -/
example :
    let evs : List Ev := [.packet 2 (.publish { qos := 1, topic := Ex.tW, pktid := 9, payload := [3] }),
      .srvPub { qos := 0, topic := Ex.tW, payload := [4] }, .packet 1 (.unsubscribe 5 [Ex.tW]),
      .first 4 (.connect (Ex.conn [] true)) true, .packet 1 .disconnect, .packet 4 .pingreq]
    (run (eraseWills Ex.base2) evs).2 = (run Ex.base2 evs).2 ∧
    (run Ex.base2 evs).2.length = 6 ∧ (run Ex.base2 evs).2.head? = some
      [.send 2 (.puback 9), .send 1 (.publish { qos := 1, topic := Ex.tW, pktid := 9, payload := [3] }),
       .send 2 (.publish { qos := 1, topic := Ex.tW, pktid := 9, payload := [3] }),
       .call 1000 { qos := 0, topic := Ex.tW, pktid := 9, payload := [3] }] ∧
    (stop (eraseWills Ex.base2) 1).2 ≠ (stop Ex.base2 1).2 := by
  intro evs
  exact ⟨C09_only_stop_reads_will_run _ evs (by decide), by decide +kernel⟩

/-- One event keeps the will message and the will flag of session object `r`
unless it is entitled to change them (`affectsWill`: a CONNECT that resumes `r`,
or the DISCONNECT / end of a connection served by `r`). -/
theorem C09_will_kept_step (b : B) (hi : Inv b) (e : Ev) (r : Nat) (s : Sess)
    (hs : b.getSess r = some s) (h : ¬ affectsWill b r e) :
    ∃ s', (step b e).1.getSess r = some s' ∧ s'.will = s.will ∧ s'.willFlag = s.willFlag :=
  step_will_kept hi e r s hs h

/-- what `affectsWill` and `endsConn` say: the will of session object `r` can change at the
end of a connection bound to it - DISCONNECT, any other end, or a CONNECT that takes that
connection over (`takenOver`: the live connections of the client whose identifier an acceptable
CONNECT supplies, MQTT-3.1.4-2) - and at a CONNECT that resumes `r`; connection `c` ends, or its
number is reused, at `close`, DISCONNECT, a first packet on `c`, or a CONNECT that takes it over -/
theorem C09_affectsWill_iff (b : B) (r : Nat) (e : Ev) :
    (affectsWill b r e ↔
      (∃ c, (e = .close c ∨ e = .packet c .disconnect) ∧ (b.getConn c).map (·.sess) = some r) ∨
      (∃ c f a, e = .first c f a ∧
        ((∃ c' ∈ takenOver b f a, (b.getConn c').map (·.sess) = some r) ∨
         ∃ req, f = .connect req ∧ accepts (.connect req) a = true ∧
           (resumed (takeOver b f a).1 c req).map (·.ref) = some r))) ∧
    (∀ c, endsConn b c e ↔ e = .close c ∨ e = .packet c .disconnect ∨
      ∃ c' f a, e = .first c' f a ∧ (c' = c ∨ c ∈ takenOver b f a)) := by
  refine ⟨?_, fun c => ?_⟩
  · constructor
    · intro h
      cases e with
      | close c => exact .inl ⟨c, .inl rfl, h⟩
      | packet c p =>
        cases p with
        | disconnect => exact .inl ⟨c, .inr rfl, h⟩
        | _ => exact h.elim
      | first c f a =>
        rcases h with h | h
        · exact .inr ⟨c, f, a, rfl, .inl h⟩
        · cases f with
          | connect req => exact .inr ⟨c, _, a, rfl, .inr ⟨req, rfl, h⟩⟩
          | _ => exact h.elim
      | _ => exact h.elim
    · rintro (⟨c, (rfl | rfl), h⟩ | ⟨c, f, a, rfl, h | ⟨req, rfl, h⟩⟩)
      · exact h
      · exact h
      · exact .inl h
      · exact .inr h
  · constructor
    · intro h
      cases e with
      | close c' => exact .inl (congrArg _ h)
      | packet c' p =>
        cases p with
        | disconnect => exact .inr (.inl (congrArg (Ev.packet · .disconnect) h))
        | _ => exact h.elim
      | first c' f a => exact .inr (.inr ⟨c', f, a, rfl, h⟩)
      | _ => exact h.elim
    · rintro (rfl | rfl | ⟨c', f, a, rfl, h⟩)
      · rfl
      · rfl
      · exact h

/-- The property over histories.  Connection `c` is accepted with a CONNECT
carrying the will `w` (fresh or resumed session); then any events happen —
traffic of `c` and of every other client, the in-process API, other connections
coming and going — none of which ends `c` (a CONNECT with `c`'s client identifier does: it
takes `c` over, MQTT-3.1.4-2), reuses its number, or resumes `c`'s session object
(`quiet`).  When `c` then ends without
DISCONNECT, the output is the close followed by exactly the publish-path
outputs for `w` as given in `c`'s own CONNECT. -/
theorem C09_will_of_own_connect (b0 : B) (hi : Inv b0) (c : Nat) (req : Connect) (authOk : Bool) (w : Will)
    (hacc : ∃ sp, Out.send c (.connack sp 0) ∈ (first b0 c (.connect req) authOk).2)
    (hw : req.will = some w) (hv : validTopic w.topic = true)
    (cn : Conn) (hcn : (first b0 c (.connect req) authOk).1.getConn c = some cn)
    (evs : List Ev) (hq : quiet cn.sess c (first b0 c (.connect req) authOk).1 evs) :
    ∃ s, (stop (run (first b0 c (.connect req) authOk).1 evs).1 c).2 =
      .closed c :: (onPublish (stopBase (run (first b0 c (.connect req) authOk).1 evs).1 c s)
        ⟨{ qos := w.qos, retain := w.retain, topic := w.topic, payload := w.payload }, true⟩).2.2.1 := by
  obtain ⟨cn', s, hc, ha, hs, hf, hwl⟩ := C09_will_is_current_connect b0 c req authOk hacc
  rw [hcn] at hc; cases hc
  have hi1 : Inv (first b0 c (.connect req) authOk).1 := linv_first hi c _ authOk
  obtain ⟨hc2, s2, hs2, hw2⟩ := run_will_kept evs hi1 cn.sess c cn s hcn hs hq
  refine ⟨s2, ?_⟩
  rw [initWill_some req w hw hv] at hwl
  rw [hw] at hf
  exact stop_out_will _ c cn s2 _ hc2 ha hs2 (hw2.2.trans hf) (hw2.1.trans hwl)

/-- and after a DISCONNECT at the end of such a history: nothing -/
theorem C09_disconnect_after_history (b : B) (hi : Inv b) (evs : List Ev) (c : Nat)
    (h : (run b evs).1.alive c = true) :
    (run (run b evs).1 [.packet c .disconnect, .close c]).2 = [[.closed c], []] := by
  obtain ⟨cn, s, hc, ha, hs⟩ := (linv_run hi evs).live h
  obtain ⟨h1, _, h3, _⟩ := C09_disconnect_no_will _ c cn s hc ha hs
  simp only [run, step, h1, h3]

/-- non-vacuity: "A" returns as connection 3 (resumed, new will on "x"); a
client "C" connects as 4 and subscribes to "x", 2 publishes, 2 leaves; then 3
drops: its own will is published (to 4). -/
example :
    let req := Ex.conn Ex.idA false (some ⟨[120], [5], 1, false⟩)
    let b0 := (run Ex.base2 [.close 1]).1
    let evs : List Ev := [.first 4 (.connect (Ex.conn [67] true (some ⟨Ex.tW, [6], 0, false⟩))) true,
      .packet 4 (.subscribe 1 [([120], 1)]), .packet 2 (.publish { qos := 0, topic := [120], payload := [8] }),
      .packet 2 .disconnect]
    (first b0 3 (.connect req) true).1.getConn 3 = some ⟨3, 1, true⟩ ∧
    quiet 1 3 (first b0 3 (.connect req) true).1 evs ∧
    (stop (run (first b0 3 (.connect req) true).1 evs).1 3).2 =
      [.closed 3, .send 4 (.publish { qos := 1, topic := [120], pktid := 3, payload := [5] })] := by
  refine ⟨by rfl, ?_, by decide +kernel⟩
  simp only [quiet, and_true]
  decide +kernel

open Mqtt.Proofs.BrokerRefine (okRun specRun liveSess willMsg endSpec) in
open Mqtt.Spec.Broker (Accepts) in
/-- **Refinement (Proofs/BrokerRefine*.lean: `reach` keeps the relation `R` along the history, then `end_accepted_of_R`) for C09.**
After any history admitted by `okRun` (see C01_refines_reference for the side
condition; resumed sessions included), for a live connection `c`: DISCONNECT
closes it and publishes nothing; any other end (`close`: peer close, keep-alive
expiry, protocol error) is accepted by the reference broker's `endConn`, whose
record `k` of the connection carries the will *of the CONNECT that opened this
connection* - the model's session object agrees with it (`willFlag`, message
object), whatever earlier connections of the same client declared -: with no
will the close is the only output; with will `w` the outputs are the close and
the fan-out of `w` in the state in which the connection's own subscriptions are
gone, which the reference broker's `accept` of `w` accepts (by
C01_refines_reference's reading of `Accepts`: one copy per matching subscription). -/
theorem C09_refines_reference (es : List Ev) (hok : okRun {} es = true) (c : Nat)
    (hl : (run {} es).1.alive c = true) :
    (step (run {} es).1 (.packet c .disconnect)).2 = [.closed c] ∧
    Accepts (Mqtt.Spec.Broker.step (specRun {} es).1 (.close c)).2 (step (run {} es).1 (.close c)).2 ∧
    ∃ σ k, liveSess (run {} es).1 c = some σ ∧ Mqtt.Spec.Broker.getConn (specRun {} es).1 c = some k ∧
      σ.willFlag = k.will.isSome ∧ σ.will = k.will.map willMsg ∧
      (k.will = none → (step (run {} es).1 (.close c)).2 = [.closed c]) ∧
      (∀ w, k.will = some w →
        (step (run {} es).1 (.close c)).2 =
          .closed c :: (onPublish (stopBase (run {} es).1 c σ) (willMsg w)).2.2.1 ∧
        (Mqtt.Spec.Broker.step (specRun {} es).1 (.close c)).2 =
          .closed c :: (Mqtt.Spec.Broker.accept (endSpec (specRun {} es).1 c k)
            { qos := w.qos, retain := w.retain, topic := w.topic, payload := w.payload }).2) :=
  Mqtt.Proofs.BrokerRefine.end_accepted_of_R _ _ (Mqtt.Proofs.BrokerRefine.reach es hok) c hl

open Mqtt.Proofs.BrokerRefine (okRun specRun okEv liveSess) in
/-- **The will of a connection that is taken over** (MQTT-3.1.4-2).  After any
history admitted by `okRun`, an accepted CONNECT admitted by `okEv` that carries
the (non-empty) client identifier of the live connection `c0` emits exactly what
the end of `c0` without DISCONNECT emits (`.close c0`), followed by its own
CONNACK - in the model and in the reference broker alike.  So everything
C09_refines_reference says about `.close c0` holds for the take-over: the close
of `c0`, then the will of `c0`'s own CONNECT (if it declared one) fanned out in
the state in which `c0`'s subscriptions are gone and the new connection is not
there yet, then the CONNACK. -/
theorem C09_take_over_is_an_end (es : List Ev) (hok : okRun {} es = true) (c c0 : Nat) (req : Connect) (a : Bool)
    (he : okEv (run {} es).1 (.first c (.connect req) a) = true) (hacc : accepts (.connect req) a = true)
    (σ : Sess) (hσ : liveSess (run {} es).1 c0 = some σ) (hcid : σ.cid = req.clientId) (hne : req.clientId ≠ []) :
    (run {} es).1.alive c0 = true ∧
    ∃ sp, (step (run {} es).1 (.first c (.connect req) a)).2 =
        (step (run {} es).1 (.close c0)).2 ++ [.send c (.connack sp 0)] ∧
      (Mqtt.Spec.Broker.step (specRun {} es).1 (.first c (.connect req) a)).2 =
        (Mqtt.Spec.Broker.step (specRun {} es).1 (.close c0)).2 ++ [.send c (.connack sp 0)] := by
  have hR := Mqtt.Proofs.BrokerRefine.reach es hok
  refine ⟨Mqtt.Proofs.BrokerRefine.liveSess_alive hσ, ?_⟩
  obtain ⟨_, c1, c2, _⟩ := Mqtt.Proofs.BrokerRefine.connect_refines hR c req a he hacc
  have hdead := (Mqtt.Proofs.BrokerRefine.okEv_first he).2.1
  obtain ⟨_, _, hfree, hto⟩ := Mqtt.Proofs.BrokerRefine.takeOver_refines hR c req a hacc hdead
  have heff := effCid_of_ne c req hne
  rcases hto with ⟨h0, _⟩ | ⟨c0', σ', fs, fo, hσ', hcid', _, t1, t2, _⟩
  · rw [h0] at hfree
    exact absurd (hcid.trans heff.symm) (hfree c0 σ hσ)
  · have : c0' = c0 := hR.cidUniq c0' c0 σ' σ hσ' hσ (hcid'.trans hcid.symm)
    subst this
    refine ⟨(Mqtt.Proofs.BrokerRefine.specPrior
      (Mqtt.Spec.Broker.takeOver (specRun {} es).1 (.connect req) a).1 c req).isSome, ?_, ?_⟩
    · rw [c1, t1]; rfl
    · rw [Mqtt.Proofs.BrokerRefine.spec_step_eq, c2, t2]; rfl

/-- **A connection that never came up leaves no will.**  When the answer to a first packet cannot be
written (`handleConnection` with a failing `writeMessage`; model `connectFail`), everything the broker
does is: the ends of the connections the CONNECT takes over (MQTT-3.1.4-2 - with THEIR wills, as for
any take-over), then the close of the new connection.  The will carried by the unanswerable CONNECT
itself is not published by this step.  (Nor can it be later: no connection exists for it -
`connectFail` leaves the connection table as `takeOver` left it -, and a later CONNECT of the client
replaces the stored will, `Session.Update`: `C09_will_is_current_connect`.) -/
theorem C09_unanswerable_connect_no_will (b : B) (c : Nat) (f : First) (a : Bool) :
    (connectFail b c f a).2 = (takeOver b f a).2 ++ [.closed c] ∧
    (connectFail b c f a).1.conns = (takeOver b f a).1.conns ∧
    (connectFail b c f a).1.topics = (takeOver b f a).1.topics := by
  obtain ⟨h1, h2, h3⟩ := Mqtt.Proofs.BrokerRefine.firstFail_frame (takeOver b f a).1 c f a
  exact ⟨by rw [Mqtt.Proofs.BrokerRefine.connectFail_eq, h3], h1, h2⟩

/-- `stop()` for a list of connections, one after the other, is the run of their `.close` events -/
theorem C09_stopAll_is_run (cs : List Nat) : ∀ (b : B),
    stopAll b cs = ((run b (cs.map Ev.close)).1, ((run b (cs.map Ev.close)).2).flatten) := by
  induction cs with
  | nil => intro b; rfl
  | cons c rest ih =>
    intro b
    simp only [stopAll, List.map_cons, run, step, List.flatten_cons]
    rw [ih (stop b c).1]

open Mqtt.Proofs.BrokerRefine (R okRun specRun AcceptsAll) in
/-- **Server.Close ends every connection without a DISCONNECT: every will is published.**  The model of
`Server.Close` (`srvClose`: `stop()` for every live connection in the order of registration) is the run
of the events `.close c` for those connections, and along it the refinement holds (`run_refines`): from
related states, the outputs of every one of these ends are accepted by the reference broker's
`endConn _ c false` - the close of `c` followed by the fan-out of its will to the subscriptions held at
that moment (connections later in the order and in-process subscribers), nothing if it has none -, and
the states stay related.  (What reaches another CONNECTION during Close is not observable in the tie:
every connection is closed on that line; in-process subscribers are.) -/
theorem C09_server_close_publishes_wills (b : B) (s : Mqtt.Spec.Broker.S) (h : R b s) :
    let es := (liveIds b).map Ev.close
    srvClose b = ((run b es).1, ((run b es).2).flatten) ∧
    R (run b es).1 (specRun s es).1 ∧ AcceptsAll (specRun s es).2 (run b es).2 := by
  intro es
  have hok : ∀ (l : List Nat) (b' : B), okRun b' (l.map Ev.close) = true := by
    intro l
    induction l with
    | nil => intro b'; rfl
    | cons c rest ih => intro b'; simp only [List.map_cons, okRun, Mqtt.Proofs.BrokerRefine.okEv, Bool.true_and]; exact ih _
  exact ⟨C09_stopAll_is_run (liveIds b) b, Mqtt.Proofs.BrokerRefine.run_refines es b s h (hok _ b)⟩

open Mqtt.Proofs.BrokerRefine (EvX okRunX runX specRunX liveSess willMsg endSpec) in
open Mqtt.Spec.Broker (Accepts) in
/-- **C09_refines_reference after a history with failed handshakes** (Proofs/BrokerRefineFail.lean:
`BrokerX_refines_spec`).  The same statement for the end of a live connection and its will, after a
history that may also contain first packets whose answer could not be written (`EvX.failFirst`) - such a
CONNECT leaves no will behind (`C09_unanswerable_connect_no_will`), and `k` is still the record of the
CONNECT that opened `c`. -/
theorem C09_refines_reference_with_failed_handshakes (es : List EvX) (hok : okRunX {} es = true) (c : Nat)
    (hl : (runX {} es).1.alive c = true) :
    (step (runX {} es).1 (.packet c .disconnect)).2 = [.closed c] ∧
    Accepts (Mqtt.Spec.Broker.step (specRunX {} es).1 (.close c)).2 (step (runX {} es).1 (.close c)).2 ∧
    ∃ σ k, liveSess (runX {} es).1 c = some σ ∧ Mqtt.Spec.Broker.getConn (specRunX {} es).1 c = some k ∧
      σ.willFlag = k.will.isSome ∧ σ.will = k.will.map willMsg ∧
      (k.will = none → (step (runX {} es).1 (.close c)).2 = [.closed c]) ∧
      (∀ w, k.will = some w →
        (step (runX {} es).1 (.close c)).2 =
          .closed c :: (onPublish (stopBase (runX {} es).1 c σ) (willMsg w)).2.2.1 ∧
        (Mqtt.Spec.Broker.step (specRunX {} es).1 (.close c)).2 =
          .closed c :: (Mqtt.Spec.Broker.accept (endSpec (specRunX {} es).1 c k)
            { qos := w.qos, retain := w.retain, topic := w.topic, payload := w.payload }).2) :=
  Mqtt.Proofs.BrokerRefine.end_accepted_of_R _ _ (Mqtt.Proofs.BrokerRefine.reachX es hok) c hl

end Mqtt.Properties.C09
