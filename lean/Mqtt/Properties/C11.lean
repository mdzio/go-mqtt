/-
C11 — Nothing happens before a valid CONNECT.

Model: `Model/Broker.lean` (`first` = handleConnection/getSession/start, `packet`,
`stop`).  Specification: `Spec.Broker.refusals`, written from MQTT 3.1.1 §3.1/§3.2
and independent of the regenerated constants.  All theorems but the
`*_refines_reference*` ones quantify over every broker state `b`, every connection id and every first
packet.
-/
import Mqtt.Proofs.BrokerLife
import Mqtt.Proofs.BrokerRefineCorX

namespace Mqtt.Properties.C11
open Mqtt.Iface.Broker Mqtt.Model.Broker Mqtt.Proofs.BrokerLife

/-- `message.SupportedVersions` as re-read from the source accepts exactly the
name/level pairs ("MQIsdp", 3) and ("MQTT", 4) of the specification. -/
theorem C11_facts_versions (req : Connect) :
    (match Generated.supportedVersions.lookup req.version with
      | none => false
      | some name => name == req.protoName) = Spec.Broker.knownVersion req.protoName req.version :=
  facts_versions req

/-- The flag and identifier checks of the decoder are the specification's
conditions for "malformed" and "identifier rejected". -/
theorem C11_checks_are_spec (req : Connect) :
    flagsBad req = (req.reserved || (match req.will with
      | some w => decide (w.qos > 2)
      | none => decide (req.willQosNoWill != 0) || req.willRetainNoWill)) ∧
    idBad req = ((req.clientId.isEmpty && !req.clean) ||
      !(req.clientId.all Spec.Broker.printable && req.clientId.length ≤ 32)) :=
  ⟨(spec_flags req).symm, (spec_id req).symm⟩

/-- Whenever `first` does not emit CONNACK code 0, the broker state is exactly
what it was, and the output is the close of `c`, preceded by at most one CONNACK
to `c` with code 1, 2 or 4: nothing is sent to anybody else. -/
theorem C11_refused_no_effect (b : B) (c : Nat) (f : First) (authOk : Bool)
    (h : ∀ sp, Out.send c (.connack sp 0) ∉ (first b c f authOk).2) :
    (first b c f authOk).1 = b ∧
    ((first b c f authOk).2 = [.closed c] ∨
     ∃ k, (k = 1 ∨ k = 2 ∨ k = 4) ∧ (first b c f authOk).2 = [.send c (.connack false k), .closed c]) := by
  rcases first_cases c f authOk with ⟨_, o, h1, ho⟩ | ⟨req, _, _, h1⟩
  · rw [h1]
    rcases ho with rfl | ⟨k, hk, rfl⟩
    · exact ⟨rfl, .inl rfl⟩
    · exact ⟨rfl, .inr ⟨k, hk, rfl⟩⟩
  · exact absurd (by rw [h1]; exact List.mem_singleton.mpr rfl) (h (accepted b c req).2)

/-- non-vacuity: connections 1 (persistent, with will) and 2 are live and
subscribed, a message is retained; a CONNECT with an empty identifier and
CleanSession=0 on connection 3 is refused with code 2. -/
example :
    (∀ sp, Out.send 3 (.connack sp 0) ∉ (first Ex.base 3 (.connect (Ex.conn [] false)) true).2) ∧
    (first Ex.base 3 (.connect (Ex.conn [] false)) true).2 = [.send 3 (.connack false 2), .closed 3] ∧
    Ex.base.alive 1 = true ∧ Ex.base.alive 2 = true ∧ Ex.base.store = [(Ex.idB, 2), (Ex.idA, 1)] := by decide +kernel

/-- A packet or a connection end on a connection that is not live (never
accepted, or already ended) is a no-op. -/
theorem C11_dead_noop (b : B) (c : Nat) (h : b.alive c = false) :
    (∀ p, packet b c p = (b, [])) ∧ stop b c = (b, []) :=
  ⟨fun p => Mqtt.Proofs.Broker.packet_dead b c p h, Mqtt.Proofs.Broker.stop_idle b c h⟩

/-- Any sequence of events on a connection `c` that is not live and contains no
accepted CONNECT for `c` — refused first packets, arbitrary later packets, the
end of the connection, in any number and order — leaves the whole broker state
(subscriptions, retained messages, sessions, store, other connections, packet
id counter) unchanged, and everything emitted is a refusal addressed to `c`. -/
theorem C11_unaccepted_no_effect (b : B) (c : Nat) (evs : List Ev) (hd : b.alive c = false)
    (h : ∀ e ∈ evs, unacceptedOn c e = true) :
    (run b evs).1 = b ∧
    ∀ os ∈ (run b evs).2, ∀ o ∈ os, o = .closed c ∨ ∃ k, k ≠ 0 ∧ o = .send c (.connack false k) :=
  run_unaccepted b c evs hd h

/-- `unacceptedOn` is what it is meant to be: an event of connection `c` which,
if it is a first packet, does not get CONNACK 0 (in any state). -/
theorem C11_unacceptedOn_iff (b : B) (c : Nat) (e : Ev) :
    unacceptedOn c e = true ↔
      (∃ p, e = .packet c p) ∨ e = .close c ∨
      ∃ f a, e = .first c f a ∧ ∀ sp, Out.send c (.connack sp 0) ∉ (first b c f a).2 := by
  cases e with
  | first c' f a =>
    simp only [unacceptedOn, Bool.and_eq_true, beq_iff_eq, Bool.not_eq_true']
    constructor
    · rintro ⟨rfl, ha⟩
      refine .inr (.inr ⟨f, a, rfl, fun sp hsp => ?_⟩)
      have := (accepts_iff_emits b c' f a).mpr ⟨sp, hsp⟩
      rw [ha] at this; exact absurd this (by simp)
    · rintro (⟨p, hp⟩ | hp | ⟨f', a', hp, hn⟩)
      · cases hp
      · cases hp
      · cases hp
        refine ⟨rfl, ?_⟩
        cases ha : accepts f a with
        | false => rfl
        | true =>
          obtain ⟨sp, hsp⟩ := (accepts_iff_emits b c f a).mp ha
          exact absurd hsp (hn sp)
  | packet c' p =>
    simp only [unacceptedOn, beq_iff_eq]
    constructor
    · rintro rfl; exact .inl ⟨p, rfl⟩
    · rintro (⟨p', hp⟩ | hp | ⟨f', a', hp, _⟩)
      · cases hp; rfl
      · cases hp
      · cases hp
  | close c' =>
    simp only [unacceptedOn, beq_iff_eq]
    constructor
    · rintro rfl; exact .inr (.inl rfl)
    · rintro (⟨p', hp⟩ | hp | ⟨f', a', hp, _⟩)
      · cases hp
      · cases hp; rfl
      · cases hp
  | _ => exact ⟨(fun h => nomatch h), by rintro (⟨p', hp⟩ | hp | ⟨f', a', hp, _⟩) <;> cases hp⟩

/-- non-vacuity: on `Ex.base`, connection 3 sends a PUBLISH as first
packet, then a SUBSCRIBE, a retained PUBLISH and a DISCONNECT, and drops: the
only output is the close after the first packet; subscriptions, retained store
and sessions are those of before. -/
example :
    let evs : List Ev := [.first 3 (.other 3) true, .packet 3 (.subscribe 1 [(Ex.tAB, 2)]),
      .packet 3 (.publish { qos := 0, retain := true, topic := Ex.tAB, payload := [9] }),
      .packet 3 .disconnect, .close 3, .first 3 (.connect (Ex.conn Ex.idA false)) false]
    Ex.base.alive 3 = false ∧ (∀ e ∈ evs, unacceptedOn 3 e = true) ∧
    (run Ex.base evs).2 = [[.closed 3], [], [], [], [], [.send 3 (.connack false 4), .closed 3]] ∧
    (run Ex.base evs).1.topics = Ex.base.topics ∧ (run Ex.base evs).1.store = Ex.base.store := by
  intro evs
  have hd : Ex.base.alive 3 = false := by decide +kernel
  have hu : ∀ e ∈ evs, unacceptedOn 3 e = true := by decide +kernel
  have hb : (run Ex.base evs).1 = Ex.base := (run_unaccepted Ex.base 3 evs hd hu).1
  exact ⟨hd, hu, by decide +kernel, by rw [hb], by rw [hb]⟩

/-- The answer, case by case.  A CONNECT for which the specification has no reason to refuse
(`refusals = []`) is answered with exactly one packet, CONNACK code 0, and the
connection is live afterwards.  Otherwise the state is unchanged, the
connection is closed, and the answer before the close is either nothing — then
"malformed" (`none`) is among the specification's reasons — or one CONNACK whose
non-zero code is among the specification's reasons (1: protocol level, 2:
identifier, 4: credentials). -/
theorem C11_table (b : B) (c : Nat) (req : Connect) (authOk : Bool) :
    (Spec.Broker.refusals req authOk = [] →
      ∃ sp, (first b c (.connect req) authOk).2 = [.send c (.connack sp 0)] ∧
        (first b c (.connect req) authOk).1.alive c = true) ∧
    (Spec.Broker.refusals req authOk ≠ [] →
      (first b c (.connect req) authOk).1 = b ∧
      (((first b c (.connect req) authOk).2 = [.closed c] ∧ none ∈ Spec.Broker.refusals req authOk) ∨
       ∃ k, k ≠ 0 ∧ some k ∈ Spec.Broker.refusals req authOk ∧
         (first b c (.connect req) authOk).2 = [.send c (.connack false k), .closed c])) := by
  constructor
  · intro h
    have ha := (refusals_nil_iff req authOk).mp h
    rw [first_accepted b c req authOk ha]
    exact ⟨_, rfl, accepted_alive b c req⟩
  · intro h
    have ha : accepts (.connect req) authOk = false := by
      cases hacc : accepts (.connect req) authOk with
      | false => rfl
      | true => exact absurd ((refusals_nil_iff req authOk).mpr hacc) h
    rcases first_table b c req authOk ha with ⟨h1, hn⟩ | ⟨k, hk, hm, h1⟩
    · rw [h1]; exact ⟨rfl, .inl ⟨rfl, hn⟩⟩
    · rw [h1]; exact ⟨rfl, .inr ⟨k, hk, hm, rfl⟩⟩

/-- Acceptance is decided by the CONNECT and the authenticator alone — not by
the broker state — and is visible as CONNACK code 0. -/
theorem C11_accept_iff (b : B) (c : Nat) (req : Connect) (authOk : Bool) :
    (∃ sp, Out.send c (.connack sp 0) ∈ (first b c (.connect req) authOk).2) ↔
      Spec.Broker.refusals req authOk = [] := by
  rw [← accepts_iff_emits, refusals_nil_iff]

/-- non-vacuity: one CONNECT per case of `C11_table`, on `Ex.base`. -/
example :
    Spec.Broker.refusals (Ex.conn Ex.idA false) true = [] ∧
    (first Ex.base 3 (.connect (Ex.conn Ex.idA false)) true).2 = [.send 3 (.connack true 0)] ∧
    Spec.Broker.refusals { Ex.conn Ex.idA true with version := 5 } true = [some 1] ∧
    (first Ex.base 3 (.connect { Ex.conn Ex.idA true with version := 5 }) true).2 =
      [.send 3 (.connack false 1), .closed 3] ∧
    Spec.Broker.refusals (Ex.conn [1] true) true = [some 2] ∧
    (first Ex.base 3 (.connect (Ex.conn [1] true)) true).2 = [.send 3 (.connack false 2), .closed 3] ∧
    Spec.Broker.refusals (Ex.conn Ex.idA true) false = [some 4] ∧
    (first Ex.base 3 (.connect (Ex.conn Ex.idA true)) false).2 = [.send 3 (.connack false 4), .closed 3] ∧
    Spec.Broker.refusals { Ex.conn Ex.idA true with reserved := true } true = [none] ∧
    (first Ex.base 3 (.connect { Ex.conn Ex.idA true with reserved := true }) true).2 = [.closed 3] := by
  simp only [refusals_eq]
  decide +kernel

/-- An unknown protocol name/level pair is answered with code 1, whatever else
is wrong with the CONNECT. -/
theorem C11_precedence_level (b : B) (c : Nat) (req : Connect) (authOk : Bool)
    (h : Spec.Broker.knownVersion req.protoName req.version = false) :
    first b c (.connect req) authOk = (b, [.send c (.connack false 1), .closed c]) := by
  rw [first_connect, facts_versions, h]; rfl

/-- Known level, malformed flags: closed without CONNACK, whatever the
identifier and the credentials. -/
theorem C11_precedence_flags (b : B) (c : Nat) (req : Connect) (authOk : Bool)
    (h1 : Spec.Broker.knownVersion req.protoName req.version = true) (h2 : flagsBad req = true) :
    first b c (.connect req) authOk = (b, [.closed c]) := by
  rw [first_connect, facts_versions, h1, h2]; rfl

/-- Known level, well-formed flags, unacceptable identifier: code 2, whatever the credentials. -/
theorem C11_precedence_id (b : B) (c : Nat) (req : Connect) (authOk : Bool)
    (h1 : Spec.Broker.knownVersion req.protoName req.version = true) (h2 : flagsBad req = false)
    (h3 : idBad req = true) :
    first b c (.connect req) authOk = (b, [.send c (.connack false 2), .closed c]) := by
  rw [first_connect, facts_versions, h1, h2, h3]; rfl

/-- Everything acceptable except the credentials: code 4. -/
theorem C11_precedence_auth (b : B) (c : Nat) (req : Connect)
    (h1 : Spec.Broker.knownVersion req.protoName req.version = true) (h2 : flagsBad req = false)
    (h3 : idBad req = false) :
    first b c (.connect req) false = (b, [.send c (.connack false 4), .closed c]) := by
  rw [first_connect, facts_versions, h1, h2, h3]; rfl

/-- non-vacuity: a CONNECT with every defect at once gets code 1; with a known
level, the malformed flags win over the bad identifier and the credentials. -/
example :
    let bad : Connect := { Ex.conn [1] false with version := 9, reserved := true }
    let bad2 : Connect := { Ex.conn [1] false with reserved := true }
    (first Ex.base 3 (.connect bad) false).2 = [.send 3 (.connack false 1), .closed 3] ∧
    flagsBad bad = true ∧ idBad bad = true ∧
    (first Ex.base 3 (.connect bad2) false).2 = [.closed 3] := by decide +kernel

/-- A CONNECT with an unknown protocol name/level (code 1 wins over every other defect) or with
well-formed flags is answered with exactly one CONNACK; a CONNECT of a known level with malformed
flags, any other packet and undecodable bytes get none. -/
theorem C11_one_connack (b : B) (c : Nat) (f : First) (authOk : Bool) :
    ((first b c f authOk).2.filter (fun o => match o with | .send _ (.connack _ _) => true | _ => false)).length =
      match f with
      | .connect req => if Spec.Broker.knownVersion req.protoName req.version && flagsBad req then 0 else 1
      | _ => 0 := by
  cases f with
  | garbage => rfl
  | other t => rfl
  | connect req =>
    show _ = if Spec.Broker.knownVersion req.protoName req.version && flagsBad req then 0 else 1
    rw [first_connect, ← facts_versions]
    cases levelOk req <;> cases flagsBad req <;> cases idBad req <;> cases authOk <;> rfl

/-- Any first packet other than a CONNECT: closed, nothing sent, state unchanged. -/
theorem C11_not_connect (b : B) (c : Nat) (authOk : Bool) :
    (∀ t, first b c (.other t) authOk = (b, [.closed c])) ∧ first b c .garbage authOk = (b, [.closed c]) :=
  ⟨fun _ => rfl, rfl⟩

open Mqtt.Proofs.BrokerRefine (okRun specRun okEv) in
open Mqtt.Spec.Broker (Accepts) in
/-- **Refinement (Proofs/BrokerRefine*.lean: `reach` keeps the relation `R` along the history, then `refusal_accepted_of_R`) for C11.**
After any history admitted by `okRun` (see C01_refines_reference for the side
condition), a first packet that is not an acceptable CONNECT, on a connection
number not in use, changes nothing on either side and is answered as the
reference broker allows (`Accepts` of its `refused c codes`): by a close without
CONNACK where `none` is among the reasons (always for a packet that is not a
CONNECT, for reserved-flag and will-flag violations), or by a CONNACK with
SessionPresent = 0 and one of the listed return codes (1 protocol level, 2
client identifier, 4 authentication) followed by the close. -/
theorem C11_refines_reference (es : List Ev) (hok : okRun {} es = true) (c : Nat) (f : First) (a : Bool)
    (he : okEv (run {} es).1 (.first c f a) = true) (hacc : accepts f a = false) :
    Accepts (Mqtt.Spec.Broker.step (specRun {} es).1 (.first c f a)).2 (step (run {} es).1 (.first c f a)).2 ∧
    (step (run {} es).1 (.first c f a)).1 = (run {} es).1 ∧
    (Mqtt.Spec.Broker.step (specRun {} es).1 (.first c f a)).1 = (specRun {} es).1 ∧
    ∃ codes, (Mqtt.Spec.Broker.step (specRun {} es).1 (.first c f a)).2 = [.refused c codes] ∧
      codes = Mqtt.Proofs.BrokerRefine.reasons f a ∧
      (((step (run {} es).1 (.first c f a)).2 = [.closed c] ∧ none ∈ codes) ∨
       ∃ k, k ≠ 0 ∧ some k ∈ codes ∧
         (step (run {} es).1 (.first c f a)).2 = [.send c (.connack false k), .closed c]) :=
  Mqtt.Proofs.BrokerRefine.refusal_accepted_of_R _ _ (Mqtt.Proofs.BrokerRefine.reach es hok) c f a he hacc

/-- **Nothing happens before a valid CONNECT, even when the refusal cannot be delivered.**  A first packet
that is not an acceptable CONNECT, on a connection to which nothing can be written any more
(`handleConnection` with a failing `writeMessage`; model `connectFail`): the state is untouched - no
connection of another client is taken over, no session is created, updated or deleted, nothing is
subscribed or published - and the only effect is the close of that connection. -/
theorem C11_unanswerable_refusal_changes_nothing (b : B) (c : Nat) (f : First) (a : Bool)
    (h : accepts f a = false) : connectFail b c f a = (b, [.closed c]) := by
  rw [Mqtt.Proofs.BrokerRefine.connectFail_eq, takeOver_refused b f a h,
    Mqtt.Proofs.BrokerRefine.firstFail_refused b c f a h]
  rfl

/-- The same on the side of the reference broker: `Spec.Broker.connectFail` of a refused first packet
leaves the reference state as it is. -/
theorem C11_unanswerable_refusal_spec (s : Mqtt.Spec.Broker.S) (c : Nat) (f : First) (a : Bool)
    (h : accepts f a = false) : (Mqtt.Spec.Broker.connectFail s c f a).1 = s := by
  rw [Mqtt.Proofs.BrokerRefine.spec_connectFail_eq, Mqtt.Proofs.BrokerRefine.spec_takeOver_refused s f a h,
    Mqtt.Proofs.BrokerRefine.spec_firstFail_refused s c f a h]

open Mqtt.Proofs.BrokerRefine (EvX okRunX runX specRunX okEv) in
open Mqtt.Spec.Broker (Accepts) in
/-- **C11_refines_reference after a history with failed handshakes** (Proofs/BrokerRefineFail.lean:
`BrokerX_refines_spec`).  The same statement for a first packet that is not an acceptable CONNECT, after a
history that may also contain first packets whose answer could not be written (`EvX.failFirst`). -/
theorem C11_refines_reference_with_failed_handshakes (es : List EvX) (hok : okRunX {} es = true)
    (c : Nat) (f : First) (a : Bool)
    (he : okEv (runX {} es).1 (.first c f a) = true) (hacc : accepts f a = false) :
    Accepts (Mqtt.Spec.Broker.step (specRunX {} es).1 (.first c f a)).2 (step (runX {} es).1 (.first c f a)).2 ∧
    (step (runX {} es).1 (.first c f a)).1 = (runX {} es).1 ∧
    (Mqtt.Spec.Broker.step (specRunX {} es).1 (.first c f a)).1 = (specRunX {} es).1 ∧
    ∃ codes, (Mqtt.Spec.Broker.step (specRunX {} es).1 (.first c f a)).2 = [.refused c codes] ∧
      codes = Mqtt.Proofs.BrokerRefine.reasons f a ∧
      (((step (runX {} es).1 (.first c f a)).2 = [.closed c] ∧ none ∈ codes) ∨
       ∃ k, k ≠ 0 ∧ some k ∈ codes ∧
         (step (runX {} es).1 (.first c f a)).2 = [.send c (.connack false k), .closed c]) :=
  Mqtt.Proofs.BrokerRefine.refusal_accepted_of_R _ _ (Mqtt.Proofs.BrokerRefine.reachX es hok) c f a he hacc

end Mqtt.Properties.C11
