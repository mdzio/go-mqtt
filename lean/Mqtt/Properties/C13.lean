/-
C13 — An ack queue is a FIFO of in-flight requests, released only on the final ack.

The property theorems, the conservation vocabulary of the specification run (`key`, `reqOf`,
`stepAccepted`, `stepReleased`, `accepted`, `released`) with its step lemmas, and closed demo
histories; the ring lemmas are in `Proofs/AckQueue.lean`.  The model
(`Model/AckQueue.lean`) is the code-shaped ring + index map of
`sessions/ackqueue.go`; the specification (`Spec/Fifo.lean`) is a plain list.
All theorems quantify over *every* operation history `ops : List Op`
(no bound on length, identifiers or in-flight count).
-/
import Mqtt.Proofs.AckQueue


namespace Mqtt.Properties.C13

open Mqtt.Generated Mqtt.Model.AckQueue Mqtt.Proofs.AckQueue Mqtt.Iface.AckQ
open Mqtt.Spec

/-! The specification (`Spec/Fifo.lean`: `Fifo.step`, `Fifo.run`) is written from
the protocol and does not mention the regenerated tables. -/

abbrev SOut := Fifo.SOut

def outAbs : Out → SOut
  | .ok b => .ok b
  | .released l => .released (l.map toEntry)

/-- Representation invariant of the whole object (ring part and ping FIFO). -/
def FullInv (q : Q) : Prop := Inv q ∧ PingsOk q

theorem fullInv_init : FullInv init :=
  ⟨inv_init, by unfold PingsOk init; rw [newAckqueue_default]; intro a ha; cases ha⟩

theorem C13_step_refines (q : Q) (hq : FullInv q) (op : Op) :
    FullInv (step q op).1 ∧
    abs (step q op).1 = (Fifo.step (abs q) op).1 ∧
    outAbs (step q op).2 = (Fifo.step (abs q) op).2 := by
  obtain ⟨h, hp⟩ := hq
  cases op with
  | wait m tag =>
    obtain ⟨a, b, c, d⟩ := wait_refines h hp m tag
    exact ⟨⟨a, b⟩, c, d⟩
  | ack t id bytes =>
    obtain ⟨a, b, c, d⟩ := ack_refines h hp t id bytes
    exact ⟨⟨a, b⟩, c, d⟩
  | acked =>
    obtain ⟨a, b, c, d⟩ := acked_refines h hp
    simp only [step, Fifo.step, outAbs, Fifo.collectPings, Fifo.collect]
    exact ⟨⟨a, b⟩, c, by rw [d]⟩

/-- **C13, refinement form.**  For every history of register / acknowledge /
collect operations, of any length, over any identifiers, the code-shaped queue
(ring buffer, growth, index wrap-around, index map) produces exactly the
outputs of the FIFO list and ends in a state whose abstraction is the FIFO
list's state. -/
theorem C13_refines (q : Q) (hq : FullInv q) (ops : List Op) :
    FullInv (run q ops).1 ∧
    abs (run q ops).1 = (Fifo.run (abs q) ops).1 ∧
    (run q ops).2.map outAbs = (Fifo.run (abs q) ops).2 := by
  induction ops generalizing q with
  | nil => exact ⟨hq, rfl, rfl⟩
  | cons op ops ih =>
    obtain ⟨h1, h2, h3⟩ := C13_step_refines q hq op
    obtain ⟨i1, i2, i3⟩ := ih (step q op).1 h1
    simp only [run, Fifo.run]
    rw [← h2]
    exact ⟨i1, i2, by simp [h3, i3]⟩

/-- … in particular from the queue a session creates. -/
theorem C13_refines_init (ops : List Op) :
    abs (run init ops).1 = (Fifo.run Fifo.empty ops).1 ∧
    (run init ops).2.map outAbs = (Fifo.run Fifo.empty ops).2 := by
  have := C13_refines init fullInv_init ops
  rw [abs_init] at this
  exact this.2

/-! What the FIFO semantics gives (stated on the specification run, which by
`C13_refines` is the behaviour of the code-shaped queue)

`key`, `reqOf`, `stepAccepted`, `stepReleased`, `accepted`, `released` below are about `Fifo.Entry` and
the calls `Op` of one `Ackqueue`.  `Proofs/Client.lean` has definitions of the same names about `Req`
and the events of the whole client with its five queues; `Proofs/ClientQueues.lean` (`proj`,
`sim_step`) carries one to the other. -/

/-- everything about a request that is fixed when it is registered -/
def key (e : Fifo.Entry) : Nat × Nat × List UInt8 × Nat := (e.mtype, e.id, e.req, e.tag)

/-- the request a `Wait` call tries to put in flight, if any -/
def reqOf : WaitMsg → Nat → Option Fifo.Entry
  | .publish qos id (some b), tag => if qos == 0 then none else some ⟨Fifo.PUBLISH, 0, id, b, [], tag⟩
  | .subscribe id (some b), tag => some ⟨Fifo.SUBSCRIBE, 0, id, b, [], tag⟩
  | .unsubscribe id (some b), tag => some ⟨Fifo.UNSUBSCRIBE, 0, id, b, [], tag⟩
  | _, _ => none

/-- requests newly put in flight by one operation -/
def stepAccepted (s : Fifo.S) : Op → List Fifo.Entry
  | .wait m tag =>
    match reqOf m tag with
    | some e => if s.q.any (fun x => x.id == e.id) then [] else [e]
    | none => []
  | _ => []

/-- identified requests handed back by one operation -/
def stepReleased (s : Fifo.S) : Op → List Fifo.Entry
  | .acked => s.q.takeWhile (fun e => terminal e.state)
  | _ => []

def accepted (s : Fifo.S) : List Op → List Fifo.Entry
  | [] => []
  | op :: ops => stepAccepted s op ++ accepted (Fifo.step s op).1 ops

def released (s : Fifo.S) : List Op → List Fifo.Entry
  | [] => []
  | op :: ops => stepReleased s op ++ released (Fifo.step s op).1 ops

theorem specRun_cons (s : Fifo.S) (op : Op) (ops : List Op) :
    (Fifo.run s (op :: ops)).1 = (Fifo.run (Fifo.step s op).1 ops).1 := rfl

theorem specAcked_q (s : Fifo.S) :
    (Fifo.step s .acked).1.q = s.q.dropWhile (fun e => terminal e.state) := by
  simp only [Fifo.step, Fifo.collect, Fifo.collectPings]

theorem mem_takeWhile {α} (p : α → Bool) (l : List α) (a : α) (h : a ∈ l.takeWhile p) : p a = true :=
  List.all_eq_true.mp List.all_takeWhile a h

theorem step_conservation (s : Fifo.S) (op : Op) :
    (stepReleased s op ++ (Fifo.step s op).1.q).map key = (s.q ++ stepAccepted s op).map key := by
  cases op with
  | wait m tag =>
    cases m with
    | publish qos id enc =>
      cases enc with
      | none => simp only [stepReleased, stepAccepted, reqOf, Fifo.step]; split <;> simp [Fifo.regOpt]
      | some b =>
        simp only [stepReleased, stepAccepted, reqOf, Fifo.step]
        by_cases hq : (qos == 0) = true
        · simp [hq]
        · simp only [hq, Bool.false_eq_true, ↓reduceIte, Fifo.regOpt, Fifo.register]
          split <;> simp
    | subscribe id enc | unsubscribe id enc =>
      cases enc with
      | none => simp [stepReleased, stepAccepted, reqOf, Fifo.step, Fifo.regOpt]
      | some b =>
        simp only [stepReleased, stepAccepted, reqOf, Fifo.step, Fifo.regOpt, Fifo.register]
        split <;> simp
    | pingreq enc | other => simp [stepReleased, stepAccepted, reqOf, Fifo.step]
  | ack t id bytes =>
    simp only [stepReleased, stepAccepted, Fifo.step, List.nil_append, List.append_nil]
    split
    · simp only [Fifo.ackId, List.map_map]
      apply List.map_congr_left
      intro e _
      simp only [Function.comp_apply, key]
      split <;> rfl
    · split <;> rfl
  | acked =>
    rw [specAcked_q]
    simp only [stepReleased, stepAccepted, List.append_nil, List.takeWhile_append_dropWhile]

/-- **C13, exactly-once FIFO hand-back.**  Over any history, the sequence of
requests accepted into the queue equals the sequence of requests handed back so
far followed by the requests still in flight — compared on packet type,
identifier, the *bytes* of the request and its completion callback.  Hence
every accepted request is handed back at most once, requests are handed back
in the order they were registered, none is lost, none is invented, and the
request bytes are identical to what was registered. -/
theorem C13_exactly_once_fifo (s : Fifo.S) (ops : List Op) :
    (released s ops ++ (Fifo.run s ops).1.q).map key = (s.q ++ accepted s ops).map key := by
  induction ops generalizing s with
  | nil => simp [released, accepted, Fifo.run]
  | cons op ops ih =>
    have := Mqtt.Proofs.Fifo.ledger_chain (by simpa only [List.map_append] using step_conservation s op)
      (by simpa only [List.map_append] using ih (Fifo.step s op).1)
    simpa only [List.map_append, released, accepted, specRun_cons] using this

/-- Only requests whose last acknowledgement is terminal are handed back … -/
theorem C13_released_terminal (s : Fifo.S) (op : Op) :
    ∀ e ∈ stepReleased s op, terminal e.state = true := by
  intro e he
  cases op with
  | acked => exact mem_takeWhile (fun e : Fifo.Entry => terminal e.state) s.q e he
  | _ => cases he

/-- … and all of them: after a collect the oldest request left is not terminal. -/
theorem C13_release_eager (s : Fifo.S) :
    ∀ e, (Fifo.step s .acked).1.q.head? = some e → terminal e.state = false := by
  intro e he
  rw [specAcked_q] at he
  have := List.head?_dropWhile_not (fun e => terminal e.state) s.q
  rw [he] at this
  simpa using this

/-- a ping request has its PINGRESP -/
def answered (e : Fifo.Entry) : Bool := e.state == Fifo.PINGRESP

/-- ping requests put in flight by one operation (every `Wait(PINGREQ)` is accepted) -/
def stepPingAccepted : Op → List Fifo.Entry
  | .wait (.pingreq enc) tag => [⟨Fifo.PINGREQ, 0, 0, enc, [], tag⟩]
  | _ => []

/-- ping requests handed back by one operation -/
def stepPingReleased (s : Fifo.S) : Op → List Fifo.Entry
  | .acked => s.pings.takeWhile answered
  | _ => []

def pingAccepted : List Op → List Fifo.Entry
  | [] => []
  | op :: ops => stepPingAccepted op ++ pingAccepted ops

def pingReleased (s : Fifo.S) : List Op → List Fifo.Entry
  | [] => []
  | op :: ops => stepPingReleased s op ++ pingReleased (Fifo.step s op).1 ops

theorem answerPing_key (bytes : List UInt8) (l : List Fifo.Entry) :
    (Fifo.answerPing bytes l).map key = l.map key := by
  induction l with
  | nil => rfl
  | cons e l ih =>
    simp only [Fifo.answerPing]
    split
    · simp only [List.map_cons, ih]
    · rfl

theorem regOpt_pings (s : Fifo.S) (mtype id : Nat) (enc : Option (List UInt8)) (tag : Nat) :
    (Fifo.regOpt s mtype id enc tag).pings = s.pings := by
  cases enc with
  | none => rfl
  | some b => simp only [Fifo.regOpt, Fifo.register]; split <;> rfl

theorem step_ping_conservation (s : Fifo.S) (op : Op) :
    (stepPingReleased s op ++ (Fifo.step s op).1.pings).map key = (s.pings ++ stepPingAccepted op).map key := by
  cases op with
  | wait m tag =>
    cases m with
    | publish qos id enc =>
      simp only [stepPingReleased, stepPingAccepted, Fifo.step, List.nil_append, List.append_nil]
      split
      · rfl
      · rw [regOpt_pings]
    | subscribe id enc | unsubscribe id enc =>
      simp only [stepPingReleased, stepPingAccepted, Fifo.step, List.nil_append, List.append_nil, regOpt_pings]
    | pingreq enc => simp only [stepPingReleased, stepPingAccepted, Fifo.step, List.nil_append]
    | other => simp only [stepPingReleased, stepPingAccepted, Fifo.step, List.nil_append, List.append_nil]
  | ack t id bytes =>
    simp only [stepPingReleased, stepPingAccepted, Fifo.step, List.nil_append, List.append_nil]
    split
    · rfl
    · split
      · exact answerPing_key bytes s.pings
      · rfl
  | acked =>
    simp only [stepPingReleased, stepPingAccepted, Fifo.step, Fifo.collectPings, Fifo.collect, List.append_nil]
    exact congrArg (List.map key) (List.takeWhile_append_dropWhile (p := answered) (l := s.pings))

/-- **C13, exactly-once FIFO hand-back of ping requests.**  Ping requests carry
no identifier, so any number of them may be in flight.  Over any history the
ping requests registered equal the ping requests handed back so far followed by
those still in flight (compared on packet type, bytes and completion
callback): each is handed back at most once, in the order registered, none is
lost or overwritten by a later one, none is invented. -/
theorem C13_pings_exactly_once_fifo (s : Fifo.S) (ops : List Op) :
    (pingReleased s ops ++ (Fifo.run s ops).1.pings).map key = (s.pings ++ pingAccepted ops).map key := by
  induction ops generalizing s with
  | nil => simp [pingReleased, pingAccepted, Fifo.run]
  | cons op ops ih =>
    have := Mqtt.Proofs.Fifo.ledger_chain (by simpa only [List.map_append] using step_ping_conservation s op)
      (by simpa only [List.map_append] using ih (Fifo.step s op).1)
    simpa only [List.map_append, pingReleased, pingAccepted, specRun_cons] using this

/-- Only ping requests that have their PINGRESP are handed back, and all of them
that the order permits: after a collect the oldest ping request left has none. -/
theorem C13_pings_released_answered (s : Fifo.S) (op : Op) :
    (∀ e ∈ stepPingReleased s op, answered e = true) ∧
    ∀ e, (Fifo.step s .acked).1.pings.head? = some e → answered e = false := by
  constructor
  · intro e he
    cases op with
    | acked => exact mem_takeWhile answered s.pings e he
    | _ => cases he
  · intro e he
    have := List.head?_dropWhile_not answered s.pings
    rw [show (List.dropWhile answered s.pings).head? = some e from he] at this
    exact this

/-- A PINGRESP is taken by the oldest ping request that has none yet, and by no
other; the answered requests therefore always form a prefix of the FIFO.  With
no unanswered ping request in flight the PINGRESP changes nothing. -/
theorem C13_pingresp_effect (s : Fifo.S) (bytes : List UInt8) (pre post : List Fifo.Entry) (e : Fifo.Entry)
    (hpre : ∀ x ∈ pre, answered x = true) :
    (s.pings = pre ++ e :: post → answered e = false →
      (Fifo.step s (.ack Fifo.PINGRESP 0 bytes)).1.pings =
        pre ++ { e with state := Fifo.PINGRESP, ack := bytes } :: post) ∧
    (s.pings = pre → (Fifo.step s (.ack Fifo.PINGRESP 0 bytes)).1 = s) := by
  rw [Mqtt.Proofs.Fifo.step_pingresp]
  refine ⟨fun hs he => ?_, fun hs => ?_⟩
  · rw [hs, Mqtt.Proofs.Fifo.answerPing_skip bytes pre _ hpre, Fifo.answerPing,
      if_neg (show ¬ (e.state == Fifo.PINGRESP) = true from Bool.eq_false_iff.mp he)]
  · have := Mqtt.Proofs.Fifo.answerPing_skip bytes pre [] hpre
    rw [List.append_nil, Fifo.answerPing, List.append_nil, ← hs] at this
    rw [this]

/-- An acknowledgement changes exactly the in-flight request bearing its
identifier: that request takes the acknowledgement's type and a byte-identical
copy of it; every other request is untouched. -/
theorem C13_ack_effect (s : Fifo.S) (t id : Nat) (bytes : List UInt8)
    (ht : Fifo.isIdAck t = true) :
    (Fifo.step s (.ack t id bytes)).1.pings = s.pings ∧
    (Fifo.step s (.ack t id bytes)).1.q.length = s.q.length ∧
    ∀ (i : Nat) (e : Fifo.Entry), s.q[i]? = some e →
      (Fifo.step s (.ack t id bytes)).1.q[i]? =
        some (if e.id = id then { e with state := t, ack := bytes } else e) := by
  simp only [Fifo.step, ht, ↓reduceIte, Fifo.ackId, List.length_map, List.getElem?_map, true_and]
  intro i e he
  rw [he]; simp

/-- Acknowledgements for identifiers that are not in flight change nothing —
stated on the code-shaped queue itself: the whole state is unchanged. -/
theorem C13_unknown_ack_noop (q : Q) (hq : FullInv q) (t id : Nat) (bytes : List UInt8)
    (ht : Fifo.isIdAck t = true)
    (hid : ∀ e ∈ (abs q).q, e.id ≠ id) :
    (step q (.ack t id bytes)).1 = q := by
  have hany := any_id_iff hq.1 id
  have : ((abs q).q.any fun x => x.id == id) = false := by
    simp only [List.any_eq_false, beq_iff_eq]; exact fun e he => hid e he
  rw [this] at hany
  have hget : emapGet q.emap id = none := by
    cases h : emapGet q.emap id with
    | none => rfl
    | some i => rw [h] at hany; cases hany
  have ht' : t ∈ ackIdTypes := by rw [← facts_idack] at ht; simpa using ht
  simp [step, Q.ack, ht', hget]

/-- The tables the code switches on (regenerated from `Ack`'s and `Acked`'s
`switch` statements on every run) are the protocol's: identifier-carrying
acknowledgements, and the exchange-ending ones — in particular PUBREC, which
only ends the first half of a QoS 2 exchange, never releases a request. -/
theorem C13_tables_are_protocol :
    (∀ t, ackedReleaseStates.contains t = Fifo.terminal t) ∧
    (∀ t, ackIdTypes.contains t = Fifo.isIdAck t) ∧
    Fifo.terminal Fifo.PUBREC = false ∧ Fifo.terminal 0 = false :=
  ⟨facts_terminal, facts_idack, by decide +kernel, by decide +kernel⟩

/-- 20 QoS 1 publishes in flight (the ring has grown from 16 to 32 slots), the
first two acknowledged out of order, then collected. -/
def demoOps : List Op :=
  (List.range 20).map (fun i => Op.wait (.publish 1 (i + 1) (some [0x32, i.toUInt8])) i) ++
  [.ack 4 2 [0x40, 2, 0, 2], .acked, .ack 4 1 [0x40, 2, 0, 1], .acked]

example : (run init demoOps).1.size = 32 ∧ (run init demoOps).1.count = 18 ∧
    (run init demoOps).2.drop 20 =
      [.ok true, .released [], .ok true,
       .released [⟨3, 4, 1, [0x32, 0], [0x40, 2, 0, 1], 0⟩,
                  ⟨3, 4, 2, [0x32, 1], [0x40, 2, 0, 2], 1⟩]] := by
  decide +kernel

example : FullInv (run init demoOps).1 := (C13_refines init fullInv_init demoOps).1

/-- three ping requests in flight, a QoS 1 publish between them; two PINGRESPs with the PUBACK
between them, a collect, a third PINGRESP and a fourth with nothing outstanding, two collects -/
def demoPings : List Op :=
  [.wait (.pingreq [0xc0, 0]) 1, .wait (.pingreq [0xc0, 0]) 2, .wait (.publish 1 5 (some [0x32])) 9,
   .wait (.pingreq [0xc0, 0]) 3, .ack 13 0 [0xd0, 0], .ack 4 5 [0x40, 2, 0, 5], .ack 13 0 [0xd0, 0], .acked,
   .ack 13 0 [0xd0, 0], .ack 13 0 [0xd0, 0], .acked, .acked]

example : (run init demoPings).2.drop 7 =
      [.released [⟨12, 13, 0, [0xc0, 0], [0xd0, 0], 1⟩, ⟨12, 13, 0, [0xc0, 0], [0xd0, 0], 2⟩,
                  ⟨3, 4, 5, [0x32], [0x40, 2, 0, 5], 9⟩],
       .ok true, .ok true,
       .released [⟨12, 13, 0, [0xc0, 0], [0xd0, 0], 3⟩],
       .released []] ∧
    (run init demoPings).1.pings = [] := by
  decide +kernel

/-! The tie to the Go source (the theorems `C13_…_is_source…` over the regenerated translation
`Mqtt.Generated.Xlate`) is in `Properties/C13Source.lean`, which nothing imports. -/

end Mqtt.Properties.C13
