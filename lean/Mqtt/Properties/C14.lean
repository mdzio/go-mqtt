/-
C14 — the byte ring (`service/buffer.go`) is a lossless FIFO.

The model (`Model/Ring.lean`) is the concurrent small-step
program of the ring: one producer, one consumer, any number of closers, each running
an arbitrary finite program of API calls (`ReadFrom` with any reader script among the
producer's); one step per shared access, lock operation, `Wait` (park / resume), `Broadcast`,
per byte copied, and return.  All theorems
quantify over *every* ring size `2^k`, source stream, start position, thread
programs (well-typed by role) and schedule `sched : List Tid` — no bound.
-/
import Mqtt.Proofs.RingSafety
import Mqtt.Proofs.RingFacts

namespace Mqtt.Properties.C14
open Mqtt.Model.Ring Mqtt.Model.RingAbs Mqtt.Iface.Ring Mqtt.Spec.Ring Mqtt.Proofs.Ring

/-- a reachable state: any schedule from the initial state of well-typed programs -/
def reach (cfg : Cfg) (adv gate : Nat) (progP progC : List Call) (progsK : List (List Call))
    (sched : List Tid) : St :=
  run cfg (mkInit cfg adv gate progP progC progsK) sched

/-- The safety invariant `RInv` (cursor order, `pseq ≤ cseq + size`, `gate ≤ cseq`, the
cells between the cursors hold the stream, the consumer's bytes are the stream prefix, the
producer's reservation lies below `cseq + size` — it was below `known + size` for a lower bound
`known` of the consumer cursor the producer had obtained: the gate, or the cursor `ReadFrom` loaded —,
the consumer's window below `pseq`, peeked views and pending bytes are the stream at `cseq`) is
preserved by every step of every thread. -/
theorem C14_invariant_step (cfg : Cfg) (base : Nat) (s s' : St) (t : Tid)
    (h : RInv cfg base s) (hs : step cfg s t = some s') : RInv cfg base s' :=
  rinv_step_inv cfg base s s' t h hs

/-- … hence it holds in every reachable state, for all programs and all schedules. -/
theorem C14_invariant (cfg : Cfg) (adv gate : Nat) (progP progC : List Call) (progsK : List (List Call))
    (hgate : gate ≤ adv) (hok : ProgsOK progP progC progsK) (sched : List Tid) :
    RInv cfg adv (reach cfg adv gate progP progC progsK sched) :=
  rinv_run cfg adv _ sched (rinv_init cfg adv gate progP progC progsK hgate hok)

/-- **C14.** In every reachable state the concatenation of all bytes the consumer obtained
(by `Read`, or by `ReadPeek`/`ReadWait` + use + `ReadCommit`) is a prefix of the stream the
producer committed — exactly `src adv … src (adv+k-1)` with `adv + k = cseq ≤ pseq` — and
the producer has not lapped the consumer. -/
theorem C14_lossless (cfg : Cfg) (adv gate : Nat) (progP progC : List Call) (progsK : List (List Call))
    (hgate : gate ≤ adv) (hok : ProgsOK progP progC progsK) (sched : List Tid) :
    let s := reach cfg adv gate progP progC progsK sched
    Lossless cfg.src adv s.sh.pseq s.sh.gotRev.reverse ∧ cursorsOk cfg.size s.sh.pseq s.sh.cseq ∧
      adv + s.sh.gotRev.reverse.length = s.sh.cseq :=
  (C14_invariant cfg adv gate progP progC progsK hgate hok sched).glob.lossless

/-- **C14, no overwrite.** No step of any thread (in particular no producer step) changes a
cell that holds a byte the consumer has not yet committed: the cells of the stream positions
`[cseq, pseq)` — which contain every window handed out by `ReadPeek`/`ReadWait` — are the same
before and after the step. -/
theorem C14_no_overwrite (cfg : Cfg) (adv gate : Nat) (progP progC : List Call) (progsK : List (List Call))
    (hgate : gate ≤ adv) (hok : ProgsOK progP progC progsK) (sched : List Tid) (t : Tid) (s' : St)
    (hs : step cfg (reach cfg adv gate progP progC progsK sched) t = some s') :
    let s := reach cfg adv gate progP progC progsK sched
    ∀ i, s.sh.cseq ≤ i → i < s.sh.pseq → rd s'.sh.buf (cfg.idx i) = rd s.sh.buf (cfg.idx i) :=
  no_overwrite cfg adv _ s' t (C14_invariant cfg adv gate progP progC progsK hgate hok sched) hs

/-- the views the consumer holds are inside the protected range (so `C14_no_overwrite` covers
them): an aliased view `[cpos, cpos+m)` handed out by `ReadPeek`/`ReadWait` starts at `cseq`
and ends at or below `pseq`; bytes used but not yet committed are the stream at `cseq`. -/
theorem C14_view_protected (cfg : Cfg) (adv gate : Nat) (progP progC : List Call) (progsK : List (List Call))
    (hgate : gate ≤ adv) (hok : ProgsOK progP progC progsK) (sched : List Tid) :
    let s := reach cfg adv gate progP progC progsK sched
    viewOK cfg s.sh.core s.C.view ∧ s.C.pending = segment cfg.src s.sh.cseq s.C.pending.length ∧
      s.sh.cseq + s.C.pending.length ≤ s.sh.pseq := by
  intro s
  have h := (C14_invariant cfg adv gate progP progC progsK hgate hok sched).invC
  exact ⟨h.view, h.pend.1, h.pend.2⟩

/-- **C14 on what the caller sees.**  Whenever a consumer call returns in a reachable state, the
bytes it hands back (`Read`'s copy, the bytes of a peeked view read by `use`) are the stream at the
offset the result carries, and lie below the producer's commit position (`Spec.Ring.chunkOk` —
the predicate the check evaluates on the real buffer after every step). -/
theorem C14_chunks (cfg : Cfg) (adv gate : Nat) (progP progC : List Call) (progsK : List (List Call))
    (hgate : gate ≤ adv) (hok : ProgsOK progP progC progsK) (sched : List Tid) (s' : St)
    (hs : step cfg (reach cfg adv gate progP progC progsK sched) .c = some s') (r : Res)
    (hr : s'.C.res = some r) : chunkOk cfg.src r.off s'.sh.pseq r.data := by
  have hinv := C14_invariant cfg adv gate progP progC progsK hgate hok sched
  obtain ⟨th, sh', th', hth, hst, rfl⟩ := step_some cfg _ s' .c hs
  cases hth
  exact cons_res cfg adv _ sh' _ th' hinv.glob hinv.invC hinv.okC hst r hr

/-- **Layer 1.** On the abstract machine (cursor, gate, cell and commit steps, each with the guard
that makes it safe: a write inside `[pseq, cseq+size)`, a producer commit of written cells below
`cseq + size`, a consumer commit below `pseq`) the safety invariant — `cseq ≤ pseq ≤ cseq+size`,
`gate ≤ cseq`, the cells between the cursors hold the stream, the obtained bytes are the stream
prefix — is preserved by every step, for any ring size. -/
theorem C14_layer1_safety (size : Nat) (hs : 0 < size) (src : Nat → UInt8) (base : Nat) (a a' : A)
    (h : AInv size src base a) (st : AStep size src a a') : AInv size src base a' :=
  ainv_step size hs src base a a' h st

/-- **Simulation.** Every step of the real program (locks, condition variables, program counters)
from a state satisfying the layer-2 invariant is, seen through the abstraction (cursors, gate,
cells, obtained bytes), a step of the abstract machine or invisible; and the abstraction of every
reachable state satisfies the layer-1 invariant. -/
theorem C14_simulation (cfg : Cfg) (adv gate : Nat) (progP progC : List Call) (progsK : List (List Call))
    (hgate : gate ≤ adv) (hok : ProgsOK progP progC progsK) (sched : List Tid) (t : Tid) (s' : St)
    (hs : step cfg (reach cfg adv gate progP progC progsK sched) t = some s') :
    let s := reach cfg adv gate progP progC progsK sched
    AInv cfg.size cfg.src adv (absSt s) ∧
    (absSt s' = absSt s ∨ AStep cfg.size cfg.src (absSt s) (absSt s')) := by
  intro s
  have hinv := C14_invariant cfg adv gate progP progC progsK hgate hok sched
  exact ⟨ainv_of_rinv cfg adv s hinv, sim_step cfg adv s s' t hinv hs⟩

/-- the lock structure and block sizes regenerated from the source are the ones the model
was written against -/
theorem C14_facts : Mqtt.Generated.bufferLocks = lockFacts ∧ 2 * Mqtt.Generated.defaultReadBlockSize = 2 ^ 14 ∧
    ({ k := 14, src := fun _ => 0 } : Cfg).rblock = Mqtt.Generated.defaultReadBlockSize :=
  ⟨ring_lock_facts, facts_ring_block.2.2.2.1, facts_ring_block.2.2.2.2⟩

/-- **C14 for `ReadFrom`** (repository commit 8f682d1: wait for one free byte, then read into the free,
contiguous part of the ring).  In every reachable state: the slice handed to the reader (mark 111) and
the bytes the reader is filling start at the producer cursor and end at or below `cseq + size` — the
consumer cursor `ReadFrom` loaded is a lower bound of the current one, so the slice is disjoint from the
cells of `[cseq, pseq)`, which hold every byte the consumer has not committed, every peeked view
included (`C14_no_overwrite`, `C14_view_protected`); and when the read has returned `n` bytes they are
the stream, and `pseq + n ≤ cseq + size`: the `WriteCommit(n)` that follows finds its space. -/
theorem C14_readfrom_slice_free (cfg : Cfg) (adv gate : Nat) (progP progC : List Call) (progsK : List (List Call))
    (hgate : gate ≤ adv) (hok : ProgsOK progP progC progsK) (sched : List Tid) :
    let s := reach cfg adv gate progP progC progsK sched
    (∀ tot ms start len, s.P.pc = .g111 tot ms start len → start = s.sh.pseq ∧ start + len ≤ s.sh.cseq + cfg.size) ∧
    (∀ tot ms start n j, s.P.pc = .g111c tot ms start n j →
      start = s.sh.pseq ∧ start + n ≤ s.sh.cseq + cfg.size ∧ j ≤ n) ∧
    (∀ tot ms n, s.P.pc = .g111r tot ms n →
      s.sh.pseq + n ≤ s.sh.cseq + cfg.size ∧ ∀ i, i < n → rd s.sh.buf (cfg.idx (s.sh.pseq + i)) = cfg.src (s.sh.pseq + i)) := by
  intro s
  have hp := (C14_invariant cfg adv gate progP progC progsK hgate hok sched).invP.pcinv
  unfold pcP at hp
  refine ⟨fun tot ms start len h => ?_, fun tot ms start n j h => ?_, fun tot ms n h => ?_⟩
  · rw [h] at hp; exact hp
  · rw [h] at hp; exact ⟨hp.1, hp.2.1, hp.2.2.1⟩
  · rw [h] at hp; exact ⟨hp.2, hp.1⟩

/-! non-vacuity: a concrete run in which bytes travel through a wrapping ring -/

def exCfg : Cfg := { k := 2, src := fun i => UInt8.ofNat (i + 1) }

example : ProgsOK [.write 3, .wwait 2, .wfill, .wcommit 2] [.read 2, .peek 3, .use, .commit 3] [[.close]] :=
  ⟨by decide, by decide, by decide⟩

/-- producer writes 3 bytes at positions 2,3,4 of a 4-byte ring (wrapping), the consumer reads them -/
example :
    let s := reach exCfg 2 2 [.write 3] [.read 2, .read 2] []
      (List.replicate 20 .p ++ List.replicate 40 .c)
    s.sh.gotRev.reverse = [3, 4, 5] ∧ s.sh.cseq = 5 ∧ s.sh.pseq = 5 := by decide +kernel

/-- `ReadFrom` with less than a read block free: a 4-byte ring holding 3 bytes, read block 2 (before
8f682d1 the loop would have waited for 2 free bytes); the reader offers 3 bytes, then 2: one byte is
read into the last free cell, the ring is full, the consumer takes 2 bytes, the next read takes 2 more
(wrapping), the reader is at its end, `ReadFrom` closes the ring and returns `(3, EOF)`; everything the
consumer got is the stream -/
example :
    let cfg : Cfg := { k := 2, src := fun i => UInt8.ofNat (i + 1), rblock := 2 }
    let s := reach cfg 0 0 [.write 3, .rfrom 0 [3, 2]] [.read 2, .read 2, .read 2] []
      (List.replicate 30 .p ++ List.replicate 12 .c ++ List.replicate 40 .p ++ List.replicate 30 .c ++ List.replicate 40 .p)
    s.sh.gotRev.reverse = [1, 2, 3, 4, 5, 6] ∧ s.sh.pseq = 6 ∧ s.sh.cseq = 6 ∧ s.sh.done = true ∧
      s.P.pc = .idle ∧ s.P.res = some { n := 3, err := .eof } := by decide +kernel

/-! The tie to the Go source (the theorems `C14_…_is_source…` over the regenerated translation
`Mqtt.Generated.Xlate`) is in `Properties/C14Source.lean`, which nothing imports. -/

end Mqtt.Properties.C14
