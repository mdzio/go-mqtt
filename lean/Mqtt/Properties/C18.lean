/-
C18 — no unsynchronised access to shared broker state.

The property theorems, the notions they are stated with (`coveredIn`, `covered`, `allKeys`,
`uncoveredClasses`) and witness traces with their lemmas.  Trace theory: `Spec/Locks.lean`, proofs:
`Proofs/Locks.lean`; table side: `Proofs/LocksTable.lean`, `Proofs/LocksTablePass.lean`.

What is proved, and what is not (this is the weakest claim of the design):

* `disciplined_trace_race_free` — for ALL well-formed traces of lock / unlock /
   read / write / atomic / fork / join / WaitGroup events (any length, any
   number of goroutines, mutexes, locations): a trace that follows the lock
   discipline has no data race in the sense of the Go memory model.
* `C18_table_disciplined_except_findings` — every row of the regenerated access
   table (`Generated.lockAccesses`, extracted from the Go source on every run)
   follows the expectation `guardOf`, EXCEPT rows listed in `excuses`, each of
   which belongs to a recorded finding.  A lock that is removed, an access moved
   out of its critical section, or a new unguarded accessor makes the evaluation
   behind it (`table_pass`, the one pass over the table) fail.  `C18_full_counterexample`
   shows the unrestricted statement is false of the code as recorded; `C18_uncovered_are_recorded` names the classes left out.
* `C18_conforming_trace_race_free` — a trace generated by the table (every
   access event an instance of a row, wrapped in that row's lock events) has no
   race on any location whose class is `covered` (all rows disciplined).

NOT proved: that the compiled program's executions are traces generated by the
table.  That is the extractor's claim — a lexical, package-local analysis
(no aliasing, no reflection, closures by lexical position, ownership of the trie
nodes by their `MemTopics` assumed).  The race detector run by `bin/check C18`
only validates the table and searches for witnesses; it proves nothing.
-/
import Mqtt.Proofs.LocksTablePass

namespace Mqtt.Properties.C18

open Mqtt.Spec.Locks Mqtt.Proofs.Locks Mqtt.Proofs.LocksTable Mqtt.Generated

/-! ## The discipline theorem (all traces) -/

/-- In a well-formed trace, if every access is atomic on an all-atomic location,
or made while its goroutine holds the location's guard (exclusively for writes,
shared or exclusively for reads), or happens before the fork of every other
accessor (initialisation before publication) / after their join, or reads a
location that is only written in those phases, then there is no data race. -/
theorem disciplined_trace_race_free (g : Loc → Option Mid) (τ : List Ev)
    (hwf : WF τ) (hd : Disciplined g τ) : RaceFree τ :=
  race_free_of_disciplined hwf hd

/-- The same per location: no race on a location all of whose accesses follow
the discipline, whatever happens elsewhere in the trace. -/
theorem C18_no_race_on_disciplined_location (g : Loc → Option Mid) (τ : List Ev) (hwf : WF τ)
    (x : Loc) (hd : DisciplinedLoc g τ x) (i j : Nat) : ¬ RaceOn τ x i j :=
  no_race_on_disciplined_loc hwf hd

/-- The classic lemma behind it: of two critical sections of one mutex, the
first exclusive, the first is released before the second is acquired. -/
theorem C18_critical_sections_ordered (τ : List Ev) (hwf : WF τ) (i j : Nat) (hij : i ≤ j)
    (m : Mid) (t u : Tid) (htu : t ≠ u) (hi : (stAt τ i).excl m = some t)
    (hj : (stAt τ j).excl m = some u ∨ 0 < (stAt τ j).shr m u) :
    ∃ r a, i ≤ r ∧ r < a ∧ a < j ∧ τ[r]? = some (.rel t m) ∧
      (τ[a]? = some (.acq u m) ∨ τ[a]? = some (.racq u m)) :=
  excl_then_holds hwf hij htu hi hj

/-! ## The regenerated access table -/

/-- Every access of the table is disciplined, except the listed exceptions: the
rows of the ordering class `O-teardown`:
`Session.Cmsg` / `Session.Will` read without `Session.mu` by the processor and by
`stop()` of the one connection that serves the session, ordered against
`Session.Update` / `Init` of the next connection of that client by the take-over
(`stop()` has finished - `stopped` channel - before `getSession` runs, MQTT-3.1.4-2)
and among themselves by `stop()`'s `wgStopped.Wait()`: fork/join edges of `HB`,
not a mutex.  Breaks when a lock is
removed, an access leaves its critical section, or a new unguarded accessor
appears. -/
theorem C18_table_disciplined_except_findings :
    ∀ r ∈ lockAccesses, disciplined r = true ∨ (excuseOf r).isSome = true :=
  fun r hr => (table_pass r hr).1

/-- a row of the ordering class O-teardown (a closed term, as extracted): `stop` reads `Session.Cmsg` with no mutex held -/
def recordedWitness : LockAccess :=
  ⟨"service", "service.stop", "Session", "Cmsg", "WillFlag", false, false, false, false, [], []⟩

/-- The full statement ("every access is made under the mutex of its location")
is false of the code: the witness row holds no mutex; it is accepted only as a
member of the ordering class O-teardown (ordered by the connection's teardown and
the take-over, see `C18_table_disciplined_except_findings`), which the race
workload checks dynamically (a report with the signature of finding G5 is a
regression). -/
theorem C18_full_counterexample :
    disciplined recordedWitness = false ∧ excuseOf recordedWitness = some "O-teardown" := by
  decide +kernel

/-- Every reference copied out of a guarded struct is a recorded one (A-acked: `Acked`'s
slice, the only one; `Retained` hands out copies made under `rmu`, and a reference to a stored
retained message appended to the caller's slice by `rnode.rmatch` / `rnode.allRetained` would not
be excused). -/
theorem C18_escapes_recorded : ∀ e ∈ lockEscapes, (escapeExcuse e).isSome = true := by
  decide +kernel

/-- Every field of every tracked struct has an expectation (a new field must be classified). -/
theorem C18_structs_covered : structsCovered = true := by
  decide +kernel

/-! ## From the table to traces -/

/-- a location class is covered: its kind has a trace-level justification (the `match` is
`LocksTable.traceable k`) and every live row of the class is disciplined (under `table_pass`:
`LocksTable.classClean T k`) -/
def coveredIn (T : List LockAccess) (k : Key) : Bool :=
  (match guardOf k with
   | some (.own _) | some (.owner _) | some .atomicOnly | some .initOnly => true
   | _ => false) &&
  T.all fun r => r.dead || keyOf r != k || disciplined r

/-- covered in the regenerated table -/
def covered (k : Key) : Bool := coveredIn lockAccesses k

/-- A well-formed trace generated by a table `T` has no data race on any
location of a class covered in `T`. -/
theorem C18_conforming_trace_race_free_of_table (T : List LockAccess) (I : Interp) (τ : List Ev)
    (hwf : WF τ) (hc : Conforms I T τ) (x : Loc) (hcov : coveredIn T (I.key x) = true) (i j : Nat) :
    ¬ RaceOn τ x i j :=
  conforming_no_race hwf hc x (Bool.and_eq_true _ _ ▸ hcov).1 (Bool.and_eq_true _ _ ▸ hcov).2 i j

/-- A well-formed trace generated by the regenerated table has no data race on
any location of a covered class. -/
theorem C18_conforming_trace_race_free (I : Interp) (τ : List Ev) (hwf : WF τ)
    (hc : Conforms I lockAccesses τ) (x : Loc) (hcov : covered (I.key x) = true) (i j : Nat) :
    ¬ RaceOn τ x i j :=
  C18_conforming_trace_race_free_of_table lockAccesses I τ hwf hc x hcov i j

/-- the location classes that occur in the regenerated table -/
def allKeys : List Key := (lockAccesses.map keyOf).eraseDups

/-- The classes covered on this tree (state of the ack queues, the subscription
and retained tries, the per-session topic table, the session store, the list of
services, the connection's buffers, the traffic counters, the provider
registries, …).  Not covered by a mutex: the classes of the ordering class
O-teardown (`Session.Cmsg`, `Session.Will`: ordered by the connection's teardown)
and the write-once fields (assumption A-init). -/
theorem C18_core_state_covered :
    covered (false, "Ackqueue", "count") = true ∧ covered (false, "Ackqueue", "ring") = true ∧
    covered (false, "Ackqueue", "emap") = true ∧ covered (false, "Ackqueue", "head") = true ∧
    covered (false, "Ackqueue", "tail") = true ∧ covered (false, "Ackqueue", "pings") = true ∧
    covered (false, "snode", "subs") = true ∧ covered (false, "snode", "qos") = true ∧
    covered (false, "snode", "snodes") = true ∧ covered (false, "rnode", "msg") = true ∧
    covered (false, "rnode", "buf") = true ∧ covered (false, "rnode", "rnodes") = true ∧
    covered (false, "Session", "topics") = true ∧ covered (false, "service", "outtmp") = true ∧
    covered (true, "message", "gPacketID") = true ∧ covered (true, "service", "gsvcid") = true ∧
    covered (false, "MemTopics", "sroot") = true ∧ covered (false, "MemTopics", "rroot") = true ∧
    covered (false, "MemProvider", "st") = true ∧ covered (false, "Server", "svcs") = true ∧
    covered (false, "service", "in") = true ∧ covered (false, "service", "out") = true ∧
    covered (false, "service", "conn") = true ∧ covered (false, "stat", "bytes") = true ∧
    covered (false, "stat", "msgs") = true ∧
    covered (true, "topics", "providers") = true ∧ covered (true, "sessions", "providers") = true ∧
    covered (true, "auth", "providers") = true := by
  have h : ∀ k, covered k = (traceable k && classClean lockAccesses k) := fun k => by
    rw [covered, coveredIn, all_disciplined_eq_classClean C18_table_disciplined_except_findings]; rfl
  simp only [h]
  decide +kernel


/-- the classes left out of the mutex-based race-freedom claim: the ordering class
O-teardown (`Session.Cmsg`, `Session.Will`: the classes the `excuses` name), then the write-once
fields of `Session` (assumption A-init) and the scratch buffer of the unused `readMessage`
(these eight are `LocksTable.untraceableClasses`) -/
def uncoveredClasses : List Key :=
  [(false, "Session", "Cmsg"), (false, "Session", "Will"),
   (false, "Session", "Pub1ack"), (false, "Session", "Pub2in"), (false, "Session", "Pub2out"),
   (false, "Session", "Suback"), (false, "Session", "Unsuback"), (false, "Session", "Pingack"),
   (false, "Session", "id"), (false, "service", "intmp")]

/-- Every class of the regenerated table is covered or is one of the listed ones
(the claim is not silently narrower; a repair that makes a listed class covered
does not break this). -/
theorem C18_uncovered_are_recorded :
    ∀ k ∈ allKeys, covered k = true ∨ k ∈ uncoveredClasses := by
  intro k hk
  -- the classes of the table are the classes of its rows
  obtain ⟨r, hr, rfl⟩ := List.mem_map.mp (List.mem_eraseDups.mp hk)
  have hlisted : ∀ k ∈ excuses.map Excuse.key ++ untraceableClasses, k ∈ uncoveredClasses := by decide +kernel
  exact (class_covered_or_listed table_pass r hr).imp id (hlisted _)

/-! ## Non-vacuity -/

/-- a disciplined trace: goroutine 0 initialises location 7 and forks 1 and 2;
1 writes it under mutex 3, 2 reads it under a shared hold of 3 -/
def trGood : List Ev :=
  [.wr 0 7, .fork 0 1, .fork 0 2, .acq 1 3, .wr 1 7, .rel 1 3, .racq 2 3, .rd 2 7, .rrel 2 3]

theorem trGood_wf : WF trGood := by
  -- position by position; the lock state before each event reduces by computation
  unfold WF trGood
  simp only [forall_getElem?_cons, forall_getElem?_nil, and_true]
  exact ⟨trivial, forall_lt_getElem? (by decide), forall_lt_getElem? (by decide), ⟨rfl, fun _ => rfl⟩, trivial, rfl, rfl,
    trivial, Nat.zero_lt_one⟩

def ggood : Loc → Option Mid := fun x => if x = 7 then some 3 else none

theorem trGood_disciplined : Disciplined ggood trGood := by
  intro x i e a hi ha hx
  match i, hi with
  | 0, hi =>
    -- the initialising write happens before the fork of each of the two other accessors
    cases hi; cases ha
    refine .inr (.inr (.inl fun j e b hj hb hbx hbt => ?_))
    match j, hj with
    | 0, hj => cases hj; cases hb; exact absurd rfl hbt
    | 4, hj => cases hj; cases hb; exact ⟨1, 0, rfl, .edge ⟨by decide, _, _, rfl, rfl, .inl rfl⟩⟩
    | 7, hj => cases hj; cases hb; exact ⟨2, 0, rfl, .edge ⟨by decide, _, _, rfl, rfl, .inl rfl⟩⟩
    | 1, hj | 2, hj | 3, hj | 5, hj | 6, hj | 8, hj => cases hj; cases hb
    | n + 9, hj => cases hj
  | 4, hi => cases hi; cases ha; exact .inr (.inl ⟨3, rfl, .inl rfl⟩)
  | 7, hi => cases hi; cases ha; exact .inr (.inl ⟨3, rfl, .inr ⟨rfl, Nat.zero_lt_one⟩⟩)
  | 1, hi | 2, hi | 3, hi | 5, hi | 6, hi | 8, hi => cases hi; cases ha
  | n + 9, hi => cases hi

/-- the hypotheses of the discipline theorem are satisfiable, and it applies -/
example : RaceFree trGood := disciplined_trace_race_free ggood trGood trGood_wf trGood_disciplined

/-- a racy trace: goroutine 0 forks 1, then both write location 7 with no lock -/
def trBad : List Ev := [.fork 0 1, .wr 0 7, .wr 1 7]

theorem trBad_wf : WF trBad := by
  unfold WF trBad
  simp only [forall_getElem?_cons, forall_getElem?_nil, and_true]
  exact ⟨forall_lt_getElem? (by decide), trivial, trivial⟩

theorem trBad_race : Race trBad 1 2 := by
  refine ⟨.wr 0 7, .wr 1 7, ⟨0, 7, true, false⟩, ⟨1, 7, true, false⟩, by simp [trBad], by simp [trBad], rfl, rfl,
    ⟨rfl, by decide, Or.inl rfl, by simp⟩, ?_, ?_⟩
  · intro h
    -- the only way from 1 to 2 is the direct edge, and the two writes are not synchronised
    have key : ∀ i j, HB trBad i j → i = 1 → j = 2 → False := by
      intro i j h
      induction h with
      | edge he =>
        intro h1 h2; subst h1; subst h2
        obtain ⟨_, a, b, ha, hb, hs⟩ := he
        simp [trBad] at ha hb; subst ha; subst hb
        rcases hs with h | ⟨_, _, _, h, _⟩ | ⟨_, _, _, h, _⟩ | ⟨_, h⟩ | ⟨_, h⟩ | ⟨_, _, _, h, _⟩ <;>
          simp [Ev.tid] at h
      | trans h1 h2 _ _ =>
        intro hi hk; subst hi; subst hk
        have := hb_lt h1; have := hb_lt h2; omega
    exact key 1 2 h rfl rfl
  · intro h; have := hb_lt h; omega

/-- the racy trace is well-formed, racy, and violates the discipline whatever the guards -/
example : WF trBad ∧ ¬ RaceFree trBad ∧ ∀ g, ¬ Disciplined g trBad :=
  ⟨trBad_wf, fun h => h 1 2 trBad_race,
   fun g hd => disciplined_trace_race_free g trBad trBad_wf hd 1 2 trBad_race⟩

/-- WaitGroup edges order accesses: 1 writes, signals `Done`; 0 `Wait`s, then reads -/
example : HB [Ev.fork 0 1, .wr 1 7, .done 1 5, .wait 0 5, .rd 0 7] 1 4 :=
  @HB.trans _ 1 2 4 (.edge ⟨by decide, .wr 1 7, .done 1 5, rfl, rfl, Or.inl rfl⟩)
    (@HB.trans _ 2 3 4 (.edge ⟨by decide, .done 1 5, .wait 0 5, rfl, rfl,
      Or.inr (Or.inr (Or.inr (Or.inr (Or.inr ⟨1, 0, 5, rfl, rfl⟩))))⟩)
      (.edge ⟨by decide, .wait 0 5, .rd 0 7, rfl, rfl, Or.inl rfl⟩))

/-- a trace generated by the table: two goroutines run `Ackqueue.insert`'s
`aq.count++` (a helper that inherits `Ackqueue.mu` from every caller; the row as
extracted), each wrapped in the lock events of the queue's mutex (mutex 3,
location 7) -/
def trIns : List Ev := [.acq 1 3, .wr 1 7, .rel 1 3, .acq 2 3, .wr 2 7, .rel 2 3]

def rowInsertCount : LockAccess :=
  ⟨"sessions", "Ackqueue.insert", "Ackqueue", "count", "", true, false, false, false, [], [⟨"Ackqueue.mu", true, true⟩]⟩

def Iins : Interp := ⟨fun _ => rowInsertCount, fun _ => (false, "Ackqueue", "count"), fun _ _ => 3⟩

theorem trIns_conforms : Conforms Iins [rowInsertCount] trIns := by
  intro i e a hi ha
  have hrow : rowInsertCount ∈ [rowInsertCount] := List.mem_singleton.mpr rfl
  match i, hi with
  | 1, hi =>
    cases hi; cases ha
    refine ⟨hrow, rfl, rfl, rfl, rfl, fun h hm => ?_, fun h => nomatch h⟩
    obtain rfl := List.mem_singleton.mp hm
    exact ⟨0, by decide, rfl, fun k h1 h2 => by omega⟩
  | 4, hi =>
    cases hi; cases ha
    refine ⟨hrow, rfl, rfl, rfl, rfl, fun h hm => ?_, fun h => nomatch h⟩
    obtain rfl := List.mem_singleton.mp hm
    exact ⟨3, by decide, rfl, fun k h1 h2 => by omega⟩
  | 0, hi | 2, hi | 3, hi | 5, hi => cases hi; cases ha
  | n + 6, hi => cases hi

theorem trIns_wf : WF trIns := by
  unfold WF trIns
  simp only [forall_getElem?_cons, forall_getElem?_nil, and_true]
  exact ⟨⟨rfl, fun _ => rfl⟩, trivial, rfl, ⟨rfl, fun _ => rfl⟩, trivial, rfl⟩

/-- the table-to-trace theorem applies to it: no race on the counter -/
example (i j : Nat) : ¬ RaceOn trIns 7 i j :=
  C18_conforming_trace_race_free_of_table [rowInsertCount] Iins trIns trIns_wf trIns_conforms 7 (by decide +kernel) i j

end Mqtt.Properties.C18
