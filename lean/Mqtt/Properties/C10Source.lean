/-
C10 — tie to the Go source: the take-over is COMPLETE before the session is looked up, and only state
kept from a CleanSession = 0 connection is resumed.

The broker model runs a CONNECT as one event: `connect = takeOver; first`, `takeOver = stopAll (sameClient
..)` - each `stop` of the model is the whole teardown of a connection (subscriptions removed, will
published, clean session deleted from the store), and `first` looks the session up in the state after all
of them.  `C10_refines_reference` is about that model.  In the Go code this is an order of statements in
`Server.disconnectClient`, `Server.handleConnection`, `Session.Resumable` and `Server.getSession`; a run
distinguishes another order only while a teardown is in progress or when a handshake fails at the right
moment (`Model/Takeover.lean`).

This is the only module of C10 that is built from the sections `takeover-disconnect`, `takeover-connect`
and `takeover-resumable` of the regenerated facts (`extract/facts_takeover.go`).  NOTHING may import this
module (BUILDING.md, "Source-tie modules").
-/
import Mqtt.Properties.C10
import Mqtt.Proofs.Takeover
import Mqtt.Generated.Facts

namespace Mqtt.Properties.C10
open Mqtt.Model.Takeover
open Mqtt.Iface.Broker Mqtt.Model.Broker

/-- **The take-over of the source is the model's: every `stop()` complete, then `first`.**
The source's `disconnectClient` is, statement by statement, `disconnectProgram` - the entries it passes
over are those whose `stopped` channel is closed (teardown FINISHED), not those whose `closed` flag is set
(teardown begun), and every collected connection gets `stop()` and then `<-stopped` -, and the source's
`handleConnection` is `connectProgram`: the take-over comes before `getSession`, and `connectMu` is held
from before it to the return of the function (`heldOver`).  For that program (`disconnect_complete`, all
populations of live / ending / finished connections): `disconnectClient cid` returns, and every connection
with client identifier `cid` has then finished its teardown - a clean session's `Del` included, so it
cannot hit the session `getSession` creates next -; `Server.svcs` keeps exactly the entries that had not
finished.  The model side: a `.first` event is `takeOver` (nothing, or `stopAll` of the client's live
connections) followed by `first` on the resulting state. -/
theorem C10_takeover_shape_is_source :
    Mqtt.Generated.takeoverDisconnectSeq = disconnectProgram.map DcOp.code ∧
    (Mqtt.Generated.takeoverConnectSeq = connectProgram.map ConnOp.code ∧ heldOver connectProgram = true) ∧
    (∀ cid svcs, ∃ r, after disconnectProgram cid svcs = some r ∧ r.length = svcs.length ∧
      (∀ s ∈ r, s.cid = cid → s.st = .stopped) ∧ (∀ s ∈ svcs, s.cid ≠ cid → s ∈ r)) ∧
    (∀ svcs, registered disconnectProgram svcs = svcs.filter (fun s => s.st != .stopped)) ∧
    (∀ (b : B) c f a, step b (.first c f a) =
      ((first (takeOver b f a).1 c f a).1, (takeOver b f a).2 ++ (first (takeOver b f a).1 c f a).2)) ∧
    (∀ (b : B) f a, takeOver b f a = (b, []) ∨
      ∃ req, f = .connect req ∧ req.clientId.isEmpty = false ∧
        takeOver b f a = stopAll b (sameClient b req.clientId)) := by
  refine ⟨by decide, ⟨by decide, Mqtt.Proofs.Takeover.connect_held_over⟩,
    Mqtt.Proofs.Takeover.disconnect_complete, Mqtt.Proofs.Takeover.registered_eq, ?_, ?_⟩
  · intro b c f a
    rw [Mqtt.Proofs.Connect.step_first_eq, Mqtt.Proofs.Connect.connect_eq]
  · intro b f a
    rcases Mqtt.Proofs.Connect.takeOver_cases b f a with h | ⟨req, h1, _, _, h4, h5⟩
    · exact .inl h
    · exact .inr ⟨req, h1, h4, h5⟩

/-- **Only state kept from a CleanSession = 0 connection is resumed.**  The source's `Session.Resumable`
is the conjunction `resumableProgram` - initialized, has its CONNECT, and that CONNECT had
CleanSession = 0 -, evaluated under the session's mutex, and the source's `getSession` is
`getSessionProgram`: the store is consulted only for a CleanSession = 0 CONNECT, SessionPresent = 1 and
`Update` come only behind `Resumable()`, everything else gets a new session with SessionPresent = 0.
`resumable` is then the model's test - `first` resumes `((b.storeGet cid).bind b.getSess).filter (fun s =>
!s.clean)` -, so C10_session_present reads on the source: SessionPresent = 1 iff CleanSession = 0, the
identifier is not empty and the store holds a session for it whose CONNECT had CleanSession = 0.  The
third term is not redundant after the take-over repair: the session of a CleanSession = 1 CONNECT whose
handshake failed after `getSession` (CONNACK not written) stays in the store; without the term the next
CleanSession = 0 CONNECT of that client would resume it (`resumable_without_clean_resumes_clean`). -/
theorem C10_resumable_is_source :
    Mqtt.Generated.takeoverResumable = resumableProgram.map ResOp.code ∧
    Mqtt.Generated.takeoverResumableLocked = true ∧
    Mqtt.Generated.takeoverGetSessionResume = getSessionProgram.map GsOp.code ∧
    (∀ initted hasConnect clean,
      resumable resumableProgram initted hasConnect clean = (initted && hasConnect && !clean)) ∧
    (∀ (b : B) c req authOk sp, Out.send c (.connack sp 0) ∈ (first b c (.connect req) authOk).2 →
      (sp = true ↔ req.clean = false ∧ req.clientId ≠ [] ∧
        ∃ r s, b.storeGet req.clientId = some r ∧ b.getSess r = some s ∧
          resumable resumableProgram true true s.clean = true)) := by
  refine ⟨by decide, by decide, by decide, Mqtt.Proofs.Takeover.resumable_eq, ?_⟩
  intro b c req authOk sp h
  rw [C10_session_present b c req authOk sp h]
  constructor
  · rintro ⟨h1, h2, r, s, h3, h4, h5⟩
    exact ⟨h1, h2, r, s, h3, h4, by rw [Mqtt.Proofs.Takeover.resumable_eq, h5]; rfl⟩
  · rintro ⟨h1, h2, r, s, h3, h4, h5⟩
    refine ⟨h1, h2, r, s, h3, h4, ?_⟩
    rw [Mqtt.Proofs.Takeover.resumable_eq] at h5
    cases hs : s.clean with
    | false => rfl
    | true => rw [hs] at h5; cases h5

/-- **A handshake whose CONNACK cannot be written does nothing after `getSession`.**  In the source the
branch `if err = writeMessage(c, resp); err != nil` of `handleConnection` consists of `return nil, err`
alone (regenerated fact `takeoverWriteFailReturnsOnly`; the deferred `c.Close()` closes the socket):
nothing is deleted from the session store, nothing is unsubscribed, no `stop()` runs.  That is the
model's `firstFail` - after the session lookup / update / creation of `first` it changes neither the
connection table nor the subscription tries, and its only output is the close -, of which
`C10_failed_handshake_refines` and `C10_failed_handshake_model_keeps_session` speak: the session a
CleanSession=0 CONNECT would resume is still there, with its subscriptions, after the failed attempt. -/
theorem C10_failed_write_is_source :
    Mqtt.Generated.takeoverWriteFailReturnsOnly = true ∧
    (∀ (b : B) c f a, (firstFail b c f a).1.conns = b.conns ∧ (firstFail b c f a).1.topics = b.topics ∧
      (firstFail b c f a).2 = [.closed c]) := by
  exact ⟨by decide, Mqtt.Proofs.BrokerRefine.firstFail_frame⟩

end Mqtt.Properties.C10
