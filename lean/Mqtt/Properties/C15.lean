/-
C15 — blocking on the byte ring is live.

The theorems are about the model of `service/buffer.go` with its defects D1–D4 (DESIGN §9) and findings F3, F9
(known_findings.json) corrected, and hold for every ring size, thread programs (well-typed by role: one producer, one consumer,
any number of closers, Close also callable by producer and consumer; `ReadFrom` with any reader script among the producer's
calls), and every schedule.  Liveness is stated without temporal logic; fairness of the Go scheduler (an enabled goroutine is
eventually run) is the remaining hypothesis.
-/
import Mqtt.Proofs.RingTerm
import Mqtt.Proofs.RingFacts
import Mqtt.Proofs.RingContract

namespace Mqtt.Properties.C15
open Mqtt.Model.Ring Mqtt.Iface.Ring Mqtt.Proofs.Ring

/-- a reachable state: any schedule from the initial state of well-typed programs -/
def reach (cfg : Cfg) (adv gate : Nat) (progP progC : List Call) (progsK : List (List Call))
    (sched : List Tid) : St :=
  run cfg (mkInit cfg adv gate progP progC progsK) sched

/-- the liveness invariant (safety + lock discipline + no lost wake-up on either condition
variable) is preserved by every step of every thread … -/
theorem C15_invariant_step (cfg : Cfg) (base : Nat) (s s' : St) (t : Tid)
    (h : Live cfg base s) (hs : step cfg s t = some s') : Live cfg base s' :=
  live_step cfg base s s' t h hs

/-- … and holds in every reachable state. -/
theorem C15_invariant (cfg : Cfg) (adv gate : Nat) (progP progC : List Call) (progsK : List (List Call))
    (hgate : gate ≤ adv) (hok : ProgsOK progP progC progsK) (sched : List Tid) :
    Live cfg adv (reach cfg adv gate progP progC progsK sched) :=
  live_run cfg adv _ sched (live_init cfg adv gate progP progC progsK hgate hok)

/-- **NoLeak.** In every reachable state: no crash; whoever holds a mutex is an existing thread
whose program counter is inside that mutex's critical section; a thread that has returned from
its call (idle or finished) holds no mutex. -/
theorem C15_NoLeak (cfg : Cfg) (adv gate : Nat) (progP progC : List Call) (progsK : List (List Call))
    (hgate : gate ≤ adv) (hok : ProgsOK progP progC progsK) (sched : List Tid) :
    let s := reach cfg adv gate progP progC progsK sched
    s.sh.crash = false ∧
    (∀ m t, s.sh.owner m = some t → ∃ th, s.getTh t = some th ∧ holds th.pc m = true) ∧
    (∀ m t th, s.getTh t = some th → th.pc = .idle → s.sh.owner m ≠ some t) :=
  have h := (C15_invariant cfg adv gate progP progC progsK hgate hok sched).lock
  ⟨h.nocrash, fun _ _ => h.holder, fun _ _ _ => h.idle_free⟩

/-- **NoLostWakeup.** In every reachable state: if the consumer is parked in `ccond.Wait` and has
not been woken, then (i) its wait condition still holds for the *current* producer cursor or some
other thread sits between its `pseq` store and the ccond Broadcast, and (ii) the ring is still open
or some other thread sits between the `done` store and Close's ccond Broadcast.  Symmetrically for
the producer parked in `pcond.Wait`. -/
theorem C15_NoLostWakeup (cfg : Cfg) (adv gate : Nat) (progP progC : List Call) (progsK : List (List Call))
    (hgate : gate ≤ adv) (hok : ProgsOK progP progC progsK) (sched : List Tid) :
    let s := reach cfg adv gate progP progC progsK sched
    (cParked s.C.pc = true → s.sh.cNote = false →
      (noDataAt s.sh.pseq s.C.pc ∨ exPc s .c pendC) ∧ (s.sh.done = false ∨ exPc s .c pendCd)) ∧
    (pParked s.P.pc = true → s.sh.pNote = false →
      (noSpaceAt cfg.size s.sh.cseq s.P.pc ∨ exPc s .p pendP) ∧ (s.sh.done = false ∨ exPc s .p pendPd)) :=
  have h := C15_invariant cfg adv gate progP progC progsK hgate hok sched
  ⟨((nlwc_iff cfg _).mp h.nlwc).parked (m := .cL) rfl, ((nlwp_iff cfg _).mp h.nlwp).parked (m := .pL) rfl⟩

/-- **CloseTerminates.**  (1) Every own step of a thread inside `Close` decreases `closeRank`
(7 … 1) by exactly one and the last one returns: `ok` to a caller of `Close`; if it was the deferred
`Close` of `ReadFrom` (frame `rfret n e`), `ReadFrom` returns `(n, e)`.  (2) In a reachable state a thread inside
`Close` that cannot step is at one of its two `Lock`s and that mutex is held by an existing
thread which *can* step.  (3) A thread inside a critical section releases the mutex within
`csRank ≤ 4` own steps, none of which blocks (the longest way: cursor test, `isDone`, the second look at the cursor,
unlock). -/
theorem C15_CloseTerminates (cfg : Cfg) (adv gate : Nat) (progP progC : List Call) (progsK : List (List Call))
    (hgate : gate ≤ adv) (hok : ProgsOK progP progC progsK) (sched : List Tid) :
    let s := reach cfg adv gate progP progC progsK sched
    (∀ t th sh' th', s.getTh t = some th → 0 < closeRank th.pc → tstep cfg s.sh t th = some (sh', th') →
        closeRank th'.pc + 1 = closeRank th.pc ∧
        (closeRank th'.pc = 0 → th'.pc = .idle ∧ ∃ r, th'.res = some r ∧
          ((∀ n e, th.cur ≠ some (.rfret n e)) → r.err = .ok) ∧
          (∀ n e, th.cur = some (.rfret n e) → r.n = n ∧ r.err = e))) ∧
    (∀ t th, s.getTh t = some th → 0 < closeRank th.pc → step cfg s t = none →
        ∃ m t' th', wantsLock th.pc = some m ∧ s.sh.owner m = some t' ∧ s.getTh t' = some th' ∧
          holds th'.pc m = true ∧ step cfg s t' ≠ none) ∧
    (∀ t th m sh' th', s.getTh t = some th → holds th.pc m = true → tstep cfg s.sh t th = some (sh', th') →
        holds th'.pc m = true → csRank th'.pc < csRank th.pc) ∧
    (∀ pc, csRank pc ≤ 4) :=
  have h := (C15_invariant cfg adv gate progP progC progsK hgate hok sched).lock
  ⟨fun t th sh' th' _ => closeRank_step cfg _ sh' t th th', fun _ _ => close_blocked_holder cfg h,
   fun t th m sh' th' _ => csRank_step cfg _ sh' t th th' m, csRank_le⟩

/-- **DoneUnblocks.**  (1) `done` is never reset.  (2) With `done` set, a thread at an entry check
(`Write`, `waitForWriteSpace` — on entry and once more when it has found room —, the head of
`ReadFrom`'s loop) returns end-of-stream in that step —
inside `ReadFrom`: begins `ReadFrom`'s deferred `Close` (seven straight-line steps, `C15_CloseTerminates`),
after which `ReadFrom` returns end-of-stream —, and a thread at the `done` test of a wait loop does not go to `Wait`:
the producer goes to the loop's unlock-and-return exit, the consumer to the second load of the producer cursor
(F9), from where (2b) it leaves the loop in its next step either way — through the unlock-and-return exit if the data is
still missing, with the data otherwise; (3) the exits return end-of-stream (resp. begin
`ReadFrom`'s deferred `Close`) holding no mutex.  (4) A reachable state with `done` set in which no
thread can take a step has no unfinished call: nobody stays blocked once the ring is closed. -/
theorem C15_DoneUnblocks (cfg : Cfg) (adv gate : Nat) (progP progC : List Call) (progsK : List (List Call))
    (hgate : gate ≤ adv) (hok : ProgsOK progP progC progsK) (sched : List Tid) :
    let s := reach cfg adv gate progP progC progsK sched
    (∀ t th sh' th', tstep cfg s.sh t th = some (sh', th') → s.sh.done = true → sh'.done = true) ∧
    (∀ t th sh' th', s.sh.done = true → doneTest th.pc = true → tstep cfg s.sh t th = some (sh', th') →
        (th'.pc = .idle ∧ ∃ r, th'.res = some r ∧ r.err = .eof) ∨
        (th'.pc = .x10 ∧ ∃ n, th'.cur = some (.rfret n .eof)) ∨
        (∃ n p, th'.pc = .s35 n p) ∨ (∃ n c, th'.pc = .r75r n c) ∨ (∃ w n c, th'.pc = .p84r w n c)) ∧
    (∀ t th sh' th', ((∃ n c, th.pc = .r75r n c) ∨ (∃ w n c, th.pc = .p84r w n c)) →
        tstep cfg s.sh t th = some (sh', th') →
        sh' = s.sh ∧
        ((∃ n c, th'.pc = .r76 n c ∧ s.sh.pseq ≤ c) ∨ (∃ n, th'.pc = .r79 n) ∨
         (∃ w n c, th'.pc = .p85 w n c ∧ mustWait w n c s.sh.pseq = true) ∨
         (∃ w n c, th'.pc = .p88 w n c s.sh.pseq ∧ mustWait w n c s.sh.pseq = false))) ∧
    (∀ t th sh' th', ((∃ n p, th.pc = .s35 n p) ∨ (∃ n c, th.pc = .r76 n c) ∨ (∃ w n c, th.pc = .p85 w n c)) →
        tstep cfg s.sh t th = some (sh', th') →
        ((th'.pc = .idle ∧ ∃ r, th'.res = some r ∧ r.err = .eof) ∨
         (th'.pc = .x10 ∧ ∃ n, th'.cur = some (.rfret n .eof))) ∧ ∀ m, holds th'.pc m = false) ∧
    (s.sh.done = true → (∀ t, step cfg s t = none) →
        ∀ t th, s.getTh t = some th → th.pc = .idle ∧ th.prog = []) := by
  intro s
  have h := C15_invariant cfg adv gate progP progC progsK hgate hok sched
  refine ⟨?_, ?_, ?_, ?_, ?_⟩
  · intro t th sh' th' hs hd
    exact done_stable cfg s.sh sh' t th th' hd hs
  · intro t th sh' th' hd ht hs
    exact done_exits cfg s.sh sh' t th th' hd ht hs
  · intro t th sh' th' ht hs
    exact reread_exits cfg s.sh sh' t th th' ht hs
  · intro t th sh' th' ht hs
    exact eof_exit_returns cfg s.sh sh' t th th' ht hs
  · exact fun hd hq => quiescent_done cfg adv s h hq hd

/-- **Progress (quiescence form).**  In every reachable state in which no thread can take a step,
every thread has finished its program, or is the consumer parked with its data condition
genuinely unmet and the ring open, or the producer parked with its space condition genuinely unmet
and the ring open.  Contrapositive: whenever some call's completion condition holds (enough bytes /
space committed, or `Close` called) and the call has not returned, some thread is enabled — there
is no deadlock and no lost wake-up. -/
theorem C15_Progress_quiescent (cfg : Cfg) (adv gate : Nat) (progP progC : List Call) (progsK : List (List Call))
    (hgate : gate ≤ adv) (hok : ProgsOK progP progC progsK) (sched : List Tid) :
    let s := reach cfg adv gate progP progC progsK sched
    (∀ t, step cfg s t = none) →
    ∀ t th, s.getTh t = some th →
      (th.pc = .idle ∧ th.prog = []) ∨
      (t = .c ∧ cParked th.pc = true ∧ noDataAt s.sh.pseq th.pc ∧ s.sh.done = false) ∨
      (t = .p ∧ pParked th.pc = true ∧ noSpaceAt cfg.size s.sh.cseq th.pc ∧ s.sh.done = false) := by
  intro s hq t th hth
  have h := C15_invariant cfg adv gate progP progC progsK hgate hok sched
  exact quiescent_legit cfg adv s h hq t th hth

/-- **Progress.**  (1) Every enabled step of every thread strictly decreases the measure `mu`.
(2) Along any schedule at most `mu (initial state)` steps are enabled: there is no livelock, wait
loops cannot spin (each iteration consumes a Broadcast of another thread, and programs are finite).
(3) From every reachable state, stepping enabled threads at most `mu` times reaches — by a
schedule, so again a reachable state — a state in which no thread can take a step; there every
thread has finished its program or is legitimately waiting (consumer parked, no/insufficient data,
ring open; producer parked, insufficient space, ring open), and if `Close` has been called every
thread has finished.  Together: a consumer blocked for data proceeds once enough bytes are
committed, a producer blocked for space proceeds once enough bytes are consumed, Close returns and
makes every blocked or later call return — in every run in which enabled threads keep being
scheduled (fairness of the Go scheduler is the hypothesis). -/
theorem C15_Progress (cfg : Cfg) (adv gate : Nat) (progP progC : List Call) (progsK : List (List Call))
    (hgate : gate ≤ adv) (hok : ProgsOK progP progC progsK) (sched : List Tid) :
    let s := reach cfg adv gate progP progC progsK sched
    (∀ t s', step cfg s t = some s' → mu cfg s' < mu cfg s) ∧
    taken cfg (mkInit cfg adv gate progP progC progsK) sched ≤ mu cfg (mkInit cfg adv gate progP progC progsK) ∧
    (∃ sched', let q := run cfg s sched'
        (∀ t, step cfg q t = none) ∧
        (∀ t th, q.getTh t = some th →
          (th.pc = .idle ∧ th.prog = []) ∨
          (t = .c ∧ cParked th.pc = true ∧ noDataAt q.sh.pseq th.pc ∧ q.sh.done = false) ∨
          (t = .p ∧ pParked th.pc = true ∧ noSpaceAt cfg.size q.sh.cseq th.pc ∧ q.sh.done = false)) ∧
        (q.sh.done = true → ∀ t th, q.getTh t = some th → th.pc = .idle ∧ th.prog = [])) := by
  intro s
  have h := C15_invariant cfg adv gate progP progC progsK hgate hok sched
  refine ⟨fun t s' hs => mu_step cfg adv s s' t h.safe hs, ?_, ?_⟩
  · have := taken_le_mu cfg adv _ sched (rinv_init cfg adv gate progP progC progsK hgate hok)
    omega
  · obtain ⟨sched', hq⟩ := quiescent_reachable cfg adv s h.safe
    refine ⟨sched', ?_⟩
    have hl := live_run cfg adv s sched' h
    exact ⟨hq, fun t th hth => quiescent_legit cfg adv _ hl hq t th hth,
      quiescent_done cfg adv _ hl hq⟩

/-- the lock structure regenerated from buffer.go is the model's, and the model's step function
performs exactly those lock operations at the marks (all but 120 and 121, `WriteTo`'s: the model has no program counters for them) -/
theorem C15_lock_facts :
    Mqtt.Generated.bufferLocks = lockFacts ∧
    markPcs.map (fun pc => (pc.yid, lockOpCode pc))
      = (((lockFacts.map (·.2)).flatten |> markOps).filter (fun p => p.1 != 120 && p.1 != 121)).map (fun p => (some p.1, p.2)) :=
  ⟨ring_lock_facts, lockFacts_steps⟩

/-- **`ReadFrom` never hands its reader an empty slice** (an `io.Reader` answers a zero-length `Read`
with `(0, nil)`: the loop would spin).  In a reachable state in which the producer is at mark 112 —
`waitForWriteSpace(1)` has returned, the consumer cursor is about to be loaded — its next step goes to
the socket read (mark 111) with a slice of `len` bytes at the producer position, where
`1 ≤ len ≤ read block`, the slice ends at or before the end of the ring, and lies inside the part of
the ring that is free as of the CURRENT consumer cursor (and stays free: the cursor only advances). -/
theorem C15_ReadFrom_reads_nonempty (cfg : Cfg) (adv gate : Nat) (progP progC : List Call) (progsK : List (List Call))
    (hgate : gate ≤ adv) (hok : ProgsOK progP progC progsK) (sched : List Tid) (hrb : 0 < cfg.rblock)
    (tot : Nat) (ms : List Nat) (ppos : Nat) :
    let s := reach cfg adv gate progP progC progsK sched
    s.P.pc = .g112 tot ms ppos →
    ∃ s' len, step cfg s .p = some s' ∧ s'.P.pc = .g111 tot ms ppos len ∧ ppos = s.sh.pseq ∧
      1 ≤ len ∧ len ≤ cfg.rblock ∧ cfg.idx ppos + len ≤ cfg.size ∧ ppos + len ≤ s.sh.cseq + cfg.size :=
  have h := C15_invariant cfg adv gate progP progC progsK hgate hok sched
  readfrom_reads cfg adv _ h.safe h.lock.nocrash hrb tot ms ppos

/-- **`ReadFrom` is kept from reading only by a completely full ring.**  In a reachable state in
which no thread can take a step: a producer that has not finished its program is parked in
`waitForWriteSpace` with the ring open; if it is inside `ReadFrom` (frame `rfrom`) the ring is
completely full (`pseq = cseq + size`: not one byte free); and it is never the `WriteCommit` called
by `ReadFrom` that waits (frame `rfcommit`: the space it commits was free when `ReadFrom` loaded the
consumer cursor). -/
theorem C15_ReadFrom_waits_only_when_full (cfg : Cfg) (adv gate : Nat) (progP progC : List Call)
    (progsK : List (List Call)) (hgate : gate ≤ adv) (hok : ProgsOK progP progC progsK) (sched : List Tid) :
    let s := reach cfg adv gate progP progC progsK sched
    (∀ t, step cfg s t = none) →
    (s.P.pc = .idle ∧ s.P.prog = []) ∨
    (pParked s.P.pc = true ∧ s.sh.done = false ∧
      (∀ tot ms, s.P.cur = some (.rfrom tot ms) → s.sh.pseq = s.sh.cseq + cfg.size) ∧
      (∀ tot ms, s.P.cur ≠ some (.rfcommit tot ms))) := by
  intro s hq
  exact readfrom_waits_full cfg adv s (C15_invariant cfg adv gate progP progC progsK hgate hok sched) hq

/-! ## The ring at CALL level: the contract of `RingA` (`Model/Lifecycle.lean`), derived

`Model/Lifecycle.lean` (Core F, property C16) sees each ring of a connection as `RingA` = (bytes buffered,
`done`) with one atomic step per ring call — `RingA.waitSpace`, `commitP`, `waitData`, `commitC`, `close` —, a
call that waits being a step that is not enabled.  The theorems below derive that view from the ring program:
`absRing s = (pseq - cseq, done)`, `ringCfg cfg` = the life-cycle configuration with `cap = size`.
`RingA` tests `done` and the cursors in one atomic step; buffer.go tests them at two statements of a wait loop, but in ONE state
where it matters (a consumer that has seen `done` loads the producer cursor again; `waitForWriteSpace` tests `isDone` once more
after its last look at the consumer cursor): NOTES-f9.md. -/

open Mqtt.Model.Lifecycle (RingA)

/-- **Every step of the ring program is a `RingA` step or invisible.**  In a reachable state, a step of thread
`t` standing at program counter `pc`: unless `pc` is a cursor store or the `done` store (`visOf pc = tau`) the step
does not change `absRing`; the cursor store of `Write`/`WriteCommit` is taken by the producer only, with
`buf + n ≤ cap` before it, and is `RingA.commitP … n = ok` (on the ring with `done` as the call saw it: open);
the cursor store of `Read`/`ReadCommit` is taken by the consumer only, with `n ≤ buf`, and is `RingA.commitC`;
the first statement of `Close` is `RingA.close`. -/
theorem C15_step_refines_ringA (cfg : Cfg) (adv gate : Nat) (progP progC : List Call) (progsK : List (List Call))
    (hgate : gate ≤ adv) (hok : ProgsOK progP progC progsK) (sched : List Tid) (t : Tid) (th : Th) (s' : St) :
    let s := reach cfg adv gate progP progC progsK sched
    s.getTh t = some th → step cfg s t = some s' →
    match visOf th.pc with
    | .tau => absRing s' = absRing s
    | .prod n => t = .p ∧ (absRing s).buf + n ≤ (ringCfg cfg).cap ∧
        absRing s' = { absRing s with buf := (absRing s).buf + n } ∧
        RingA.commitP (ringCfg cfg) (asOpen (absRing s)) n = some (.ok, asOpen (absRing s'))
    | .cons n => t = .c ∧ n ≤ (absRing s).buf ∧ RingA.commitC (ringCfg cfg) (absRing s) n = some (absRing s')
    | .close => RingA.close (ringCfg cfg) (absRing s) = some (absRing s') := by
  intro s
  exact (Mqtt.Proofs.LifecycleRing.ring_contract_reach cfg adv gate progP progC progsK hgate hok sched).step t th s'

/-- **Single writer.**  In a reachable state a step of a thread other than the producer leaves `pseq`, a step of a
thread other than the consumer leaves `cseq`, and `done` changes only at the first statement of `Close`, which
sets it.  (So the net effect of a call on `absRing` is what its own steps do, whatever runs in between.) -/
theorem C15_single_writer (cfg : Cfg) (adv gate : Nat) (progP progC : List Call) (progsK : List (List Call))
    (hgate : gate ≤ adv) (hok : ProgsOK progP progC progsK) (sched : List Tid) (t : Tid) (s' : St) :
    let s := reach cfg adv gate progP progC progsK sched
    step cfg s t = some s' →
    (t ≠ .p → s'.sh.pseq = s.sh.pseq) ∧ (t ≠ .c → s'.sh.cseq = s.sh.cseq) ∧
    (s.sh.pseq ≤ s'.sh.pseq ∧ s.sh.cseq ≤ s'.sh.cseq) ∧
    (s'.sh.done = s.sh.done ∨ ∃ th, s.getTh t = some th ∧ th.pc = .x10 ∧ s'.sh.done = true) := by
  intro s hs
  have h := (C15_invariant cfg adv gate progP progC progsK hgate hok sched).safe
  exact ⟨step_pseq cfg adv s s' t h hs, step_cseq cfg adv s s' t h hs, step_mono cfg adv s s' t h hs, step_done cfg s s' t hs⟩

/-- **Producer calls refine `RingA.waitSpace` / `RingA.commitP`.**  In a reachable state `s` let the producer be
about to call `Write(l)`, `WriteWait(l)` or `WriteCommit` (which commits `l = min n filled` bytes); let `sched` be
ANY schedule (steps of the consumer, of closers and of the producer itself, in any order) and `a` the state after it.

(1) If the call has returned in `a` with result `r`, then `r.err` is `ok`, end-of-stream or `ErrBufferFull`, and
* `full`: `cap < l`, i.e. `RingA.waitSpace` answers `full`; `pseq` is what it was;
* end-of-stream: `done` is set in `a` — so `RingA.waitSpace` answers `eof` there — and `pseq` is what it was;
* `ok`: ONE own step `x → y` of the call — its LAST `isDone` test (mark 39, after its last look at the consumer cursor) —
  IS `RingA.waitSpace (absRing x) l = ok`, EXACTLY: the ring is open AND `buf + l ≤ cap` in the same state `x`, and the
  step changes nothing.  For `Write`/`WriteCommit` a LATER own step `x' → y'` — the cursor store — has
  `buf + l ≤ cap` before it and adds exactly `l`, changing nothing else; it IS `RingA.commitP (absRing x') l = ok`
  if the ring is still open in `x'`; the result is `l` and `pseq` has grown by exactly `l`.  (`Close` between that last
  test and the store — for `Write` the byte copy lies in between —: `C15_commit_window`.)  For `WriteWait`, `pseq` is what it was and `buf + l ≤ cap` holds in `a`, and from then on.

(2) **`Close` makes every blocked or later producer call fail.**  If at ANY point `x` of the execution `done` is set
while the call has not yet passed its last `isDone` test — it has not started, it is parked in `pcond.Wait` or about to
park, it has just been woken, it is anywhere in `waitForWriteSpace` or at the entry of `Write` — the call does not return
`ok` (it returns end-of-stream, or `ErrBufferFull` for `cap < l`).

(3) If no thread can take a step in `a`, the call is unfinished exactly when the producer is parked inside it
and `RingA.waitSpace (absRing a) l = none`: blocked = the life-cycle step is not enabled.

That the producer's own steps touch neither `cseq` nor `done`, and other threads' steps not `pseq`: `C15_single_writer`. -/
theorem C15_call_refines_ringA_producer (cfg : Cfg) (adv gate : Nat) (progP progC : List Call) (progsK : List (List Call))
    (hgate : gate ≤ adv) (hok : ProgsOK progP progC progsK) (sched0 : List Tid)
    (call : Call) (rest : List Call) (hk : (∃ n, call = .write n) ∨ (∃ n, call = .wwait n) ∨ ∃ m, call = .wcommit m)
    (sched : List Tid) :
    let s := reach cfg adv gate progP progC progsK sched0
    s.P.pc = .idle → s.P.prog = call :: rest →
    let l := amount call s.P
    let c := ringCfg cfg
    let a := run cfg s sched
    (∀ r, pRet a rest r →
      (r.err = .ok ∨ r.err = .eof ∨ r.err = .full) ∧
      (r.err = .full → c.cap < l ∧ RingA.waitSpace c (absRing a) l = some (.full, absRing a) ∧ a.sh.pseq = s.sh.pseq) ∧
      (r.err = .eof → a.sh.done = true ∧ a.sh.pseq = s.sh.pseq ∧
        (l ≤ c.cap → RingA.waitSpace c (absRing a) l = some (.eof, absRing a))) ∧
      (r.err = .ok → s.sh.done = false ∧
        (∃ pre post, sched = pre ++ .p :: post ∧
          step cfg (run cfg s pre) .p = some (run cfg s (pre ++ [.p])) ∧
          RingA.waitSpace c (absRing (run cfg s pre)) l = some (.ok, absRing (run cfg s pre)) ∧
          absRing (run cfg s (pre ++ [.p])) = absRing (run cfg s pre) ∧
          (commits call = true → ∃ mid post', post = mid ++ .p :: post' ∧
            step cfg (run cfg s (pre ++ .p :: mid)) .p = some (run cfg s (pre ++ .p :: mid ++ [.p])) ∧
            (absRing (run cfg s (pre ++ .p :: mid))).buf + l ≤ c.cap ∧
            absRing (run cfg s (pre ++ .p :: mid ++ [.p])) =
              { absRing (run cfg s (pre ++ .p :: mid)) with buf := (absRing (run cfg s (pre ++ .p :: mid))).buf + l } ∧
            ((run cfg s (pre ++ .p :: mid)).sh.done = false →
              RingA.commitP c (absRing (run cfg s (pre ++ .p :: mid))) l =
                some (.ok, absRing (run cfg s (pre ++ .p :: mid ++ [.p])))))) ∧
        (commits call = true → r.n = l ∧ a.sh.pseq = s.sh.pseq + l) ∧
        (commits call = false → a.sh.pseq = s.sh.pseq ∧
          RingA.waitSpace c (asOpen (absRing a)) l = some (.ok, asOpen (absRing a))))) ∧
    (∀ pre post r, sched = pre ++ post → (run cfg s pre).sh.done = true → notPastFinal call rest (run cfg s pre) →
      pRet a rest r → r.err ≠ .ok) ∧
    ((∀ t, step cfg a t = none) →
      (¬ pOver rest a ↔
        (pParked a.P.pc = true ∧ a.P.cur = some call ∧ a.P.prog = rest ∧ RingA.waitSpace c (absRing a) l = none))) := by
  intro s
  exact (Mqtt.Proofs.LifecycleRing.ring_contract_reach cfg adv gate progP progC progsK hgate hok sched0).producer call rest hk sched

/-- **Consumer calls refine `RingA.waitData` / `RingA.commitC`.**  In a reachable state `s` let the consumer be
between two calls, `sched` any schedule, `a` the state after it.

(A) `ReadWait(n)` (`w = true`, waits for `n` bytes) resp. `ReadPeek(n)` (`w = false`, waits for one byte, hands out
at most `n`) is the next call.  (1) If it has returned with `r`: the consumer cursor is what it was (no effect);
`r.err = full` iff `cap < n` (`RingA.waitData` answers `full`); end-of-stream only with `done` set, and ONE own step
`x → y` of the call — the load of the producer cursor AFTER it has seen `done` (marks 131–133) — IS
`RingA.waitData (absRing x) need = eof`, EXACTLY: `done` is set AND fewer than the awaited bytes are buffered in the same
state `x`; otherwise the `r.n` bytes handed out (`= n`, no error, for
`ReadWait`) are buffered in `a`, and stay so until the consumer's own next commit: `RingA.waitData (absRing a) n = ok`,
whether or not the ring is closed (bytes committed before `Close` are still handed out).
(2) If nothing can run in `a`: the call is unfinished exactly when the consumer is parked inside it and
`RingA.waitData (absRing a) (need w n) = none`.

(B) `ReadCommit(m)` is the next call; it commits `l = min m (bytes looked at)`.  (1) If it has returned:
`ErrBufferFull` iff `cap < l` (no effect), else `ok`, result `l`, `cseq` has grown by exactly `l`, and one own step
`x → y` IS `RingA.commitC (absRing x) l = some (absRing y)`, with `l ≤ buf` before it.  (2) It never waits. -/
theorem C15_call_refines_ringA_consumer (cfg : Cfg) (adv gate : Nat) (progP progC : List Call) (progsK : List (List Call))
    (hgate : gate ≤ adv) (hok : ProgsOK progP progC progsK) (sched0 : List Tid) (rest : List Call) (sched : List Tid) :
    let s := reach cfg adv gate progP progC progsK sched0
    let c := ringCfg cfg
    let a := run cfg s sched
    s.C.pc = .idle →
    (∀ w n, s.C.prog = waitCall w n :: rest →
      (∀ r, cRet a rest r →
        a.sh.cseq = s.sh.cseq ∧ (r.err = .full ↔ c.cap < n) ∧
        (r.err = .full → RingA.waitData c (absRing a) n = some (.full, absRing a)) ∧
        (r.err = .eof → a.sh.done = true ∧
          ∃ pre post, sched = pre ++ .c :: post ∧
            step cfg (run cfg s pre) .c = some (run cfg s (pre ++ [.c])) ∧
            RingA.waitData c (absRing (run cfg s pre)) (need w n) = some (.eof, absRing (run cfg s pre)) ∧
            absRing (run cfg s (pre ++ [.c])) = absRing (run cfg s pre)) ∧
        (r.err ≠ .eof → r.err ≠ .full → waitRes w n r ∧ r.n ≤ (absRing a).buf ∧
          (w = true → RingA.waitData c (absRing a) n = some (.ok, absRing a)))) ∧
      ((∀ t, step cfg a t = none) →
        (¬ cOver rest a ↔
          (cParked a.C.pc = true ∧ a.C.cur = some (waitCall w n) ∧ a.C.prog = rest ∧
            RingA.waitData c (absRing a) (need w n) = none)))) ∧
    (∀ m, s.C.prog = .commit m :: rest →
      (∀ r, cRet a rest r →
        (r.err = .full ↔ c.cap < min m s.C.pending.length) ∧ (r.err = .full → a.sh.cseq = s.sh.cseq) ∧
        (r.err ≠ .full → r.err = .ok ∧ r.n = min m s.C.pending.length ∧
          a.sh.cseq = s.sh.cseq + min m s.C.pending.length ∧
          ∃ pre post, sched = pre ++ .c :: post ∧
            step cfg (run cfg s pre) .c = some (run cfg s (pre ++ [.c])) ∧
            min m s.C.pending.length ≤ (absRing (run cfg s pre)).buf ∧
            RingA.commitC c (absRing (run cfg s pre)) (min m s.C.pending.length) = some (absRing (run cfg s (pre ++ [.c]))))) ∧
      ((∀ t, step cfg a t = none) → cOver rest a)) := by
  intro s
  exact (Mqtt.Proofs.LifecycleRing.ring_contract_reach cfg adv gate progP progC progsK hgate hok sched0).consumer rest sched

/-- **`Close` refines `RingA.close`, and `done` enables every other call.**  In a reachable state `s` let thread `t`
(producer, consumer or a closer) be about to call `Close`; `sched` any schedule, `a` the state after it.
(1) If the call has returned: it returns `ok`, `done` is set in `a`, and one own step `x → y` — its first statement —
IS `RingA.close (absRing x) = some (absRing y)`: `done := true`, cursors untouched (`Close` is always enabled).
(2) If nothing can run in `a`: nobody is inside `Close` — it never waits (`C15_CloseTerminates`: seven own steps,
kept from stepping only by a mutex whose holder is enabled) —, and if `done` is set in `a` (by this `Close` or
any other) NO call is unfinished: every call that was parked when `done` was set has returned — with end-of-stream,
or, its condition having been met meanwhile, with its data / space (parts (1) of the producer and consumer
contracts say which) —, the `RingA` steps that `done` enables. -/
theorem C15_call_refines_ringA_close (cfg : Cfg) (adv gate : Nat) (progP progC : List Call) (progsK : List (List Call))
    (hgate : gate ≤ adv) (hok : ProgsOK progP progC progsK) (sched0 : List Tid) (t : Tid) (th : Th) (rest : List Call)
    (sched : List Tid) :
    let s := reach cfg adv gate progP progC progsK sched0
    let c := ringCfg cfg
    let a := run cfg s sched
    s.getTh t = some th → th.pc = .idle → th.prog = .close :: rest →
    (∀ r, tRet a t rest r →
      r.err = .ok ∧ a.sh.done = true ∧
      ∃ pre post, sched = pre ++ t :: post ∧
        step cfg (run cfg s pre) t = some (run cfg s (pre ++ [t])) ∧
        RingA.close c (absRing (run cfg s pre)) = some (absRing (run cfg s (pre ++ [t])))) ∧
    ((∀ u, step cfg a u = none) →
      (∀ u thu, a.getTh u = some thu → closeRank thu.pc = 0) ∧
      (a.sh.done = true → ∀ u thu, a.getTh u = some thu → thu.pc = .idle ∧ thu.prog = [])) := by
  intro s
  exact (Mqtt.Proofs.LifecycleRing.ring_contract_reach cfg adv gate progP progC progsK hgate hok sched0).close t th rest sched

/-- **`ReadFrom`'s loop iteration refines the receiver's ring steps** (`Model/Lifecycle.lean`: `.space` =
`waitSpace 1`, `.read` of at most `readMax = min rblock (cap - buf)` bytes, `.commit n` = `commitP n`, `.close`).
In every reachable state:
(1) at mark 112 — `waitForWriteSpace(1)` has returned `ok` — one byte is free: `buf + 1 ≤ cap` (the guard of
    `RingA.waitSpace … 1 = ok`; it stays true: only the consumer changes `buf` until the commit);
(2) at mark 111 the slice handed to the socket read has at most `cap - buf` bytes (and at least one, at most a read
    block: `C15_ReadFrom_reads_nonempty`);
(3) when the read has returned `n` bytes, and inside the `WriteCommit(n)` that follows up to and including its
    cursor store, `buf + n ≤ cap` (`InvA.rcommit` of the life-cycle model): that `WriteCommit` finds its space —
    it never waits (`C15_ReadFrom_waits_only_when_full`) —, and its cursor store is `RingA.commitP … n = ok`
    (`C15_step_refines_ringA`);
(4) `ReadFrom` returns only through its deferred `Close`: the step at the last statement of `Close` in the frame
    `rfret n e` returns `(n, e)` and the ring is closed then (the receiver's `.close` step);
(5) if nothing can run and the producer, unfinished, is inside `ReadFrom`'s own `waitForWriteSpace(1)`, it is parked in `waitForWriteSpace(1)` and
    `RingA.waitSpace (absRing s) 1 = none`: the ring is open and completely full. -/
theorem C15_readfrom_refines_ringA (cfg : Cfg) (adv gate : Nat) (progP progC : List Call) (progsK : List (List Call))
    (hgate : gate ≤ adv) (hok : ProgsOK progP progC progsK) (sched : List Tid) :
    let s := reach cfg adv gate progP progC progsK sched
    let c := ringCfg cfg
    (∀ tot ms ppos, s.P.pc = .g112 tot ms ppos → (absRing s).buf + 1 ≤ c.cap) ∧
    (∀ tot ms start len, s.P.pc = .g111 tot ms start len → len ≤ c.cap - (absRing s).buf) ∧
    (∀ tot ms n, s.P.pc = .g111r tot ms n → (absRing s).buf + n ≤ c.cap) ∧
    (∀ tot ms n, s.P.cur = some (.rfcommit tot ms) → (wfsArg s.P.pc = some n ∨ ∃ ppos, s.P.pc = .c50 n ppos) →
      (absRing s).buf + n ≤ c.cap) ∧
    (∀ n e s', s.P.pc = .x16 → s.P.cur = some (.rfret n e) → step cfg s .p = some s' →
      s'.P.pc = .idle ∧ s'.P.res = some { n := n, err := e } ∧ s'.sh.done = true) ∧
    ((∀ t, step cfg s t = none) → ¬ (s.P.pc = .idle ∧ s.P.prog = []) → ∀ tot ms, s.P.cur = some (.rfrom tot ms) →
      pParked s.P.pc = true ∧ RingA.waitSpace c (absRing s) 1 = none) := by
  intro s
  exact (Mqtt.Proofs.LifecycleRing.ring_contract_reach cfg adv gate progP progC progsK hgate hok sched).readfrom

/-- **Blocked = not enabled, thread by thread.**  In a reachable state in which no thread can take a step:
the producer is unfinished exactly when it is parked in `waitForWriteSpace(n)` with the ring open and
`cap < buf + n` — i.e. `RingA.waitSpace (absRing s) n = none` (for `n ≤ cap`, which the call-level theorems supply:
`n` is the call's argument and larger requests were refused at once) —; the consumer is unfinished exactly when it
is parked in `ReadWait(n)` / `ReadPeek` with the ring open and fewer than `need` bytes buffered —
`RingA.waitData (absRing s) need = none` — or in `Read` with the ring open and empty; closers are never unfinished. -/
theorem C15_parked_iff_guard_false (cfg : Cfg) (adv gate : Nat) (progP progC : List Call) (progsK : List (List Call))
    (hgate : gate ≤ adv) (hok : ProgsOK progP progC progsK) (sched : List Tid) :
    let s := reach cfg adv gate progP progC progsK sched
    let c := ringCfg cfg
    (∀ t, step cfg s t = none) →
    (¬ (s.P.pc = .idle ∧ s.P.prog = []) ↔
      ∃ n ppos, s.P.pc = .s36w n ppos ∧ s.sh.done = false ∧ c.cap < (absRing s).buf + n ∧
        (n ≤ c.cap → RingA.waitSpace c (absRing s) n = none)) ∧
    (¬ (s.C.pc = .idle ∧ s.C.prog = []) ↔
      (∃ w n cpos, s.C.pc = .p86w w n cpos ∧ s.sh.done = false ∧ (absRing s).buf < need w n ∧
        (n ≤ c.cap → RingA.waitData c (absRing s) (need w n) = none)) ∨
      (∃ n cpos, s.C.pc = .r77w n cpos ∧ s.sh.done = false ∧ (absRing s).buf = 0)) ∧
    (∀ (i : Nat) (th : Th), s.K[i]? = some th → th.pc = .idle ∧ th.prog = []) := by
  intro s
  exact (Mqtt.Proofs.LifecycleRing.ring_contract_reach cfg adv gate progP progC progsK hgate hok sched).quiescent

/-! ### finding F9: `done` versus the cursors — the ring before the repair, the repaired ring on the same schedules, and
what is left (closed executions on a 4-byte ring) -/

/-- a reachable state of the ring BEFORE the repair of F9 (`Model.Ring.tstepPreF9`) -/
def reachPreF9 (cfg : Cfg) (adv gate : Nat) (progP progC : List Call) (progsK : List (List Call))
    (sched : List Tid) : St :=
  runPreF9 cfg (mkInit cfg adv gate progP progC progsK) sched

/-- **F9 (1), the ring before the repair — a producer commit after `Close`.**  Ring of 4 bytes, full; the producer is
parked in `Write(2)` (30 producer steps: `Write(4)`, then `Write(2)` up to `pcond.Wait`); a closer runs `Close` COMPLETELY
(8 steps; `done` is set, the producer is woken but not scheduled); the consumer runs `ReadWait(2)`, reads, `ReadCommit(2)`
COMPLETELY (two bytes are free now); then the producer re-evaluates only its space condition
(`for cpos = cseq.get(); wrap > cpos; …` — `done` was tested inside the loop body only), finds it false, copies, and commits:
`Write` returns `(2, nil)`, `pseq` goes 4 → 6, with `done = true` in every state since before the consumer even started.
`RingA.commitP` on that ring answers end-of-stream.  Reproduced on the real buffer (corpus/ring/f9-late-commit.ops).
THE REPAIRED RING on the same schedule (second part): the producer, woken, finds room, tests `isDone` once more
(mark 39) and returns end-of-stream; `pseq` stays 4 — `C15_call_refines_ringA_producer` (2). -/
theorem C15_old_ring_late_commit :
    let cfg : Cfg := { k := 2, src := fun i => UInt8.ofNat (i + 1) }
    let c := ringCfg cfg
    let sch1 := List.replicate 30 Tid.p
    let sch2 := sch1 ++ List.replicate 8 (.k 0)
    let sch3 := sch2 ++ List.replicate 30 .c
    let sch4 := sch3 ++ List.replicate 12 .p
    (let progs := reachPreF9 cfg 0 0 [.write 4, .write 2] [.rwait 2, .use, .commit 2] [[.close]]
     (pParked (progs sch1).P.pc = true ∧ (progs sch1).P.cur = some (.write 2) ∧ absRing (progs sch1) = { buf := 4, done := false }) ∧
     (((progs sch2).K.map (·.pc)) = [.idle] ∧ absRing (progs sch2) = { buf := 4, done := true } ∧ pParked (progs sch2).P.pc = true) ∧
     ((progs sch3).C.pc = .idle ∧ (progs sch3).C.prog = [] ∧ absRing (progs sch3) = { buf := 2, done := true } ∧
       pParked (progs sch3).P.pc = true ∧ RingA.commitP c (absRing (progs sch3)) 2 = some (.eof, absRing (progs sch3))) ∧
     ((progs sch4).P.pc = .idle ∧ (progs sch4).P.prog = [] ∧ (progs sch4).P.res = some { n := 2 } ∧
       absRing (progs sch4) = { buf := 4, done := true } ∧ (progs sch4).sh.pseq = 6)) ∧
    (let progs := reach cfg 0 0 [.write 4, .write 2] [.rwait 2, .use, .commit 2] [[.close]]
     (pParked (progs sch1).P.pc = true ∧ absRing (progs sch1) = { buf := 4, done := false }) ∧
     (absRing (progs sch3) = { buf := 2, done := true } ∧ pParked (progs sch3).P.pc = true) ∧
     ((progs sch4).P.pc = .idle ∧ (progs sch4).P.prog = [] ∧ (progs sch4).P.res = some { err := .eof } ∧
       absRing (progs sch4) = { buf := 2, done := true } ∧ (progs sch4).sh.pseq = 4)) := by
  decide +kernel

/-- **F9 (2), the ring before the repair — end-of-stream although the bytes are there.**  Empty ring of 4 bytes.  The
consumer's `ReadWait(2)` has taken `ccond.L`, tested the producer cursor (nothing there) and stands before its `isDone` test
(5 consumer steps); the producer's `Write(2)` stores the cursor and waits for `ccond.L` to broadcast; a closer's `Close` stores
`done` and waits for `ccond.L` too; the consumer tests `done`, unlocks and returns end-of-stream — in a state with 2 bytes
buffered, where `RingA.waitData … 2` answers `ok`; its next `ReadWait(2)` returns those 2 bytes: end-of-stream, then data.
Reproduced on the real buffer (corpus/ring/f9-eof-with-data.ops).  (`done` can be set inside that window only by a
third goroutine: a producer that commits and then closes the ring itself needs `ccond.L` for the Broadcast of that commit
first.)  THE REPAIRED RING on the same schedule (second part): having seen `done` the consumer loads the producer cursor
again (mark 133), finds the 2 bytes, and returns them — `C15_call_refines_ringA_consumer` (A). -/
theorem C15_old_ring_eof_with_data :
    let cfg : Cfg := { k := 2, src := fun i => UInt8.ofNat (i + 1) }
    let c := ringCfg cfg
    let sch1 := List.replicate 5 Tid.c ++ List.replicate 30 .p ++ List.replicate 8 (.k 0)
    (let progs := reachPreF9 cfg 0 0 [.write 2] [.rwait 2, .rwait 2] [[.close]]
     let s1 := progs sch1
     let s2 := progs (sch1 ++ List.replicate 2 .c)
     let s3 := progs (sch1 ++ List.replicate 2 .c ++ List.replicate 12 .p ++ List.replicate 8 (.k 0) ++ List.replicate 12 .c)
     (s1.C.pc = .p84 true 2 0 ∧ s1.P.pc = .w43 2 ∧ (s1.K.map (·.pc)) = [.x14] ∧ absRing s1 = { buf := 2, done := true }) ∧
     (s2.C.pc = .idle ∧ (s2.C.res.map (·.err)) = some .eof ∧ absRing s2 = { buf := 2, done := true } ∧
       RingA.waitData c (absRing s2) 2 = some (.ok, absRing s2)) ∧
     (s3.C.pc = .idle ∧ s3.C.prog = [] ∧ (s3.C.res.map (fun r => (r.n, r.err))) = some (2, .ok))) ∧
    (let progs := reach cfg 0 0 [.write 2] [.rwait 2, .rwait 2] [[.close]]
     let s1 := progs sch1
     let s2 := progs (sch1 ++ List.replicate 1 .c)
     let s3 := progs (sch1 ++ List.replicate 3 .c)
     (s1.C.pc = .p84 true 2 0 ∧ s1.P.pc = .w43 2 ∧ absRing s1 = { buf := 2, done := true }) ∧
     s2.C.pc = .p84r true 2 0 ∧
     (s3.C.pc = .idle ∧ (s3.C.res.map (fun r => (r.n, r.err))) = some (2, .ok))) := by
  decide +kernel

/-- **What is left (repaired ring): `Close` between a producer's last `isDone` test and its cursor store.**  Empty ring of
4 bytes.  The producer's `Write(2)` has passed its last `isDone` test (5 steps: it stands at the byte copy); a closer runs
`Close` completely; the consumer's `ReadWait(2)` sees `done`, looks at the producer cursor again — nothing — and returns
end-of-stream, exactly as `RingA.waitData` does in that state; then the producer copies, stores the cursor and returns `ok`,
and the consumer's next `ReadWait(2)` returns the 2 bytes.  Each consumer call is an exact `RingA` step; the producer's
`ok` is exact at its last test (`RingA.waitSpace … = ok` there) and its effect lands two statements later, after the
`Close`.  Closing this window needs the `done` store and (`done` test + cursor store) under one mutex — a different
locking scheme of the ring, not a repair.  Inside a connection the closers of the INCOMING ring are the producer itself
(the receiver's deferred `Close`, after its last commit) and `stop()`; a commit that races `stop()` races the teardown. -/
theorem C15_commit_window :
    let cfg : Cfg := { k := 2, src := fun i => UInt8.ofNat (i + 1) }
    let c := ringCfg cfg
    let progs := reach cfg 0 0 [.write 2] [.rwait 2, .rwait 2] [[.close]]
    let sch1 := List.replicate 5 Tid.p
    let sch2 := sch1 ++ List.replicate 8 (.k 0)
    let sch3 := sch2 ++ List.replicate 6 .c
    let sch4 := sch3 ++ List.replicate 2 .c
    let sch5 := sch4 ++ List.replicate 8 .p
    let sch6 := sch5 ++ List.replicate 8 .c
    ((progs sch1).P.pc = .w41c 2 0 0 ∧ beforeFinal (progs sch1).P.pc = false ∧ absRing (progs sch1) = { buf := 0, done := false }) ∧
    (((progs sch2).K.map (·.pc)) = [.idle] ∧ absRing (progs sch2) = { buf := 0, done := true }) ∧
    ((progs sch3).C.pc = .p84r true 2 0 ∧
      RingA.waitData c (absRing (progs sch3)) 2 = some (.eof, absRing (progs sch3))) ∧
    ((progs sch4).C.pc = .idle ∧ ((progs sch4).C.res.map (·.err)) = some .eof) ∧
    ((progs sch5).P.pc = .idle ∧ (progs sch5).P.res = some { n := 2 } ∧ absRing (progs sch5) = { buf := 2, done := true }) ∧
    ((progs sch6).C.pc = .idle ∧ ((progs sch6).C.res.map (fun r => (r.n, r.err))) = some (2, .ok)) := by
  decide +kernel

/-! non-vacuity: a blocked reader is woken by data, a blocked reader is woken by Close -/

def exCfg : Cfg := { k := 2, src := fun i => UInt8.ofNat (i + 1) }

/-- the consumer parks (no data), the producer then writes: everybody finishes, no mutex held -/
example :
    let s := reach exCfg 0 0 [.write 2] [.read 2] [] (List.replicate 10 .c ++ List.replicate 12 .p ++ List.replicate 12 .c)
    s.P.pc = .idle ∧ s.C.pc = .idle ∧ s.C.prog = [] ∧ s.sh.gotRev.reverse = [1, 2] ∧ s.sh.pL = none ∧ s.sh.cL = none := by
  decide +kernel

/-- after 8 consumer steps the reader is parked in `ccond.Wait` -/
example :
    let s := reach exCfg 0 0 [] [.rwait 2] [[.close]] (List.replicate 8 .c)
    cParked s.C.pc = true ∧ s.sh.cL = none := by decide +kernel

/-- …and Close from another thread makes it return end-of-stream, leaving both mutexes free -/
example :
    let s := reach exCfg 0 0 [] [.rwait 2] [[.close]] (List.replicate 8 .c ++ List.replicate 8 (.k 0) ++ List.replicate 6 .c)
    s.C.pc = .idle ∧ s.C.prog = [] ∧ (s.C.res.map (·.err)) = some .eof ∧ s.sh.pL = none ∧ s.sh.cL = none ∧ s.sh.done = true := by
  decide +kernel

/-- `ReadFrom` on a 4-byte ring with read block 2 and no consumer: two reads of 2 bytes, then the ring
is completely full and the producer is parked in `waitForWriteSpace(1)` — only then -/
example :
    let cfg : Cfg := { k := 2, src := fun i => UInt8.ofNat (i + 1), rblock := 2 }
    let s := reach cfg 0 0 [.rfrom 0 [4, 4, 4]] [] [[.close]] (List.replicate 50 .p)
    pParked s.P.pc = true ∧ s.P.cur = some (.rfrom 4 [4]) ∧ s.sh.pseq = s.sh.cseq + cfg.size ∧ s.sh.pL = none := by
  decide +kernel

/-- …and Close from another thread makes it return (`return 0, err` of `ReadFrom`, after its own
deferred `Close`), leaving both mutexes free -/
example :
    let cfg : Cfg := { k := 2, src := fun i => UInt8.ofNat (i + 1), rblock := 2 }
    let s := reach cfg 0 0 [.rfrom 0 [4, 4, 4]] [] [[.close]]
      (List.replicate 50 .p ++ List.replicate 8 (.k 0) ++ List.replicate 20 .p)
    s.P.pc = .idle ∧ s.P.prog = [] ∧ s.P.res = some { n := 0, err := .eof } ∧ s.sh.pseq = 4 ∧
      s.sh.pL = none ∧ s.sh.cL = none ∧ s.sh.done = true := by
  decide +kernel

/-! non-vacuity of the call-level contract, on a ring of 4 bytes -/

/-- `C15_call_refines_ringA_producer` (3): `Write(2)` on a full ring with nobody else around parks; nothing can run;
the call is not over, and `RingA.waitSpace … 2 = none` -/
example :
    let s := reach exCfg 0 0 [.write 4, .write 2] [] [] (List.replicate 14 .p)
    let a := run exCfg s (List.replicate 20 .p)
    s.P.pc = .idle ∧ s.P.prog = [.write 2] ∧ amount (.write 2) s.P = 2 ∧
    step exCfg a .p = none ∧ step exCfg a .c = none ∧ a.K = [] ∧
    pParked a.P.pc = true ∧ a.P.cur = some (.write 2) ∧ a.P.prog = [] ∧
    RingA.waitSpace (ringCfg exCfg) (absRing a) 2 = none := by decide +kernel

/-- `C15_call_refines_ringA_producer` (1): the same call, parked, is released by the consumer's `ReadCommit(2)` and
returns `ok`: its last `isDone` test (the 4th producer step after the wake-up, `s39`) IS `RingA.waitSpace … 2 = ok` on the ring
as it is; the cursor store (the 8th, `w42`) has `buf + 2 ≤ cap` before it and IS `RingA.commitP … 2 = ok`; `pseq` has grown by 2 -/
example :
    let s := reach exCfg 0 0 [.write 4, .write 2] [.rwait 2, .use, .commit 2] [] (List.replicate 14 .p)
    let sched := List.replicate 20 .p ++ List.replicate 30 .c ++ List.replicate 12 .p
    let pre := List.replicate 20 .p ++ List.replicate 30 .c ++ List.replicate 3 .p
    let mid := List.replicate 3 Tid.p
    let a := run exCfg s sched
    let x := run exCfg s pre
    let x' := run exCfg s (pre ++ .p :: mid)
    let y' := run exCfg s (pre ++ .p :: mid ++ [.p])
    s.P.pc = .idle ∧ s.P.prog = [.write 2] ∧ s.sh.done = false ∧
    pParked (run exCfg s (List.replicate 20 .p)).P.pc = true ∧
    pRet a [] { n := 2 } ∧ a.sh.pseq = s.sh.pseq + 2 ∧
    sched = pre ++ .p :: (mid ++ .p :: List.replicate 4 .p) ∧
    x.P.pc = .s39 2 4 ∧ RingA.waitSpace (ringCfg exCfg) (absRing x) 2 = some (.ok, absRing x) ∧
    x'.P.pc = .w42 2 4 ∧ (step exCfg x' .p).isSome = true ∧
    absRing x' = { buf := 2 } ∧ absRing y' = { buf := 4 } ∧
    RingA.commitP (ringCfg exCfg) (absRing x') 2 = some (.ok, absRing y') := by decide +kernel

/-- `C15_call_refines_ringA_producer` (2): the same parked call is released by `Close` instead: woken, it finds no room,
sees `done` and returns end-of-stream; and if the consumer frees the room before the producer runs, it finds room,
tests `isDone` once more and returns end-of-stream all the same (`C15_old_ring_late_commit`, second part) -/
example :
    let s := reach exCfg 0 0 [.write 4, .write 2] [] [[.close]] (List.replicate 14 .p)
    let x := run exCfg s (List.replicate 20 .p ++ List.replicate 8 (.k 0))
    let a := run exCfg s (List.replicate 20 .p ++ List.replicate 8 (.k 0) ++ List.replicate 6 .p)
    x.sh.done = true ∧ pParked x.P.pc = true ∧ notPastFinal (.write 2) [] x ∧
    pRet a [] { err := .eof } ∧ a.sh.pseq = s.sh.pseq := by decide +kernel

/-- `C15_call_refines_ringA_consumer` (A): `ReadWait(2)` on an empty ring parks (`RingA.waitData … 2 = none`); `Close` from
another thread releases it: end-of-stream, `done` set, too little data when the call started -/
example :
    let s := reach exCfg 0 0 [] [.rwait 2] [[.close]] []
    let q := run exCfg s (List.replicate 8 .c)
    let a := run exCfg s (List.replicate 8 .c ++ List.replicate 8 (.k 0) ++ List.replicate 6 .c)
    s.C.pc = .idle ∧ s.C.prog = [waitCall true 2] ∧
    cParked q.C.pc = true ∧ RingA.waitData (ringCfg exCfg) (absRing q) (need true 2) = none ∧
    cRet a [] { err := .eof } ∧ a.sh.done = true ∧ a.sh.cseq = s.sh.cseq ∧
    (let x := run exCfg s (List.replicate 8 .c ++ List.replicate 8 (.k 0) ++ List.replicate 3 .c)
     x.C.pc = .p84r true 2 0 ∧
     RingA.waitData (ringCfg exCfg) (absRing x) (need true 2) = some (.eof, absRing x)) := by
  decide +kernel

/-- `C15_call_refines_ringA_consumer` (A) with data and (B): `ReadWait(2)` with 3 bytes buffered returns `ok`
(`RingA.waitData … 2 = ok`); after looking at the bytes, `ReadCommit(2)` returns `ok`, `cseq` has grown by 2, and its third
own step (`k102`) IS `RingA.commitC … 2` -/
example :
    let s0 := reach exCfg 0 0 [.write 3] [.rwait 2, .use, .commit 2] [] (List.replicate 20 .p)
    let a0 := run exCfg s0 (List.replicate 6 .c)
    let s := run exCfg s0 (List.replicate 10 .c)
    let a := run exCfg s (List.replicate 7 .c)
    let x := run exCfg s (List.replicate 3 .c)
    let y := run exCfg s (List.replicate 3 .c ++ [.c])
    s0.C.pc = .idle ∧ s0.C.prog = [waitCall true 2, .use, .commit 2] ∧
    cRet a0 [.use, .commit 2] { n := 2 } ∧ RingA.waitData (ringCfg exCfg) (absRing a0) 2 = some (.ok, absRing a0) ∧
    s.C.pc = .idle ∧ s.C.prog = [.commit 2] ∧ min 2 s.C.pending.length = 2 ∧
    cRet a [] { n := 2 } ∧ a.sh.cseq = s.sh.cseq + 2 ∧ x.C.pc = .k102 2 0 ∧ (step exCfg x .c).isSome = true ∧
    RingA.commitC (ringCfg exCfg) (absRing x) 2 = some (absRing y) ∧ absRing x = { buf := 3 } ∧ absRing y = { buf := 1 } := by
  decide +kernel

/-- `C15_call_refines_ringA_close`: `Close` by a closer thread: eight own steps, returns `ok`; its second step (the first
statement of `Close`) IS `RingA.close` -/
example :
    let s := reach exCfg 0 0 [] [] [[.close]] []
    let a := run exCfg s (List.replicate 8 (.k 0))
    let x := run exCfg s [.k 0]
    let y := run exCfg s ([.k 0] ++ [.k 0])
    s.getTh (.k 0) = some { prog := [.close] } ∧ a.getTh (.k 0) = some { res := some {} } ∧ a.sh.done = true ∧
    (x.K.map (·.pc)) = [.x10] ∧ (step exCfg x (.k 0)).isSome = true ∧ RingA.close (ringCfg exCfg) (absRing x) = some (absRing y) ∧
    absRing x = {} ∧ absRing y = { done := true } := by decide +kernel

/-- `C15_readfrom_refines_ringA`: `ReadFrom` on a 4-byte ring with read block 2: at mark 112 one byte is free, at mark 111
the slice has 2 ≤ `cap - buf` bytes, the `WriteCommit(2)` it calls fits, and its cursor store is `RingA.commitP … 2 = ok` -/
example :
    let cfg : Cfg := { k := 2, src := fun i => UInt8.ofNat (i + 1), rblock := 2 }
    let r := fun k => reach cfg 0 0 [.rfrom 0 [4, 4, 4]] [] [[.close]] (List.replicate k .p)
    (r 5).P.pc = .g112 0 [4, 4, 4] 0 ∧ (absRing (r 5)).buf + 1 ≤ (ringCfg cfg).cap ∧
    (r 6).P.pc = .g111 0 [4, 4, 4] 0 2 ∧ 2 ≤ (ringCfg cfg).cap - (absRing (r 6)).buf ∧
    (r 10).P.pc = .g111r 0 [4, 4] 2 ∧
    (r 14).P.pc = .c50 2 0 ∧ (r 14).P.cur = some (.rfcommit 2 [4, 4]) ∧ visOf (r 14).P.pc = .prod 2 ∧
    RingA.commitP (ringCfg cfg) (absRing (r 14)) 2 = some (.ok, absRing (r 15)) := by decide +kernel

end Mqtt.Properties.C15
