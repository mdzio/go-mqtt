/-
C16 — every connection is torn down completely in bounded time, in any state.

Property theorems only (helper lemmas: `Proofs/Lifecycle*.lean`).  They are about the small-step
model of ONE connection's life-cycle (`Model/Lifecycle.lean`: receiver, processor, sender, any
number of `stop()` callers and of external writers, the rest of the broker and the peer as
environment events) and hold for EVERY initial buffer state, traffic still to come, schedule of
thread steps and interleaved environment events (peer closes, half-closes, stops/resumes reading, keep-alive
expiry, the connection a delivery is addressed to blocks/unblocks, `Server.Close`).
`WF c` fixes the code as it is: repaired ring (the contract of C15 — DERIVED from the ring program, not assumed:
`C16_ring_contract_is_C15`, `C16_ring_steps_use_ringA`, `C16_out_ring_one_producer`, at the end of this file; exact since the
repair of finding F9 up to the window between a producer's last `isDone` test and its cursor store, named there), `stop()` in the order of
service.go, a receiver that closes the socket when its read has failed (repair b77088f, finding F7)
and a `ReadFrom` that waits only while the incoming ring is completely full and reads into the free
space (repair 8f682d1, finding F3) — regenerated: `C16_source_shape` —, a ring that holds a packet header.

What stays open is not a deadlock of an ENDED connection but an end that is not noticed: a receiver
parked because the incoming ring is completely full (behind a processor parked in the connection's
own outgoing ring) has no read pending and no deadline armed — finding F8, `C19_silence_counterexample`;
with a peer that has half-closed, `Ended` is true of that state and the theorems name it (`C16_halfclose_unnoticed`).

"Bounded time" is "bounded number of own steps"; that an enabled goroutine is eventually run
(weak fairness of the Go scheduler) is the hypothesis that turns these into "the teardown finishes".
-/
import Mqtt.Proofs.LifecycleChunk
import Mqtt.Proofs.LifecycleFacts
import Mqtt.Proofs.RingFacts
import Mqtt.Proofs.LifecycleRing

namespace Mqtt.Properties.C16
open Mqtt.Model.Lifecycle Mqtt.Proofs.Lifecycle

/-- the source still has the shape the model is written against: order of `stop()`, deferred
recovers, Done-then-stop, `Server.Close` closing all outgoing rings first, the receiver closing the
socket after a failed `ReadFrom` (3 = `conn.Close()`, 4 = return), the lock structure of the ring
(C15's contract is about that buffer.go) -/
theorem C16_source_shape :
    (Mqtt.Generated.lifeStopSeq = stopProgram.map StopOp.code ∧
      stopTrace probeCfg 20 probeStopSh (.run 0) = Mqtt.Generated.lifeStopSeq) ∧
    (Mqtt.Generated.lifeStopCasReturns = true ∧ Mqtt.Generated.lifeStopWillGuarded = true ∧
      Mqtt.Generated.lifeStopCleanGuarded = true) ∧
    Mqtt.Generated.lifeRecoverFirst = [true, true, true, true] ∧
    (Mqtt.Generated.lifeProcDefer = procDeferModel ∧ Mqtt.Generated.lifeRecvDefer = recvDeferModel ∧
      Mqtt.Generated.lifeSendDefer = sendDeferModel) ∧
    (procLoopVisit probeCfg 5 { inR := { buf := 4 }, stream := [⟨2, 4, .normal []⟩] } .size = Mqtt.Generated.lifeProcLoop) ∧
    (writerVisit probeCfg 6 {} ⟨.check, 3⟩ = Mqtt.Generated.lifeWriteMessage) ∧
    Mqtt.Generated.lifeServerClose = [1, 2] ∧
    (Mqtt.Generated.lifeRecvOnError = [3, 4] ∧
      recvExitVisit probeCfg 8 { timeout := true } .read = Mqtt.Generated.lifeRecvOnError ∧
      recvExitSock probeCfg 8 { timeout := true } .read = .closed) ∧
    Mqtt.Generated.bufferLocks = Mqtt.Model.Ring.lockFacts :=
  ⟨facts_stop_order, ⟨facts_stop_guards.1, facts_stop_guards.2.1, facts_stop_guards.2.2.1⟩, facts_recover,
   facts_defers, facts_loops.1, facts_write_message.1, facts_server_close,
   ⟨facts_receiver.1, facts_receiver.2.2.1, facts_receiver.2.2.2.1⟩, Mqtt.Proofs.Ring.ring_lock_facts⟩

/-- a reachable state: any schedule (thread steps and environment events) from an initial state -/
def reach (c : Cfg) (s0 : St) (sched : List Label) : St := run c s0 sched

/-- the invariants hold in every reachable state -/
theorem C16_invariant (c : Cfg) (hw : WF c) (s0 : St) (h0 : Init c s0) (sched : List Label) :
    Inv c (reach c s0 sched) ∧ NoPanic (reach c s0 sched) :=
  ⟨inv_run c hw s0 sched (inv_init c s0 h0),
   noPanic_run c hw s0 sched (inv_init c s0 h0) (fun w hm => by rw [h0.ws w hm]; nofun)⟩

/-- **`stop` happens once.**  At most one caller is between the CAS and its return (the CAS);
the effects so far are `effAt n` for some `n` — unsubscribe, then the will if the flag is set, then
the session removal if the session is clean, each at most once; any effect comes after all three
goroutines have exited; when everything is over the effects are complete. -/
theorem C16_stop_once (c : Cfg) (hw : WF c) (s0 : St) (h0 : Init c s0) (sched : List Label) :
    let s := reach c s0 sched
    (∀ t1 t2 k1 k2, kOf s t1 = some k1 → kOf s t2 = some k2 →
        1 ≤ stage k1 → stage k1 < 100 → 1 ≤ stage k2 → stage k2 < 100 → t1 = t2) ∧
    (∃ n, s.sh.effects = effAt s.sh n) ∧
    (s.sh.effects ≠ [] → s.sh.wg = 0 ∧ s.recv = .exited ∧ s.send = .exited ∧ PPc.past s.proc = true) ∧
    (Final s = true → s.sh.closed = true ∧ TornDown s = true ∧ s.sh.effects = expectedEffects s.sh) :=
  stop_once (C16_invariant c hw s0 h0 sched).1

/-- **The teardown is bounded.**  Every step of every thread lowers `rank`, no environment
event raises it; hence no schedule takes more than `rank s` thread steps, and fair round-robin
(one turn for every thread per round) reaches within `rank s` rounds a state in which no thread
can step — a reachable state, by a schedule of thread steps. -/
theorem C16_teardown_bounded (c : Cfg) (hw : WF c) (s0 : St) (h0 : Init c s0) (sched : List Label) :
    let s := reach c s0 sched
    (∀ t k s', tstep c s t k = some s' → rank c s' < rank c s) ∧
    (∀ e s', estep c s e = some s' → rank c s' ≤ rank c s) ∧
    (∀ sched', takenTh c s sched' ≤ rank c s) ∧
    quiescent c (drain c (rank c s) s) = true ∧
    (∃ sched', drain c (rank c s) s = run c s sched' ∧ ∀ l, l ∈ sched' → ∃ t k, l = .th t k) := by
  intro s
  have hi : Inv c s := (C16_invariant c hw s0 h0 sched).1
  exact ⟨fun t k s' h => (tstep_sound hw h).rank_lt hw hi.a.swin, fun e s' h => (estep_sound hw h).rank_le,
    fun sched' => Nat.le_trans (Nat.le_add_right ..) (takenTh_le_rank c hw s sched' hi),
    drain_quiescent c hw _ s hi (Nat.le_refl _), drain_is_run c _ s⟩

/-- **No deadlock among the connection's threads** (the full statement, with the property's
exemption).  In a reachable state in which the connection has ended and the teardown is not
complete, some thread can step — unless the processor is inside a delivery into ANOTHER connection
that is still open, has stopped reading and is full (`HeldByThird`: the property's exemption — the
connection's own non-reading client is no excuse, `C16_self_held_not_ended`) — or the end is the peer's
HALF-close and the connection is self-held (`sock = peerShut ∧ HeldBySelf`: the peer has shut down its sending
direction and does not read, the socket is still writable, the processor is parked in the own outgoing ring;
when nothing can run the receiver is then waiting for room in the completely full incoming ring and never reads
the end-of-stream: the half-closed form of the open finding F8, `C16_self_held_not_ended`,
`C16_halfclose_unnoticed`).  (The `ReadFrom` before 8f682d1 needs a second exception: `C16_old_readfrom_wedges`.) -/
theorem C16_no_deadlock (c : Cfg) (hw : WF c) (s0 : St) (h0 : Init c s0) (sched : List Label) :
    let s := reach c s0 sched
    Ended s = true → Final s = false → HeldByThird s = false →
    (s.sh.sock == .peerShut && HeldBySelf s) = false →
    ∃ t, en c s t = true :=
  no_deadlock hw (C16_invariant c hw s0 h0 sched).1

/-- the exemption is exactly `HeldByThird` -/
theorem C16_exemption_is_third_party (s : St) : HeldUp s = HeldByThird s := rfl

/-- **a self-held connection has not ended** (repair b77088f) — in any way the broker has noticed.  In a
reachable state in which no thread can step and the processor is inside a write to the connection's own
outgoing ring while its own client is connected (the socket is writable: open or half-closed) and not
reading: no read deadline has fired, the receiver is inside its loop, nobody has called `stop()`, and the
socket is open — the connection has not ended — or the peer has HALF-closed it (`peerShut`) and the receiver
is waiting for room in the completely full incoming ring: it issues no read and never sees the end-of-stream
(the half-closed form of finding F8; `C16_halfclose_unnoticed`).  (With the receiver before b77088f such a state follows a keep-alive expiry or a
receiver error: `C16_old_receiver_wedges`.) -/
theorem C16_self_held_not_ended (c : Cfg) (hw : WF c) (s0 : St) (h0 : Init c s0) (sched : List Label) :
    let s := reach c s0 sched
    quiescent c s = true → HeldBySelf s = true →
    (Ended s = false ∨ (s.sh.sock = .peerShut ∧ s.recv = .space ∧ s.sh.inR.done = false ∧ c.cap ≤ s.sh.inR.buf)) ∧
    s.sh.timeout = false ∧ RPc.pastLoop s.recv = false ∧ s.sh.closed = false := fun hq hs =>
  self_held_not_ended (C16_invariant c hw s0 h0 sched).1 (blocked_of_quiescent hw hq) hs

/-- **the receiver is never parked while the incoming ring has room** (repair 8f682d1).  In every
reachable state: a receiver that is inside its loop and cannot step is

* inside a socket read on an open socket, no deadline fired, nothing on the wire — it waits for the
  peer, legitimately: the read deadline is armed (`kaExpire` is enabled) and the peer's close is
  noticed (`peerClose` is enabled, and makes the read fail) —, or
* waiting for space while the incoming ring is open and completely full (`cap ≤ inR.buf`; `= cap` when
  the initial contents fitted the ring — `Init` does not say so).

Before the repair the second case was "less than a read block free". -/
theorem C16_receiver_reads_while_room (c : Cfg) (hw : WF c) (s0 : St) (h0 : Init c s0) (sched : List Label) :
    let s := reach c s0 sched
    en c s .recv = false → RPc.pastLoop s.recv = false →
    (s.recv = .read ∧ s.sh.sock = .open ∧ s.sh.timeout = false ∧ s.sh.wire = 0 ∧
      (estep c s .kaExpire).isSome = true ∧ (estep c s .peerClose).isSome = true) ∨
    (s.recv = .space ∧ s.sh.inR.done = false ∧ c.cap ≤ s.sh.inR.buf ∧
      (s0.sh.inR.buf ≤ c.cap → s.sh.inR.buf = c.cap)) := by
  intro s hen hpl
  rcases recv_parked (C16_invariant c hw s0 h0 sched).1 (blocked_of_not_en hw hen) hpl with h | ⟨hr, hd, hb⟩
  · exact .inl h
  · exact .inr ⟨hr, hd, hb, fun hfit => Nat.le_antisymm (inFit_run c hw s0 sched (inv_init c s0 h0) hfit) hb⟩

/-- **a packet in pieces does not wedge the connection** (the F3 repair at model level, part 1).  In a
reachable state in which nothing can run and the processor waits for the rest of a packet that fits
the ring (`p.total ≤ cap`, fewer bytes buffered, ring open): the receiver is inside a socket read on
an open socket with nothing left on the wire — every byte the peer has sent so far is in the ring —
so the keep-alive deadline is armed and the peer's close is noticed (both environment events are
enabled), and either makes the read fail; `C16_read_failure_completes` does the rest. -/
theorem C16_chunked_packet_completes (c : Cfg) (hw : WF c) (s0 : St) (h0 : Init c s0) (sched : List Label) :
    let s := reach c s0 sched
    quiescent c s = true → s.proc = .msg →
    ∀ p tl, s.sh.stream = p :: tl → p.total ≤ c.cap → s.sh.inR.buf < p.total → s.sh.inR.done = false →
    s.recv = .read ∧ s.sh.sock = .open ∧ s.sh.timeout = false ∧ s.sh.wire = 0 ∧
    (estep c s .kaExpire).isSome = true ∧ (estep c s .peerClose).isSome = true := by
  intro s hq hpc p tl hst hcap hbuf hnd
  obtain ⟨hr, hso, hto, hwi⟩ := recv_reading (C16_invariant c hw s0 h0 sched).1.a (blocked_of_quiescent hw hq .recv) hnd hcap hbuf
  exact ⟨hr, hso, hto, hwi, read_pending c s hr hso⟩

/-- **a packet in pieces arrives** (part 2, liveness).  From a reachable state in which the processor
waits for the rest of the head packet `p`, `p` fits the ring, and the bytes still on the wire, those in
the ring and those the receiver has just read add up to `p` at least: fair round-robin ends — within
`rank` rounds — in a state in which the processor is NOT still waiting for that packet: it has got it
(it is past `peekMessage`, or has consumed the packet: the stream is shorter) or has left its loop
because the connection ended on the way (ring closed).  However small the pieces, whatever the ring
holds.  Before 8f682d1 this failed for `cap - rblock < p.total` (`C16_old_readfrom_wedges`). -/
theorem C16_chunked_packet_arrives (c : Cfg) (hw : WF c) (s0 : St) (h0 : Init c s0) (sched : List Label) :
    let s := reach c s0 sched
    s.proc = .msg → ∀ p tl, s.sh.stream = p :: tl → p.total ≤ c.cap →
    p.total ≤ s.sh.wire + s.sh.inR.buf + RPc.pend s.recv →
    let q := drain c (rank c s) s
    quiescent c q = true ∧ (q.sh.stream = s.sh.stream → q.proc ≠ .msg ∧ PPc.passed q.proc = true) :=
  packet_arrives hw (C16_invariant c hw s0 h0 sched).1

/-- a 14-byte packet of which the peer sends 9 bytes in pieces of at most 3, then closes; will flag set -/
def chunkInit : St := { sh := { stream := [⟨2, 14, .normal []⟩], wire := 9, willFlag := true } }

def chunkSched : List Label :=
  [.th .recv 0, .th .recv 3, .th .recv 0, .th .recv 0, .th .recv 3, .th .recv 0, .th .recv 0, .th .recv 3,
   .th .recv 0, .th .proc 0, .env .peerClose]

/-- **with the `ReadFrom` before 8f682d1 the model wedges** (F3: the statement of `C16_no_deadlock` was false
of that code).  Old `ReadFrom` (`blockWait := true`: a whole read block of free space before every
socket read): a reachable state — three socket reads of 3 bytes each, the processor has seen the
header, the peer closes; every step of the schedule is taken — in which the connection has ended,
nothing is held up, the teardown has not even begun, and no thread can step: the receiver waits
for 8 free bytes beside the 9 buffered ones, the processor for the other 5 bytes of the 14-byte
packet, nobody reads the socket, the close is never noticed (`ChunkWedge`; it needs a head packet
with `cap - rblock < total ≤ cap`, here 8 < 14 ≤ 16).  The repaired `ReadFrom` takes the same steps to
the same state, but there the receiver can step (one byte is free): it issues the read, sees the
close, and round-robin ends in the complete teardown with the will published. -/
theorem C16_old_readfrom_wedges :
    WF c0 ∧ Init c0 chunkInit ∧
    (let c : Cfg := { c0 with blockWait := true }
     let s := reach c chunkInit chunkSched
     taken c chunkInit chunkSched = chunkSched.length ∧
     s.recv = .space ∧ s.proc = .msg ∧ s.sh.inR.buf = 9 ∧ s.sh.wire = 0 ∧ s.sh.sock = .peerClosed ∧
     quiescent c s = true ∧ Ended s = true ∧ Final s = false ∧ HeldUp s = false ∧ s.sh.closed = false ∧
     ChunkWedge c s = true ∧ s.sh.effects = [] ∧ goroutinesLeft s = 3 ∧ drain c 40 s = s) ∧
    (let s := reach c0 chunkInit chunkSched
     let q := drain c0 40 s
     taken c0 chunkInit chunkSched = chunkSched.length ∧
     s.recv = .space ∧ s.proc = .msg ∧ s.sh.inR.buf = 9 ∧ s.sh.wire = 0 ∧ s.sh.sock = .peerClosed ∧
     en c0 s .recv = true ∧
     quiescent c0 q = true ∧ Final q = true ∧ TornDown q = true ∧ q.sh.effects = [.unsub, .will] ∧
     goroutinesLeft q = 0) := by
  exact ⟨c0_wf, init_fresh _ _ rfl rfl rfl rfl rfl rfl rfl rfl rfl, by decide +kernel, by decide +kernel⟩

/-- **the teardown completes** (the full property, with its exemption).  From any reachable state
in which the connection has ended, fair round-robin reaches within `rank` rounds a state in which
nothing can run, and that state is the complete teardown (all goroutines exited, `stop()` returned,
its effects complete) — or the processor is inside a delivery into ANOTHER connection that is still
open, has stopped reading and is full — or the end was the peer's HALF-close (`peerShut`), the peer does not
read, the processor is parked in the connection's own outgoing ring and the receiver waits for room in the
completely full incoming ring: no read is issued, the end-of-stream is never seen (the half-closed form of
finding F8; `C16_halfclose_unnoticed`; whenever the receiver's read does fail the teardown completes:
`C16_read_failure_completes`, `C16_halfclose_torn_down`).  Nothing else: a connection whose own client has
stopped reading is otherwise no exception (b77088f), a packet arriving in pieces is none (8f682d1). -/
theorem C16_teardown_completes (c : Cfg) (hw : WF c) (s0 : St) (h0 : Init c s0) (sched : List Label) :
    let s := reach c s0 sched
    Ended s = true →
    let q := drain c (rank c s) s
    quiescent c q = true ∧
    ((Final q = true ∧ TornDown q = true ∧ q.sh.effects = expectedEffects q.sh ∧ goroutinesLeft q = 0) ∨
     HeldByThird q = true ∨
     (HeldBySelf q = true ∧ q.sh.sock = .peerShut ∧ q.recv = .space ∧ c.cap ≤ q.sh.inR.buf)) :=
  teardown_completes hw (C16_invariant c hw s0 h0 sched).1

/-- **a failed read always leads to the teardown.**  From any reachable state in which the
receiver's read has failed — the keep-alive deadline has fired on it, or the receiver is already
past its loop (peer closed or reset, ring closed under it) — fair round-robin reaches within `rank`
rounds the complete teardown, for EVERY buffer condition: idle, own outgoing ring full with a third
party's or with the connection's OWN processor parked in it behind a client that does not read,
incoming ring full, a packet half arrived.  The only state in which it can stop short is the
processor inside a delivery into another connection that is open, not reading and full.
(`C16_teardown_completes` with one of the ways a connection ends.) -/
theorem C16_read_failure_completes (c : Cfg) (hw : WF c) (s0 : St) (h0 : Init c s0) (sched : List Label) :
    let s := reach c s0 sched
    (s.sh.timeout = true ∨ RPc.pastLoop s.recv = true) →
    let q := drain c (rank c s) s
    quiescent c q = true ∧
    ((Final q = true ∧ TornDown q = true ∧ q.sh.effects = expectedEffects q.sh ∧ goroutinesLeft q = 0) ∨
     HeldByThird q = true) := by
  intro s hf
  have hi : Inv c s := (C16_invariant c hw s0 h0 sched).1
  refine read_failure_completes hw hi (by rcases hf with h | h <;> simp [Ended, h]) ?_
  rcases hf with h | h
  · exact (hi.r.tmo h).imp (fun hr => ⟨hr, .inr h⟩) id
  · exact .inr h

/-- **the exemption is needed**: while the connection the processor delivers to stays open, not
reading and full, no schedule of this connection's own threads gets the processor out of the
delivery, so none completes the teardown (`wgStopped.Wait` waits for the processor). -/
theorem C16_exemption_needed (c : Cfg) (hw : WF c) (s : St) (sched : List Label)
    (hth : ∀ l, l ∈ sched → ∃ t k, l = .th t k) (hh : HeldByThird s = true) :
    HeldByThird (run c s sched) = true ∧ Final (run c s sched) = false :=
  held_persist_run c hw s sched hth hh

/-- **Once `stop()` is under way it completes.**  In a reachable state in which a `stop()` call
has passed its CAS and the connection the processor may be delivering to is not blocked, fair
round-robin reaches within `rank` rounds the complete teardown: every goroutine exited, every
`stop()` call returned, effects complete, exactly once.  No exemption but the third party's:
`stop()` closes the socket and both rings itself. -/
theorem C16_stop_completes (c : Cfg) (hw : WF c) (s0 : St) (h0 : Init c s0) (sched : List Label) :
    let s := reach c s0 sched
    s.sh.closed = true → s.sh.extBlocked = false →
    let q := drain c (rank c s) s
    Final q = true ∧ TornDown q = true ∧ q.sh.effects = expectedEffects q.sh ∧ goroutinesLeft q = 0 :=
  stop_completes hw (C16_invariant c hw s0 h0 sched).1

/-- what `Server.Close` does to one connection: its first loop has closed every outgoing ring
(this connection's: `preClose`; the others': no delivery of this connection stays blocked), then
`stop()` is called and executes its CAS -/
def serverCloseSched (i : Nat) : List Label :=
  [.env .preClose, .env (.extBlock false), .env (.serverClose i), .th (.k i) 0]

/-- **`Server.Close` returns.**  For a connection in any reachable state whose `i`-th stopper has not
been used: after the first loop of `Server.Close` and the call of `stop()`, fair round-robin reaches
within `rank` rounds the complete teardown, and that `stop()` call has returned.  `Server.Close`
stops its connections one after the other; each of these terminates, so the loop does.  (What makes
`extBlocked = false` true for every connection is that the first loop closes ALL outgoing rings
before the first `stop()` — regenerated fact `lifeServerClose = [1, 2]`; without it:
`C16_sequential_close_hangs`.) -/
theorem C16_server_close (c : Cfg) (hw : WF c) (s0 : St) (h0 : Init c s0) (sched : List Label) (i : Nat) :
    let s := reach c s0 sched
    s.ks[i]? = some .idle →
    let s1 := run c s (serverCloseSched i)
    let q := drain c (rank c s1) s1
    Final q = true ∧ TornDown q = true ∧ q.ks[i]? = some .finished ∧ goroutinesLeft q = 0 := fun hidle =>
  have h := server_close hw (C16_invariant c hw s0 h0 sched).1 i hidle
  ⟨h.1.final, h.1.torn, h.2, h.1.noneLeft⟩

/-- **No foreign panic.**  In every reachable state the ring pointers are not cleared (`stop()`
has no such statement: e79396e) and no external writer — a goroutine of ANOTHER
connection — has dereferenced nil. -/
theorem C16_no_foreign_panic (c : Cfg) (hw : WF c) (s0 : St) (h0 : Init c s0) (sched : List Label) :
    let s := reach c s0 sched
    s.sh.ringsNil = false ∧ ∀ w, w ∈ s.ws → w.pc ≠ .panicked :=
  ⟨(C16_invariant c hw s0 h0 sched).1.k.nil, (C16_invariant c hw s0 h0 sched).2⟩

/-- **A late delivery fails fast.**  (At ring level — `C16_ring_contract_is_C15`, `producer` (2): once `done` is set, every
`WriteWait`/`WriteCommit`/`Write` that has not yet passed its last `isDone` test returns end-of-stream, whether it starts later,
is parked, or is in progress; the exception is a call between that test and its cursor store, `C15_commit_window`.)
Once the outgoing ring is closed (by `stop()`, by the
sender's deferred Close, by `Server.Close`), a writer past the lock is enabled and its step returns
end-of-stream without committing anything and releases `wmu`; a writer at the nil test is enabled; a
writer at the lock is enabled unless `wmu` is held — and then its holder is enabled.  Nobody blocks
in a torn-down connection. -/
theorem C16_late_delivery_fails_fast (c : Cfg) (hw : WF c) (s0 : St) (h0 : Init c s0) (sched : List Label) :
    let s := reach c s0 sched
    s.sh.outR.done = true → ∀ i w, s.ws[i]? = some w →
      (w.pc = .check → en c s (.w i) = true) ∧
      ((w.pc = .wait ∨ w.pc = .commit) →
        ∃ sh', wstep c s.sh (.w i) w = some (sh', { w with pc := .finished }) ∧ sh'.outR = s.sh.outR ∧ sh'.wmu = none) ∧
      (w.pc = .lock → en c s (.w i) = true ∨ ∃ t, s.sh.wmu = some t ∧ en c s t = true) := fun hd i w hwi =>
  late_delivery c hw _ (C16_invariant c hw s0 h0 sched).1 hd i w hwi

/-! ## The ring contract: derived from Core D (`Properties/C15.lean`), cited here

The rings of the model are `RingA` = (bytes buffered, `done`) with one atomic step per ring call, a waiting call being a
step that is not enabled.  The three theorems below are what justifies that: they are ABOUT THE RING PROGRAM
(`Model/Ring.lean`, the program-counter-level model of buffer.go that C14/C15 verify and tie to the code) and are proved by
citing the call-level theorems of `Properties/C15.lean` — `#print axioms` and the import graph show the dependency. -/

section RingContract
open Mqtt.Proofs.LifecycleRing

/-- **The life-cycle model's ring contract is C15's.**  For every ring size `2^k`, stream, well-typed thread programs (ONE
producer — `C16_out_ring_one_producer` —, one consumer, any number of closers), and schedule: in the reachable state `s`
of the ring program, with `absRing s = (pseq - cseq, done)` and `ringCfg` = the life-cycle configuration of that capacity,

* `step`      every step of the ring program is `RingA.commitP` (+n, by the producer only, `buf + n ≤ cap` before it),
              `RingA.commitC` (-n, by the consumer only, `n ≤ buf` before it), `RingA.close`, or invisible — (b) EFFECT;
* `producer`  a complete `WriteWait(l)` / `WriteCommit(l)` / `Write(l)` under any interleaving (`pstep .ownWait/.ownCommit`,
              `wstep .wait/.commit`): its outcome is the answer of `RingA.waitSpace` / `RingA.commitP` at its linearisation
              point — `full` iff `cap < l`; end-of-stream only with `done` set; `ok` only if ONE own step (the last `isDone`
              test) IS `RingA.waitSpace … l = ok`: ring open and `buf + l ≤ cap` in the same state; for the committing calls a
              later own step adds exactly `l`, with `buf + l ≤ cap` before it — (a) ENABLEDNESS, (b); once `done` is set a call not
              yet past that test does not succeed — (d); and when nothing can run the call is unfinished iff the producer is parked
              in it and `RingA.waitSpace … l = none` — (c) BLOCKING = NOT ENABLED;
* `consumer`  the same for `ReadWait(n)` / `ReadPeek(n)` (`pstep .size/.msg`, `sstep .peek`; no effect; `ok` with the bytes
              buffered from then on — also on a closed ring —, end-of-stream only if ONE own step IS `RingA.waitData … = eof`:
              `done` set and too few bytes in the same state) and `ReadCommit(n)` (`pstep .commit`, `sstep .commit`: IS `RingA.commitC`, never waits);
* `close`     `Close()` (`rstep/sstep .close`, `execStop .inClose/.outClose`, `estep .preClose`) returns `ok`, its first
              statement IS `RingA.close`, it never waits, and once `done` is set no call stays unfinished when nothing can
              run: every parked call has returned — (d) CLOSE;
* `readfrom`  one iteration of `ReadFrom` is the receiver's `.space` (one byte free when `waitForWriteSpace(1)` has
              returned), `.read` (at most `cap - buf` bytes), `.commit n` (`buf + n ≤ cap`: never waits; its cursor store is
              `RingA.commitP`), its exit is `.close` (returns only through its deferred `Close`, ring closed), and it is
              parked only while `RingA.waitSpace … 1 = none` (ring open and completely full);
* `quiescent` thread by thread, a state in which nothing can run.

`done` VERSUS THE CURSORS (finding F9, repaired in buffer.go; NOTES-f9.md).  `RingA.waitSpace/commitP/waitData` test `done` and the
cursors in ONE step; the ring tested them at two statements of a wait loop, so that a producer woken by `Close` could still
commit and a consumer could answer end-of-stream with the bytes there (`C15_old_ring_late_commit`, `C15_old_ring_eof_with_data`:
the ring before the repair).  With the repaired ring the contract is EXACT where the model needs it: a consumer's
end-of-stream IS `RingA.waitData … = eof` and a producer's successful `waitForWriteSpace` IS `RingA.waitSpace … = ok` on
`absRing` of ONE state of the call (`consumer` (A), `producer` (1)); and `Close` makes every producer call that has not yet
passed its last `isDone` test — not started, parked, woken, anywhere in `waitForWriteSpace` — fail (`producer` (2)): that is the
ring-level content of `C16_late_delivery_fails_fast` for calls already in progress.  What is left, and not in the model: a
committing call stores the cursor a few statements after that last test (for `Write` the byte copy lies in between); `Close` in
that window lets the commit land in a closed ring (`C15_commit_window`).  Nobody reads those bytes from an outgoing ring (the
sender leaves at its next `isDone`); on an incoming ring the closers are the producer itself — after its last commit — and
`stop()`, i.e. the teardown the commit then races.  No conclusion of the teardown theorems mentions ring contents. -/
theorem C16_ring_contract_is_C15 (cfg : Mqtt.Model.Ring.Cfg) (adv gate : Nat)
    (progP progC : List Mqtt.Iface.Ring.Call) (progsK : List (List Mqtt.Iface.Ring.Call))
    (hgate : gate ≤ adv) (hok : Mqtt.Proofs.Ring.ProgsOK progP progC progsK) (sched0 : List Mqtt.Iface.Ring.Tid) :
    RingContract cfg (Mqtt.Properties.C15.reach cfg adv gate progP progC progsK sched0) :=
  ring_contract cfg adv gate progP progC progsK hgate hok sched0

/-- **Each life-cycle ring step is enabled exactly when its `RingA` function answers**, for every well-formed configuration;
and the `RingA` functions of a well-formed configuration of capacity `2^k` ARE those of `ringCfg` (they look at `cap` and
the OLD-ring switch only) — so `C16_ring_contract_is_C15` is about the functions the model's steps call. -/
theorem C16_ring_steps_use_ringA (c : Cfg) (hw : WF c) (sh : Sh) (k : Nat) :
    ((rstep c sh k .space = none ↔ sh.inR.waitSpace c 1 = none) ∧
     (∀ n, rstep c sh k (.commit n) = none ↔ sh.inR.commitP c n = none) ∧
     (rstep c sh k .close ≠ none) ∧
     (sstep c sh .peek = none ↔ sh.outR.waitData c 1 = none) ∧
     (∀ m, sstep c sh (.commit m) ≠ none) ∧ (sstep c sh .close ≠ none) ∧
     (pstep c sh .size = none ↔ sh.inR.waitData c (hdrNeed sh.stream) = none) ∧
     (∀ p tl, sh.stream = p :: tl → (pstep c sh .msg = none ↔ sh.inR.waitData c p.total = none)) ∧
     (∀ l rest, pstep c sh (.ownWait l rest) = none ↔ sh.outR.waitSpace c l = none) ∧
     (∀ l rest, pstep c sh (.ownCommit l rest) = none ↔ sh.outR.commitP c l = none) ∧
     (pstep c sh .commit ≠ none) ∧
     (∀ me l, sh.ringsNil = false → (wstep c sh me ⟨.wait, l⟩ = none ↔ sh.outR.waitSpace c l = none)) ∧
     (∀ me l, sh.ringsNil = false → (wstep c sh me ⟨.commit, l⟩ = none ↔ sh.outR.commitP c l = none)) ∧
     (∀ me, execStop c sh me .inClose ≠ none ∧ execStop c sh me .outClose ≠ none)) ∧
    (∀ (rcfg : Mqtt.Model.Ring.Cfg), c.cap = rcfg.size → ∀ (r : RingA) (n : Nat),
      r.waitSpace c n = r.waitSpace (Mqtt.Proofs.Ring.ringCfg rcfg) n ∧ r.commitP c n = r.commitP (Mqtt.Proofs.Ring.ringCfg rcfg) n ∧
      r.waitData c n = r.waitData (Mqtt.Proofs.Ring.ringCfg rcfg) n ∧ r.commitC c n = r.commitC (Mqtt.Proofs.Ring.ringCfg rcfg) n ∧
      r.close c = r.close (Mqtt.Proofs.Ring.ringCfg rcfg)) :=
  ⟨ring_steps_enabled c hw sh k, fun _ hcap r n => ringA_cfg_irrel c _ hcap hw.d2 r n⟩

/-- **The outgoing ring sees one producer at a time** (the hypothesis under which the ring program's single producer thread
stands for all goroutines that deliver to a connection).  In every reachable state of the life-cycle model at most one
thread is inside a producer call of the outgoing ring: if the processor is (`.ownWait`, `.ownCommit`) no external writer is,
and two external writers that are (`.wait`, `.commit`) are the same one — `wmu`.  Their ring calls therefore form one
sequential program.  For the code itself (wrap branch and scratch buffer included) the same mutual exclusion is
`C17_wrap_critical_section` / `C17_wrap_one_producer` (`Properties/C17.lean`; not imported here: C16 does not depend on
C17's other obligations). -/
theorem C16_out_ring_one_producer (c : Cfg) (hw : WF c) (s0 : St) (h0 : Init c s0) (sched : List Label) :
    let s := reach c s0 sched
    (PPc.holdsWmu s.proc = true → ∀ (i : Nat) (w : WTh), s.ws[i]? = some w → WPc.holdsWmu w.pc = false) ∧
    (∀ (i j : Nat) (wi wj : WTh), s.ws[i]? = some wi → s.ws[j]? = some wj →
      WPc.holdsWmu wi.pc = true → WPc.holdsWmu wj.pc = true → i = j) :=
  out_ring_one_producer _ (C16_invariant c hw s0 h0 sched).1.w

end RingContract

/-! ## Closed counterexamples: what the repaired defects did -/

/-- own outgoing ring full: a third party's processor is parked in it under `wmu`, the sender is
blocked in the socket write (the peer has stopped reading); will and clean session set -/
def outFull : St :=
  { sh := { outR := { buf := 16 }, peerReads := false, wmu := some (.w 0), willFlag := true, clean := true },
    recv := .read, send := .write 8, proc := .size, ws := [⟨.wait, 4⟩] }

/-- an initial state from which the condition of `outFull` is reached (up to two writers that have
finished): the subject stops reading, a writer commits 12 bytes, the sender takes 8 of them into a
socket write that blocks, a second writer fills the ring, the third parks under `wmu` -/
def outFullInit : St :=
  { sh := { willFlag := true, clean := true }, ws := [⟨.check, 4⟩, ⟨.check, 12⟩, ⟨.check, 4⟩] }

/-- **with the ring before 584775d the model wedges** (D2 = F2): the peer closes while a producer
is parked in the full outgoing ring; the producer woken by the sender's deferred `Close` returns
end-of-stream with the producer mutex locked (and the processor, woken in `ReadWait`, with the
consumer mutex), so the `Close` calls of `stop()` never return: nothing can run, the teardown is
not complete, nothing is held up. -/
theorem C16_old_ring_wedges :
    let c : Cfg := { c0 with d2 := true }
    let s := drain c 40 ((estep c outFull .peerClose).getD outFull)
    quiescent c s = true ∧ Final s = false ∧ Ended s = true ∧ HeldUp s = false ∧
    s.sh.effects = [] ∧ (s.sh.outR.pHeld = true ∨ s.sh.inR.cHeld = true) := by decide +kernel

/-- **with the `stop()` before e79396e a foreign goroutine panics** (F1): `stop()` ends with
clearing `in`/`out`; a writer that passed the nil test before dereferences nil afterwards. -/
theorem C16_old_stop_panics :
    let c : Cfg := { c0 with stopProg := stopProgram ++ [.clearRings] }
    let s0 : St := { sh := { sock := .peerClosed }, recv := .read, ws := [⟨.check, 4⟩] }
    let s := run c s0 ([.th (.w 0) 0, .th (.w 0) 0, .th .recv 0, .th .recv 0, .th .recv 0, .th .recv 0, .th .proc 0, .th .proc 0,
                        .th .proc 0, .th .proc 0, .th .proc 0, .th .proc 0, .th .proc 0, .th .send 0, .th .send 0,
                        .th .send 0] ++ List.replicate 6 (.th .proc 0) ++ [.th (.w 0) 0])
    s.sh.ringsNil = true ∧ s.ws = [⟨.panicked, 4⟩] := by decide +kernel

/-- **`wgStopped.Wait` before the `Close` calls wedges** (mutation of `stop()`): nobody closes the
rings, the sender waits for data, the receiver for the socket, `Wait` for both. -/
theorem C16_wait_before_close_wedges :
    let c : Cfg := { c0 with stopProg := [.cas, .closeDone, .wgWait, .connClose, .inClose, .outClose, .unsub, .will, .sessDel] }
    let s0 : St := { ks := [.idle] }
    let s := drain c 40 ((estep c s0 (.serverClose 0)).getD s0)
    quiescent c s = true ∧ Final s = false ∧ s.ks = [.run 2] ∧ s.sh.effects = [] := by decide +kernel

/-- **the sequential `Server.Close` before 08d14fb hangs**: `stop()` is called on a connection whose
processor is parked in the outgoing ring of a connection further down the list (not yet stopped,
its client not reading): `stop()` waits at `wgStopped.Wait` for the processor, for ever. -/
theorem C16_sequential_close_hangs :
    let s0 : St := { sh := { extBlocked := true, inR := { buf := 4 }, stream := [⟨2, 4, .normal [.foreign]⟩] },
                     proc := .acts [.foreign], ks := [.idle] }
    let s := drain c0 40 ((estep c0 s0 (.serverClose 0)).getD s0)
    quiescent c0 s = true ∧ Final s = false ∧ s.ks = [.run 5] ∧ HeldByThird s = true := by decide +kernel

/-- the connection's own client has stopped reading and the connection answers its own traffic
(acks, PINGRESP, its own subscription): two packets of 4 bytes, each answered with 12 bytes on the
own outgoing ring of 16 -/
def selfInit : St :=
  { sh := { stream := [⟨2, 4, .normal [.own 12]⟩, ⟨2, 4, .normal [.own 12]⟩], wire := 8, willFlag := true, clean := true } }

/-- the client stops reading; the receiver takes the 8 bytes and issues its next read; the processor
answers the first packet and parks in `WriteWait` for the answer to the second (own outgoing ring:
12 of 16 bytes used); the sender's write of the first 8 bytes blocks; then the client stays silent
until the read deadline fires -/
def selfSched : List Label :=
  [.env (.peerReads false), .th .recv 0, .th .recv 8, .th .recv 0, .th .recv 0] ++
  List.replicate 11 (.th .proc 0) ++ [.th .send 0, .env .kaExpire]

/-- **with the receiver before b77088f the model wedges** (F7): keep-alive expiry on a connection
whose processor is parked in its own outgoing ring behind its own non-reading client.  The
receiver sees the time-out, closes the incoming ring and returns; nobody closes the socket, so the
sender stays in its write, the outgoing ring stays open, the processor stays parked and never
reaches its deferred `stop()`: a reachable state in which the connection has ended, nothing can
run, nothing is torn down (no unsubscribe, no will), and the exemption does not apply.  The
repaired receiver tears the same state down completely, will included. -/
theorem C16_old_receiver_wedges :
    Init c0 selfInit ∧
    (let c : Cfg := { c0 with recvCloses := false }
     let s := reach c selfInit selfSched
     let q := drain c 40 s
     taken c selfInit selfSched = selfSched.length ∧
     s.proc = .ownWait 12 [] ∧ s.recv = .read ∧ s.send = .write 8 ∧ s.sh.timeout = true ∧
     quiescent c q = true ∧ Ended q = true ∧ Final q = false ∧ HeldUp q = false ∧
     HeldBySelf q = true ∧ q.recv = .exited ∧ q.sh.sock = .open ∧ q.sh.closed = false ∧ q.sh.effects = [] ∧
     goroutinesLeft q = 2) ∧
    (let s := reach c0 selfInit selfSched
     let q := drain c0 40 s
     s.proc = .ownWait 12 [] ∧ s.recv = .read ∧ s.sh.timeout = true ∧
     Final q = true ∧ TornDown q = true ∧ q.sh.effects = [.unsub, .will, .sessDel] ∧ goroutinesLeft q = 0) := by
  exact ⟨init_fresh _ _ rfl rfl rfl rfl rfl rfl rfl rfl rfl, by decide +kernel, by decide +kernel⟩

/-! ## Non-vacuity -/

/-- out-full + abrupt close, step by step: the peer closes; the sender's write fails, its deferred
`Close` releases the parked writer, which returns end-of-stream; receiver and processor see the
closed socket / ring and exit (the receiver closing the socket on its way out); the processor runs
`stop()` through all nine statements. -/
def outFullSched : List Label :=
  [.env .peerClose,
   .th .send 0, .th .send 0, .th (.w 0) 0, .th .send 0,
   .th .recv 0, .th .recv 0, .th .recv 0, .th .recv 0,
   .th .proc 0, .th .proc 0] ++ List.replicate 10 (.th .proc 0)

example :
    let s := run c0 outFull outFullSched
    taken c0 outFull outFullSched = outFullSched.length ∧ Final s = true ∧ TornDown s = true ∧
    s.sh.effects = [.unsub, .will, .sessDel] ∧ s.sh.wg = 0 ∧ goroutinesLeft s = 0 ∧ s.sh.ringsNil = false := by decide +kernel

/-- the same by fair round-robin; before the close nothing can run and the connection has not ended -/
example : quiescent c0 outFull = true ∧ Ended outFull = false := by decide +kernel
example :
    let s := drain c0 40 ((estep c0 outFull .peerClose).getD outFull)
    Final s = true ∧ TornDown s = true ∧ s.ws = [⟨.finished, 4⟩] := by decide +kernel

/-- the condition of `outFull` is reachable (from `outFullInit`, which is initial) -/
example :
    Init c0 outFullInit ∧
    (let s := run c0 outFullInit
       ([.env (.peerReads false), .th .recv 0] ++ List.replicate 4 (.th (.w 1) 0) ++ [.th .send 0] ++
        List.replicate 4 (.th (.w 2) 0) ++ List.replicate 3 (.th (.w 0) 0))
     s.sh.outR.buf = 16 ∧ s.send = .write 8 ∧ s.recv = .read ∧ s.proc = .size ∧ s.sh.wmu = some (.w 0) ∧
     s.ws = [⟨.wait, 4⟩, ⟨.finished, 12⟩, ⟨.finished, 4⟩] ∧ quiescent c0 s = true) := by
  refine ⟨⟨rfl, rfl, rfl, rfl, rfl, rfl, rfl, rfl, rfl, ?_, ?_, rfl, rfl, rfl⟩, by decide +kernel⟩
  · intro k hk; cases hk
  · intro w hw; simp [outFullInit] at hw; rcases hw with rfl | rfl | rfl <;> rfl

/-- DISCONNECT: the will flag is cleared, the effects are unsubscribe and session removal only -/
example :
    let s0 : St := { sh := { stream := [⟨2, 2, .disconnect⟩], wire := 2, willFlag := true, clean := true } }
    let s := drain c0 40 s0
    Final s = true ∧ TornDown s = true ∧ s.sh.effects = [.unsub, .sessDel] := by decide +kernel

/-- held up by a third party, then released: the teardown completes, the will is published -/
example :
    let s0 : St := { sh := { extBlocked := true, sock := .peerClosed, inR := { buf := 4 },
                             stream := [⟨2, 4, .normal [.foreign]⟩], willFlag := true },
                     proc := .acts [.foreign] }
    let s1 := drain c0 40 s0
    let s2 := drain c0 40 ((estep c0 s1 (.extBlock false)).getD s1)
    quiescent c0 s1 = true ∧ HeldUp s1 = true ∧ Final s1 = false ∧
    Final s2 = true ∧ TornDown s2 = true ∧ s2.sh.effects = [.unsub, .will] := by decide +kernel

/-- keep-alive expiry is a read error -/
example :
    let s0 : St := { recv := .read, sh := { willFlag := true } }
    let s := drain c0 40 ((estep c0 s0 .kaExpire).getD s0)
    Final s = true ∧ s.sh.effects = [.unsub, .will] := by decide +kernel

/-- a packet in pieces that does arrive (`C16_chunked_packet_arrives`, `C16_chunked_packet_completes`): the
state of `C16_old_readfrom_wedges` with the other 5 bytes of the 14-byte packet still on the wire instead
of the peer's close — 9 bytes in the ring, the processor waiting for the packet; round-robin completes
the packet, the processor consumes it, and the connection is idle: nothing can run, nothing has ended,
the receiver is inside a socket read -/
example :
    let s0 : St := { sh := { stream := [⟨2, 14, .normal []⟩], wire := 14 } }
    let s := run c0 s0 chunkSched.dropLast
    s.proc = .msg ∧ s.sh.inR.buf = 9 ∧ s.sh.wire = 5 ∧ s.recv = .space ∧
    (let q := drain c0 (rank c0 s) s
     quiescent c0 q = true ∧ q.sh.stream = [] ∧ q.proc = .size ∧ q.recv = .read ∧ q.sh.inR.buf = 0 ∧
     Ended q = false) := by decide +kernel

/-- self-held and ended cannot both be true when nothing can run: the self-held state of
`C16_old_receiver_wedges` BEFORE the deadline fires is quiescent and has not ended -/
example :
    let s := run c0 selfInit (selfSched.dropLast)
    quiescent c0 s = true ∧ HeldBySelf s = true ∧ Ended s = false := by decide +kernel

/-! ## The half-closed socket (`Sock.peerShut`)

The peer shuts down its sending direction only (TCP FIN / `CloseWrite`) and neither reads nor closes.  The
broker's socket READ returns end-of-stream; its socket WRITES behave as on an open socket: they block while
the peer does not read.  What turns this into a closed socket — and so makes the sender's blocked write fail,
the sender close the outgoing ring and the processor parked in it come back — is the receiver's `conn.Close()`
on its read failure (b77088f, `Cfg.recvCloses`).  All theorems above quantify over every environment event,
`peerShut` included (`reach` is `run` over any list of labels); the theorems below spell the case out. -/

/-- **a half-close that the receiver reads is torn down completely.**  Instance of `C16_teardown_completes`
for a run containing `.env .peerShut`: in a reachable state in which the socket is half-closed (an `.env
.peerShut` of the run was taken and neither side has closed since) and the receiver is inside a socket read —
whatever else: own outgoing ring full, the peer not reading, the sender blocked in its write, the connection's
OWN processor parked in that ring — fair round-robin reaches within `rank` rounds the complete teardown; the
only state in which it can stop short is the property's exemption (`HeldByThird`).  The half-closed
alternative of `C16_teardown_completes` does not arise: the read returns end-of-stream, the receiver leaves its
loop and closes the socket. -/
theorem C16_halfclose_torn_down (c : Cfg) (hw : WF c) (s0 : St) (h0 : Init c s0) (sched : List Label) :
    let s := reach c s0 sched
    s.sh.sock = .peerShut → s.recv = .read →
    let q := drain c (rank c s) s
    quiescent c q = true ∧
    ((Final q = true ∧ TornDown q = true ∧ q.sh.effects = expectedEffects q.sh ∧ goroutinesLeft q = 0) ∨
     HeldByThird q = true) := fun hso hr =>
  read_failure_completes hw (C16_invariant c hw s0 h0 sched).1 (by simp [Ended, hso])
    (.inl ⟨hr, .inl (by rw [hso]; nofun)⟩)

/-- the self-held connection of `C16_old_receiver_wedges` (processor parked in `WriteWait` on the own outgoing
ring, sender blocked in its write, the client not reading, the receiver inside a socket read), and then the
client HALF-closes instead of staying silent -/
def halfCloseSched : List Label := selfSched.dropLast ++ [.env .peerShut]

/-- non-vacuity of `C16_halfclose_torn_down` (the "selfout" situation): every step of the schedule is taken;
before the half-close nothing can run and the connection has not ended; after it the socket is half-closed, the
peer is not reading, the processor is parked in its own outgoing ring, the sender is blocked, the receiver is
inside a socket read — and round-robin (40 rounds, and `rank` rounds) tears the connection down completely: the
receiver reads end-of-stream and closes the socket, will included -/
example :
    Init c0 selfInit ∧
    (let s1 := reach c0 selfInit selfSched.dropLast
     let s := reach c0 selfInit halfCloseSched
     let q := drain c0 40 s
     taken c0 selfInit halfCloseSched = halfCloseSched.length ∧
     quiescent c0 s1 = true ∧ Ended s1 = false ∧
     s.sh.sock = .peerShut ∧ s.sh.peerReads = false ∧ s.recv = .read ∧ s.proc = .ownWait 12 [] ∧ s.send = .write 8 ∧
     HeldBySelf s = true ∧ Ended s = true ∧
     quiescent c0 q = true ∧ Final q = true ∧ TornDown q = true ∧ q.sh.sock = .closed ∧
     q.sh.effects = [.unsub, .will, .sessDel] ∧ goroutinesLeft q = 0 ∧ drain c0 (rank c0 s) s = q) := by
  exact ⟨init_fresh _ _ rfl rfl rfl rfl rfl rfl rfl rfl rfl, by decide +kernel⟩

/-- **the half-close is torn down only because the receiver closes the socket** (closed counterexample, the
half-closed form of F7).  Same configuration, initial state and schedule as the example above, but with the
receiver before b77088f (`recvCloses := false`: it returns without `conn.Close()`): the receiver reads
end-of-stream, closes the incoming ring and returns; the socket stays half-closed — still writable —, so the
sender stays blocked in its write towards a peer that does not read, the outgoing ring stays open, the processor
stays parked in it and never reaches its deferred `stop()`: a reachable state in which the connection has ended,
nothing can run and nothing is torn down (no unsubscribe, no will; two goroutines left), and the property's
exemption does not apply.  The receiver as it is tears the same state down completely. -/
theorem C16_halfclose_needs_receiver_close :
    Init c0 selfInit ∧
    (let c : Cfg := { c0 with recvCloses := false }
     let s := reach c selfInit halfCloseSched
     let q := drain c 40 s
     taken c selfInit halfCloseSched = halfCloseSched.length ∧
     s.proc = .ownWait 12 [] ∧ s.recv = .read ∧ s.send = .write 8 ∧ s.sh.sock = .peerShut ∧ s.sh.peerReads = false ∧
     quiescent c q = true ∧ Ended q = true ∧ Final q = false ∧ TornDown q = false ∧ HeldUp q = false ∧
     HeldBySelf q = true ∧ q.recv = .exited ∧ q.send = .write 8 ∧ q.proc = .ownWait 12 [] ∧
     q.sh.sock = .peerShut ∧ q.sh.inR.done = true ∧ q.sh.outR.done = false ∧ q.sh.closed = false ∧
     q.sh.effects = [] ∧ goroutinesLeft q = 2 ∧ drain c 40 q = q) ∧
    (let s := reach c0 selfInit halfCloseSched
     let q := drain c0 40 s
     s.proc = .ownWait 12 [] ∧ s.recv = .read ∧ s.send = .write 8 ∧ s.sh.sock = .peerShut ∧
     Final q = true ∧ TornDown q = true ∧ q.sh.sock = .closed ∧
     q.sh.effects = [.unsub, .will, .sessDel] ∧ goroutinesLeft q = 0) := by
  exact ⟨init_fresh _ _ rfl rfl rfl rfl rfl rfl rfl rfl rfl, by decide +kernel, by decide +kernel⟩

/-- the client answers its own traffic (4-byte packets answered with 12 bytes), stops reading and keeps
sending: 5 packets, 20 bytes on the wire — one packet that the processor consumes plus a whole incoming ring -/
def fullInit : St :=
  { sh := { stream := List.replicate 5 ⟨2, 4, .normal [.own 12]⟩, wire := 20, willFlag := true } }

/-- the receiver takes 8 bytes, the processor answers the first packet and parks in `WriteWait` for the answer
to the second (own outgoing ring: 12 of 16), the receiver fills the incoming ring (16 of 16) and waits for room,
the sender's write blocks; then the client half-closes -/
def fullSched : List Label :=
  [.env (.peerReads false), .th .recv 0, .th .recv 8, .th .recv 0] ++ List.replicate 11 (.th .proc 0) ++
  [.th .recv 0, .th .recv 8, .th .recv 0, .th .recv 0, .th .recv 8, .th .recv 0, .th .send 0, .env .peerShut]

/-- **a half-close that the receiver does not read is not noticed** (the half-closed form of the open finding
F8; why `C16_no_deadlock` and `C16_teardown_completes` name the state).  A reachable state of the code as it is —
every step of the schedule is taken — in which the peer has half-closed and does not read, the receiver waits
because the incoming ring is completely full (no socket read is issued, the end-of-stream is never seen, the
socket is never closed), the sender is blocked in a write that the half-closed socket still accepts, the
processor is parked in the connection's own outgoing ring: the connection has ended, nothing can run, nothing is
torn down.  When the peer then goes away completely (`peerClose`: the blocked write fails) round-robin completes
the teardown, will included. -/
theorem C16_halfclose_unnoticed :
    WF c0 ∧ Init c0 fullInit ∧
    (let s := reach c0 fullInit fullSched
     taken c0 fullInit fullSched = fullSched.length ∧
     s.sh.sock = .peerShut ∧ s.sh.peerReads = false ∧ s.recv = .space ∧ s.sh.inR.buf = c0.cap ∧
     s.proc = .ownWait 12 [] ∧ s.send = .write 8 ∧
     quiescent c0 s = true ∧ Ended s = true ∧ Final s = false ∧ HeldUp s = false ∧ HeldBySelf s = true ∧
     s.sh.closed = false ∧ s.sh.effects = [] ∧ goroutinesLeft s = 3 ∧ drain c0 40 s = s ∧
     (let q := drain c0 40 ((estep c0 s .peerClose).getD s)
      Final q = true ∧ TornDown q = true ∧ q.sh.effects = [.unsub, .will] ∧ goroutinesLeft q = 0)) := by
  exact ⟨c0_wf, init_fresh _ _ rfl rfl rfl rfl rfl rfl rfl rfl rfl, by decide +kernel⟩

end Mqtt.Properties.C16
