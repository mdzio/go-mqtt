/-
C16 — tie to the Go source: `Server.disconnectClient`, `Server.Close` and `Server.mu`.

`Server.Close` is what ends a teardown that is held by a third connection whose client does not read
(`C16_server_close`: it closes every outgoing ring before the first `stop()`).  A second caller waits for a
teardown: `handleConnection` in `disconnectClient` (take-over, MQTT-3.1.4-2), for as long as that third client likes.  `Server.Close` starts by
taking `Server.mu` for its copy of `svcs` - so `disconnectClient` must not hold `Server.mu` while it waits.

This is the only module of C16 that is built from the sections `takeover-disconnect` and `takeover-close`
of the regenerated facts (`extract/facts_takeover.go`).  NOTHING may import this module (BUILDING.md,
"Source-tie modules").
-/
import Mqtt.Properties.C16
import Mqtt.Proofs.Takeover
import Mqtt.Generated.Facts

namespace Mqtt.Properties.C16
open Mqtt.Model.Takeover

/-- **`Server.Close` can always take `Server.mu`.**  The source's `disconnectClient` is, statement by
statement, `disconnectProgram`: lock `svr.mu`, scan `svcs` (drop the finished entries, collect the client's),
UNLOCK - an explicit statement before any `stop()` -, then for every collected connection `stop()` and
`<-stopped`; the source's `Server.Close` is `closeProgram` (`mu` around the copy of `svcs` only, then
`out.Close()` on every connection, then `stop()` on every connection).  In that program no statement that
may wait for another goroutine runs under `Server.mu`, and at every position at which `disconnectClient`
may be waiting, `Server.Close` gets `Server.mu` and reaches its loops - whatever holds the teardown that
`disconnectClient` waits for.  With `defer svr.mu.Unlock()` instead (`deferred_unlock_blocks_close`) it
does not: `Server.Close` then returns only when the third client lets it. -/
theorem C16_disconnectClient_waits_without_mu :
    Mqtt.Generated.takeoverDisconnectSeq = disconnectProgram.map DcOp.code ∧
    Mqtt.Generated.takeoverCloseSeq = closeProgram.map ClOp.code ∧
    waitsWithoutMu disconnectProgram = true ∧
    (∀ i op, disconnectProgram[i]? = some op → op.mayWait = true →
      closeReachesLoops disconnectProgram i closeProgram = true) ∧
    (closeProgram.idxOf .unlock < closeProgram.idxOf .closeOuts ∧
      closeProgram.idxOf .closeOuts < closeProgram.idxOf .stops ∧ closeProgram.contains .deferUnlock = false) :=
  ⟨by decide, by decide, Mqtt.Proofs.Takeover.disconnect_waits_without_mu,
   Mqtt.Proofs.Takeover.close_gets_mu_while_disconnect_waits, Mqtt.Proofs.Takeover.close_shape⟩

end Mqtt.Properties.C16
