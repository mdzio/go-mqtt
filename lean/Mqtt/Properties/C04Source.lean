/-
C04 — tie to the Go source.

The model's `uvarint` and `Hdr.decode` are tied to the regenerated translation of `binary.Uvarint` and `header.decode`.

Nothing may import this module (BUILDING.md, "Source-tie modules").
-/
import Mqtt.Properties.C04
import Mqtt.Proofs.XlateVarint
import Mqtt.Proofs.XlateHeader

namespace Mqtt.Properties.C04

open Mqtt.Model.Codec

/-- the standard library's `binary.Uvarint` (as found in the toolchain that builds the library) is
the model's `uvarint` on every byte string: same value (the model reduces modulo 2^64), same count
(0: buffer too small, negative: overflow) -/
theorem C04_Uvarint_is_source (buf : List UInt8) :
    Mqtt.Generated.Xlate.Binary.Uvarint buf = (UInt64.ofNat (uvarint buf).1, (uvarint buf).2) ∧
    (Mqtt.Generated.Xlate.Binary.Uvarint buf).1.toNat = (uvarint buf).1 :=
  ⟨Mqtt.Proofs.XlateVarint.uvarint_is_source buf, (Mqtt.Proofs.XlateVarint.uvarint_is_source_toNat buf).1⟩

example : Mqtt.Generated.Xlate.Binary.Uvarint [0xc1, 0x02, 0xff] = (321, 2) := by decide

/-- `header.decode(src)` is the model's `Hdr.decode` on every byte string (`decToRes`: the model's
error ⇒ an error return; the model's `(header, n)` ⇒ `n`, a nil error and a receiver with exactly the
model's remaining length, type/flags byte and decoding buffer; the model's `.panic` ⇒ a panic, and
neither occurs: `XlateHeader.header_decode_returns`).  `_partial`: `mtypeflags` holds at most one byte
(`Type`, `SetType` and `decode` are the only code that assigns it, always one byte); the alias flag
`tfInBuf` of the model has no counterpart in the translation. -/
theorem C04_header_decode_is_source_partial (h : Mqtt.Generated.Xlate.Message.header)
    (h1 : h.mtypeflags.length ≤ 1) (src : List UInt8) :
    Mqtt.Proofs.XlateHeader.decToRes h (Mqtt.Generated.Xlate.Message.header.decode h src)
      (Hdr.decode (Mqtt.Proofs.XlateCodec.hdrOf h) src) ∧
    Hdr.decode (Mqtt.Proofs.XlateCodec.hdrOf h) src ≠ .panic :=
  ⟨Mqtt.Proofs.XlateHeader.header_decode_is_source h h1 src,
   (Mqtt.Proofs.XlateHeader.header_decode_returns h h1 src).1⟩

end Mqtt.Properties.C04
