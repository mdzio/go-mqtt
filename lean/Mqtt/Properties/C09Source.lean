/-
C09 — tie to the Go source: when `service.stop` looks at the will, and how long `connectMu` is held.

"A DISCONNECT packet received ⇒ no will" has two halves.  The processor clears the will flag of the stored
CONNECT when it processes DISCONNECT (`Model/Broker.lean`: `packet … .disconnect`; C09_disconnect_no_will).
And `stop()` looks at the flag only when the processor has finished: after `in.Close()` the processor still
works off everything that was committed to the incoming ring, so for a `stop()` called from OUTSIDE the
connection - the take-over by a CONNECT with the same client identifier (MQTT-3.1.4-2), `Server.Close` -
a DISCONNECT may be received and not yet processed when `stop()` begins.  The life-cycle model
(`Model/Lifecycle.lean`) has that order: `.will` reads `Sh.willFlag` when it runs, after `.wgWait`.

This is the only module of C09 that is built from the sections `takeover-stop` and `takeover-connect` of
the regenerated facts (`extract/facts_takeover.go`).  NOTHING may import this module (BUILDING.md,
"Source-tie modules").
-/
import Mqtt.Properties.C09
import Mqtt.Proofs.Takeover
import Mqtt.Generated.Facts

namespace Mqtt.Properties.C09
open Mqtt.Model.Takeover Mqtt.Model.Lifecycle

/-- the life-cycle configuration of the examples: rings of 16 bytes, blocks of 8 -/
def lc : Cfg := { cap := 16, rblock := 8, wblock := 8 }

/-- a connection with a will whose processor is parked delivering to a third connection that does not
read; behind that packet its DISCONNECT is already in the incoming ring; one external caller of `stop()` -/
def heldWithDisconnect : St :=
  { sh := { extBlocked := true, inR := { buf := 6 },
            stream := [⟨2, 4, .normal [.foreign]⟩, ⟨2, 2, .disconnect⟩], willFlag := true },
    proc := .acts [.foreign], ks := [.idle] }

/-- **`stop()` reads the will after the wait.**  In the source's `stop()`, in statement order, the
accesses to the session's stored CONNECT and will and the wait for the goroutines are: `wgStopped.Wait()`,
then `Cmsg.WillFlag()`, `sess.Will`, `Cmsg.CleanSession()` - nothing of the stored CONNECT, and nothing
assigned from it, is read before the wait; that is the order of the life-cycle model's `stopProgram`
(`sessReads`).  What the order is for, in that model: a connection taken over (or closed by the server)
while its DISCONNECT is queued behind a delivery that a third party holds - the external `stop()` waits at
`wgStopped.Wait`; when the third party lets go the processor processes the DISCONNECT and clears the flag;
the teardown then unsubscribes and publishes NO will. -/
theorem C09_stop_reads_will_after_wait :
    Mqtt.Generated.takeoverStopSessReads = stopProgram.flatMap sessReads ∧
    readsAfterWait Mqtt.Generated.takeoverStopSessReads = true ∧
    (let s1 := drain lc 40 ((estep lc heldWithDisconnect (.serverClose 0)).getD heldWithDisconnect)
     let s2 := drain lc 40 ((estep lc s1 (.extBlock false)).getD s1)
     quiescent lc s1 = true ∧ Final s1 = false ∧ s1.ks = [.run 5] ∧ s1.sh.effects = [] ∧
     Final s2 = true ∧ s2.sh.willFlag = false ∧ s2.sh.effects = [.unsub]) := by
  refine ⟨by decide +kernel, by decide +kernel, ?_⟩
  decide +kernel

/-- **`connectMu` is held from the take-over to the registration.**  The source's `handleConnection`,
after authentication, is `connectProgram`: `connectMu.Lock()`, `defer connectMu.Unlock()`, the take-over
(for a non-empty client identifier), `getSession`, the CONNACK, `start`, the append to `svcs` - the mutex is
released by the `defer` only, i.e. when the function returns.  So between "the connection that had this
client identifier has published its will and is gone" and "this connection is registered" no other
handshake runs: a second CONNECT of the client finds THIS connection in `svcs` and takes it over - its will
is published -, which is what lets the broker model run a CONNECT as one event
(`C09_take_over_is_an_end`). -/
theorem C09_connectMu_held_to_registration :
    Mqtt.Generated.takeoverConnectSeq = connectProgram.map ConnOp.code ∧
    Mqtt.Generated.takeoverStoppedMade = true ∧ heldOver connectProgram = true :=
  ⟨by decide +kernel, by decide +kernel, Mqtt.Proofs.Takeover.connect_held_over⟩

/-- **`Server.Close` of the source is the model's `srvClose`.**  The source's `Close` is, statement by
statement, `closeProgram` (regenerated fact `takeoverCloseSeq`): a copy of `svcs` under `Server.mu`, the
loop that closes every outgoing ring, then the loop that calls `stop()` on every connection of that copy,
in its order - the order of registration.  The model performs those `stop()`s as `stopAll` over the live
connections in table order, each a non-graceful end (`C09_server_close_publishes_wills`). -/
theorem C09_server_close_is_source :
    Mqtt.Generated.takeoverCloseSeq = closeProgram.map ClOp.code ∧
    closeProgram.idxOf .closeOuts < closeProgram.idxOf .stops ∧
    (∀ b : Mqtt.Model.Broker.B, Mqtt.Model.Broker.srvClose b =
      Mqtt.Model.Broker.stopAll b (Mqtt.Model.Broker.liveIds b)) :=
  ⟨by decide +kernel, by decide +kernel, fun _ => rfl⟩

end Mqtt.Properties.C09
