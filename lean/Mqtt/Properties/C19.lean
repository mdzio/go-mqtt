/-
C19 — Keep-alive: silent clients are dropped as failed, active clients never are.

The clock, timers and scheduler latency are outside any model (trusted); what is
proved is the deadline arithmetic over the regenerated expression and constants,
the behaviour of the receiver loop as a timed state machine, and — on the
connection life-cycle model of C16 (`Model/Lifecycle.lean`) — that a read that
has timed out always ends in the complete teardown with the will published,
whatever the connection's buffers look like (`C19_timeout_tears_down`; repair
b77088f, finding F7: before it a connection whose processor was parked in its
own outgoing ring behind a client that had stopped reading survived the time-out,
`C16_old_receiver_wedges`).

What is left open (finding F8): the deadline is armed per socket read, and the
receiver issues a read whenever the incoming ring is not completely full (since
8f682d1; before: only when a whole read block was free — finding F3, repaired).  A
client that stops reading AND keeps sending until its writes block fills both
rings completely; the receiver then waits because the incoming ring is full, no
read is pending, no deadline is armed: `C19_silence_counterexample` (the full
statement "silence ends the connection" is false of the code),
`C19_timeout_tears_down` is the partial one (hypothesis: the deadline fired, i.e.
a read was pending — which it is whenever the incoming ring has room:
`C16_receiver_reads_while_room`).
-/
import Mqtt.Model.KeepAlive
import Mqtt.Model.Broker
import Mqtt.Properties.C16

namespace Mqtt.Properties.C19
open Mqtt.Model.KeepAlive Mqtt.Generated

/-- The read deadline lies strictly above the negotiated keep-alive and at most
at one and a half times it — for every keep-alive value. -/
theorem C19_deadline_window (k : Nat) (hk : 0 < k) :
    k * second < deadline k ∧ 2 * deadline k ≤ 3 * (k * second) := by
  have h5 : 5 ≤ k * second := Nat.le_trans (by decide) (Nat.le_mul_of_pos_left second hk)
  simp only [deadline, keepAliveDivisor]
  generalize k * second = x at h5 ⊢
  omega

/-- A CONNECT keep-alive of 0 does not disable the deadline: the effective
value is positive for every CONNECT. -/
theorem C19_effective_pos (k : Nat) : 0 < effective k := by
  unfold effective minKeepAlive; split <;> omega

/-- "the client sends something at intervals shorter than K": every arrival
comes less than `k` seconds after the previous one (`last`: the previous
arrival, initially the time the connection was accepted). -/
def ActiveWithin (k : Nat) : (last : Nat) → List (Nat × Nat) → Prop
  | _, [] => True
  | last, (t, _) :: rest => last ≤ t ∧ t < last + k * second ∧ ActiveWithin k t rest

/-- An active client is never dropped: if every arrival comes less than K after
the previous one, no read times out — whatever the delays between reads. -/
theorem C19_active_never_dropped (k : Nat) (hk : 0 < k) (armed last : Nat)
    (arrivals : List (Nat × Nat)) (hla : last ≤ armed) (hact : ActiveWithin k last arrivals) :
    firstExpiry (deadline k) armed arrivals false = none := by
  induction arrivals generalizing armed last with
  | nil => simp [firstExpiry]
  | cons p rest ih =>
    obtain ⟨t, dl⟩ := p
    obtain ⟨h1, h2, h3⟩ := hact
    have hw := (C19_deadline_window k hk).1
    unfold firstExpiry
    have : ¬ t > armed + deadline k :=
      Nat.not_lt.mpr (Nat.le_trans (Nat.le_of_lt h2) (Nat.add_le_add hla (Nat.le_of_lt hw)))
    simp only [this, ↓reduceIte]
    exact ih (max t armed + dl) t (Nat.le_trans (Nat.le_max_left ..) (Nat.le_add_right ..)) h3

/-- A client that falls silent is dropped: the pending read times out, at the
latest one and a half keep-alive periods after it was armed. -/
theorem C19_silent_dropped (k armed : Nat) (hk : 0 < k) :
    ∃ t, firstExpiry (deadline k) armed [] true = some t ∧ armed + k * second < t ∧
      2 * t ≤ 2 * armed + 3 * (k * second) := by
  refine ⟨armed + deadline k, by simp [firstExpiry], ?_, ?_⟩
  · exact Nat.add_lt_add_left (C19_deadline_window k hk).1 _
  · rw [Nat.mul_add]; exact Nat.add_le_add_left (C19_deadline_window k hk).2 _

/-- Every PINGREQ on a live connection is answered by exactly one PINGRESP. -/
theorem C19_pingreq_pingresp (b : Mqtt.Model.Broker.B) (c : Nat) (cn : Mqtt.Model.Broker.Conn)
    (s : Mqtt.Model.Broker.Sess)
    (hc : b.getConn c = some cn) (ha : cn.alive = true) (hs : b.getSess cn.sess = some s) :
    Mqtt.Model.Broker.packet b c .pingreq = (b, [.send c .pingresp]) := by
  have hal : b.alive c = true := by simp [Mqtt.Model.Broker.B.alive, hc, ha]
  simp [Mqtt.Model.Broker.packet, hc, ha, hs, Mqtt.Model.Broker.send, hal]

/-- The facts the timed model rests on are what the source says now. -/
theorem C19_source_shape : keepAliveRearmedPerRead = true ∧ keepAliveZeroMeansMin = true ∧
    0 < keepAliveDivisor ∧ 0 < minKeepAlive := by decide +kernel

example : deadline 1 = 1200000000 ∧ effective 0 = 30 := by decide +kernel
example : firstExpiry (deadline 1) 0 [(500000000, 0), (1000000000, 3), (1500000000, 0)] true = some 2700000000 := by decide +kernel

/-! ## The time-out on the connection life-cycle model -/

section Lifecycle
open Mqtt.Model.Lifecycle Mqtt.Proofs.Lifecycle Mqtt.Properties.C16

/-- The keep-alive event of the life-cycle model: the read deadline fires exactly on a pending
socket read of an open connection (it is armed per read: `keepAliveRearmedPerRead`), and all it
does is make that read fail. -/
theorem C19_expiry_is_a_read_error (c : Cfg) (s : St) :
    ((estep c s .kaExpire).isSome = true ↔ (s.recv = .read ∧ s.sh.sock = .open)) ∧
    (∀ s', estep c s .kaExpire = some s' →
      s'.sh.timeout = true ∧ s'.recv = .read ∧ rstep c s'.sh 1 s'.recv = some (s'.sh, .close)) := by
  constructor
  · simp only [estep]
    by_cases h : s.recv = .read ∧ s.sh.sock = .open <;> simp [h]
  · intro s' h
    simp only [estep] at h
    by_cases h1 : s.recv = .read ∧ s.sh.sock = .open
    · rw [if_pos h1] at h; injection h with h; subst h
      simp [h1.1, rstep]
    · rw [if_neg h1] at h; cases h

/-- **A read time-out always leads to the complete teardown, with the will published.**  For every
reachable state of a connection (any buffer contents, any traffic still to come, any interleaving
so far — in particular: own outgoing ring full, the sender blocked in its socket write, the
connection's OWN processor parked in that ring behind a client that has stopped reading) in which
the read deadline has fired, and no delivery of this connection is blocked in ANOTHER connection's
ring, fair round-robin reaches within `rank` rounds a state in which nothing can run and

* every goroutine of the connection has exited and every `stop()` call has returned,
* the socket is closed,
* the effects of `stop()` are complete, exactly once and in order: unsubscribe, the will iff the
  will flag is still set, session removal iff the session is clean —
* so the will IS published if the flag was set and the client had not sent a DISCONNECT that the
  processor has still to consume: the end is treated as abnormal.

Fairness: "round-robin" stands for "an enabled goroutine is eventually run"; no schedule takes more
than `rank` steps (`C16_teardown_bounded`).  By `read_failure_tears_down`, an instance of `fair_end` as is `read_failure_completes` behind
`C16_read_failure_completes`; with no delivery blocked elsewhere it concludes `Complete q` outright. -/
theorem C19_timeout_tears_down (c : Cfg) (hw : WF c) (s0 : St) (h0 : Init c s0) (sched : List Label) :
    let s := reach c s0 sched
    s.sh.timeout = true → s.sh.extBlocked = false →
    let q := drain c (rank c s) s
    quiescent c q = true ∧ Final q = true ∧ TornDown q = true ∧ goroutinesLeft q = 0 ∧
    q.sh.sock = .closed ∧ q.sh.effects = expectedEffects q.sh ∧
    (s.sh.willFlag = true → (∀ p, p ∈ s.sh.stream → p.kind ≠ .disconnect) → Eff.will ∈ q.sh.effects) := by
  intro s hto hx
  have hi : Inv c s := (C16_invariant c hw s0 h0 sched).1
  obtain ⟨hq, hc, hso, hwf⟩ := read_failure_tears_down hw hi (by simp [Ended, hto])
    ((hi.r.tmo hto).imp (fun hr => ⟨hr, .inr hto⟩) id) hx
  refine ⟨hq, hc.final, hc.torn, hc.noneLeft, hso, hc.effects, fun hw' hnd => ?_⟩
  rw [hc.effects, expectedEffects, hwf hnd, hw']
  simp

/-- the client answers its own traffic (4-byte packets answered with 12 bytes), stops reading and
keeps sending: 5 packets, 20 bytes on the wire — one packet that the processor consumes plus a whole
incoming ring (16 bytes).  (`floodInit` is `C16.fullInit`, `floodSched` is `C16.fullSched` without its last label, the
peer's half-close.) -/
def floodInit : St :=
  { sh := { stream := List.replicate 5 ⟨2, 4, .normal [.own 12]⟩, wire := 20, willFlag := true } }

/-- the receiver takes 8 bytes, the processor answers the first packet and parks in `WriteWait` for
the answer to the second (own outgoing ring: 12 of 16), the receiver takes another 8 bytes (incoming
ring: 12 of 16) and the last 4 — all the free space there is — and then waits because the incoming
ring is full (16 of 16); the sender's write blocks -/
def floodSched : List Label :=
  [.env (.peerReads false), .th .recv 0, .th .recv 8, .th .recv 0] ++ List.replicate 11 (.th .proc 0) ++
  [.th .recv 0, .th .recv 8, .th .recv 0, .th .recv 0, .th .recv 8, .th .recv 0, .th .send 0]

/-- **The full statement is false of the code** (finding F8, open): a reachable state of the
repaired model — initial state `floodInit`, schedule `floodSched`, every step of which is taken — in
which the client has sent everything it will ever send, and however long it stays silent nothing
happens: the receiver waits because the incoming ring is completely full (16 of 16 bytes: the
packet the processor is working on and three more), so no socket read is pending and the read
deadline is not armed (`kaExpire` is not enabled); the processor is parked in the connection's own
outgoing ring; the sender is blocked in its write.  The connection has not ended, is never torn
down, its will is never published. -/
theorem C19_silence_counterexample :
    WF c0 ∧ Init c0 floodInit ∧
    (let s := reach c0 floodInit floodSched
     taken c0 floodInit floodSched = floodSched.length ∧ s.sh.wire = 0 ∧
     s.recv = .space ∧ s.sh.inR.buf = c0.cap ∧ s.proc = .ownWait 12 [] ∧ s.send = .write 8 ∧ HeldBySelf s = true ∧
     quiescent c0 s = true ∧ estep c0 s .kaExpire = none ∧ Ended s = false ∧ s.sh.effects = [] ∧
     ∀ sched, (∀ l, l ∈ sched → (∃ t k, l = .th t k) ∨ l = .env .kaExpire) → run c0 s sched = s) := by
  refine ⟨c0_wf, init_fresh _ _ rfl rfl rfl rfl rfl rfl rfl rfl rfl, ?_⟩
  -- the eleven decidable facts about the one reached state in one evaluation; the last conjunct follows from two of them
  simp only [← and_assoc]
  refine (fun h => ⟨h, silent_stuck c0 _ h.1.1.1.2 h.1.1.2⟩) (by decide +kernel)

/-- non-vacuity of `C19_timeout_tears_down`: the self-held connection of `C16_old_receiver_wedges`
(own outgoing ring holding 12 of 16 bytes, processor parked in it behind its own client) with the deadline fired: round-robin
tears it down and publishes the will -/
example :
    let s := reach c0 selfInit selfSched
    s.sh.timeout = true ∧ s.sh.extBlocked = false ∧ s.proc = .ownWait 12 [] ∧ s.sh.willFlag = true ∧
    (let q := drain c0 (rank c0 s) s
     Final q = true ∧ q.sh.sock = .closed ∧ Eff.will ∈ q.sh.effects) := by decide +kernel

end Lifecycle

end Mqtt.Properties.C19
