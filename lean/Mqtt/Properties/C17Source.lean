/-
C17 — tie to the Go source.

The copy the ring model performs in `Write` (`Model/WriteWrap.ringPut`) is what the regenerated translation of
`service.ringCopy` returns.

Nothing may import this module (BUILDING.md, "Source-tie modules").
`C17_wrap_shape_is_source`, the tie to the regenerated FACTS, is in `Properties/C17.lean`.
-/
import Mqtt.Properties.C17
import Mqtt.Proofs.WriteWrapRingSource

namespace Mqtt.Properties.C17

open Mqtt.Model.WriteWrap Mqtt.Proofs.WriteWrap

/-- The copy the model performs in `Write` IS the translated `service.ringCopy`
(`Generated/Xlate.lean`, regenerated from buffer.go on every check) applied to the ring, the bytes
and `pos & mask` — for every loop budget ≥ 3; and the cell index `pos % 2^k` is the code's
`pos & (size − 1)` (`C14_idx_is_source` ties that to the translated Go expression). -/
theorem C17_wrap_ringCopy_is_source (k fuel : Nat) (hf : 3 ≤ fuel) (ring src : List UInt8) (pos : Nat)
    (hlen : ring.length = 2 ^ k) (hS : src.length ≤ 2 ^ k) :
    Mqtt.Generated.Xlate.Service.ringCopy fuel ring src ((pos % 2 ^ k : Nat) : Int) =
      .ok (ringPut ring src (pos % 2 ^ k), src.length) ∧
    pos % 2 ^ k = pos &&& (2 ^ k - 1) :=
  ⟨ringPut_is_source fuel hf (2 ^ k) (Nat.two_pow_pos k) ring src pos hlen hS,
   (Nat.and_two_pow_sub_one_eq_mod pos k).symm⟩

end Mqtt.Properties.C17
