/-
C12 — sender side of acknowledged requests, client role.

The property theorems, the vocabulary only they need (`callerStep`, `CallerClear`, the `…_full`
propositions) and the closed demo histories (`demoD`, `demoE5`, `demoP`, `demoE9`, …); the lemmas
are in `Proofs/Client*.lean`, `Proofs/AckQueue.lean`, `Proofs/AckLock.lean`.  Model:
`Model/Client.lean` (code-shaped, tied to `service.Client` by the scripted-peer
correspondence runs); specification: `Spec/Client.lean`.  The recorded
deviation of the code (identifiers assigned from a 16-bit cycle without regard
to what is in flight) is kept out of the `…_partial` statements by explicit
hypotheses and proved as closed `…_counterexample`s on the model.  Everything else is stated
without hypotheses on the history: acknowledgements inside the window of a call, any number of
outstanding pings, overlapping filters in one request, the counter at its wrap.

The event `.apiEarlyAck call ack` - the acknowledgement reaches the client after
the request was written and before the call has registered it - is part of
every history quantified over below.  The acknowledgement waits for the registration
(`service.ackmu`); the section on the two critical sections ties that to the lock structure of
the source.
-/
import Mqtt.Proofs.ClientRefine
import Mqtt.Proofs.ClientIds
import Mqtt.Proofs.AckLock
import Mqtt.Proofs.ClientQueues
import Mqtt.Properties.C13


namespace Mqtt.Properties.C12
open Mqtt.Iface.Broker (Pub Packet)
open Mqtt.Iface.Client
open Mqtt.Model.Client
open Mqtt.Model.Broker (nextPacketID)
open Mqtt.Proofs.Client
open Mqtt.Proofs.Broker (nextPacketID_ne_zero)

/-- For every state of a connected client - whatever its queues hold, whether or
not a QoS 2 publish with that identifier is in flight - a PUBREC from the peer
makes the client write exactly one packet, the PUBREL with the same
identifier; nothing completes and nothing but the QoS 2 send queue changes. -/
theorem C12_pubrec_pubrel (c : C) (hc : c.connected = true) (id : Nat) :
    (step c (.peer (.pubrec id))).2 = [.wrote (.pubrel id)] ∧
    (peer c (.pubrec id)).2 = [.wrote (.pubrel id)] ∧
    (step c (.peer (.pubrec id))).1 =
      { c with pub2out := c.pub2out.ack Mqtt.Generated.tPUBREC id } := by
  rw [step_peer c hc]
  exact ⟨rfl, rfl, rfl⟩

/-- a connected client with two QoS 2 publishes (ids 7, 8) and one QoS 1 publish (id 9) in flight -/
def demoA : C :=
  runState init
    [.connect (.connack false 0),
     .api (.publish { qos := 2, topic := [97, 47, 98], pktid := 7, payload := [1] } 1),
     .api (.publish { qos := 2, topic := [97], pktid := 8, payload := [2, 3] } 2),
     .api (.publish { qos := 1, topic := [98], pktid := 9, payload := [] } 3)]

example : demoA.connected = true ∧ demoA.pub2out.map (·.id) = [7, 8] ∧ demoA.pub1ack.map (·.id) = [9] ∧
    (step demoA (.peer (.pubrec 8))).2 = [.wrote (.pubrel 8)] ∧
    (step demoA (.peer (.pubrec 55))).2 = [.wrote (.pubrel 55)] ∧
    (step demoA (.peer (.pubrec 8))).1.pub2out.map (fun r => (r.id, r.state)) = [(7, 0), (8, 5)] := by
  decide +kernel

/-- A QoS 0 publish of a connected client writes the PUBLISH (identifier field
0) and fires its completion - without error, exactly once, in the same step,
after the write; no queue, nor anything else of the state, changes. -/
theorem C12_qos0_completes_at_once (c : C) (hc : c.connected = true) (p : Pub) (tag : Nat)
    (hq : p.qos = 0) :
    (step c (.api (.publish p tag))).1 = c ∧
    (step c (.api (.publish p tag))).2 =
      .wrote (.publish { p with pktid := 0 }) :: (if tag = 0 then [] else [.complete tag false]) := by
  rw [step_api c hc, callOf]
  simp only [apiWrite, hq, BEq.rfl, ↓reduceIte, apiRegister, completeOut, List.singleton_append, true_and]
  by_cases ht : tag = 0 <;> simp [ht]

example :
    (step demoA (.api (.publish { qos := 0, retain := true, topic := [97, 47, 98], pktid := 44, payload := [9] } 5))).2 =
      [.wrote (.publish { qos := 0, retain := true, topic := [97, 47, 98], pktid := 0, payload := [9] }),
       .complete 5 false] ∧
    (step demoA (.api (.publish { qos := 0, topic := [97], payload := [] } 0))).2 =
      [.wrote (.publish { qos := 0, topic := [97], payload := [] })] := by
  decide +kernel

/-! ## completions: exactly once, in FIFO order, never early, no later than permitted

The four identified ack queues of the client (`Kind`: QoS 1 publishes, QoS 2
publishes, subscribes, unsubscribes; `queue k c`) are FIFO lists.
`accepted k c evs` are the requests the history `evs` puts in flight in queue
`k` (a registration under an identifier that is already in flight there is
ignored by `Wait`), `released k c evs` the requests handed back to their
completion wrappers, `fired k c evs` the tags of the completion callbacks the
model actually invokes while it processes terminal acknowledgements of kind
`k`; `key` is everything that is fixed when a request is registered
(identifier, completion tag, message, filters, message callback). -/

/-- **Conservation, every history** (the ack-before-registration interleaving
included): what was handed back so far followed by what is still in flight is
what was in flight initially followed by what was accepted, in order.  So no
request is handed back twice, none is invented, and requests are handed back
in registration order. -/
theorem C12_queue_conservation (k : Kind) (c : C) (evs : List Ev) :
    (released k c evs ++ queue k (runState c evs)).map key = (queue k c ++ accepted k c evs).map key := by
  induction evs generalizing c with
  | nil => simp [released, accepted, runState]
  | cons ev evs ih =>
    have := Mqtt.Proofs.Fifo.ledger_chain (by simpa only [List.map_append] using step_conservation k c ev)
      (by simpa only [List.map_append] using ih (step c ev).1)
    simpa only [List.map_append, released, accepted, runState_cons] using this

/-- **C12, exactly-once FIFO completion.**  For every state of a connected
client and every history of API calls and packets from the peer - an
acknowledgement that arrives before the sending call has finished registering
the request included (`.apiEarlyAck`: its call counts among the calls made, its
completions among those fired) -, in which every acknowledged request is
written with an identifier - supplied by the caller or assigned by the library -
that is not in flight in its queue (`FreshA`; implied by `Fresh`, which admits
caller-supplied identifiers only: `C12_fresh_implies_freshA`; `clearStep` asks more of a step of a
connected client - not in flight in any of the four queues - but `Clear` is over histories with the
draws of other connections and no lemma carries it to `FreshA`): the completion tags fired
for kind `k`, followed by the tags of the requests still in queue `k`, are the
tags that were in the queue initially followed by the tags of the requests of
kind `k` the caller made, in call order (tag 0 = no callback).  Hence every
completion callback fires at most once, in the order of the calls, and none
fires that was not requested. -/
theorem C12_exactly_once_fifo (k : Kind) (c : C) (evs : List Ev) (hc : c.connected = true)
    (hf : FreshA c evs = true) :
    fired k c evs ++ nz ((queue k (runState c evs)).map (·.tag)) =
      nz ((queue k c).map (·.tag)) ++ nz (requestedTags k evs) := by
  have := congrArg (fun l => nz (l.map (fun x => x.2.1))) (C12_queue_conservation k c evs)
  simp only [List.map_append, map_key_tag, nz_append] at this
  rw [fired_eq k c evs, ← accepted_freshA k c evs hc hf]
  exact this

/-- the hypothesis of `C12_exactly_once_fifo` is weaker than "every identifier is supplied by the
caller, non-zero and not in flight in its queue" -/
theorem C12_fresh_implies_freshA (c : C) (evs : List Ev) (h : Fresh c evs = true) : FreshA c evs = true :=
  freshA_of_fresh c evs h

/-- **When a completion fires** (never early, no later than permitted).  While a
connected client processes the terminal acknowledgement of kind `k` bearing
identifier `id`, it fires exactly the completions of the longest prefix of
queue `k` in which every request either had received its own terminal
acknowledgement before or is the request acknowledged now - in order, each
once.  Nothing else fires in that step. -/
theorem C12_completion_timing (k : Kind) (c : C) (hc : c.connected = true) (p : Packet) (id : Nat)
    (h : termId k p = some id) :
    doneTags (step c (.peer p)).2 =
      nz (((queue k c).takeWhile (fun e => terminal e.state || e.id == id)).map (·.tag)) := by
  rw [step_peer c hc]
  rcases peer_kind k c p with ⟨t, id', codes, ht, hid, _, _, hd⟩ | ⟨hn, _⟩
  · rw [h] at hid; cases hid
    rw [hd, ← map_key_tag, ← map_key_tag]
    exact congrArg (fun l => nz (l.map (·.2.1))) (takeWhile_ack _ t id codes ht)
  · rw [h] at hn; cases hn

/-- … in particular, no later than permitted: a request whose predecessors in
its queue are all terminal (or acknowledged by this very packet) and which is
itself terminal or acknowledged now, completes in this step, after its
predecessors. -/
theorem C12_completion_no_later (k : Kind) (c : C) (hc : c.connected = true) (p : Packet) (id : Nat)
    (h : termId k p = some id) (pre post : List Req) (r : Req) (hq : queue k c = pre ++ r :: post)
    (hpre : ∀ e ∈ pre, terminal e.state = true ∨ e.id = id) (hr : terminal r.state = true ∨ r.id = id) :
    ∃ rest, doneTags (step c (.peer p)).2 = nz (pre.map (·.tag)) ++ nz [r.tag] ++ rest := by
  rw [C12_completion_timing k c hc p id h, hq]
  have h1 : ∀ e ∈ pre ++ [r], (terminal e.state || e.id == id) = true := by
    intro e he
    rcases List.mem_append.mp he with he | he
    · rcases hpre e he with h | h <;> simp [h]
    · rw [List.mem_singleton.mp he]; rcases hr with h | h <;> simp [h]
  rw [List.append_cons, List.takeWhile_append_of_pos h1]
  exact ⟨_, by rw [List.map_append, nz_append, List.map_append, nz_append]; rfl⟩

/-- … and never early: in every step of every history (early acknowledgements
included) a request is in a terminal state only if it was so before the step
or the step delivers the terminal acknowledgement of its kind bearing its own
identifier; requests are registered non-terminal.  Together with
`C12_completion_timing` (only terminal requests and the one acknowledged now
are completed): no completion before the request's own terminal
acknowledgement has arrived. -/
theorem C12_terminal_only_by_own_ack (k : Kind) (c : C) (ev : Ev) (r : Req)
    (hr : r ∈ queue k (step c ev).1) (ht : terminal r.state = true) :
    (∃ r0 ∈ queue k c, key r0 = key r ∧ r0.state = r.state) ∨ evAck k ev = some r.id := by
  revert r
  refine step_elim (motive := fun c ev x => ∀ r ∈ queue k x.1, terminal r.state = true →
      (∃ r0 ∈ queue k c, key r0 = key r ∧ r0.state = r.state) ∨ evAck k ev = some r.id)
    (fun c a r hr _ => .inl ⟨r, connect_queue k c a ▸ hr, rfl, rfl⟩) (fun c ev _ _ r hr _ => .inl ⟨r, hr, rfl, rfl⟩)
    ?_ (fun c p _ r hr ht => peer_terminal_origin k c p r hr ht) ?_ c ev
  · -- requests are registered non-terminal
    intro c call _ r hr ht
    rw [callOf, apiRegister_queue, apiWrite_queue, List.mem_append] at hr
    refine .inl ⟨r, hr.resolve_right fun h => ?_, rfl, rfl⟩
    rw [regAccepted_state _ _ _ r h, terminal_zero] at ht; cases ht
  · intro c call ack _ _ h1 h2 r hr ht
    rcases h2 r hr ht with ⟨r0, hr0, hk, hs⟩ | h
    · obtain ⟨r1, hr1, hk1, hs1⟩ := (h1 r0 hr0 (hs ▸ ht)).resolve_right (fun h => by cases h)
      exact .inl ⟨r1, hr1, hk1.trans hk, hs1.trans hs⟩
    · exact .inr h

/-- Eagerness: in every state reached from a fresh client by any history the
oldest request of every queue is not terminal - a completion is never held
back once it is permitted. -/
theorem C12_release_eager (evs : List Ev) (k : Kind) (e : Req)
    (h : (queue k (runState init evs)).head? = some e) : terminal e.state = false :=
  run_induction eager_step init evs eager_init k e h

/-- … and eagerness is inductive: preserved by every step from every state that has it. -/
theorem C12_release_eager_step (c : C) (ev : Ev) (h : Eager c) : Eager (step c ev).1 :=
  eager_step c ev h

/-- the tables the model takes from the regenerated facts are the protocol's:
PUBACK, PUBCOMP, SUBACK, UNSUBACK (and PUBREL for the receiving side) end an
exchange, PUBREC and "nothing yet" do not -/
theorem C12_terminal_states :
    terminal 4 = true ∧ terminal 7 = true ∧ terminal 9 = true ∧ terminal 11 = true ∧ terminal 6 = true ∧
    terminal 5 = false ∧ terminal 0 = false := by decide +kernel

/-- a history with out-of-order acknowledgements: three QoS 1 publishes (the third without a
callback), a subscribe, a QoS 2 publish; PUBACK 2 arrives first and is held back, PUBACK 1
releases both -/
def demoC : List Ev :=
  [.connect (.connack false 0),
   .api (.publish { qos := 1, topic := [97], pktid := 1, payload := [1] } 11),
   .api (.publish { qos := 1, topic := [97, 47, 98], pktid := 2, payload := [2] } 12),
   .api (.publish { qos := 1, topic := [98], pktid := 3, payload := [] } 0),
   .api (.subscribe 4 [([97, 47, 43], 1), ([98], 0)] 15 9),
   .api (.publish { qos := 2, topic := [98], pktid := 5, payload := [7] } 16),
   .peer (.puback 2),
   .peer (.pubrec 5),
   .peer (.puback 1),
   .peer (.suback 4 [1, 0]),
   .api (.publish { qos := 1, topic := [97], pktid := 1, payload := [3] } 17),
   .peer (.pubcomp 5)]

example :
    (step init (.connect (.connack false 0))).1.connected = true ∧
Fresh (step init (.connect (.connack false 0))).1 demoC.tail = true ∧
    FreshA (step init (.connect (.connack false 0))).1 demoC.tail = true ∧
    runOuts init demoC =
      [[.connected],
       [.wrote (.publish { qos := 1, topic := [97], pktid := 1, payload := [1] })],
       [.wrote (.publish { qos := 1, topic := [97, 47, 98], pktid := 2, payload := [2] })],
       [.wrote (.publish { qos := 1, topic := [98], pktid := 3, payload := [] })],
       [.wrote (.subscribe 4 [([97, 47, 43], 1), ([98], 0)])],
       [.wrote (.publish { qos := 2, topic := [98], pktid := 5, payload := [7] })],
       [],
       [.wrote (.pubrel 5)],
       [.complete 11 false, .complete 12 false],
       [.complete 15 false],
       [.wrote (.publish { qos := 1, topic := [97], pktid := 1, payload := [3] })],
       [.complete 16 false]] ∧
    fired .pub1 init demoC = [11, 12] ∧ fired .sub init demoC = [15] ∧ fired .pub2 init demoC = [16] ∧
    requestedTags .pub1 demoC = [11, 12, 0, 17] ∧
    (queue .pub1 (runState init demoC)).map (fun r => (r.id, r.tag, r.state)) = [(3, 0, 0), (1, 17, 0)] := by
  decide +kernel

/-- **Pings, exactly-once FIFO completion.**  For every state of a connected
client - whatever number of pings is outstanding - and every history (a
PINGRESP that arrives before `Ping` has registered its request included), in
which `Ping` may be called any number of times before any PINGRESP arrives: the
ping completions fired,
followed by the tags of the pings still in flight, are the tags initially in
flight followed by the tags of the `Ping` calls, in call order.  Hence every
ping completion fires at most once, in the order of the calls, none is lost to
a later `Ping`, and none fires that was not requested. -/
theorem C12_ping_exactly_once_fifo (c : C) (evs : List Ev) (hc : c.connected = true) :
    pingFired c evs ++ nz (pingTags (runState c evs)) = nz (pingTags c) ++ nz (pingRequested evs) := by
  induction evs generalizing c with
  | nil => simp [pingFired, pingRequested, runState, nz]
  | cons ev evs ih =>
    rw [runState_cons, pingRequested_cons, nz_append]
    exact Mqtt.Proofs.Fifo.ledger_chain (step_ping_conservation c ev hc) (ih (step c ev).1 (step_connected c ev hc))

/-- **When a ping completion fires.**  Between two events no ping in flight
carries a PINGRESP (`PingsWaiting`: the client collects right after it
acknowledges) - in every state reached from a fresh client by any history, and
inductively from every state that has the invariant.  In such a state a
PINGRESP fires exactly the completion of the *oldest* ping in flight (none if
no ping is outstanding: the PINGRESP is ignored) and leaves the younger pings
in flight, in order: the n-th PINGRESP completes the n-th `Ping`, never early
and no later than permitted. -/
theorem C12_ping_completion_timing :
    (∀ evs, PingsWaiting (runState init evs)) ∧
    (∀ c ev, PingsWaiting c → PingsWaiting (step c ev).1) ∧
    (∀ c, c.connected = true → PingsWaiting c →
      doneTags (step c (.peer .pingresp)).2 = nz ((pingTags c).take 1) ∧
      pingTags (step c (.peer .pingresp)).1 = (pingTags c).tail) :=
by
  refine ⟨fun evs => run_induction pingsWaiting_step init evs pingsWaiting_init, pingsWaiting_step, fun c hc h => ?_⟩
  rw [step_peer c hc, peer_pingresp, pingAcked_pingAck_waiting c.pings h, pingTags]
  show doneTags (List.flatMap _ _) = _ ∧ _
  rw [doneTags_flatMap (fun e : Nat × Nat => completeOut e.2 false) (·.2) (fun _ => doneTags_completeOut _ _)]
  cases c.pings <;> exact ⟨rfl, rfl⟩

/-- Two pings, two PINGRESPs: both completions, in the order of the calls - from
every connected state without a ping in flight, for all callbacks.  (A single ping slot would
let the first PINGRESP complete the *second* call and lose the completion of the first.) -/
theorem C12_two_pings_both_complete (c : C) (hc : c.connected = true) (hq : c.pings = []) (t1 t2 : Nat) :
    runOuts c [.api (.ping t1), .api (.ping t2), .peer .pingresp, .peer .pingresp] =
      [[.wrote .pingreq], [.wrote .pingreq], completeOut t1 false, completeOut t2 false] ∧
    (runState c [.api (.ping t1), .api (.ping t2), .peer .pingresp, .peer .pingresp]).pings = [] := by
  have h1 : step c (.api (.ping t1)) = ({ c with pings := [(0, t1)] }, [.wrote .pingreq]) := by
    simp [step, hc, apiWrite, apiRegister, hq]
  have h2 : step { c with pings := [(0, t1)] } (.api (.ping t2)) =
      ({ c with pings := [(0, t1), (0, t2)] }, [.wrote .pingreq]) := by
    simp [step, hc, apiWrite, apiRegister]
  have h3 : step { c with pings := [(0, t1), (0, t2)] } (.peer .pingresp) =
      ({ c with pings := [(0, t2)] }, completeOut t1 false) := by
    simp [step, hc, peer, pingAck, pingAcked, Mqtt.Generated.tPINGRESP]
  have h4 : step { c with pings := [(0, t2)] } (.peer .pingresp) =
      ({ c with pings := [] }, completeOut t2 false) := by
    simp [step, hc, peer, pingAck, pingAcked, Mqtt.Generated.tPINGRESP]
  simp only [runOuts, runState, List.foldl_cons, List.foldl_nil, h1, h2, h3, h4, and_self]

example :
    runOuts demoA [.api (.ping 1), .api (.ping 2), .peer .pingresp, .peer .pingresp] =
      [[.wrote .pingreq], [.wrote .pingreq], [.complete 1 false], [.complete 2 false]] := by
  decide +kernel

/-- three pings outstanding, PINGRESPs interleaved with other traffic, a PINGRESP with nothing outstanding -/
example :
    runOuts demoA [.api (.ping 1), .api (.ping 2), .peer (.puback 9), .peer .pingresp, .api (.ping 0), .api (.ping 4),
        .peer .pingreq, .peer .pingresp, .peer .pingresp, .peer .pingresp, .peer .pingresp] =
      [[.wrote .pingreq], [.wrote .pingreq], [.complete 3 false], [.complete 1 false], [.wrote .pingreq],
       [.wrote .pingreq], [.wrote .pingresp], [.complete 2 false], [], [.complete 4 false], []] ∧
    pingFired demoA [.api (.ping 1), .api (.ping 2), .peer (.puback 9), .peer .pingresp, .api (.ping 0), .api (.ping 4),
        .peer .pingreq, .peer .pingresp, .peer .pingresp, .peer .pingresp, .peer .pingresp] = [1, 2, 4] := by
  decide +kernel

/-- **The composite event is the call followed by the packet**, in every state,
connected or not, for every call and every packet: an acknowledgement (or any
other packet) that reaches the client between the write of a request and its
registration is processed after the registration - state and outputs are those
of `.api call` followed by `.peer ack`.  (Were the packet processed first, a terminal
acknowledgement would find no entry and be dropped.) -/
theorem C12_early_ack_is_call_then_ack (c : C) (call : Api) (ack : Packet) :
    step c (.apiEarlyAck call ack) =
      ((step (step c (.api call)).1 (.peer ack)).1,
       (step c (.api call)).2 ++ (step (step c (.api call)).1 (.peer ack)).2) :=
  step_early c call ack

/-- **C12, completion however the acknowledgement interleaves with the call.**
"This holds however the arrival of the acknowledgement interleaves with the
return of the sending call": a request with a caller-supplied identifier and a
completion callback, made while its queue is empty, completes when its terminal
acknowledgement has been processed - whether the acknowledgement is processed
after the call returned (`.api` then `.peer`) or arrives between the write and
the registration (`.apiEarlyAck`).  In both cases the completion fires exactly
once in that step and the request has left its queue, so that no later
acknowledgement can complete it again. -/
theorem C12_completes_on_ack (c : C) (call : Api) (k : Kind) (id tag : Nat) (ack : Packet)
    (hc : c.connected = true) (hreq : callReq call = some (k, id, tag)) (hid : id ≠ 0) (htag : tag ≠ 0)
    (hq : queue k c = []) (ht : termId k ack = some id) :
    doneTags (step (step c (.api call)).1 (.peer ack)).2 = [tag] ∧
    doneTags (step c (.apiEarlyAck call ack)).2 = [tag] ∧
    queue k (step c (.apiEarlyAck call ack)).1 = [] ∧
    queue k (step (step c (.api call)).1 (.peer ack)).1 = [] := by
  have hz : nz [tag] = [tag] := by simp [nz, htag]
  have hc1 := step_connected c (.api call) hc
  obtain ⟨r, hq1, hrid, hrtag⟩ := api_single c hc call k id tag hreq hid hq
  -- after the call the request is alone in its queue: its acknowledgement fires it and empties the queue
  have hfire : doneTags (step (step c (.api call)).1 (.peer ack)).2 = [tag] := by
    rw [C12_completion_timing k _ hc1 ack id ht, hq1, ← hz]; simp [hrid, hrtag]
  have hempty : queue k (step (step c (.api call)).1 (.peer ack)).1 = [] := by
    rw [step_peer _ hc1]
    rcases peer_kind k (step c (.api call)).1 ack with ⟨t, id', codes, htt, hid', _, hqq, _⟩ | ⟨hn, _⟩
    · rw [ht] at hid'; cases hid'
      rw [hqq, hq1]
      simp [Queue.ack, Queue.acked, hrid, htt]
    · rw [ht] at hn; cases hn
  refine ⟨hfire, ?_, ?_, hempty⟩
  · rw [step_early, doneTags_append, api_doneTags_nil c hc call k id tag hreq, List.nil_append]; exact hfire
  · rw [step_early]; exact hempty

/-- A QoS 1 publish (identifier 2, callback 4) whose PUBACK
arrives inside the window, with another publish (identifier 9, callback 3) in flight: the PUBLISH is
written, the request is registered behind 9, the PUBACK marks it; it is held back behind 9 (FIFO)
and completes, once, when 9 is acknowledged.  With an empty queue it completes in the same step. -/
theorem C12_early_ack_completes :
    (let ev := Ev.apiEarlyAck (.publish { qos := 1, topic := [97], pktid := 2, payload := [1] } 4) (.puback 2)
     (step demoA ev).2 = [.wrote (.publish { qos := 1, topic := [97], pktid := 2, payload := [1] })] ∧
     (queue .pub1 (step demoA ev).1).map (fun r => (r.id, r.tag, terminal r.state)) = [(9, 3, false), (2, 4, true)] ∧
     runOuts (step demoA ev).1 [.peer (.puback 9), .peer (.puback 2)] = [[.complete 3 false, .complete 4 false], []]) ∧
    (let c := (step init (.connect (.connack false 0))).1
     let ev := Ev.apiEarlyAck (.publish { qos := 1, topic := [97], pktid := 2, payload := [1] } 4) (.puback 2)
     (step c ev).2 = [.wrote (.publish { qos := 1, topic := [97], pktid := 2, payload := [1] }), .complete 4 false] ∧
     queue .pub1 (step c ev).1 = [] ∧
     runOuts (step c ev).1 [.peer (.puback 2)] = [[]]) := by
  decide +kernel

/-- **An early PINGRESP shifts nothing.**  Two pings from a connected state without a ping in
flight; the PINGRESP of the first arrives inside the first call's window, the PINGRESP of the second
after the second call: the completions fire in call order, the first in the composite step, the
second at the second PINGRESP, for all callbacks.  (Were the early PINGRESP processed before the
registration it would find no ping and be dropped; the next PINGRESP would then complete the
*first* call, and the completion of every later ping would come one PINGRESP late.) -/
theorem C12_early_pingresp_no_shift (c : C) (hc : c.connected = true) (hq : c.pings = []) (t1 t2 : Nat) :
    runOuts c [.apiEarlyAck (.ping t1) .pingresp, .api (.ping t2), .peer .pingresp] =
      [.wrote .pingreq :: completeOut t1 false, [.wrote .pingreq], completeOut t2 false] ∧
    (runState c [.apiEarlyAck (.ping t1) .pingresp, .api (.ping t2), .peer .pingresp]).pings = [] := by
  have h1 : step c (.apiEarlyAck (.ping t1) .pingresp) = ({ c with pings := [] }, .wrote .pingreq :: completeOut t1 false) := by
    simp [step, hc, apiWrite, apiRegister, hq, peer, pingAck, pingAcked, Mqtt.Generated.tPINGRESP]
  have h2 : step { c with pings := [] } (.api (.ping t2)) =
      ({ c with pings := [(0, t2)] }, [.wrote .pingreq]) := by
    simp [step, hc, apiWrite, apiRegister]
  have h3 : step { c with pings := [(0, t2)] } (.peer .pingresp) =
      ({ c with pings := [] }, completeOut t2 false) := by
    simp [step, hc, peer, pingAck, pingAcked, Mqtt.Generated.tPINGRESP]
  simp only [runOuts, runState, List.foldl_cons, List.foldl_nil, h1, h2, h3, and_self]

/-- … also with pings outstanding: two pings in flight, a third whose window receives a PINGRESP -
the PINGRESP answers the *oldest* ping (the n-th PINGRESP answers the n-th PINGREQ), the new ping
queues behind the second -/
example :
    runOuts demoA [.api (.ping 1), .api (.ping 2), .apiEarlyAck (.ping 3) .pingresp, .peer .pingresp, .peer .pingresp,
        .peer .pingresp] =
      [[.wrote .pingreq], [.wrote .pingreq], [.wrote .pingreq, .complete 1 false], [.complete 2 false],
       [.complete 3 false], []] := by
  decide +kernel

example :
    let c := (step init (.connect (.connack false 0))).1
    let call := Api.subscribe 7 [([97, 47, 35], 2)] 21 3
    callReq call = some (.sub, 7, 21) ∧ termId .sub (.suback 7 [2]) = some 7 ∧
      doneTags (step (step c (.api call)).1 (.peer (.suback 7 [2]))).2 = [21] := by
  decide +kernel

/-! ## packet identifiers

`assigned c id` is the identifier a request is written with: the caller's (`id ≠ 0`), or the next
one of the process-wide counter (`Model.Broker.nextPacketID`, the model of `message.nextPacketID`:
identifier 0 is skipped).  Because the counter is process-wide, histories here may contain, between
the events of the connection, `others d`: other connections of the process draw identifiers, the
counter advances by `d` (`PEv`, `prunState`). -/

/-- `nextPacketID` in closed form: the identifier is the new counter value modulo 2^16, never 0;
the counter advances by 1, by 2 when its low 16 bits pass 0; every call is one draw
(`drawn n = n - n / 65536` counts the identifiers drawn while the counter went from 0 to `n`). -/
theorem C12_next_identifier (ctr : Nat) :
    (nextPacketID ctr).1 = (nextPacketID ctr).2 % 65536 ∧ (nextPacketID ctr).1 ≠ 0 ∧
    (nextPacketID ctr).1 < 65536 ∧
    (nextPacketID ctr).2 = (if (ctr + 1) % 65536 = 0 then ctr + 2 else ctr + 1) ∧
    drawn (nextPacketID ctr).2 = drawn ctr + 1 :=
  ⟨nextPacketID_fst ctr, nextPacketID_ne_zero ctr, nextPacketID_lt ctr, nextPacketID_snd ctr, drawn_next ctr⟩

/-- Every QoS 1/2 PUBLISH, SUBSCRIBE and UNSUBSCRIBE a connected client writes
(`callReq call = some (k, id, tag)`: `id` is the identifier the caller
supplied, 0 = none) carries exactly one identifier, `assigned c id`: the
caller's when it supplied one (the counter stays), otherwise the next
identifier of the library's counter (the counter moves to the value that
produced it); and the request is registered in its ack queue under that same
identifier. -/
theorem C12_written_identifier (c : C) (hc : c.connected = true) (call : Api) (k : Kind) (id tag : Nat)
    (h : callReq call = some (k, id, tag)) :
    (step c (.api call)).2.filterMap writtenId = [assigned c id] ∧
    (∀ r ∈ stepAccepted k c (.api call), r.id = assigned c id) ∧
    (id ≠ 0 → assigned c id = id ∧ (step c (.api call)).1.ctr = c.ctr) ∧
    (id = 0 → assigned c id = (nextPacketID c.ctr).1 ∧ (step c (.api call)).1.ctr = (nextPacketID c.ctr).2) := by
  refine ⟨(step_api_written c hc call k id tag h).1, (step_api_written c hc call k id tag h).2, ?_, ?_⟩
  · intro hne
    refine ⟨by simp [assigned, hne], ?_⟩
    rw [step_ctr]; simp [evDraws, drawsId, h, hne]
  · intro h0
    refine ⟨by simp [assigned, h0], ?_⟩
    rw [step_ctr]; simp [evDraws, drawsId, h, h0, hc]

/-- **C12, identifiers are non-zero.**  No event, in no state - whatever the
counter, whatever the queues hold, early acknowledgements included - makes the
client write a PUBLISH (QoS 1/2), SUBSCRIBE or UNSUBSCRIBE with packet
identifier 0, the counter at 65535 modulo 2^16 included. -/
theorem C12_identifier_nonzero (c : C) (ev : Ev) : ∀ i ∈ (step c ev).2.filterMap writtenId, i ≠ 0 := by
  intro i hi
  obtain ⟨id, rfl⟩ := mem_written c ev i hi
  exact assigned_ne_zero c id

/-- … and a call that needs an identifier writes exactly one request, with `assigned c id ≠ 0`. -/
theorem C12_identifier_nonzero_call (c : C) (call : Api) (k : Kind) (id tag : Nat) (hc : c.connected = true)
    (h : callReq call = some (k, id, tag)) :
    (step c (.api call)).2.filterMap writtenId = [assigned c id] ∧ assigned c id ≠ 0 :=
  ⟨(step_api_written c hc call k id tag h).1, assigned_ne_zero c id⟩

/-- at the wrap: with the counter at 65535 a QoS 1 publish without a caller-supplied identifier is
written with identifier 1 and registered under 1; the counter has moved to 65537 -/
example :
    let c : C := { demoA with ctr := 65535 }
    (step c (.api (.publish { qos := 1, topic := [97], payload := [1] } 4))).2 =
       [.wrote (.publish { qos := 1, topic := [97], pktid := 1, payload := [1] })] ∧
    (step c (.api (.publish { qos := 1, topic := [97], payload := [1] } 4))).1.pub1ack.map (·.id) = [9, 1] ∧
    (step c (.api (.publish { qos := 1, topic := [97], payload := [1] } 4))).1.ctr = 65537 := by
  decide +kernel

/-- across the wrap with requests in flight (the corpus case `corpus/client/auto-id-wrap.ops`):
counter 65533, five requests without identifiers get 65534, 65535, 1, 2, 3 -/
example : runOuts { (step init (.connect (.connack false 0))).1 with ctr := 65533 }
    [.api (.publish { qos := 1, topic := [97], payload := [1] } 1),
     .api (.subscribe 0 [([97], 1)] 2 1),
     .api (.publish { qos := 2, topic := [98], payload := [2] } 3),
     .api (.unsubscribe 0 [[97]] 4),
     .api (.publish { qos := 1, topic := [97], payload := [3] } 5),
     .peer (.pubrec 1)] =
    [[.wrote (.publish { qos := 1, topic := [97], pktid := 65534, payload := [1] })],
     [.wrote (.subscribe 65535 [([97], 1)])],
     [.wrote (.publish { qos := 2, topic := [98], pktid := 1, payload := [2] })],
     [.wrote (.unsubscribe 2 [[97]])],
     [.wrote (.publish { qos := 1, topic := [97], pktid := 3, payload := [3] })],
     [.wrote (.pubrel 1)]] := by
  decide +kernel

/-- auto-assigned identifiers away from the wrap: three requests without identifiers get 1, 2, 3 -/
example : runOuts (step init (.connect (.connack false 0))).1
    [.api (.publish { qos := 1, topic := [97], payload := [1] } 1),
     .api (.subscribe 0 [([97], 0)] 2 7),
     .api (.unsubscribe 0 [[97]] 3),
     .api (.publish { qos := 2, topic := [97], pktid := 77, payload := [1] } 4)] =
    [[.wrote (.publish { qos := 1, topic := [97], pktid := 1, payload := [1] })],
     [.wrote (.subscribe 2 [([97], 0)])],
     [.wrote (.unsubscribe 3 [[97]])],
     [.wrote (.publish { qos := 2, topic := [97], pktid := 77, payload := [1] })]] := by
  decide +kernel

/-- **Identifiers in flight are non-zero** in every state reached from a fresh
client by any history (early acknowledgements included). -/
theorem C12_inflight_ids_nonzero (evs : List Ev) (k : Kind) :
    ∀ e ∈ queue k (runState init evs), e.id ≠ 0 :=
  run_induction idsNonzero_step init evs idsNonzero_init k

/-- … and the invariant is inductive: preserved by every step from every state that has it. -/
theorem C12_inflight_ids_nonzero_step (c : C) (ev : Ev) (h : IdsNonzero c) : IdsNonzero (step c ev).1 :=
  idsNonzero_step c ev h

example : (queue .pub1 (runState init demoC)).map (·.id) = [3, 1] := by decide +kernel

/-! ### pairwise distinct

The code takes the next identifier of a 16-bit cycle without looking at what
is in flight, and a caller may supply identifiers itself.  `Wait` ignores a
registration under an identifier that is in flight in the same ack queue, so
*within each queue* the registered identifiers are always pairwise distinct
(`C12_queue_ids_distinct`) - but the request has been written all the same, and
the four queues share one identifier space.  The property's claim is about the
requests *written*: `clearStep c ev` says that the request of `ev` is written
with an identifier that no request in flight on the connection bears
(`inFlightIds`: QoS 1 and QoS 2 publishes, subscribes, unsubscribes). -/

/-- Within each ack queue no two registered requests bear the same identifier,
in every state reached from a fresh client by any history (early
acknowledgements, repeated identifiers included): `Wait` ignores a
registration under an identifier that is in flight in its queue. -/
theorem C12_queue_ids_distinct (evs : List Ev) (k : Kind) :
    ((queue k (runState init evs)).map (·.id)).Nodup :=
  run_induction idsNodup_step init evs idsNodup_init k

/-- … and the invariant is inductive: preserved by every step from every state that has it. -/
theorem C12_queue_ids_distinct_step (c : C) (ev : Ev) (h : IdsNodup c) : IdsNodup (step c ev).1 :=
  idsNodup_step c ev h

/-- **One step, exactly.**  From a connected state whose identifiers in flight
are pairwise distinct, a call that needs an identifier leaves them pairwise
distinct *and* gets its request registered if and only if the identifier it
writes is not in flight: otherwise either the registration is dropped (same
ack queue - the request is on the wire and its completion can never fire) or
two requests in flight bear the identifier (another queue). -/
theorem C12_distinct_step_iff (c : C) (hc : c.connected = true) (h : AllDistinct c) (call : Api) (k : Kind)
    (id tag : Nat) (hreq : callReq call = some (k, id, tag)) :
    (AllDistinct (step c (.api call)).1 ∧ stepAccepted k c (.api call) ≠ []) ↔ assigned c id ∉ inFlightIds c := by
  constructor
  · rintro ⟨hd, hacc⟩ hin
    -- the registered request's identifier is among the new ones, which are apart from the old ones
    obtain ⟨r, hr⟩ := List.exists_mem_of_ne_nil _ hacc
    have hrid := (step_api_written c hc call k id tag hreq).2 r hr
    simp only [stepAccepted, hc, ↓reduceIte] at hr
    rw [step_api c hc, callOf] at hd
    have hnd := (inFlightIds_apiRegister _ _).nodup_iff.mp hd
    rw [inFlightIds_apiWrite] at hnd
    refine (List.nodup_append.mp hnd).2.2 _ hin r.id ?_ hrid.symm
    have hm : r.id ∈ (regAccepted k (apiWrite c call).1 (apiWrite c call).2.2).map (·.id) :=
      List.mem_map.mpr ⟨r, hr, rfl⟩
    cases k <;> simp only [newIds, List.mem_append] <;> simp [hm]
  · intro hnot
    have hclear := (clearStep_api hc hreq).mpr hnot
    refine ⟨allDistinct_step c _ h hclear, ?_⟩
    obtain ⟨r, hr, _⟩ := clear_registered c hc _ call (Or.inl rfl) k id tag hreq hclear
    rw [hr]; exact List.cons_ne_nil _ _

/-- A request written with an identifier not in flight is registered, under
that identifier and with its completion tag - also when its acknowledgement
arrives before the registration - and the identifiers in flight stay pairwise
distinct. -/
theorem C12_clear_step (c : C) (hc : c.connected = true) (h : AllDistinct c) (ev : Ev) (call : Api)
    (hev : ev = .api call ∨ ∃ ack, ev = .apiEarlyAck call ack) (k : Kind) (id tag : Nat)
    (hreq : callReq call = some (k, id, tag)) (hclear : clearStep c ev = true) :
    AllDistinct (step c ev).1 ∧ ∃ r, stepAccepted k c ev = [r] ∧ r.id = assigned c id ∧ r.tag = tag :=
  ⟨allDistinct_step c ev h hclear, clear_registered c hc ev call hev k id tag hreq hclear⟩

/-- every identifier a caller supplies is not in flight on the connection when the call is made -/
def callerStep (c : C) : Ev → Bool
  | .api call | .apiEarlyAck call _ =>
    match callReq call with
    | some (_, id, _) => id == 0 || !c.connected || !(inFlightIds c).contains id
    | none => true
  | _ => true

def CallerClear (c : C) : List PEv → Bool
  | [] => true
  | .own ev :: xs => callerStep c ev && CallerClear (step c ev).1 xs
  | .others d :: xs => CallerClear { c with ctr := c.ctr + d } xs

/-- the property's claim, in its most favourable reading: as long as the caller
never supplies an identifier that is in flight, every request is written with
an identifier that is not in flight (so the identifiers of the requests in
flight are pairwise distinct and every request is registered: `C12_clear_step`) -/
def C12_inflight_ids_distinct_full : Prop :=
  ∀ xs : List PEv, CallerClear init xs = true → Clear init xs = true

/-- **C12, identifiers in flight are pairwise distinct (the part that holds).**
`Roomy ⟨c, []⟩ xs` (decidable, evaluated along the run with the ghost list of
the library-assigned identifiers in flight and the counter values that
produced them) admits a history iff at every call that needs an identifier

* caller-supplied: the identifier is not in flight;
* library-assigned: every library-assigned identifier in flight was produced
  fewer than 2^16 counter steps before the new one - i.e. fewer than 65535
  identifiers have been drawn in the whole process since
  (`C12_window_in_draws`) -, and the new identifier is not a caller-supplied
  one in flight.

From every state whose identifiers in flight are pairwise distinct, along every
admitted history - other connections drawing identifiers in between, early
acknowledgements included - every request is written with an identifier not in
flight, and the identifiers in flight are pairwise distinct at every point.  (The ghost list starts
empty: identifiers already in flight in `c`, library-assigned or not, count as caller-supplied.) -/
theorem C12_inflight_ids_distinct_partial (c : C) (h : AllDistinct c) (xs : List PEv)
    (hr : Roomy ⟨c, []⟩ xs = true) :
    Clear c xs = true ∧ ∀ a b, xs = a ++ b → AllDistinct (prunState c a) := by
  have hclear := roomy_clear ⟨c, []⟩ xs (fun b hb => by cases hb) hr
  refine ⟨hclear, ?_⟩
  rintro a b rfl
  rw [clear_append, Bool.and_eq_true] at hclear
  exact allDistinct_prun c a h hclear.1

/-- … in particular from a fresh client. -/
theorem C12_inflight_ids_distinct_partial_init (xs : List PEv) (hr : Roomy ⟨init, []⟩ xs = true) :
    Clear init xs = true ∧ ∀ a b, xs = a ++ b → AllDistinct (prunState init a) :=
  C12_inflight_ids_distinct_partial init allDistinct_init xs hr

/-- The window in counter steps is a window in identifiers drawn: between two
counter values `n ≤ n'` that produce identifiers lie fewer than 2^16 counter
steps exactly when fewer than 65535 identifiers were drawn after `n`, up to
and including `n'`; and two different counter values that produce the same
identifier are at least 2^16 steps - 65535 draws - apart. -/
theorem C12_window_in_draws (n n' : Nat) (hn : n % 65536 ≠ 0) :
    (n ≤ n' → (n' - n < 65536 ↔ drawn n' - drawn n < 65535)) ∧
    (n < n' → n % 65536 = n' % 65536 → 65536 ≤ n' - n ∧ 65535 ≤ drawn n' - drawn n) :=
by
  -- in terms of quotient, residue and draws of the two values the claim is linear
  have e : drawn n + n / 65536 = n := Nat.sub_add_cancel (Nat.div_le_self n 65536)
  have e' : drawn n' + n' / 65536 = n' := Nat.sub_add_cancel (Nat.div_le_self n' 65536)
  have d := Nat.div_add_mod n 65536
  have d' := Nat.div_add_mod n' 65536
  have hr := Nat.mod_lt n (by decide : 0 < 65536)
  have hr' := Nat.mod_lt n' (by decide : 0 < 65536)
  generalize drawn n = a at *
  generalize drawn n' = a' at *
  generalize n / 65536 = q at *
  generalize n' / 65536 = q' at *
  generalize n % 65536 = r at *
  generalize n' % 65536 = r' at *
  constructor <;> intros <;> omega

/-- non-vacuity: an admitted history across the wrap - counter advanced by other connections to
65533, five requests numbered by the library, one with a caller-supplied identifier, acknowledgements
in between, other connections drawing 60000 identifiers while requests stay in flight -/
def demoW : List PEv :=
  [.own (.connect (.connack false 0)), .others 65533,
   .own (.api (.publish { qos := 1, topic := [97], payload := [1] } 1)),
   .own (.api (.subscribe 0 [([97], 1)] 2 1)),
   .own (.api (.publish { qos := 2, topic := [98], payload := [2] } 3)),
   .own (.api (.publish { qos := 1, topic := [98], pktid := 700, payload := [] } 6)),
   .own (.peer (.puback 65534)),
   .others 60000,
   .own (.api (.unsubscribe 0 [[97]] 4)),
   .own (.apiEarlyAck (.publish { qos := 1, topic := [97], payload := [3] } 5) (.pubrec 1))]

example : Roomy ⟨init, []⟩ demoW = true ∧ inFlightIds (prunState init demoW) = [700, 60003, 1, 65535, 60002] ∧
    (prunState init demoW).ctr = 125539 := by
  decide +kernel

/-- **It is false of the code**, in two ways.

(1) A caller-supplied identifier meets the counter: a QoS 1 publish with the
caller's identifier 1, then a QoS 1 publish that leaves the identifier to the
library: the library assigns 1 as well.  Both PUBLISH packets are written with
identifier 1; `Wait` drops the second registration; the PUBACK completes the
first request only, the completion of the second never fires.

(2) No caller-supplied identifier at all: a request numbered by the library
stays in flight while 65535 identifiers are drawn in the process (here by other
connections: `others 65535`, the counter goes from 1 to 65536); the next
request of the connection - a SUBSCRIBE - gets the same identifier 1: two
requests in flight bear it. -/
theorem C12_inflight_ids_distinct_counterexample : ¬ C12_inflight_ids_distinct_full ∧
    (let evs : List Ev := [.connect (.connack false 0),
        .api (.publish { qos := 1, topic := [97], pktid := 1, payload := [1] } 1),
        .api (.publish { qos := 1, topic := [97], payload := [2] } 2),
        .peer (.puback 1), .peer (.puback 1)]
     runOuts init evs =
       [[.connected],
        [.wrote (.publish { qos := 1, topic := [97], pktid := 1, payload := [1] })],
        [.wrote (.publish { qos := 1, topic := [97], pktid := 1, payload := [2] })],
        [.complete 1 false], []] ∧
     (runState init (evs.take 3)).pub1ack.map (fun r => (r.id, r.tag)) = [(1, 1)]) ∧
    (let xs : List PEv := [.own (.connect (.connack false 0)),
        .own (.api (.publish { qos := 1, topic := [97], payload := [1] } 1)),
        .others 65535,
        .own (.api (.subscribe 0 [([97], 1)] 2 1))]
     CallerClear init xs = true ∧ Clear init xs = false ∧
     inFlightIds (prunState init xs) = [1, 1] ∧ (prunState init xs).ctr = 65537) := by
  refine ⟨fun h => ?_, by decide +kernel, by decide +kernel⟩
  exact absurd (h [.own (.connect (.connack false 0)),
        .own (.api (.publish { qos := 1, topic := [97], pktid := 1, payload := [1] } 1)),
        .own (.api (.publish { qos := 1, topic := [97], payload := [2] } 2))] (by decide +kernel)) (by decide +kernel)

/-! ## refinement: the code-shaped model against the reference client

`Spec.Client.step` is the reference client written from MQTT 3.1.1 and the
property texts.  `RunMatch sos mos`: event by event the model's outputs `mos`
agree with the specification's `sos` after the canonical projection of the
driver (`EvMatch`: packets written and completions in order, literally -
except that a delivered message fixes callback, topic and payload only, and
`completeAny` leaves the error value open -, message callbacks as a multiset).
`Ok s evs` (decidable, evaluated along the *specification's* run) admits a
history iff every event is inside the recorded exclusions:

* the composite event `.apiEarlyAck call ack` is admitted iff `.api call` is and,
  after it, `.peer ack` is (no exclusion of its own);
* filters and delivered topic names without empty levels and not beginning
  with `$` (`good`, B3), delivered names valid, QoS <= 2;
* QoS 1/2 publishes, subscribes, unsubscribes carry a caller-supplied non-zero
  identifier (`Spec.Client.step` tracks a request by the identifier on the
  event; of a library-assigned identifier the reference client demands only
  `Spec.Client.idAllowed` - non-zero, 16 bits, not in flight - and the
  specification stream knows such a request by a name, `Spec.Client.autoName`:
  the section on packet identifiers has the model's side);
* and the peer keeps to the protocol where the property is silent: SUBACK
  return codes in {0, 1, 2, 0x80}, no PUBREC for an exchange whose PUBCOMP was
  already processed, filters of one Subscribe valid and pairwise different
  (see NOTES-bp4.md: outside these the two sides differ, counterexamples below). -/

/-- **C12/C20, refinement (the part that holds).**  For every admitted history
from a fresh client the model's outputs agree with the reference client's,
event by event, and the two end in related states. -/
theorem C12_refines_spec_partial (evs : List Ev) (hok : Ok {} evs = true) :
    RunMatch (specOuts {} evs) (runOuts init evs) ∧
    R (runState init evs) (evs.foldl (fun s ev => (Mqtt.Spec.Client.step s ev).1) {}) :=
  run_sim evs init {} R_init hok

/-- … and from every pair of related states (the relation is inductive). -/
theorem C12_refines_spec_step (c : C) (s : Mqtt.Spec.Client.S) (hR : R c s) (ev : Ev) (hok : okStep s ev = true) :
    R (step c ev).1 (Mqtt.Spec.Client.step s ev).1 ∧ EvMatch (Mqtt.Spec.Client.step s ev).2 (step c ev).2 :=
  step_sim c s hR ev hok

/-- the statement without the exclusions -/
def C12_refines_spec_full : Prop := ∀ evs : List Ev, RunMatch (specOuts {} evs) (runOuts init evs)

/-- non-vacuity: an admitted history exercising every kind of event - out-of-order PUBACKs, a QoS 2
publish with PUBREC/PUBCOMP, subscribe with a refused filter, inbound QoS 0/1/2 with a duplicate,
unsubscribe, ping (several outstanding pings: `demoP` below) -/
def demoD : List Ev :=
  [.connect (.connack true 0),
   .api (.publish { qos := 1, topic := [97], pktid := 1, payload := [1] } 11),
   .api (.publish { qos := 1, topic := [97, 47, 98], pktid := 2, payload := [2] } 12),
   .api (.subscribe 3 [([97, 47, 43], 1), ([98], 2), ([99, 47, 35], 0)] 13 9),
   .api (.publish { qos := 2, topic := [98], pktid := 4, payload := [7] } 14),
   .api (.publish { qos := 0, topic := [98], payload := [8] } 15),
   .peer (.puback 2),
   .peer (.pubrec 4),
   .peer (.puback 1),
   .peer (.suback 3 [1, 2, 128]),
   .peer (.publish { qos := 1, topic := [97, 47, 98], pktid := 100, payload := [1] }),
   .peer (.publish { qos := 2, topic := [98], pktid := 101, payload := [2] }),
   .peer (.publish { dup := true, qos := 2, topic := [98], pktid := 101, payload := [2] }),
   .peer (.publish { qos := 0, topic := [99, 47, 100], payload := [3] }),
   .peer (.pubrel 101),
   .peer (.pubcomp 4),
   .api (.unsubscribe 5 [[98], [98]] 16),
   .api (.ping 17),
   .peer (.unsuback 5),
   .peer (.publish { qos := 0, topic := [98], payload := [4] }),
   .peer .pingresp,
   .peer .pingreq]

example : Ok {} demoD = true := by decide +kernel

example : (runOuts init demoD).drop 8 =
    [[.complete 11 false, .complete 12 false],
     [.complete 13 true],
     [.wrote (.puback 100), .deliver 9 { qos := 1, topic := [97, 47, 98], pktid := 100, payload := [1] }],
     [.wrote (.pubrec 101)], [.wrote (.pubrec 101)],
     [],
     [.deliver 9 { qos := 2, topic := [98], pktid := 101, payload := [2] }, .wrote (.pubcomp 101)],
     [.complete 14 false],
     [.wrote (.unsubscribe 5 [[98]])],
     [.wrote .pingreq],
     [.complete 16 false],
     [],
     [.complete 17 false],
     [.wrote .pingresp]] := by decide +kernel

example : RunMatch (specOuts {} demoD) (runOuts init demoD) := (C12_refines_spec_partial demoD (by decide +kernel)).1

/-- Acknowledgements that arrive inside the window are admitted: a QoS 1 publish whose PUBACK
arrives inside its window behind another publish in flight, an early SUBACK whose filters deliver at once, an early PINGRESP with a
ping outstanding - the model completes every request, in order, exactly as the reference client. -/
def demoE5 : List Ev :=
  [.connect (.connack false 0),
   .api (.publish { qos := 1, topic := [97], pktid := 9, payload := [] } 3),
   .apiEarlyAck (.publish { qos := 1, topic := [97], pktid := 2, payload := [1] } 4) (.puback 2),
   .peer (.puback 9),
   .apiEarlyAck (.subscribe 5 [([97, 47, 35], 1)] 6 8) (.suback 5 [1]),
   .peer (.publish { qos := 0, topic := [97, 47, 98], payload := [7] }),
   .api (.ping 10),
   .apiEarlyAck (.ping 11) .pingresp,
   .apiEarlyAck (.publish { qos := 2, topic := [98], pktid := 12, payload := [] } 13) (.pubcomp 12),
   .peer .pingresp]

theorem C12_refines_spec_early_acks :
    Ok {} demoE5 = true ∧ RunMatch (specOuts {} demoE5) (runOuts init demoE5) ∧
    runOuts init demoE5 =
      [[.connected],
       [.wrote (.publish { qos := 1, topic := [97], pktid := 9, payload := [] })],
       [.wrote (.publish { qos := 1, topic := [97], pktid := 2, payload := [1] })],
       [.complete 3 false, .complete 4 false],
       [.wrote (.subscribe 5 [([97, 47, 35], 1)]), .complete 6 false],
       [.deliver 8 { qos := 0, topic := [97, 47, 98], payload := [7] }],
       [.wrote .pingreq],
       [.wrote .pingreq, .complete 10 false],
       [.wrote (.publish { qos := 2, topic := [98], pktid := 12, payload := [] }), .complete 13 false],
       [.complete 11 false]] :=
by
  have hok : Ok {} demoE5 = true := by decide +kernel
  exact ⟨hok, (C12_refines_spec_partial demoE5 hok).1, by decide +kernel⟩

/-- Several outstanding pings are admitted: three pings before
the first PINGRESP, PINGRESPs interleaved with another acknowledgement, a PINGRESP with nothing
outstanding - the model completes every ping, in call order, exactly as the reference client does. -/
def demoP : List Ev :=
  [.connect (.connack false 0), .api (.ping 1), .api (.ping 2),
   .api (.publish { qos := 1, topic := [97], pktid := 3, payload := [1] } 5),
   .api (.ping 4), .peer .pingresp, .peer (.puback 3), .peer .pingresp, .peer .pingresp, .peer .pingresp]

theorem C12_refines_spec_pings :
    Ok {} demoP = true ∧ RunMatch (specOuts {} demoP) (runOuts init demoP) ∧
    runOuts init demoP =
      [[.connected], [.wrote .pingreq], [.wrote .pingreq],
       [.wrote (.publish { qos := 1, topic := [97], pktid := 3, payload := [1] })],
       [.wrote .pingreq], [.complete 1 false], [.complete 5 false], [.complete 2 false], [.complete 4 false], []] :=
by
  have hok : Ok {} demoP = true := by decide +kernel
  exact ⟨hok, (C12_refines_spec_partial demoP hok).1, by decide +kernel⟩

/-- Overlapping filters within one request are admitted: a
request with the filters `a/+`, `a/b` and a second request with `a/#`; a delivered `a/b` (QoS 0, and
QoS 2 at its PUBREL) invokes each request's callback exactly once, in the model as in the reference
client. -/
def demoE9 : List Ev :=
  [.connect (.connack false 0), .api (.subscribe 1 [([97, 47, 43], 1), ([97, 47, 98], 1)] 5 9),
   .peer (.suback 1 [1, 1]), .api (.subscribe 2 [([97, 47, 35], 0)] 6 4), .peer (.suback 2 [0]),
   .peer (.publish { qos := 0, topic := [97, 47, 98], payload := [7] }),
   .peer (.publish { qos := 2, topic := [97, 47, 98], pktid := 100, payload := [8] }),
   .peer (.pubrel 100)]

theorem C12_refines_spec_overlapping_filters :
    Ok {} demoE9 = true ∧ RunMatch (specOuts {} demoE9) (runOuts init demoE9) ∧
    ((runOuts init demoE9).drop 5).map (fun o => ((deliveriesTo 9 o).length, (deliveriesTo 4 o).length)) =
      [(1, 1), (0, 0), (1, 1)] :=
by
  have hok : Ok {} demoE9 = true := by decide +kernel
  exact ⟨hok, (C12_refines_spec_partial demoE9 hok).1, by decide +kernel⟩

/-- B3 (`good`) is needed: the filter `/a` receives `x/a` in the model, not in the reference client. -/
theorem C12_refines_spec_B3_counterexample :
    ¬ RunMatch (specOuts {} [.connect (.connack false 0), .api (.subscribe 1 [([47, 97], 1)] 5 9),
        .peer (.suback 1 [1]), .peer (.publish { qos := 0, topic := [120, 47, 97], payload := [1] })])
      (runOuts init [.connect (.connack false 0), .api (.subscribe 1 [([47, 97], 1)] 5 9),
        .peer (.suback 1 [1]), .peer (.publish { qos := 0, topic := [120, 47, 97], payload := [1] })]) := by
  intro h
  exact absurd (runMatchB_of h) (by decide +kernel)

/-- A PUBREC arriving after the PUBCOMP of the same (still queued) exchange reverts the request to
non-terminal in the model (Core C "state regression", modelled as the code has it); the reference
client keeps it completed. -/
theorem C12_refines_spec_late_pubrec_counterexample :
    ¬ RunMatch (specOuts {} [.connect (.connack false 0),
        .api (.publish { qos := 2, topic := [97], pktid := 1, payload := [] } 1),
        .api (.publish { qos := 2, topic := [97], pktid := 2, payload := [] } 2),
        .peer (.pubcomp 2), .peer (.pubrec 2), .peer (.pubcomp 1)])
      (runOuts init [.connect (.connack false 0),
        .api (.publish { qos := 2, topic := [97], pktid := 1, payload := [] } 1),
        .api (.publish { qos := 2, topic := [97], pktid := 2, payload := [] } 2),
        .peer (.pubcomp 2), .peer (.pubrec 2), .peer (.pubcomp 1)]) := by
  intro h
  exact absurd (runMatchB_of h) (by decide +kernel)

/-- A SUBACK return code outside {0, 1, 2, 0x80} (here 3): the model reports an error to the
completion and installs nothing, the reference client reports success and holds the filter. -/
theorem C12_refines_spec_suback_code_counterexample :
    ¬ RunMatch (specOuts {} [.connect (.connack false 0), .api (.subscribe 1 [([97], 1)] 5 9), .peer (.suback 1 [3])])
      (runOuts init [.connect (.connack false 0), .api (.subscribe 1 [([97], 1)] 5 9), .peer (.suback 1 [3])]) := by
  intro h
  exact absurd (runMatchB_of h) (by decide +kernel)

/-- A library-assigned identifier: the reference client registers such a request under 0 and never
completes it, the model (and the code) complete it. -/
theorem C12_refines_spec_auto_id_counterexample :
    ¬ RunMatch (specOuts {} [.connect (.connack false 0),
        .api (.publish { qos := 1, topic := [97], payload := [] } 1), .peer (.puback 1)])
      (runOuts init [.connect (.connack false 0),
        .api (.publish { qos := 1, topic := [97], payload := [] } 1), .peer (.puback 1)]) := by
  intro h
  exact absurd (runMatchB_of h) (by decide +kernel)

theorem C12_refines_spec_full_counterexample : ¬ C12_refines_spec_full :=
  fun h => C12_refines_spec_B3_counterexample (h _)

/-! ## why the acknowledgement waits: the two critical sections of `service.ackmu`

`Model/AckLock.lean` runs the sending calls and the processor as small-step programs over one
mutex: any number of senders (one acknowledged request each: `Lock · writeMessage ·
[verifAckWindow] · Wait · Unlock`), the processor (`next acknowledgement · Lock · Ack · Unlock ·
processAcked`), and a peer that sends acknowledgements bearing any identifier at any time.
The theorems quantify over every schedule (`sched : List Choice`, any length; a choice that is not
enabled is skipped).  What is proved is the ordering that `Model/Client.step` gives the composite event
`.apiEarlyAck` by definition (`C12_early_ack_is_call_then_ack`); no theorem connects the two models, the
link is the comment at that event in `Model/Client.lean`.  The programs are tied to the source by
`C12_ack_lock_structure_is_source`. -/

section AckLock
open Mqtt.Model.AckLock Mqtt.Proofs.AckLock

/-- **No acknowledgement is marked inside the window of its request.**  In every reachable state of the two programs of
the source, for any number of senders, any schedule and whatever the peer sends:

* no `Ackqueue.Ack` so far was performed while the request whose identifier it bears was written
  but not yet registered (`inWindow = false`): every mark happens after the registration or before
  the write of that request;
* an acknowledgement the peer sent after the request was written (`caused`) found the request
  registered (`found`): it is recorded, and `processAcked` completes the request;
* a completion ran only for a registered request;
* while a request is written and not yet registered, its sender holds the mutex. -/
theorem C12_ack_waits_for_registration (sched : List Choice) :
    let s := run senderProgram procProgram Mqtt.Model.AckLock.init sched
    (∀ m ∈ s.marks, m.inWindow = false ∧ (m.caused = true → m.found = true)) ∧
    (∀ i ∈ s.completed, s.registered i = true) ∧
    (∀ i, s.written i = true → s.registered i = false → s.holder = some (.sender i)) := by
  intro s
  have h := inv_reachable sched
  exact ⟨h.marks, h.compl, fun i hw hr => h.window_holds i hw hr⟩

/-- Mutual exclusion and the shape of the critical sections: in every reachable state a sender
holds the mutex exactly between its `Lock` and its `Unlock` - the request is written from the second
operation on and registered from the fourth on -, the processor holds it exactly around `Ack`, and
not while the completion callbacks run (`ppc = 4`: a callback may itself publish, subscribe or
ping, i.e. start a sender that takes the mutex). -/
theorem C12_ack_critical_sections (sched : List Choice) :
    let s := run senderProgram procProgram Mqtt.Model.AckLock.init sched
    (∀ i, s.holder = some (.sender i) ↔ (1 ≤ s.spc i ∧ s.spc i ≤ 4)) ∧
    (∀ i, s.written i = true ↔ 2 ≤ s.spc i) ∧ (∀ i, s.registered i = true ↔ 4 ≤ s.spc i) ∧
    (s.holder = some .proc ↔ (s.ppc = 2 ∨ s.ppc = 3)) ∧
    (s.ppc = 4 → s.holder ≠ some .proc) := by
  intro s
  have h := inv_reachable sched
  refine ⟨h.hold, h.wr, h.reg, h.phold, fun h4 e => ?_⟩
  have h2 : s.ppc = 2 ∨ s.ppc = 3 := h.phold.mp e
  omega

/-- non-vacuity: the acknowledgement of request 0 arrives inside the window; the
processor's `Lock` is not enabled until the sender has registered and unlocked; then the
acknowledgement finds the request and the completion runs.  Two more senders and a stray
acknowledgement (identifier 2, sent before request 2 is written: not found, nothing completes)
in between. -/
example :
    let s := run senderProgram procProgram Mqtt.Model.AckLock.init
      [.sender 0, .sender 0, .peer 0, .proc, .proc, .sender 1, .sender 0, .proc, .sender 0, .sender 0,
       .proc, .sender 1, .proc, .proc, .proc,
       .peer 2, .sender 1, .proc, .proc, .sender 1, .sender 1, .sender 1, .sender 1, .proc, .proc, .proc, .proc,
       .sender 2, .sender 2, .sender 2, .sender 2, .sender 2]
    s.marks = [⟨0, true, true, false⟩, ⟨2, false, false, false⟩] ∧ s.completed = [0] ∧
    s.registered 0 = true ∧ s.registered 1 = true ∧ s.registered 2 = true ∧ s.holder = none := by
  decide +kernel

/-- **The mutex is necessary.**  The programs of the code before the repair (no lock operations):
the request is written, its acknowledgement arrives and is marked before the registration - it
falls into the window, finds nothing, and the request, registered afterwards, never completes
(finding E5). -/
theorem C12_ack_window_unlocked_counterexample :
    let s := run senderProgramOld procProgramOld Mqtt.Model.AckLock.init
      [.sender 0, .peer 0, .proc, .proc, .sender 0, .sender 0, .proc]
    s.marks = [⟨0, true, false, true⟩] ∧ s.registered 0 = true ∧ s.completed = [] := by
  decide +kernel

/-- **The registration has to be inside the critical section.**  A sender that keeps the mutex
around the write but registers after `Unlock`: the acknowledgement gets the mutex between the
`Unlock` and the `Wait`, and is lost in the same way. -/
theorem C12_ack_wait_outside_counterexample :
    let s := run senderProgramWaitOutside procProgram Mqtt.Model.AckLock.init
      [.sender 0, .sender 0, .peer 0, .proc, .proc, .sender 0, .sender 0, .proc, .proc, .proc, .proc, .sender 0]
    s.marks = [⟨0, true, false, true⟩] ∧ s.registered 0 = true ∧ s.completed = [] := by
  decide +kernel

/-- **The two programs are the source's.**  The lock structure regenerated from
service/service.go and service/process.go on every run (which functions take `ackmu` around which
calls, in source order) is exactly the shape of `senderProgram` and `procProgram`: `subscribe`,
`unsubscribe`, `ping` and `publish` for QoS 1/2 are `Lock; defer Unlock; writeMessage;
verifAckWindow; Wait`; `ack` is `Lock; defer Unlock; Ackqueue.Ack` and the only caller of
`Ackqueue.Ack`; `processIncoming` calls `processAcked` only after `ack` has returned.  A change that
removes the mutex, moves a `Wait` or `processAcked` across its boundary, adds an explicit `Unlock`,
or registers / acknowledges somewhere else makes this theorem false. -/
theorem C12_ack_lock_structure_is_source :
    ((∀ name ∈ ["subscribe", "unsubscribe", "ping"],
        Mqtt.Generated.ackSenders.lookup name = deferredShape (senderProgram.map SOp.code)) ∧
      publishInlined "QosAtLeastOnce" = deferredShape (senderProgram.map SOp.code) ∧
      publishInlined "QosExactlyOnce" = deferredShape (senderProgram.map SOp.code) ∧
      publishQos0 = some [3, 4, 8] ∧
      Mqtt.Generated.ackSendPublishCallers = ["publish", "publish"] ∧
      Mqtt.Generated.ackLockSites = ["ack", "ping", "publish", "subscribe", "unsubscribe"] ∧
      Mqtt.Generated.ackUnlockSites = [] ∧
      Mqtt.Generated.ackWaitSites =
        ["ping", "processPublish", "sendPublish", "sendPublish", "subscribe", "unsubscribe"]) ∧
    (some Mqtt.Generated.ackHelper = deferredShape ((procProgram.drop 1).dropLast.map POp.code) ∧
      Mqtt.Generated.ackAckSites = ["ack"] ∧
      Mqtt.Generated.ackProcessIncomingOutside = 0 ∧ Mqtt.Generated.ackIrregular = 0 ∧
      (∀ c ∈ Mqtt.Generated.ackProcessIncoming, c.2.head? = some 10 ∧ c.2.tail.all (fun x => x == 11 || x == 3)) ∧
      (∀ name ∈ ["PubackMessage", "PubcompMessage", "SubackMessage", "UnsubackMessage", "PingrespMessage"],
        Mqtt.Generated.ackProcessIncoming.lookup name = some [10, 11])) := by
  have hs := facts_senders
  have hp := facts_processor
  obtain ⟨s1, s2, s3, s4, _, _, s7, s8, _, s10, s11, _⟩ := hs
  obtain ⟨p1, p2, _, _, p5, _, p7, _, p9, p10⟩ := hp
  exact ⟨⟨s1, s2, s3, s4, s7, s8, s10, s11⟩, p1, p2, p5, p7, p9, p10⟩

end AckLock

/-! ## the ack queues of the client model are `sessions.Ackqueue`

The client model keeps its five identifier-keyed queues (`pub1ack`, `pub2out`, `pub2in`, `suback`,
`unsuback`: `QKind`) as lists of `Req` with `Queue.wait` / `Queue.ack` / `Queue.acked`, and the ping
FIFO of `Pingack` as a list of `(state, tag)` with `pingAck` / `pingAcked`.  The code keeps six
`sessions.Ackqueue` objects (ring buffer + index map + ping FIFO, `Model/AckQueue.lean`).
`Proofs/ClientQueues.lean` has the vocabulary:

* `COp` - `wait id tag pub topics cb` (= `Queue.wait` of the request as the model registers it),
  `ack t id codes`, `acked`; `cstep` / `crun` the list semantics; `toOp cd k` the same call on the
  `Ackqueue` (`Wait` with the message type and QoS of queue `k`, `Ack` with type, identifier, bytes);
* `proj cd k` - the entry a request stands for; `Coding` (`enc`, `ackb`, `clo`) supplies what the
  real queue stores in another form: the bytes of the request (`Msgbuf`), the bytes of the
  acknowledgement (`Ackbuf`; the model keeps the type and, of a SUBACK, the return codes), the
  `OnComplete` value (the model keeps the completion tag and the message callback).  The theorems
  hold for *every* `Coding`; `C12_queue_decodes` adds what is assumed for the way back;
* `POp` (`ping tag`, `resp`, `acked`), `pstep` / `prun`, `toPOp`, `pproj` for the pings;
* `evOps k c ev` / `histOps`, `evPOps` / `histPOps` - the calls a client event makes on a queue.

Not represented on the client's side: `Wait` of a request whose `Encode` fails (`enc = none` in
`Model.AckQueue.insert`: nothing is stored) - the client model has no such outcome, `toOp` always
passes `some` bytes (for the messages the API builds, `C03_reachable_encode_succeeds`). -/

section Queues
open Mqtt.Proofs.ClientQueues
open Mqtt.Spec

/-- **Simulation.**  On every list, each operation of the client model is the FIFO
specification's operation on the projected queue: `Queue.wait` is `register` (a registration under
an identifier that is in flight is dropped), `Queue.ack` with an identifier-bearing type is `ackId`
(an unknown identifier changes nothing), `Queue.acked` is `collect` (the maximal prefix of requests
whose last acknowledgement ends the exchange - the model's `terminal`, from the regenerated
`ackedReleaseStates`, is the protocol's); and so is every history of them, outputs included. -/
theorem C12_queue_is_fifo (cd : Coding) (k : QKind) (q : Queue) :
    (∀ pg id tag pub topics cb,
      Fifo.register ⟨q.map (proj cd k), pg⟩ ⟨k.mtype, 0, id, cd.enc id pub topics, [], cd.clo tag cb⟩ =
        ⟨(q.wait (mkReq id tag pub topics cb)).map (proj cd k), pg⟩) ∧
    (∀ pg t id codes, Fifo.isIdAck t = true →
      Fifo.ackId ⟨q.map (proj cd k), pg⟩ t id (cd.ackb t id codes) = ⟨(q.ack t id codes).map (proj cd k), pg⟩) ∧
    (∀ pg, Fifo.collect ⟨q.map (proj cd k), pg⟩ =
      (⟨q.acked.1.map (proj cd k), pg⟩, q.acked.2.map (proj cd k))) ∧
    (∀ t, terminal t = Fifo.terminal t) ∧
    (∀ ops : List COp, OkOps ops →
      (Fifo.run ⟨q.map (proj cd k), []⟩ (ops.map (toOp cd k))).1 = ⟨(crun q ops).1.map (proj cd k), []⟩ ∧
      (Fifo.run ⟨q.map (proj cd k), []⟩ (ops.map (toOp cd k))).2 =
        (List.zip (crun q ops).2 ops).map (fun x => cout cd k x.1 x.2)) :=
  ⟨fun pg id tag pub topics cb => sim_register cd k q pg id tag pub topics cb,
   fun pg t id codes ht => sim_ackId cd k q pg t id codes ht,
   fun pg => sim_collect cd k q pg, Mqtt.Proofs.AckQueue.facts_terminal, fun ops h => sim_run cd k q ops h⟩

/-- **Composed with C13: each of the five queues is an `Ackqueue`.**  For every queue kind,
every `Coding` and every history `ops` of `wait` / `ack` / `acked` operations (`OkOps`: the `ack`s
bear one of the six identifier-carrying types - all the client role ever passes, `C12_queue_ops`),
starting from the queue a session creates: the abstraction of the ring-based ack queue after the
corresponding `Wait` / `Ack` / `Acked` calls *is* the projection of the list the client model holds,
every `Acked` hands back the projection of the requests the list releases, and the object's ping
FIFO stays empty (so the "answered pings first" part of `Acked()`'s result is always empty here). -/
theorem C12_queue_is_ackqueue (cd : Coding) (k : QKind) (ops : List COp) (hops : OkOps ops) :
    Mqtt.Proofs.AckQueue.abs (Mqtt.Model.AckQueue.run Mqtt.Model.AckQueue.init (ops.map (toOp cd k))).1 =
      ⟨(crun [] ops).1.map (proj cd k), []⟩ ∧
    (Mqtt.Model.AckQueue.run Mqtt.Model.AckQueue.init (ops.map (toOp cd k))).2.map C13.outAbs =
      (List.zip (crun [] ops).2 ops).map (fun x => cout cd k x.1 x.2) := by
  obtain ⟨h1, h2⟩ := C13.C13_refines_init (ops.map (toOp cd k))
  obtain ⟨s1, s2⟩ := sim_run cd k [] ops hops
  exact ⟨h1.trans s1, h2.trans s2⟩

/-- **The ping FIFO is the `Ackqueue` `Pingack`.**  For every history of `ping` / `resp` /
`acked` operations (no side condition), starting from the queue a session creates: the ping FIFO of
the ring-based ack queue after the corresponding `Wait(PINGREQ)` / `Ack(PINGRESP)` / `Acked` calls is
the projection of the list the client model holds (`preq`, `presp`: the bytes of a PINGREQ and of a
PINGRESP), every `Acked` hands back the projection of the pings the list releases, and the ring part
of the object stays empty. -/
theorem C12_pings_are_ackqueue (preq presp : List UInt8) (ops : List POp) :
    Mqtt.Proofs.AckQueue.abs (Mqtt.Model.AckQueue.run Mqtt.Model.AckQueue.init (ops.map (toPOp preq presp))).1 =
      ⟨[], (prun [] ops).1.map (pproj preq presp)⟩ ∧
    (Mqtt.Model.AckQueue.run Mqtt.Model.AckQueue.init (ops.map (toPOp preq presp))).2.map C13.outAbs =
      (List.zip (prun [] ops).2 ops).map (fun x => pout preq presp x.1 x.2) := by
  obtain ⟨h1, h2⟩ := C13.C13_refines_init (ops.map (toPOp preq presp))
  obtain ⟨s1, s2⟩ := psim_run preq presp [] ops
  exact ⟨h1.trans s1, h2.trans s2⟩

/-- **The order inside `Acked()`'s result is never observed.**  `Acked()` returns the answered pings
first, then the released ring entries.  The client role registers pings in `Pingack` only and
identified requests in the other five objects only, so in every state any of the six objects reaches
one of the two segments of the next `Acked()` is empty. -/
theorem C12_acked_order_unobserved (cd : Coding) (k : QKind) (ops : List COp) (hops : OkOps ops)
    (preq presp : List UInt8) (pops : List POp) :
    (Fifo.collectPings (Mqtt.Proofs.AckQueue.abs
      (Mqtt.Model.AckQueue.run Mqtt.Model.AckQueue.init (ops.map (toOp cd k))).1)).2 = [] ∧
    (Fifo.collect (Mqtt.Proofs.AckQueue.abs
      (Mqtt.Model.AckQueue.run Mqtt.Model.AckQueue.init (pops.map (toPOp preq presp))).1)).2 = [] := by
  rw [(C12_queue_is_ackqueue cd k ops hops).1, (C12_pings_are_ackqueue preq presp pops).1]
  exact ⟨rfl, rfl⟩

/-- **What the client does to its queues per event** is `evOps k c ev` (`evPOps c ev` for the pings),
in every state, for every event (the composite early-acknowledgement event included): the API calls
end in one `Wait` on the queue of their kind (`regOps`; QoS 0 registers nothing); `processIncoming`
makes one `Wait` (inbound QoS 2 PUBLISH), one `Ack` (PUBREC) or one `Ack` followed by `Acked`
(`peerOps`); nothing happens before `Connect` has succeeded.  All these calls satisfy `OkOps` and
`TidyOps`.  The requests the model hands to its completion wrappers (to `onPublish` for the inbound
queue) are the outputs of those calls. -/
theorem C12_queue_ops (k : QKind) (c : C) (ev : Ev) (p : Packet) (id : Nat) :
    qof k (step c ev).1 = (crun (qof k c) (evOps k c ev)).1 ∧
    OkOps (evOps k c ev) ∧ TidyOps (evOps k c ev) ∧
    (step c ev).1.pings = (prun c.pings (evPOps c ev)).1 ∧
    (∀ kk : Kind, peerReleased kk c p = relOf (ofKind kk) c p) ∧
    peer c (.pubrel id) =
      ({ c with pub2in := (crun c.pub2in (peerOps .pub2in (.pubrel id))).1 },
       (relOf .pub2in c (.pubrel id)).flatMap
          (fun r => match r.pub with
            | some pb => onPublish { c with pub2in := (crun c.pub2in (peerOps .pub2in (.pubrel id))).1 } pb
            | none => []) ++
        [.wrote (.pubcomp id)]) ∧
    peer c .pingresp =
      ({ c with pings := (prun c.pings (peerPOps .pingresp)).1 },
       (pingRelOf c .pingresp).flatMap (fun e => completeOut e.2 false)) :=
by
  refine ⟨step_qof k c ev, (evOps_ok k c ev).1, (evOps_ok k c ev).2, step_pings_ops c ev, fun kk => ?_, ?_, ?_⟩
  · exact peerReleased_eq_relOf kk c p
  · simp only [peer, relOf, peerOps, crun, cstep, qof, List.flatten_cons, List.flatten_nil, List.nil_append,
      List.append_nil]
    rfl
  · simp only [peer, pingRelOf, peerPOps, prun, Mqtt.Proofs.ClientQueues.pstep, List.flatten_cons, List.flatten_nil, List.nil_append,
      List.append_nil]

/-- **End to end.**  For *every* history of client events (API calls, packets from the peer,
early acknowledgements; no hypothesis), every `Coding` and every queue kind: the list the client
model holds after the history is - under `proj` - the abstraction of the ring-based `Ackqueue`
driven from its initial state by the `Wait` / `Ack` / `Acked` calls the history makes on that queue;
and the ping list is the ping FIFO of `Pingack` driven by the history's ping calls. -/
theorem C12_client_queues_are_ackqueues (cd : Coding) (preq presp : List UInt8) (evs : List Ev) :
    (∀ k : QKind,
      Mqtt.Proofs.AckQueue.abs
        (Mqtt.Model.AckQueue.run Mqtt.Model.AckQueue.init ((histOps k init evs).map (toOp cd k))).1 =
        ⟨(qof k (runState init evs)).map (proj cd k), []⟩) ∧
    Mqtt.Proofs.AckQueue.abs
      (Mqtt.Model.AckQueue.run Mqtt.Model.AckQueue.init ((histPOps init evs).map (toPOp preq presp))).1 =
      ⟨[], (runState init evs).pings.map (pproj preq presp)⟩ := by
  refine ⟨fun k => ?_, ?_⟩
  · rw [(C12_queue_is_ackqueue cd k _ (histOps_ok k init evs).1).1, run_qof, show qof k init = [] by cases k <;> rfl]
  · rw [(C12_pings_are_ackqueue preq presp _).1, run_pings_ops]; rfl

/-- **Back through the bytes.**  `processAcked` decodes `Msgbuf` and `Ackbuf` again; the client
model keeps the decoded request and the return codes.  Under the round-trip hypothesis
`RoundTrip cd dc` (decoding the bytes of a request gives back identifier, PUBLISH fields and
filters; decoding a SUBACK gives back its return codes, other acknowledgements have none; an
`OnComplete` value determines its callbacks) nothing is lost: for every history of client events,
decoding the entries of the ring-based queue gives exactly the list the client model holds, and
decoding what any `Acked` of any history of tidy operations hands back gives exactly the requests
the list releases. -/
theorem C12_queue_decodes (cd : Coding) (dc : Decoding) (rt : RoundTrip cd dc) (k : QKind) :
    (∀ evs : List Ev,
      (Mqtt.Proofs.AckQueue.abs
        (Mqtt.Model.AckQueue.run Mqtt.Model.AckQueue.init ((histOps k init evs).map (toOp cd k))).1).q.map
          (unproj dc) = qof k (runState init evs)) ∧
    (∀ ops : List COp, TidyOps ops →
      ∀ l ∈ (crun [] ops).2, (l.map (proj cd k)).map (unproj dc) = l) := by
  constructor
  · intro evs
    rw [(C12_client_queues_are_ackqueues cd [] [] evs).1 k]
    have ht := (tidy_crun (q := []) (by intro r hr; cases hr) _ (histOps_ok k init evs).2).1
    rw [← show qof k init = [] by cases k <;> rfl, ← run_qof] at ht
    exact map_unproj_proj rt k _ ht
  · intro ops hops l hl
    exact map_unproj_proj rt k l ((tidy_crun (q := []) (by intro r hr; cases hr) ops hops).2 l hl)

/-- **C13's exactly-once FIFO hand-back, on the client's queues.**  Over any history of
operations, the requests `Wait` accepted (`C13.accepted`: a duplicate registration is not among
them) are the requests `Acked` handed back so far followed by the projection of the list the client
model still holds - compared on packet type, identifier, request bytes and `OnComplete` value. -/
theorem C12_queue_exactly_once (cd : Coding) (k : QKind) (ops : List COp) (hops : OkOps ops) :
    (C13.released Fifo.empty (ops.map (toOp cd k)) ++ (crun [] ops).1.map (proj cd k)).map C13.key =
      (C13.accepted Fifo.empty (ops.map (toOp cd k))).map C13.key := by
  have h := C13.C13_exactly_once_fifo Fifo.empty (ops.map (toOp cd k))
  have s1 := (sim_run cd k [] ops hops).1
  have he : (⟨([] : Queue).map (proj cd k), []⟩ : Fifo.S) = Fifo.empty := rfl
  rw [he] at s1
  rw [s1] at h
  simpa [Fifo.empty] using h

/-- **An acknowledgement for an identifier that is not in flight is a no-op on both sides**: the
list is unchanged, and the whole state of the ring-based queue (ring, index map, counters) is
unchanged. -/
theorem C12_queue_unknown_ack_noop (cd : Coding) (k : QKind) (ops : List COp) (hops : OkOps ops)
    (t id : Nat) (codes : List Nat) (ht : Fifo.isIdAck t = true)
    (hid : ∀ r ∈ (crun [] ops).1, r.id ≠ id) :
    (crun [] ops).1.ack t id codes = (crun [] ops).1 ∧
    (Mqtt.Model.AckQueue.step
      (Mqtt.Model.AckQueue.run Mqtt.Model.AckQueue.init (ops.map (toOp cd k))).1
      (.ack t id (cd.ackb t id codes))).1 =
      (Mqtt.Model.AckQueue.run Mqtt.Model.AckQueue.init (ops.map (toOp cd k))).1 := by
  constructor
  · exact List.map_ite_eq_self fun e he hi => absurd (eq_of_beq hi) (hid e he)
  · have hinv := (C13.C13_refines _ C13.fullInv_init (ops.map (toOp cd k))).1
    apply C13.C13_unknown_ack_noop _ hinv t id _ ht
    rw [(C12_queue_is_ackqueue cd k ops hops).1]
    intro e he
    obtain ⟨r, hr, rfl⟩ := List.mem_map.mp he
    exact hid r hr

/-- the side condition `OkOps` is needed for the operation vocabulary at large (not for the client,
which never does this): with type PINGRESP, `Queue.ack` marks the request bearing the identifier
while `Ackqueue.Ack` looks for a ping - the request is released on the list, not by the ring -/
theorem C12_queue_is_ackqueue_other_type_counterexample :
    let cd : Coding := ⟨fun _ _ _ => [], fun _ _ _ => [], fun t _ => t⟩
    let ops : List COp := [.wait 1 7 none [] 0, .ack 13 1 [], .ack 4 1 [], .ack 13 1 [], .acked]
    ¬ OkOps ops ∧
    (crun [] ops).2.map (·.map (·.id)) = [[], [], [], [], []] ∧
    (Mqtt.Model.AckQueue.run Mqtt.Model.AckQueue.init (ops.map (toOp cd .pub1ack))).2.map C13.outAbs =
      [.ok true, .ok true, .ok true, .ok true, .released [⟨3, 4, 1, [], [], 7⟩]] := by
  refine ⟨by decide +kernel, by decide +kernel, by decide +kernel⟩

/-- non-vacuity: QoS 1 publishes 1, 2, 3 registered, 2 registered again with another payload
(dropped on both sides), PUBACK 3 and 2 out of order (nothing released: 1 is older), a PUBACK for 9
(not in flight), PUBACK 1: all three handed back in registration order, 2 with its *first* payload -/
example :
    let cd : Coding := ⟨fun id pub _ => [id.toUInt8] ++ (pub.map (·.payload)).getD [],
                        fun t id codes => [t.toUInt8, id.toUInt8] ++ codes.map (·.toUInt8), fun t cb => 100 * cb + t⟩
    let p : Nat → Nat → Pub := fun id x => { qos := 1, topic := [97], pktid := id, payload := [x.toUInt8] }
    let ops : List COp :=
      [.wait 1 11 (some (p 1 1)) [] 0, .wait 2 12 (some (p 2 2)) [] 0, .wait 3 13 (some (p 3 3)) [] 0,
       .wait 2 14 (some (p 2 9)) [] 0, .ack 4 3 [], .acked, .ack 4 2 [], .acked, .ack 4 9 [], .ack 4 1 [], .acked]
    OkOps ops ∧
    (crun [] ops).2.map (·.map (fun r => (r.id, r.tag, r.state))) =
      [[], [], [], [], [], [], [], [], [], [], [(1, 11, 4), (2, 12, 4), (3, 13, 4)]] ∧
    (Mqtt.Model.AckQueue.run Mqtt.Model.AckQueue.init (ops.map (toOp cd .pub1ack))).2.map C13.outAbs =
      [.ok true, .ok true, .ok true, .ok true, .ok true, .released [], .ok true, .released [], .ok true, .ok true,
       .released [⟨3, 4, 1, [1, 1], [4, 1], 11⟩, ⟨3, 4, 2, [2, 2], [4, 2], 12⟩, ⟨3, 4, 3, [3, 3], [4, 3], 13⟩]] := by
  refine ⟨by decide +kernel, by decide +kernel, by decide +kernel⟩

/-- a SUBACK's return codes travel as bytes; a QoS 2 publish sees PUBREC, PUBCOMP, and a late PUBREC
that takes it back to non-terminal on both sides (the state regression of Core C) before the final
PUBCOMP -/
example :
    let cd : Coding := ⟨fun id _ topics => [id.toUInt8] ++ topics.map (fun t => t.2.toUInt8),
                        fun t id codes => [t.toUInt8, id.toUInt8] ++ codes.map (·.toUInt8), fun t cb => 100 * cb + t⟩
    let sops : List COp := [.wait 4 15 none [([97, 47, 43], 1), ([98], 0)] 9, .ack 9 4 [1, 128], .acked]
    let p : Pub := { qos := 2, topic := [97], pktid := 5, payload := [] }
    let qops : List COp := [.wait 5 16 (some p) [] 0, .wait 6 17 (some p) [] 0, .ack 5 6 [], .ack 7 6 [], .ack 5 6 [],
       .ack 7 5 [], .acked, .ack 7 6 [], .acked]
    (Mqtt.Model.AckQueue.run Mqtt.Model.AckQueue.init (sops.map (toOp cd .suback))).2.map C13.outAbs =
      [.ok true, .ok true, .released [⟨8, 9, 4, [4, 1, 0], [9, 4, 1, 128], 915⟩]] ∧
    (crun [] sops).2.map (·.map (fun r => (r.id, r.codes))) = [[], [], [(4, [1, 128])]] ∧
    (crun [] qops).2.map (·.map (fun r => (r.id, r.state))) = [[], [], [], [], [], [], [(5, 7)], [], [(6, 7)]] ∧
    (Mqtt.Model.AckQueue.run Mqtt.Model.AckQueue.init (qops.map (toOp cd .pub2out))).2.map C13.outAbs =
      [.ok true, .ok true, .ok true, .ok true, .ok true, .ok true, .released [⟨3, 7, 5, [5], [7, 5], 16⟩],
       .ok true, .released [⟨3, 7, 6, [6], [7, 6], 17⟩]] := by
  refine ⟨by decide +kernel, by decide +kernel, by decide +kernel, by decide +kernel⟩

/-- three pings, PINGRESPs and collects interleaved, a PINGRESP with nothing outstanding -/
example :
    let ops : List POp := [.ping 1, .ping 2, .resp, .ping 3, .resp, .acked, .resp, .resp, .acked, .acked]
    (prun [] ops).2 = [[], [], [], [], [], [(13, 1), (13, 2)], [], [], [(13, 3)], []] ∧
    (Mqtt.Model.AckQueue.run Mqtt.Model.AckQueue.init (ops.map (toPOp [0xc0, 0] [0xd0, 0]))).2.map C13.outAbs =
      [.ok true, .ok true, .ok true, .ok true, .ok true,
       .released [⟨12, 13, 0, [0xc0, 0], [0xd0, 0], 1⟩, ⟨12, 13, 0, [0xc0, 0], [0xd0, 0], 2⟩],
       .ok true, .ok true, .released [⟨12, 13, 0, [0xc0, 0], [0xd0, 0], 3⟩], .released []] := by
  refine ⟨by decide +kernel, by decide +kernel⟩

/-- the calls the history `demoC` (out-of-order PUBACKs, a re-used identifier) makes on `Pub1ack`
and on `Pub2out` -/
example :
    (histOps .pub1ack init demoC).length = 8 ∧
    (histOps .pub2out init demoC).length = 4 ∧
    OkOps (histOps .pub1ack init demoC) ∧
    (qof .pub1ack (runState init demoC)).map (·.id) = [3, 1] := by
  decide +kernel

end Queues

end Mqtt.Properties.C12
