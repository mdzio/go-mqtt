/-
C17 — Outgoing streams are whole packets; each publisher's messages stay in order.

"The byte stream the library writes to any connection is always a sequence of
complete, well-formed MQTT packets, even when many goroutines deliver to the
same connection at once; and the messages one publisher sends on one topic at
one QoS level reach every subscriber of that topic in the order they were
published."

Property theorems only (helper lemmas: `Proofs/WriteLock.lean`,
`Proofs/WriteWrap*.lean`, what the two share in `Proofs/WriteThreads.lean`,
`Proofs/BrokerOrder.lean`).

Whole packets: first over `Model/WriteLock.lean`, `service.writeMessage`
as a small-step program run by any number of goroutines against one
connection.  All theorems quantify over *every* number of threads, every list
of packets per thread (`todos`) and every schedule (`sched : List Nat`, any
length; a choice that is not enabled is skipped).  A packet is an opaque byte
string here: that `Encode` produces a well-formed packet of exactly the
announced length is the codec's property (C03); what is proved here is that
the stream is the concatenation of those byte strings, whole and in commit order.

Then the same over the ring as it is (`Model/WriteWrap.lean`): a finite
ring of `2^k` cells with a consumer, `WriteWait` blocking / refusing, and the
wrap branch with the shared scratch buffer `svc.outtmp` (helper lemmas:
`Proofs/WriteWrap*.lean`; tie to the source: `extract/facts_wrap.go`).

Per-publisher order is about the sequential broker model
`Model/Broker.lean`, for *all* broker states satisfying the representation
invariant `BInv` (C02: holds initially, preserved by every event), all
connection identifiers, packets and event histories.
-/
import Mqtt.Proofs.WriteLock
import Mqtt.Proofs.WriteWrapProgress
import Mqtt.Proofs.WriteWrapFacts
import Mqtt.Proofs.BrokerOrder

namespace Mqtt.Properties.C17

section lock
open Mqtt.Model.WriteLock Mqtt.Proofs.WriteLock Mqtt.Proofs.WriteThreads

/-- **Whole packets.**  In every reachable state of the program as it is (`locked =
true`) the consumer-visible stream `buf[0, pseq)` is exactly the concatenation of
the committed packets, whole, in commit order; and there is a commit log
(thread, packet) — the packets of the log are `s.done`, every entry belongs to
an existing thread, and for every thread the packets it committed, in commit
order, followed by the packets it still has to deliver, are the list it was
given.  So no packet is torn, lost, duplicated or invented, and each writer's
packets keep their order. -/
theorem C17_packets_atomic (todos : List (List (List UInt8))) (sched : List Nat) :
    let s := run true (init todos) sched
    visible s = s.done.flatten ∧
    ∃ log : List (Nat × List UInt8),
      log.map (·.2) = s.done ∧
      (∀ e ∈ log, e.1 < todos.length) ∧
      s.ths.length = todos.length ∧
      ∀ t th, s.ths[t]? = some th → todos[t]? = some (fromThread log t ++ th.todo) := by
  intro s
  obtain ⟨log, h⟩ := inv_reachable todos sched
  exact ⟨h.vis, log, h.logd, h.prov.logt, h.prov.len, h.prov.get⟩

/-- Mutual exclusion and the shape of the critical section.  In every reachable
state of the locked program a thread inside `writeMessage` is the holder of
`wmu` and has a packet in hand, every other thread is outside; from the
reservation on its `start` *is* the producer cursor (so it makes no difference
that `WriteCommit`/`Write` re-read the cursor instead of using the value
`WriteWait` returned), and after `Encode` the bytes at the cursor are the packet
in hand. -/
theorem C17_critical_section (todos : List (List (List UInt8))) (sched : List Nat) :
    let s := run true (init todos) sched
    ∀ t th, s.ths[t]? = some th → th.pc ≠ .idle →
      s.holder = some t ∧ th.todo ≠ [] ∧
      (∀ u thu, s.ths[u]? = some thu → u ≠ t → thu.pc = .idle) ∧
      (th.pc = .reserved ∨ th.pc = .encoded → th.start = s.pseq) ∧
      (th.pc = .encoded → ∀ m rest, th.todo = m :: rest → (s.buf.drop s.pseq).take m.length = m) :=
  fun _ _ hth hne => (inv_reachable todos sched).elim fun _ h => h.critical hth hne

/-- Every packet in the stream is one of the packets some writer was given. -/
theorem C17_packets_whole (todos : List (List (List UInt8))) (sched : List Nat) :
    let s := run true (init todos) sched
    ∀ p ∈ s.done, ∃ l ∈ todos, p ∈ l := by
  intro s p hp
  obtain ⟨log, h⟩ := inv_reachable todos sched
  obtain ⟨e, he, rfl⟩ := List.mem_map.mp (h.logd ▸ hp)
  exact h.prov.given he

/-- When every writer has finished, the stream is a merge of the writers' lists:
the packets of thread `t` in the commit log are exactly `t`'s list, in order. -/
theorem C17_packets_complete (todos : List (List (List UInt8))) (sched : List Nat) :
    let s := run true (init todos) sched
    (∀ th ∈ s.ths, th.todo = []) →
    visible s = s.done.flatten ∧
    ∃ log : List (Nat × List UInt8),
      log.map (·.2) = s.done ∧ (∀ e ∈ log, e.1 < todos.length) ∧
      ∀ t l, todos[t]? = some l → fromThread log t = l := by
  intro s hall
  obtain ⟨log, h⟩ := inv_reachable todos sched
  exact ⟨h.vis, log, h.logd, h.prov.logt, fun _ _ hl => h.prov.complete hall hl⟩

/-! Non-vacuity: three writers, interleaved, everything delivered. -/

example :
    let s := run true (init [[[1, 2], [3]], [[4, 5, 6]], [[7]]])
      [0, 1, 2, 0, 0, 0, 2, 1, 2, 2, 2, 1, 0, 1, 1, 1, 0, 0, 0, 0]
    s.done = [[1, 2], [7], [4, 5, 6], [3]] ∧ visible s = [1, 2, 7, 4, 5, 6, 3] ∧
    s.ths.all (fun th => th.todo.isEmpty) = true := by decide +kernel

/-- a writer blocked on `wmu` is skipped, not lost -/
example :
    let s := run true (init [[[1]], [[2]]]) [0, 1, 1, 1, 0, 0, 0, 1, 1, 1, 1]
    s.done = [[1], [2]] ∧ visible s = [1, 2] := by decide +kernel

/-- **The mutex is necessary.**  The same program without `wmu` (`locked = false`): two
writers, one one-byte packet each.  Both read the cursor before either commits,
so both reserve `[0, 1)`; the second `Encode` overwrites the first packet and
the second commit leaves the cursor where the first put it.  Two packets were
committed, the consumer sees one byte: the stream is not the concatenation of
the committed packets. -/
theorem C17_unlocked_counterexample :
    let s := run false (init [[[1]], [[2]]]) [0, 1, 0, 1, 0, 1, 0, 1]
    s.done = [[1], [2]] ∧ visible s = [2] ∧ visible s ≠ s.done.flatten := by decide +kernel

/-- the same schedule under the lock (thread 1 is refused until thread 0 has
committed) delivers both packets -/
example :
    let s := run true (init [[[1]], [[2]]]) [0, 1, 0, 1, 0, 1, 0, 1, 1, 1, 1]
    s.done = [[1], [2]] ∧ visible s = [1, 2] := by decide +kernel

/-- without the lock a packet can also be torn: the one committed packet is
`[1, 2, 3]`, the consumer sees its first byte replaced by the other writer's -/
example :
    let s := run false (init [[[1, 2, 3]], [[9]]]) [0, 1, 0, 1, 0, 1, 0]
    s.done = [[1, 2, 3]] ∧ visible s = [9, 2, 3] := by decide +kernel

/-- **No deadlock inside `writeMessage`.**  In every reachable state of the locked program: the holder of
`wmu` is enabled (it never waits for anything inside the critical section);
when `wmu` is free every thread that still has a packet is enabled; hence as
long as any thread has a packet left, some thread can move. -/
theorem C17_progress (todos : List (List (List UInt8))) (sched : List Nat) :
    let s := run true (init todos) sched
    (∀ t, s.holder = some t → (step true s t).isSome = true) ∧
    (s.holder = none → ∀ t th, s.ths[t]? = some th → th.todo ≠ [] → (step true s t).isSome = true) ∧
    ((∃ th ∈ s.ths, th.todo ≠ []) → ∃ t, (step true s t).isSome = true) :=
  (inv_reachable todos sched).elim fun _ h =>
    ⟨fun _ ht => holder_enabled h ht, fun hn _ _ hth hw => free_enabled h hn hth hw, some_enabled h⟩

/-- A state in which no thread can move has delivered everything: every
writer's list, whole and in order, is in the stream. -/
theorem C17_quiescent_delivered (todos : List (List (List UInt8))) (sched : List Nat) :
    let s := run true (init todos) sched
    (∀ t, step true s t = none) →
    (∀ th ∈ s.ths, th.todo = []) ∧ visible s = s.done.flatten ∧
    ∃ log : List (Nat × List UInt8),
      log.map (·.2) = s.done ∧ (∀ e ∈ log, e.1 < todos.length) ∧
      ∀ t l, todos[t]? = some l → fromThread log t = l :=
  fun hq => (inv_reachable todos sched).elim fun _ h =>
    ⟨quiescent_done h hq, C17_packets_complete todos sched (quiescent_done h hq)⟩

/-- Termination measure: `work s` = number of own steps the threads still have
to take (four per packet).  Every enabled step lowers it by exactly one, it
starts at four times the number of packets, and it is zero only when every list
is empty — so every schedule that keeps choosing enabled threads (one exists
by `C17_progress`) delivers everything in exactly `4 · #packets` steps. -/
theorem C17_progress_measure (todos : List (List (List UInt8))) (sched : List Nat) :
    let s := run true (init todos) sched
    (∀ t s', step true s t = some s' → work s' + 1 = work s) ∧
    work (init todos) = 4 * (todos.map List.length).sum ∧
    (work s = 0 → ∀ th ∈ s.ths, th.todo = []) := by
  intro s
  obtain ⟨log, h⟩ := inv_reachable todos sched
  exact ⟨fun t s' hs => work_step h hs, work_init todos, work_zero⟩

/-- blocked entry is the only disabled choice while work remains: here thread 1
is refused while thread 0 holds `wmu`, thread 0 is enabled -/
example :
    let s := run true (init [[[1]], [[2]]]) [0, 0]
    s.holder = some 0 ∧ step true s 1 = none ∧ (step true s 0).isSome = true ∧ work s = 6 := by decide +kernel

end lock

/-! ## Per-publisher order on the broker model

`stream d b evs` — the PUBLISH packets written to connection `d` while the
broker, started in `b`, processes the events `evs`, in the order written
(`pubsTo d os`: the PUBLISH packets among the outputs `os` addressed to `d`). -/

section order
open Mqtt.Iface.Broker Mqtt.Model.Broker Mqtt.Proofs.BrokerQos Mqtt.Proofs.BrokerOrder

/-- `run` yields one output list per event — the `i`-th is the output of the
`i`-th event in the state the first `i` events lead to — and the stream of
PUBLISH packets to `d` is the concatenation over the events, in event order, of
each event's sends to `d`; a history processed in two parts gives the two
streams one after the other. -/
theorem C17_stream_per_event (b : B) (d : Nat) (evs : List Ev) :
    (run b evs).2.length = evs.length ∧
    (∀ i, (run b evs).2[i]? = evs[i]?.map (fun e => (step (run b (evs.take i)).1 e).2)) ∧
    stream d b evs = ((run b evs).2.map (pubsTo d)).flatten ∧
    (∀ e1 e2, evs = e1 ++ e2 → stream d b evs = stream d b e1 ++ stream d (run b e1).1 e2) :=
  ⟨run_length b evs, run_getElem b evs, stream_eq_flatten d b evs,
   fun e1 e2 h => by rw [h]; exact stream_append d b e1 e2⟩

/-- **Per-publisher order, QoS 0 and QoS 1.**  Publisher connection `c` sends PUBLISH `p1`
and later PUBLISH `p2`, each at QoS 0 or 1, each on a live connection; anything
may happen before, in between (`mid`) and after, on any connection.  Then the
stream of `d` is

    (stream before) ++ D1 ++ (stream during `mid`) ++ D2 ++ (stream after)

where `D1`/`D2` are what `onPublish` writes to `d` for `p1`/`p2` in the state
each arrives in: each message is delivered within its own event, so every copy
of `p1` precedes every copy of `p2`; every packet of `D1` carries the topic and
payload of `p1`, every packet of `D2` those of `p2`; and if `d` is a live
connection which the subscriber lookup returns for the message's topic and QoS
when it arrives (topic name not empty), the message is delivered (`Di ≠ []`).
(The statement does not need `p1` and `p2` to share topic or QoS: at QoS 0/1
one publisher's messages stay in order across topics too.) -/
theorem C17_publisher_order (b : B) (hI : BInv b) (c d : Nat) (p1 p2 : Pub) (pre mid post : List Ev)
    (hqos1 : p1.qos = 0 ∨ p1.qos = 1) (hqos2 : p2.qos = 0 ∨ p2.qos = 1) :
    let b1  := (run b pre).1                              -- state in which p1 arrives
    let b1' := (step b1 (.packet c (.publish p1))).1
    let b2  := (run b1' mid).1                            -- state in which p2 arrives
    let b2' := (step b2 (.packet c (.publish p2))).1
    let D1  := pubsTo d (onPublish b1 ⟨p1, false⟩).2.2.1
    let D2  := pubsTo d (onPublish b2 ⟨p2, false⟩).2.2.1
    ∀ (_hpub1 : b1.alive c = true) (_hpub2 : b2.alive c = true),
    stream d b (pre ++ .packet c (.publish p1) :: (mid ++ .packet c (.publish p2) :: post)) =
      stream d b pre ++ (D1 ++ (stream d b1' mid ++ (D2 ++ stream d b2' post))) ∧
    (∀ w ∈ D1, w.topic = p1.topic ∧ w.payload = p1.payload) ∧
    (∀ w ∈ D2, w.topic = p2.topic ∧ w.payload = p2.payload) ∧
    (d < cbBase → b1.alive d = true → p1.topic ≠ [] → Subscribed b1 d p1.topic p1.qos → D1 ≠ []) ∧
    (d < cbBase → b2.alive d = true → p2.topic ≠ [] → Subscribed b2 d p2.topic p2.qos → D2 ≠ []) := by
  intro b1 b1' b2 b2' D1 D2 hpub1 hpub2
  have hI1 : BInv b1 := binv_run hI pre
  have hI1' : BInv b1' := binv_step hI1 _
  have hI2 : BInv b2 := binv_run hI1' mid
  refine ⟨?_, ?_, ?_, ?_, ?_⟩
  · rw [stream_two, (publish01_step hI1 hpub1 p1 hqos1 d).2]
    show _ ++ (_ ++ (_ ++ (pubsTo d (step b2 _).2 ++ _))) = _
    rw [(publish01_step hI2 hpub2 p2 hqos2 d).2]
  · intro w hw; exact onPublish_content b1 ⟨p1, false⟩ d w (mem_pubsTo.mp hw)
  · intro w hw; exact onPublish_content b2 ⟨p2, false⟩ d w (mem_pubsTo.mp hw)
  · intro hd ha ht hs; exact onPublish_delivers b1 ⟨p1, false⟩ d hd ha ht hs
  · intro hd ha ht hs; exact onPublish_delivers b2 ⟨p2, false⟩ d hd ha ht hs

/-- … in "precedes" form: if `d` is alive and subscribed both times, the stream
of `d` contains a packet with `p1`'s topic and payload and, later, one with
`p2`'s. -/
theorem C17_publisher_order_precedes (b : B) (hI : BInv b) (c d : Nat) (p1 p2 : Pub) (pre mid post : List Ev)
    (hqos1 : p1.qos = 0 ∨ p1.qos = 1) (hqos2 : p2.qos = 0 ∨ p2.qos = 1)
    (hconn : d < cbBase) (htopic1 : p1.topic ≠ []) (htopic2 : p2.topic ≠ []) :
    let b1 := (run b pre).1
    let b2 := (run (step b1 (.packet c (.publish p1))).1 mid).1
    ∀ (_hpub1 : b1.alive c = true) (_hpub2 : b2.alive c = true)
      (_halive1 : b1.alive d = true) (_halive2 : b2.alive d = true)
      (_hsub1 : Subscribed b1 d p1.topic p1.qos) (_hsub2 : Subscribed b2 d p2.topic p2.qos),
    ∃ A w1 M w2 P,
      stream d b (pre ++ .packet c (.publish p1) :: (mid ++ .packet c (.publish p2) :: post)) =
        A ++ w1 :: (M ++ w2 :: P) ∧
      w1.topic = p1.topic ∧ w1.payload = p1.payload ∧ w2.topic = p2.topic ∧ w2.payload = p2.payload := by
  intro b1 b2 hpub1 hpub2 halive1 halive2 hsub1 hsub2
  obtain ⟨heq, hc1, hc2, hn1, hn2⟩ := C17_publisher_order b hI c d p1 p2 pre mid post hqos1 hqos2 hpub1 hpub2
  obtain ⟨w1, r1, hD1⟩ := List.exists_cons_of_ne_nil (hn1 hconn halive1 htopic1 hsub1)
  obtain ⟨w2, r2, hD2⟩ := List.exists_cons_of_ne_nil (hn2 hconn halive2 htopic2 hsub2)
  have h1 := hc1 w1 (hD1 ▸ List.mem_cons_self)
  have h2 := hc2 w2 (hD2 ▸ List.mem_cons_self)
  refine ⟨stream d b pre, w1, r1 ++ stream d (step b1 (.packet c (.publish p1))).1 mid, w2,
    r2 ++ stream d (step b2 (.packet c (.publish p2))).1 post, ?_, h1.1, h1.2, h2.1, h2.2⟩
  rw [heq, hD1, hD2, List.append_assoc]
  rfl

/-- **Per-publisher order, QoS 2.**  For every session object `r` (the publisher's session:
`bound b c r` — C02) and every history: `blocks d b r evs` lists, in hand-over
order, each content taken off `r`'s inbound queue by a PUBREL together with the
PUBLISH packets written to `d` for it.  (1) Its contents are exactly `handed`,
the contents C02 counts as handed over; (2) these are an initial segment of the
contents queued at the start followed by the exchanges opened since, in opening
order (`C02_exactly_once`): exchanges opened in order are released in that
order, none skipped; (3) the packets written for them appear in the stream of
`d` in that same order; (4) each carries the topic and payload of the content
it was written for (the exchange's first PUBLISH). -/
theorem C17_publisher_order_qos2 (b : B) (hI : BInv b) (d r : Nat) (evs : List Ev) :
    (blocks d b r evs).map (·.1) = handed b r evs ∧
    handed b r evs <+: (pub2inOf b r).map (·.msg) ++ opened b r evs ∧
    (((blocks d b r evs).map (·.2)).flatten).Sublist (stream d b evs) ∧
    (∀ x ∈ blocks d b r evs, ∀ w ∈ x.2, w.topic = x.1.topic ∧ w.payload = x.1.payload) :=
  ⟨blocks_fst hI d r evs, handed_prefix hI evs r, blocks_sublist hI d r evs, blocks_content d b r evs⟩

/-- … for two exchanges: if `p1` was opened before `p2` on session object `r`
(queue empty at the start) and the hand-overs have got as far as `p2`, then
`p1` was handed over before it — with exactly the exchanges opened in between
handed over in between. -/
theorem C17_qos2_fifo (b : B) (hI : BInv b) (r : Nat) (evs : List Ev) (p1 p2 : Pub) (A M P : List Pub)
    (hempty : pub2inOf b r = [])
    (hopened : opened b r evs = A ++ p1 :: (M ++ p2 :: P))
    (hreached : A.length + M.length + 2 ≤ (handed b r evs).length) :
    ∃ P', handed b r evs = A ++ p1 :: (M ++ p2 :: P') ∧ P' <+: P := by
  -- everything up to and including `p2` is a prefix of what was handed over, being no longer
  have e : ∀ Q, (A ++ p1 :: (M ++ [p2])) ++ Q = A ++ p1 :: (M ++ p2 :: Q) := fun Q => by
    rw [List.append_assoc, List.cons_append, List.append_assoc]; rfl
  have hp := handed_prefix hI evs r
  rw [hempty, hopened, List.map_nil, List.nil_append, ← e] at hp
  have hle : (A ++ p1 :: (M ++ [p2])).length ≤ (handed b r evs).length := by
    simp only [List.length_append, List.length_cons, List.length_nil]; omega
  obtain ⟨P', hP'⟩ := List.prefix_of_prefix_length_le (List.prefix_append _ _) hp hle
  rw [← hP'] at hp
  exact ⟨P', hP'.symm.trans (e P'), (List.prefix_append_right_inj _).mp hp⟩

/-- One PUBREL on a live connection bound to `r`: what the step writes to `d` is
exactly, in queue order, the deliveries of the contents it releases (the PUBCOMP
is not a PUBLISH); and if `d` is a live connection subscribed for each of them,
each is delivered. -/
theorem C17_qos2_release_step (b : B) (hI : BInv b) (c d r id : Nat) (hbound : bound b c r = true) :
    let ev : Ev := .packet c (.pubrel id)
    (stepBlocks d b r ev).map (·.1) = stepHanded b r ev ∧
    pubsTo d (step b ev).2 = ((stepBlocks d b r ev).map (·.2)).flatten ∧
    (d < cbBase → b.alive d = true →
      (∀ p ∈ stepHanded b r ev, p.topic ≠ [] ∧ Subscribed b d p.topic p.qos) →
      ∀ x ∈ stepBlocks d b r ev, x.2 ≠ []) := by
  intro ev
  obtain ⟨h1, h2⟩ := stepBlocks_pubrel hI hbound d id
  exact ⟨h1, h2, fun hd ha hs => stepBlocks_nonempty d r ev hd ha hs⟩

/-! Concrete runs.  Connection 1 ("a") subscribes `t` at QoS 2, connection 3
("c") subscribes `t` at QoS 0, connection 2 ("b") is the publisher. -/

def connectPkt (cid : Bytes) : First :=
  .connect { protoName := [77, 81, 84, 84], version := 4, clean := true, will := none, clientId := cid }

def demo : B :=
  (run {} [.first 1 (connectPkt [97]) true, .first 2 (connectPkt [98]) true, .first 3 (connectPkt [99]) true,
           .packet 1 (.subscribe 1 [([116], 2)]), .packet 3 (.subscribe 1 [([116], 0)])]).1

example : BInv demo := binv_run binv_init _

/-- QoS 1: two publishes of connection 2 with a ping and a publish by connection
3 in between; connection 1 gets them in the order sent -/
example :
    let m1 : Pub := { qos := 1, topic := [116], pktid := 7, payload := [1] }
    let m2 : Pub := { qos := 1, topic := [116], pktid := 8, payload := [2] }
    let x  : Pub := { qos := 0, topic := [116], payload := [9] }
    let evs : List Ev := [.packet 2 (.publish m1), .packet 2 .pingreq, .packet 3 (.publish x), .packet 2 (.publish m2)]
    stream 1 demo evs = [m1, x, m2] ∧
    stream 3 demo evs = [{ m1 with qos := 0, pktid := 0 }, x, { m2 with qos := 0, pktid := 0 }] ∧
    Subscribed demo 1 [116] 1 := by
  refine ⟨by decide +kernel, by decide +kernel, [(1, 1), (3, 0)], 1, by decide +kernel, by decide +kernel⟩

/-- QoS 2: exchanges 5 then 6 opened, PUBREL 6 arrives first (nothing is
released: 5 is older), then PUBREL 5 releases both, in opening order -/
example :
    let m5 : Pub := { qos := 2, topic := [116], pktid := 5, payload := [1] }
    let m6 : Pub := { qos := 2, topic := [116], pktid := 6, payload := [2] }
    let evs : List Ev := [.packet 2 (.publish m5), .packet 2 (.publish m6), .packet 2 (.pubrel 6), .packet 2 (.pubrel 5)]
    bound demo 2 2 = true ∧ opened demo 2 evs = [m5, m6] ∧ handed demo 2 evs = [m5, m6] ∧
    blocks 1 demo 2 evs = [(m5, [m5]), (m6, [m6])] ∧ stream 1 demo evs = [m5, m6] ∧
    stream 1 demo (evs.take 3) = [] := by decide +kernel

end order

/-! ## The finite ring: wrap branch, scratch buffer, blocking (`Model/WriteWrap.lean`)

The theorems about `Model/WriteLock.lean` treat the outgoing buffer as an unbounded array.  Here it is the ring it is:
`size = 2^k` cells, producer cursor `pseq`, consumer cursor `cseq`, ONE consumer that takes out
any number of the bytes below `pseq` (`Act.consume k`: up to `k`), and `writeMessage` with both
of its branches — `WriteWait` (blocks while `pseq + l − size > cseq`; `ErrBufferFull` for
`l > size`), then either `Encode` into the ring and `WriteCommit`, or, when the reservation
crosses the end of the ring, growth of the shared scratch buffer `svc.outtmp` if it is shorter
than `l`, `Encode` into it (bytes beyond the packet stay as they were), and
`Write(svc.outtmp[0:n])` = `waitForWriteSpace` again, `ringCopy` around the end of the ring,
cursor store.  Every theorem quantifies over the ring size `2^k`, the initial contents `tmp0` of
the scratch buffer, the number of threads and their packet lists `todos` (packets of ANY length),
and every schedule `sched : List Act` of thread and consumer steps (a thread step that is not
enabled is skipped).  `Encode` writing exactly the `Len()` bytes of a well-formed packet is C03. -/

section wrap
open Mqtt.Model.WriteWrap Mqtt.Proofs.WriteWrap

/-- **Unread data is never overwritten.**  In every reachable state, whatever
thread step is taken next: it does not move the consumer cursor or the observed stream, does not
take the producer cursor back, keeps the ring at `size` cells, and leaves every cell that holds
a committed, not yet consumed byte (stream positions `[cseq, pseq)`) as it is — so the unread
bytes read off the ring before and after the step are the same.  At most `size` bytes are ever
unread. -/
theorem C17_wrap_safety (k : Nat) (tmp0 : List UInt8) (todos : List (List (List UInt8)))
    (sched : List Act) (t : Nat) :
    let size := 2 ^ k
    let s := run code size (init size tmp0 todos) sched
    s.sh.ring.length = size ∧ s.sh.cseq ≤ s.sh.pseq ∧ s.sh.pseq ≤ s.sh.cseq + size ∧
    ∀ s', step code size s t = some s' →
      s'.sh.cseq = s.sh.cseq ∧ s.sh.pseq ≤ s'.sh.pseq ∧ s'.sh.got = s.sh.got ∧
      s'.sh.ring.length = size ∧
      (∀ pos, s.sh.cseq ≤ pos → pos < s.sh.pseq → s'.sh.ring[pos % size]? = s.sh.ring[pos % size]?) ∧
      readRing s'.sh.ring size s.sh.cseq (s.sh.pseq - s.sh.cseq) = unread size s := by
  intro size s
  have hsz : 0 < size := Nat.two_pow_pos k
  have hI : Inv size todos s := inv_reachable size hsz tmp0 todos sched
  refine ⟨hI.sh.ringlen, hI.sh.le, hI.sh.room, ?_⟩
  intro s' hs
  have hsafe := step_safe hsz hI hs
  exact ⟨hsafe.cseq, hsafe.pseq, hsafe.got, hsafe.ringlen.trans hI.sh.ringlen, hsafe.cells, hsafe.unread⟩

/-- **The stream theorem.**  In every reachable state the bytes the consumer has
observed so far, followed by the unread bytes `[cseq, pseq)` read off the ring, are exactly the
concatenation of the packets committed so far, in commit order.  Hence the observed stream is a
prefix of a concatenation of WHOLE packets (every packet boundary the consumer sees is a real
one, nothing stale, torn or foreign ever appears), the consumer cursor is the number of bytes
observed and the producer cursor the total length of the committed packets. -/
theorem C17_wrap_stream (k : Nat) (tmp0 : List UInt8) (todos : List (List (List UInt8)))
    (sched : List Act) :
    let size := 2 ^ k
    let s := run code size (init size tmp0 todos) sched
    s.sh.got ++ unread size s = (done s).flatten ∧
    s.sh.got <+: (done s).flatten ∧
    s.sh.cseq = s.sh.got.length ∧ s.sh.pseq = (done s).flatten.length := by
  intro size s
  have hI : Inv size todos s := inv_reachable size (Nat.two_pow_pos k) tmp0 todos sched
  exact ⟨hI.sh.stream, ⟨_, hI.sh.stream⟩, hI.sh.cseq_eq, hI.sh.pseq⟩

/-- **… with every writer's order kept and nothing lost.**  `s.log` lists the finished calls of
`writeMessage` (thread, committed or failed, packet) in the order they finished; `done s` are the
packets of its committed entries.  Every entry belongs to an existing thread; a call fails
exactly when its packet is longer than the ring (`ErrBufferFull`; nothing of it is written); and
for every thread the packets of its entries, in order, followed by what it still has to deliver,
are the list it was given. -/
theorem C17_wrap_order (k : Nat) (tmp0 : List UInt8) (todos : List (List (List UInt8)))
    (sched : List Act) :
    let size := 2 ^ k
    let s := run code size (init size tmp0 todos) sched
    s.ths.length = todos.length ∧
    (∀ e ∈ s.log, e.t < todos.length) ∧
    (∀ e ∈ s.log, (e.ok = true ↔ e.pkt.length ≤ size)) ∧
    (∀ t th, s.ths[t]? = some th → todos[t]? = some (sent s.log t ++ th.todo)) ∧
    (∀ p ∈ done s, p.length ≤ size ∧ ∃ l ∈ todos, p ∈ l) :=
  have hI := inv_reachable _ (Nat.two_pow_pos k) tmp0 todos sched
  ⟨hI.prov.len, hI.prov.logt, hI.logok, hI.prov.get, fun _ => hI.done_given⟩

/-- Mutual exclusion and the assertions of the delivery in progress.  In every reachable state a
thread inside `writeMessage` holds `wmu`, every other thread is outside, and — `PcOk`, by program
counter — its packet fits (`|m| ≤ size`, reservation `[pseq, pseq + |m|)` below `cseq + size`);
the cursor values it holds ARE the producer cursor (so it makes no difference that `Write` and
`WriteCommit` re-read it); past the growth test the scratch buffer is long enough; after `Encode`
into the scratch buffer its first `|m|` bytes are the packet, and the length handed to `Write` is
`|m|`; after `Encode` into the ring / `ringCopy` the ring holds the packet at `[pseq, pseq + |m|)`. -/
theorem C17_wrap_critical_section (k : Nat) (tmp0 : List UInt8) (todos : List (List (List UInt8)))
    (sched : List Act) :
    let size := 2 ^ k
    let s := run code size (init size tmp0 todos) sched
    ∀ t th, s.ths[t]? = some th → th.pc ≠ .idle →
      s.holder = some t ∧
      (∀ u thu, s.ths[u]? = some thu → u ≠ t → thu.pc = .idle) ∧
      ∃ m rest, th.todo = m :: rest ∧ PcOk size s.sh m th.pc :=
  fun _ _ hth hpc => (inv_reachable _ (Nat.two_pow_pos k) tmp0 todos sched).critical hth hpc

/-- **The ring sees one producer at a time.** Corollary of `C17_wrap_critical_section`, in the form
Core D / Core F use it: in every reachable state, two goroutines that are inside `writeMessage` —
between `wmu.Lock` and the deferred `Unlock`, i.e. anywhere in `WriteWait` … `WriteCommit` /
`Write` on the connection's outgoing ring — are the same goroutine. So the producer calls that
ALL goroutines make on one outgoing ring do not overlap: they form one sequential program, which
is what the ring program of `Model/Ring.lean` (one producer thread `p`) and the ring contract
`C16_ring_contract_is_C15` assume of their producer. -/
theorem C17_wrap_one_producer (k : Nat) (tmp0 : List UInt8) (todos : List (List (List UInt8)))
    (sched : List Act) :
    let size := 2 ^ k
    let s := run code size (init size tmp0 todos) sched
    ∀ (t u : Nat) (th thu : Th), s.ths[t]? = some th → s.ths[u]? = some thu → th.pc ≠ .idle → thu.pc ≠ .idle → t = u :=
  fun _ _ _ _ hth hthu hpc hpcu =>
    Mqtt.Proofs.WriteThreads.busy_unique (idle := fun x : Th => x.pc = .idle)
      (inv_reachable _ (Nat.two_pow_pos k) tmp0 todos sched).idle hth hthu hpc hpcu

/-- **The scratch buffer never reaches the stream.**  `C17_wrap_stream` holds for every initial
scratch buffer; more: two runs on the same schedule that start with different scratch buffers
agree, after every step, on the observed stream, the ring, both cursors, `wmu`, the threads and
the log — nothing the consumer or any thread can observe depends on what earlier packets (or
anything else) left in `svc.outtmp`, nor on how often it had to grow. -/
theorem C17_wrap_scratch_irrelevant (k : Nat) (tmp0 tmp1 : List UInt8)
    (todos : List (List (List UInt8))) (sched : List Act) :
    let size := 2 ^ k
    let s0 := run code size (init size tmp0 todos) sched
    let s1 := run code size (init size tmp1 todos) sched
    s0.sh.got = s1.sh.got ∧ s0.sh.ring = s1.sh.ring ∧ s0.sh.pseq = s1.sh.pseq ∧ s0.sh.cseq = s1.sh.cseq ∧
    s0.holder = s1.holder ∧ s0.log = s1.log ∧
    s0.ths.map (fun th => (th.pc, th.todo)) = s1.ths.map (fun th => (th.pc, th.todo)) := by
  intro size s0 s1
  obtain ⟨o, h⟩ : EqvSt s0 s1 := scratch_irrelevant size (Nat.two_pow_pos k) tmp0 tmp1 todos sched
  rw [h]
  exact ⟨rfl, rfl, rfl, rfl, rfl, rfl, rfl⟩

/-- … and `[0:n]` is what keeps it out.  The variant that hands the WHOLE scratch buffer to
`Write` (`svc.out.Write(svc.outtmp)`), ring of 8
cells, one thread, no concurrency: `[7,8,9,10]` wraps (scratch buffer grows to 4 bytes), later the
smaller `[21,22]` wraps too and is followed into the stream by the stale `9, 10`. -/
theorem C17_wrap_whole_scratch_counterexample :
    let sched : List Act :=
      List.replicate 5 (.th 0) ++ [.consume 8] ++ List.replicate 7 (.th 0) ++ [.consume 8] ++
      List.replicate 5 (.th 0) ++ [.consume 8] ++ List.replicate 7 (.th 0) ++ [.consume 8]
    let s := run { code with sliceN := false } 8
      (init 8 [] [[[1, 2, 3, 4, 5, 6], [7, 8, 9, 10], [11, 12, 13, 14, 15], [21, 22]]]) sched
    done s = [[1, 2, 3, 4, 5, 6], [7, 8, 9, 10], [11, 12, 13, 14, 15], [21, 22]] ∧
    s.sh.got = [1, 2, 3, 4, 5, 6, 7, 8, 9, 10, 11, 12, 13, 14, 15, 21, 22, 9, 10] ∧
    s.sh.got ++ unread 8 s ≠ (done s).flatten ∧ ¬ s.sh.got <+: (done s).flatten := by decide +kernel

/-- the same packets and schedule through the program as it is -/
example :
    let sched : List Act :=
      List.replicate 5 (.th 0) ++ [.consume 8] ++ List.replicate 7 (.th 0) ++ [.consume 8] ++
      List.replicate 5 (.th 0) ++ [.consume 8] ++ List.replicate 7 (.th 0) ++ [.consume 8]
    let s := run code 8
      (init 8 [] [[[1, 2, 3, 4, 5, 6], [7, 8, 9, 10], [11, 12, 13, 14, 15], [21, 22]]]) sched
    s.sh.got = [1, 2, 3, 4, 5, 6, 7, 8, 9, 10, 11, 12, 13, 14, 15, 21, 22] ∧
    s.sh.outtmp = [21, 22, 9, 10] ∧ s.sh.ring = [22, 10, 11, 12, 13, 14, 15, 21] ∧
    s.sh.pseq = 17 ∧ s.sh.cseq = 17 := by decide +kernel

/-- **The mutex is necessary on the wrap path too.**  The program without `wmu`,
ring of 8 cells: after `[1..6]` both threads reserve at position 6, both reservations wrap, both
packets go through the ONE scratch buffer: thread 1's `Encode` overwrites thread 0's packet before
thread 0's `Write` copies it.  Both calls report success; the consumer sees `[21,22,23]` twice
and `[11,12,13]` never. -/
theorem C17_wrap_unlocked_counterexample :
    let sched : List Act :=
      List.replicate 5 (.th 0) ++ [.consume 8] ++
      [.th 0, .th 0, .th 1, .th 1, .th 0, .th 0, .th 1, .th 1, .th 0, .th 0, .th 0, .th 1, .th 1, .th 1,
       .consume 8]
    let s := run { code with locked := false } 8
      (init 8 [] [[[1, 2, 3, 4, 5, 6], [11, 12, 13]], [[21, 22, 23]]]) sched
    done s = [[1, 2, 3, 4, 5, 6], [11, 12, 13], [21, 22, 23]] ∧
    s.sh.got = [1, 2, 3, 4, 5, 6, 21, 22, 23, 21, 22, 23] ∧
    s.sh.got ++ unread 8 s ≠ (done s).flatten := by decide +kernel

/-- the same schedule under the lock (thread 1 is refused until thread 0 has committed; it gets
its steps afterwards) -/
example :
    let sched : List Act :=
      List.replicate 5 (.th 0) ++ [.consume 8] ++
      [.th 0, .th 0, .th 1, .th 1, .th 0, .th 0, .th 1, .th 1, .th 0, .th 0, .th 0, .th 1, .th 1, .th 1,
       .consume 8] ++ List.replicate 8 (.th 1) ++ [.consume 8]
    let s := run code 8 (init 8 [] [[[1, 2, 3, 4, 5, 6], [11, 12, 13]], [[21, 22, 23]]]) sched
    s.sh.got = [1, 2, 3, 4, 5, 6, 11, 12, 13, 21, 22, 23] ∧
    s.log = [⟨0, true, [1, 2, 3, 4, 5, 6]⟩, ⟨0, true, [11, 12, 13]⟩, ⟨1, true, [21, 22, 23]⟩] := by decide +kernel

/-- **Progress, the fairness hypothesis stated.**  `mu size s =
(size + 1) · work s + (pseq − cseq)` (`work`: at most 8 own steps per outstanding packet).  From
every reachable state: no schedule ever raises `mu`; and as long as a packet is outstanding, every
FAIR segment — one that schedules each thread at least once and contains a consumer step asking
for at least one byte (`Fair`) — lowers it.  The reason: a thread inside `writeMessage` waits
only in `WriteWait`, only for a packet that fits, and then unread bytes exist, so the consumer's
step is effective; with `wmu` free any thread with a packet can enter. -/
theorem C17_wrap_progress (k : Nat) (tmp0 : List UInt8) (todos : List (List (List UInt8)))
    (sched : List Act) :
    let size := 2 ^ k
    let s := run code size (init size tmp0 todos) sched
    (∀ seg, mu size (run code size s seg) ≤ mu size s) ∧
    (∀ seg, Fair todos.length seg → (∃ th ∈ s.ths, th.todo ≠ []) →
      mu size (run code size s seg) < mu size s) ∧
    (∀ t th m rest, s.ths[t]? = some th → th.todo = m :: rest → th.pc ≠ .idle → step code size s t = none →
      th.pc = .entered ∧ m.length ≤ size ∧ s.sh.cseq < s.sh.pseq) :=
  have hsz := Nat.two_pow_pos k
  have hI := inv_reachable _ hsz tmp0 todos sched
  ⟨fun seg => run_mu_le hsz seg hI, fun _ hf hw => fair_lt hsz hI hw hf, fun _ _ _ _ => hI.blocked_waiting hsz⟩

/-- **… every packet is eventually dealt with.**  Any schedule made of `mu(initial state) =
(size + 1) · 8 · #packets` fair segments (so: every fair infinite schedule, after a prefix of
that many rounds) ends with every thread's list empty: every packet of length ≤ `size` has been
committed and every longer one refused — each thread's log entries are its list, in order — and
by `C17_wrap_stream` the stream the consumer sees then is the committed packets, whole, in commit order. -/
theorem C17_wrap_eventually (k : Nat) (tmp0 : List UInt8) (todos : List (List (List UInt8)))
    (segs : List (List Act)) (hfair : ∀ seg ∈ segs, Fair todos.length seg)
    (hlen : (2 ^ k + 1) * (8 * (todos.map List.length).sum) ≤ segs.length) :
    let size := 2 ^ k
    let s := run code size (init size tmp0 todos) segs.flatten
    (∀ th ∈ s.ths, th.todo = []) ∧
    (∀ t l, todos[t]? = some l → sent s.log t = l) ∧
    (∀ l ∈ todos, ∀ p ∈ l, (p.length ≤ size → p ∈ done s) ∧ (size < p.length → p ∈ failed s)) ∧
    s.sh.got ++ unread size s = (done s).flatten := by
  intro size s
  have hsz : 0 < size := Nat.two_pow_pos k
  have hI : Inv size todos s := inv_reachable size hsz tmp0 todos segs.flatten
  have hall : ∀ th ∈ s.ths, th.todo = [] :=
    fair_run_delivers hsz segs (inv_init size tmp0 todos) hfair (by rw [mu_init]; exact hlen)
  exact ⟨hall, fun _ _ hl => hI.prov.complete hall hl, fun _ hl _ hp => hI.dealt_with hall hl hp,
    hI.sh.stream⟩

/-- the ring is full: thread 0 has committed 6 of 8 bytes, its next packet `[11,12,13]` has to
wait in `WriteWait` holding `wmu`; one byte consumed is enough for it to go on; thread 1's 9-byte
packet is longer than the ring and is refused, everything else arrives -/
example :
    let s := run code 8 (init 8 [9, 9] [[[1, 2, 3, 4, 5, 6], [11, 12, 13]], [[21, 22, 23, 24, 25, 26, 27, 28, 29]]])
      (List.replicate 7 (.th 0))
    s.holder = some 0 ∧ step code 8 s 0 = none ∧ step code 8 s 1 = none ∧
    (step code 8 (consume 8 s 1) 0).isSome = true ∧
    (let s' := run code 8 s ([.consume 3] ++ List.replicate 7 (.th 0) ++ List.replicate 3 (.th 1) ++ [.consume 100])
     s'.sh.got = [1, 2, 3, 4, 5, 6, 11, 12, 13] ∧ done s' = [[1, 2, 3, 4, 5, 6], [11, 12, 13]] ∧
     failed s' = [[21, 22, 23, 24, 25, 26, 27, 28, 29]] ∧ s'.sh.outtmp = [11, 12, 13] ∧
     (s'.ths.all (fun th => th.todo.isEmpty)) = true) := by decide +kernel

/-- a fair segment for two threads -/
example : Fair 2 [.th 0, .consume 1, .th 1] :=
  ⟨fun t ht => match t, ht with
    | 0, _ => by decide
    | 1, _ => by decide
    | t + 2, h => absurd h (Nat.not_lt_of_le (Nat.le_add_left 2 t)),
   1, by decide, by decide⟩

/-! The copy the model performs in `Write` is the translated `service.ringCopy`:
`C17_wrap_ringCopy_is_source` in `Properties/C17Source.lean` (over the regenerated translation
`Mqtt.Generated.Xlate`; nothing imports that module).  The tie below is to the regenerated FACTS. -/

/-- The statement-level shape of `writeMessage` regenerated from sendrecv.go
(`extract/facts_wrap.go`: `l := msg.Len()`, Lock, deferred Unlock, `WriteWait(l)`, `if wrap`;
growth test `len(svc.outtmp) < l` with `make([]byte, l)`, `Encode(svc.outtmp[0:])`,
`Write(svc.outtmp[0:n])`; `Encode(buf[0:])`, `WriteCommit(n)`) is the model's table for the shape
`code` the theorems above are about, and the table is what the model's steps do on probe states
(`Proofs/WriteWrapFacts.lean`). -/
theorem C17_wrap_shape_is_source :
    Mqtt.Generated.wmHead = headTable code ∧
    Mqtt.Generated.wmWrapBranch = wrapTable code ∧
    Mqtt.Generated.wmPlainBranch = plainTable code ∧
    trace code 8 9 (probe [] [7, 8, 9, 10]) = [2, 4] ++ Mqtt.Generated.wmWrapBranch ∧
    trace code 8 9 (probe [] [7, 8]) = [2, 4] ++ Mqtt.Generated.wmPlainBranch :=
  ⟨facts_write_wrap_shape.1, facts_write_wrap_shape.2.1, facts_write_wrap_shape.2.2,
   facts_write_wrap_steps.1, facts_write_wrap_steps.2.2.1⟩

end wrap

end Mqtt.Properties.C17
