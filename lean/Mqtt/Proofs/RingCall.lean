/-
Core D → Core F — the ring at CALL level.  `Model/Lifecycle.lean` abstracts a ring to `RingA` = (bytes buffered, done) with ONE
atomic step per ring call, a waiting call being a step that is not enabled; this file relates that to the ring program through
`absRing`.  `Took`: a thread took an own step with a given property somewhere in a schedule (how linearisation points are stated);
`Pos`: where a thread stands relative to one call (what `call_run` of `Proofs/RingCalls.lean` says after any schedule);
`vis_step`: a step is invisible through `absRing` or a commit `+n` (only `p`), `-n` (only `c`), or `done := true`.
-/
import Mqtt.Proofs.RingSafety
import Mqtt.Model.Lifecycle

namespace Mqtt.Proofs.Ring
open Mqtt.Model.Ring Mqtt.Iface.Ring

/-- the life-cycle model's view of a ring: bytes committed by the producer and not yet committed by
the consumer, and the `done` flag (the mutex-leak flags of `RingA` stay `false`: `C15_NoLeak`) -/
def absRing (s : St) : Mqtt.Model.Lifecycle.RingA := { buf := s.sh.pseq - s.sh.cseq, done := s.sh.done }

/-- the life-cycle configuration of a ring of this size (only `cap` and the switch `d2`, left at `false`, matter to `RingA.*`) -/
def ringCfg (cfg : Cfg) : Mqtt.Model.Lifecycle.Cfg := { cap := cfg.size, rblock := cfg.rblock, wblock := cfg.size }

@[simp] theorem ringCfg_cap (cfg : Cfg) : (ringCfg cfg).cap = cfg.size := rfl
@[simp] theorem ringCfg_d2 (cfg : Cfg) : (ringCfg cfg).d2 = false := rfl
@[simp] theorem absRing_buf (s : St) : (absRing s).buf = s.sh.pseq - s.sh.cseq := rfl
@[simp] theorem absRing_done (s : St) : (absRing s).done = s.sh.done := rfl

/-- somewhere in the schedule `sched`, run from `s`, thread `t` took an own step `x → y` with `Q x y` -/
def Took (cfg : Cfg) (t : Tid) (s : St) (sched : List Tid) (Q : St → St → Prop) : Prop :=
  ∃ pre post, sched = pre ++ t :: post ∧ step cfg (run cfg s pre) t = some (run cfg s (pre ++ [t])) ∧
    Q (run cfg s pre) (run cfg s (pre ++ [t]))

/-- … and LATER another own step `x' → y'` with `Q' x' y'` -/
def Took2 (cfg : Cfg) (t : Tid) (s : St) (sched : List Tid) (Q Q' : St → St → Prop) : Prop :=
  ∃ pre mid post, sched = pre ++ t :: mid ++ t :: post ∧
    (step cfg (run cfg s pre) t = some (run cfg s (pre ++ [t])) ∧ Q (run cfg s pre) (run cfg s (pre ++ [t]))) ∧
    step cfg (run cfg s (pre ++ t :: mid)) t = some (run cfg s (pre ++ t :: mid ++ [t])) ∧
    Q' (run cfg s (pre ++ t :: mid)) (run cfg s (pre ++ t :: mid ++ [t]))

theorem Took.snoc {cfg : Cfg} {t : Tid} {s : St} {sched : List Tid} {Q : St → St → Prop} (u : Tid)
    (h : Took cfg t s sched Q) : Took cfg t s (sched ++ [u]) Q := by
  obtain ⟨pre, post, e, h1⟩ := h
  exact ⟨pre, post ++ [u], by rw [e, List.append_assoc]; rfl, h1⟩

theorem Took.last {cfg : Cfg} {t : Tid} {s a' : St} {sched : List Tid} {Q : St → St → Prop}
    (hs : step cfg (run cfg s sched) t = some a') (hq : Q (run cfg s sched) a') : Took cfg t s (sched ++ [t]) Q := by
  have e : run cfg s (sched ++ [t]) = a' := by rw [run_snoc, hs]; rfl
  exact ⟨sched, [], rfl, by rw [e]; exact hs, by rw [e]; exact hq⟩

theorem Took2.snoc {cfg : Cfg} {t : Tid} {s : St} {sched : List Tid} {Q Q' : St → St → Prop} (u : Tid)
    (h : Took2 cfg t s sched Q Q') : Took2 cfg t s (sched ++ [u]) Q Q' := by
  obtain ⟨pre, mid, post, e, h1⟩ := h
  exact ⟨pre, mid, post ++ [u], by rw [e, List.append_assoc]; rfl, h1⟩

theorem Took2.last {cfg : Cfg} {t : Tid} {s a' : St} {sched : List Tid} {Q Q' : St → St → Prop}
    (h : Took cfg t s sched Q) (hs : step cfg (run cfg s sched) t = some a') (hq : Q' (run cfg s sched) a') :
    Took2 cfg t s (sched ++ [t]) Q Q' := by
  have e : run cfg s (sched ++ [t]) = a' := by rw [run_snoc, hs]; rfl
  obtain ⟨pre, post, rfl, h1⟩ := h
  exact ⟨pre, post, [], rfl, h1, by rw [e]; exact hs, by rw [e]; exact hq⟩

/-- the thread is between two calls, `rest` of its program still to run, and the call before has returned `r` (its next
step starts the next call and clears the result) -/
def Returns (th : Th) (rest : List Call) (r : Res) : Prop := th.pc = .idle ∧ th.prog = rest ∧ th.res = some r

/-- the call before `rest` is over: the thread has returned from it and not moved since, or is further on -/
def Over (th : Th) (rest : List Call) : Prop := (th.prog = rest ∧ th.pc = .idle) ∨ th.prog.length < rest.length

def tRet (a : St) (t : Tid) (rest : List Call) (r : Res) : Prop :=
  ∃ th, a.getTh t = some th ∧ th.pc = .idle ∧ th.prog = rest ∧ th.res = some r

theorem took_mono (cfg : Cfg) (base : Nat) (s : St) (pre post : List Tid) (t : Tid) (h : RInv cfg base s) :
    (run cfg s pre).sh.pseq ≤ (run cfg s (pre ++ t :: post)).sh.pseq ∧ (run cfg s pre).sh.cseq ≤ (run cfg s (pre ++ t :: post)).sh.cseq ∧
    ((run cfg s pre).sh.done = true → (run cfg s (pre ++ t :: post)).sh.done = true) ∧
    ((run cfg s (pre ++ [t])).sh.done = true → (run cfg s (pre ++ t :: post)).sh.done = true) := by
  refine ⟨?_, ?_, ?_, ?_⟩
  · rw [run_append]; exact (run_mono cfg base _ _ (rinv_run cfg base s pre h)).1
  · rw [run_append]; exact (run_mono cfg base _ _ (rinv_run cfg base s pre h)).2
  · rw [run_append]; exact run_done_mono cfg _ _
  · intro hd; rw [show pre ++ t :: post = (pre ++ [t]) ++ post by simp, run_append]; exact run_done_mono cfg _ _ hd

/-! Thread `t` is followed from a state in which it is about to make the call `call`, after which `rest` remains of its program
(or is inside that call), through ANY schedule: it has not started the call, or is inside it, or has returned from it and not
moved since, or is further on.  `N` is what is known before the call's first step, `I` while the thread is inside the call
(its phase, and what has happened so far), `R r` once it has returned with result `r`. -/

inductive Pos (t : Tid) (call : Call) (rest : List Call) (N I : Th → Prop) (R : Res → Prop) (a : St) : Prop where
  | before (th : Th) : a.getTh t = some th → th.pc = .idle → th.prog = call :: rest → N th → Pos t call rest N I R a
  | inside (th : Th) : a.getTh t = some th → I th → Pos t call rest N I R a
  /-- returned, and not moved since -/
  | ret (th : Th) (r : Res) : a.getTh t = some th → Returns th rest r → R r → Pos t call rest N I R a
  | beyond (th : Th) : a.getTh t = some th → th.prog.length < rest.length → Pos t call rest N I R a

theorem Pos.result {t : Tid} {call : Call} {rest : List Call} {N I : Th → Prop} {R : Res → Prop} {a : St} {r : Res}
    (h : Pos t call rest N I R a) (hI : ∀ th, I th → th.pc ≠ .idle) (hret : tRet a t rest r) : R r := by
  obtain ⟨th, hth, hpc, hprog, hres⟩ := hret
  cases h with
  | before th0 h0 _ h2 _ =>
    rw [hth] at h0; cases h0
    rw [hprog] at h2
    exact absurd (congrArg List.length h2) (Nat.ne_of_lt (Nat.lt_succ_self _))
  | inside th0 h0 hi => rw [hth] at h0; cases h0; exact absurd hpc (hI th hi)
  | ret th0 r0 h0 h1 h2 => rw [hth] at h0; cases h0; cases hres.symm.trans h1.2.2; exact h2
  | beyond th0 h0 hlt => rw [hth] at h0; cases h0; rw [hprog] at hlt; exact absurd hlt (Nat.lt_irrefl _)

theorem Pos.over_or_inside {t : Tid} {call : Call} {rest : List Call} {N I : Th → Prop} {R : Res → Prop} {a : St}
    (h : Pos t call rest N I R a) :
    ∃ th, a.getTh t = some th ∧ (Over th rest ∨ (th.pc = .idle ∧ th.prog = call :: rest) ∨ I th) := by
  cases h with
  | before th h0 h1 h2 _ => exact ⟨th, h0, .inr (.inl ⟨h1, h2⟩)⟩
  | inside th h0 hi => exact ⟨th, h0, .inr (.inr hi)⟩
  | ret th r h0 h1 _ => exact ⟨th, h0, .inl (.inl ⟨h1.2.1, h1.1⟩)⟩
  | beyond th h0 h1 => exact ⟨th, h0, .inl (.inr h1)⟩

theorem Pos.inside_of {t : Tid} {call : Call} {rest : List Call} {N I : Th → Prop} {R : Res → Prop} {a : St} {th : Th}
    (h : Pos t call rest N I R a) (hth : a.getTh t = some th) (hprog : th.prog = rest) (hpc : th.pc ≠ .idle) : I th := by
  cases h with
  | before th0 h0 h1 _ _ => rw [hth] at h0; cases h0; exact absurd h1 hpc
  | inside th0 h0 hi => rw [hth] at h0; cases h0; exact hi
  | ret th0 r h0 h1 _ => rw [hth] at h0; cases h0; exact absurd h1.1 hpc
  | beyond th0 h0 hlt => rw [hth] at h0; cases h0; rw [hprog] at hlt; exact absurd hlt (Nat.lt_irrefl _)

theorem Pos.before_of {t : Tid} {call : Call} {rest : List Call} {N I : Th → Prop} {R : Res → Prop} {a : St} {th : Th}
    (h : Pos t call rest N I R a) (hI : ∀ th, I th → th.pc ≠ .idle) (hth : a.getTh t = some th) (hidle : th.pc = .idle)
    (hprog : th.prog = call :: rest) : N th := by
  cases h with
  | before th0 h0 _ _ hn => rw [hth] at h0; cases h0; exact hn
  | inside th0 h0 hi => rw [hth] at h0; cases h0; exact absurd hidle (hI _ hi)
  | ret th0 r h0 h1 _ =>
    rw [hth] at h0; cases h0
    rw [h1.2.1] at hprog; exact absurd (congrArg List.length hprog) (Nat.ne_of_lt (Nat.lt_succ_self _))
  | beyond th0 h0 hlt => rw [hth] at h0; cases h0; rw [hprog] at hlt; exact absurd hlt (Nat.not_lt.mpr (Nat.le_succ _))

/-- what a step looks like through `absRing` -/
inductive Vis where
  | tau                 -- invisible
  | prod (n : Nat)      -- the producer commits `n` bytes
  | cons (n : Nat)      -- the consumer commits `n` bytes
  | close               -- `done := true`
deriving DecidableEq, Repr

/-- the linearisation points: the cursor stores and the `done` store -/
def visOf : Pc → Vis
  | .w42 n _ | .c50 n _ => .prod n
  | .r64 _ _ acc => .cons acc.length
  | .k102 n _ => .cons n
  | .x10 => .close
  | _ => .tau

theorem visOf_none (pc : Pc) (h : stores pc = false) : visOf pc = .tau := by
  cases pc <;> first | rfl | cases h

theorem vis_step (cfg : Cfg) (base : Nat) (s s' : St) (t : Tid) (th : Th) (h : RInv cfg base s)
    (hth : s.getTh t = some th) (hs : step cfg s t = some s') :
    match visOf th.pc with
    | .tau => s'.sh.pseq = s.sh.pseq ∧ s'.sh.cseq = s.sh.cseq ∧ s'.sh.done = s.sh.done
    | .prod n => t = .p ∧ s'.sh.pseq = s.sh.pseq + n ∧ s'.sh.cseq = s.sh.cseq ∧ s'.sh.done = s.sh.done ∧
        s.sh.pseq + n ≤ s.sh.cseq + cfg.size
    | .cons n => t = .c ∧ s'.sh.cseq = s.sh.cseq + n ∧ s'.sh.pseq = s.sh.pseq ∧ s'.sh.done = s.sh.done ∧
        s.sh.cseq + n ≤ s.sh.pseq
    | .close => s'.sh.pseq = s.sh.pseq ∧ s'.sh.cseq = s.sh.cseq ∧ s'.sh.done = true := by
  -- the guard of a cursor store is the safety invariant of the state AFTER it
  have h' := rinv_step_inv cfg base s s' t h hs
  have hpc' : s'.sh.pseq ≤ s'.sh.cseq + cfg.size := h'.glob.pc
  have hcp' : s'.sh.cseq ≤ s'.sh.pseq := h'.glob.cp
  obtain ⟨th0, sh', th', hth0, hst, rfl⟩ := step_some cfg s s' t hs
  rw [hth] at hth0; cases hth0
  obtain ⟨hok, hti⟩ := h.threads t th hth
  have hrole := hok.role
  have hP : t = .p → pcP cfg s.sh.core (th.goto th.pc) := by rintro rfl; exact pcP_at hti.pcinv
  have hC : t = .c → pcC cfg s.sh.core (th.goto th.pc) := by rintro rfl; exact pcC_at hti.pcinv
  -- the lock operation of the step touches neither cursor nor `done`: look at its store
  obtain ⟨d, hsto, hdo⟩ := step_shared (tstep_step _ _ _ _ _ _ hst)
  rw [setTh_sh, show sh'.pseq = d.pseq from congrArg Core.pseq hdo.core,
    show sh'.cseq = d.cseq from congrArg Core.cseq hdo.core] at hpc' hcp' ⊢
  rw [hdo.done]
  generalize th.pc = pc at hsto hrole hP hC
  cases hsto
  case none hn => rw [visOf_none _ hn]; exact ⟨rfl, rfl, rfl⟩
  case w42 n ppos | c50 n ppos =>
    have ht := prod_is_p t hrole
    have e : ppos = s.sh.pseq := (hP ht).1
    have g : ppos + n ≤ s.sh.cseq + cfg.size := hpc'
    exact ⟨ht, by show ppos + n = _; omega, rfl, rfl, by omega⟩
  case r64 b cpos acc =>
    have ht := cons_is_c t hrole
    have e : cpos = s.sh.cseq := (hC ht).1
    have g : cpos + acc.length ≤ s.sh.pseq := hcp'
    exact ⟨ht, by show cpos + acc.length = _; omega, rfl, rfl, by omega⟩
  case k102 n cpos _ =>
    have ht := cons_is_c t hrole
    have e : cpos = s.sh.cseq := (hC ht).1
    have g : cpos + n ≤ s.sh.pseq := hcp'
    exact ⟨ht, by show cpos + n = _; omega, rfl, rfl, by omega⟩
  -- `Close` sets `done`; the byte copies and the gate store change cells / the gate only
  all_goals exact ⟨rfl, rfl, rfl⟩

end Mqtt.Proofs.Ring
