/-
C17, wrap path — facts about the ring as a list of cells: `ringPut` (= the translated
`service.ringCopy`: `ringPut_is_source` in `Proofs/WriteWrapRingSource.lean`), `encodeAt`, `readRing`,
and the index arithmetic behind "a reservation inside `[pseq, cseq + size)` meets no cell of
`[cseq, pseq)`".  Model side only: not built from the regenerated translation.
-/
import Mqtt.Model.WriteWrap
import Mqtt.Proofs.RingCopied
import Mqtt.Proofs.Basics

namespace Mqtt.Proofs.WriteWrap
open Mqtt.Model.WriteWrap

theorem encodeAt_eq_ringPut (ring m : List UInt8) (p : Nat) (h : p + m.length ≤ ring.length) :
    encodeAt ring p m = ringPut ring m p := by
  unfold encodeAt ringPut
  rw [if_pos (Nat.le_sub_of_add_le' h)]

theorem ringPut_other (size : Nat) (hsz : 0 < size) (ring m : List UInt8) (q pos : Nat)
    (hlen : ring.length = size) (hS : m.length ≤ size) (h1 : pos < q) (h2 : q + m.length ≤ pos + size) :
    (ringPut ring m (q % size))[pos % size]? = ring[pos % size]? :=
  (ringPut_spec size hsz ring m q hlen hS).2.2 _ fun j hj =>
    Nat.mod_ne_of_lt (Nat.lt_add_right j h1) (Nat.lt_of_lt_of_le (Nat.add_lt_add_left hj q) h2)

theorem readRing_length (ring : List UInt8) (size pos n : Nat) : (readRing ring size pos n).length = n := by
  simp [readRing]

theorem readRing_zero (ring : List UInt8) (size pos : Nat) : readRing ring size pos 0 = [] := rfl

theorem readRing_add (ring : List UInt8) (size pos a b : Nat) :
    readRing ring size pos (a + b) = readRing ring size pos a ++ readRing ring size (pos + a) b := by
  simp only [readRing, List.range_add, List.map_append, List.map_map]
  congr 1
  apply List.map_congr_left
  intro i _
  simp only [Function.comp, Nat.add_assoc]

theorem readRing_split (ring : List UInt8) (size : Nat) {lo mid hi : Nat} (h1 : lo ≤ mid) (h2 : mid ≤ hi) :
    readRing ring size lo (hi - lo) =
      readRing ring size lo (mid - lo) ++ readRing ring size mid (hi - mid) := by
  rw [← Nat.sub_add_sub_cancel h2 h1, Nat.add_comm, readRing_add, Nat.add_sub_cancel' h1]

theorem readRing_getElem (ring : List UInt8) (size pos n i : Nat) (hi : i < (readRing ring size pos n).length) :
    (readRing ring size pos n)[i] = ring.getD ((pos + i) % size) 0 := by
  simp only [readRing, List.getElem_map, List.getElem_range]

theorem readRing_congr (r1 r2 : List UInt8) (size pos n : Nat)
    (h : ∀ i, i < n → r1[(pos + i) % size]? = r2[(pos + i) % size]?) :
    readRing r1 size pos n = readRing r2 size pos n := by
  simp only [readRing]
  apply List.map_congr_left
  intro i hi
  rw [List.getD_eq_getElem?_getD, List.getD_eq_getElem?_getD, h i (List.mem_range.mp hi)]

theorem readRing_ringPut_same (size : Nat) (hsz : 0 < size) (ring m : List UInt8) (pos : Nat)
    (hlen : ring.length = size) (hS : m.length ≤ size) :
    readRing (ringPut ring m (pos % size)) size pos m.length = m := by
  obtain ⟨_, hw, _⟩ := ringPut_spec size hsz ring m pos hlen hS
  refine List.ext_getElem (readRing_length _ _ _ _) fun i h1 h2 => ?_
  rw [readRing_getElem, List.getD_eq_getElem?_getD, hw i h2, List.getElem?_eq_getElem h2]
  rfl

end Mqtt.Proofs.WriteWrap
