/-
Core D — enabledness (`tstep_none`: a thread that cannot step has finished, or wants a held mutex, or is parked); the liveness invariant
`Live` of the whole system (`live_step`, `live_init`, `live_run`) and with it deadlock freedom and no lost wake-up at quiescence
(`quiescent_legit`); then `Close` as a straight line, critical sections are short, `done` unblocks (with `DInv`: past the first
statement of `Close` the ring is closed).  At the end what the tables of the liveness argument are where a helper function of
the model leaves a thread (no proof uses it).
-/
import Mqtt.Proofs.RingSafety
import Mqtt.Proofs.RingLive

namespace Mqtt.Proofs.Ring
open Mqtt.Model.Ring Mqtt.Iface.Ring

/-- the mutex a thread at this program counter is about to lock -/
def wantsLock : Pc → Option Mx
  | .x11 | .s32 _ _ | .r65 _ _ _ | .k103 _ => some .pL
  | .x14 | .w43 _ | .c51 _ | .r73 _ _ | .p82 _ _ _ => some .cL
  | _ => none

/-- the condition variable (named by its mutex) a thread is parked on -/
def parkedOn : Pc → Option Mx
  | .s36w _ _ => some .pL
  | .r77w _ _ | .p86w _ _ _ => some .cL
  | _ => none

/-! The shapes `tstep` takes at a given program counter: after the test of the crash flag the statement is done, with
or without a test of its own, unless it is a `Lock` or the second half of a `Wait`. -/

theorem ite_ne_none {α : Type} {c : Prop} [Decidable c] {x y : Option α} (hx : x ≠ none) (hy : y ≠ none) :
    (if c then x else y) ≠ none := by
  split <;> assumption

section
variable {α β : Type} {c : Prop} [Decidable c] (hc : ¬ c)
include hc

theorem do_ne_none {a : α} : (if c then none else some a) ≠ none := by
  rw [if_neg hc]; nofun

theorem test_ne_none {c' : Prop} [Decidable c'] {x y : Option α} (hx : x ≠ none) (hy : y ≠ none) :
    (if c then none else if c' then x else y) ≠ none := by
  rw [if_neg hc]; split <;> assumption

theorem none_of_lock {sh : Sh} {m : Mx} {me : Tid} {f : Sh → β}
    (h : (if c then none else (sh.lock m me).map f) = none) : sh.owner m ≠ none := by
  intro e
  rw [if_neg hc, Sh.lock, e] at h
  cases h

theorem none_of_resume {sh : Sh} {m : Mx} {me : Tid} {f : Sh → β}
    (h : (if c then none else (sh.resume m me).map f) = none) : sh.note m = false ∨ sh.owner m ≠ none := by
  cases hn : sh.note m
  · exact .inl rfl
  · refine .inr fun e => ?_
    rw [if_neg hc, Sh.resume, if_pos hn, Sh.lock, e] at h
    cases h

end

theorem tstep_none (cfg : Cfg) (sh : Sh) (me : Tid) (th : Th) (hs : tstep cfg sh me th = none) :
    sh.crash = true ∨ (th.pc = .idle ∧ th.prog = []) ∨
    (∃ m, wantsLock th.pc = some m ∧ sh.owner m ≠ none) ∨
    (∃ m, parkedOn th.pc = some m ∧ (sh.note m = false ∨ sh.owner m ≠ none)) := by
  by_cases hcr : sh.crash = true
  · exact .inl hcr
  refine .inr ?_
  obtain ⟨pc, prog, cur, slice, filled, view, pending, res⟩ := th
  -- `tstep` is not unfolded into the context: each goal is closed by unifying `tstep … ⟨pc, …⟩` with a shape
  cases pc
  case idle =>
    cases prog with
    | nil => exact .inl ⟨rfl, rfl⟩
    | cons call rest => exact absurd hs (do_ne_none hcr)
  case x11 | s32 | r65 | k103 | x14 | w43 | c51 | r73 | p82 => exact .inr (.inl ⟨_, rfl, none_of_lock hcr hs⟩)
  case s36w | r77w | p86w => exact .inr (.inr ⟨_, rfl, none_of_resume hcr hs⟩)
  case l21 =>
    cases cur with
    | none => exact absurd hs (do_ne_none hcr)
    | some c => cases c <;> first | exact absurd hs (do_ne_none hcr) | exact absurd hs (test_ne_none hcr nofun nofun)
  case r62 => exact absurd hs (test_ne_none hcr nofun (ite_ne_none nofun nofun))
  case s30 | s31 | s33 | s34 | s37 | s39 | w40 | w41c | f0 | g110 | g111 | g111c | g111r | r60 | r63c | r74 | r75 | r75r | r78
      | p83 | p84 | p84r | p87 | p88 | p89c | k101 | u0 =>
    exact absurd hs (test_ne_none hcr nofun nofun)
  all_goals exact absurd hs (do_ne_none hcr)

/-- a thread about to lock holds no mutex; a parked one neither, nor is it a pending broadcaster or inside `Close` -/
theorem wants_quiet (pc : Pc) (m' : Mx) (h : wantsLock pc = some m') : ∀ m, holds pc m = false := by
  cases pc <;> cases h <;> exact fun m => by cases m <;> rfl

theorem parked_quiet (pc : Pc) (m' : Mx) (h : parkedOn pc = some m') :
    ∀ m, holds pc m = false ∧ pend m pc = false ∧ pendD m pc = false := by
  cases pc <;> cases h <;> exact fun m => by cases m <;> exact ⟨rfl, rfl, rfl⟩

/-- critical sections do not nest and contain no blocking operation -/
theorem holder_enabled (cfg : Cfg) (sh : Sh) (me : Tid) (th : Th) (m : Mx) (hcr : sh.crash = false)
    (hh : holds th.pc m = true) : tstep cfg sh me th ≠ none := by
  intro hs
  rcases tstep_none cfg sh me th hs with h | h | ⟨m', h, _⟩ | ⟨m', h, _⟩
  · rw [hcr] at h; cases h
  · rw [h.1, holds_idle] at hh; cases hh
  · rw [wants_quiet _ m' h m] at hh; cases hh
  · rw [(parked_quiet _ m' h m).1] at hh; cases hh

theorem step_none_tstep (cfg : Cfg) (s : St) (t : Tid) (th : Th) (hth : s.getTh t = some th)
    (hs : step cfg s t = none) : tstep cfg s.sh t th = none := by
  unfold step at hs
  rw [hth] at hs
  simp only at hs
  split at hs
  · assumption
  · simp at hs

theorem owner_enabled (cfg : Cfg) {s : St} (h : LInv s) {m : Mx} {t : Tid} (ho : s.sh.owner m = some t) :
    ∃ th, s.getTh t = some th ∧ holds th.pc m = true ∧ step cfg s t ≠ none :=
  have ⟨th, hth, hh⟩ := h.holder ho
  ⟨th, hth, hh, fun hs => holder_enabled cfg s.sh t th m h.nocrash hh (step_none_tstep cfg s t th hth hs)⟩

theorem quiescent_parked (cfg : Cfg) (s : St) (hl : LInv s) (hq : ∀ t, step cfg s t = none)
    (t : Tid) (th : Th) (hth : s.getTh t = some th) :
    (th.pc = .idle ∧ th.prog = []) ∨
    (∃ m, parkedOn th.pc = some m ∧ s.sh.note m = false ∧ s.sh.owner m = none) := by
  have hfree : ∀ m, s.sh.owner m = none := by
    intro m
    cases ho : s.sh.owner m with
    | none => rfl
    | some t' =>
      obtain ⟨_, _, _, he⟩ := owner_enabled cfg hl ho
      exact absurd (hq t') he
  rcases tstep_none cfg s.sh t th (step_none_tstep cfg s t th hth (hq t)) with h | h | ⟨m, h, h2⟩ | ⟨m, h, h2⟩
  · rw [hl.nocrash] at h; cases h
  · exact Or.inl h
  · exact absurd (hfree m) h2
  · refine Or.inr ⟨m, h, ?_, hfree m⟩
    rcases h2 with h2 | h2
    · exact h2
    · exact absurd (hfree m) h2

theorem parkedOn_waits (pc : Pc) (m : Mx) (h : parkedOn pc = some m) :
    parked m pc = true ∧ pcRole pc = waitRole m := by
  cases pc <;> cases h <;> exact ⟨rfl, rfl⟩

theorem waiter_of_role (t : Tid) (m : Mx) (h : roleOK t (waitRole m) = true) : t = waiter m := by
  cases m <;> cases t <;> first | rfl | cases h

theorem quiescent_waits (cfg : Cfg) (base : Nat) (m : Mx) (s : St) (hr : RInv cfg base s) (hl : LInv s)
    (hn : NLW cfg m s) (hq : ∀ t, step cfg s t = none) (t : Tid) (th : Th) (hth : s.getTh t = some th)
    (hpk : parkedOn th.pc = some m) (hnote : s.sh.note m = false) :
    t = waiter m ∧ parked m th.pc = true ∧ lacksAt cfg m (seen m s.sh) th.pc ∧ s.sh.done = false := by
  obtain ⟨hpar, hrole⟩ := parkedOn_waits th.pc m hpk
  have ht : t = waiter m := waiter_of_role t m (hrole ▸ (thOK_of_rinv cfg base s hr t th hth).role)
  subst ht
  -- nobody is a pending broadcaster: such a thread would be enabled
  have hnopend : ∀ f : Pc → Bool, (∀ pc, f pc = true → pend m pc = true ∨ pendD m pc = true) → ¬ exPc s (waiter m) f := by
    rintro f hf ⟨t0, th0, _, h0, hf0⟩
    have hpd := hf _ hf0
    rcases quiescent_parked cfg s hl hq t0 th0 h0 with h | ⟨m', h, _⟩
    · rw [h.1] at hpd; cases m <;> rcases hpd with h | h <;> cases h
    · obtain ⟨_, a, b⟩ := parked_quiet _ m' h m
      rw [a, b] at hpd; rcases hpd with h | h <;> cases h
  obtain ⟨H1, H2⟩ := hn.parked hth hpar hnote
  exact ⟨rfl, hpar, H1.resolve_right (hnopend _ fun _ => .inl), H2.resolve_right (hnopend _ fun _ => .inr)⟩

/-- what every reachable state satisfies (`live_init`, `live_step`): the safety invariant, the lock invariant, and no lost wake-up on
either side -/
structure Live (cfg : Cfg) (base : Nat) (s : St) : Prop where
  safe : RInv cfg base s
  lock : LInv s
  nlwc : NLWC s
  nlwp : NLWP cfg s

theorem live_step (cfg : Cfg) (base : Nat) (s s' : St) (t : Tid) (h : Live cfg base s)
    (hs : step cfg s t = some s') : Live cfg base s' :=
  ⟨rinv_step_inv cfg base s s' t h.safe hs, linv_step cfg s s' t h.lock hs,
   (nlwc_iff cfg s').mpr (nlw_step cfg .cL s s' t (thOK_of_rinv cfg base s h.safe t) h.lock ((nlwc_iff cfg s).mp h.nlwc) hs),
   (nlwp_iff cfg s').mpr (nlw_step cfg .pL s s' t (thOK_of_rinv cfg base s h.safe t) h.lock ((nlwp_iff cfg s).mp h.nlwp) hs)⟩

theorem live_init (cfg : Cfg) (adv gate : Nat) (progP progC : List Call) (progsK : List (List Call))
    (hgate : gate ≤ adv) (hok : ProgsOK progP progC progsK) :
    Live cfg adv (mkInit cfg adv gate progP progC progsK) :=
  ⟨rinv_init cfg adv gate progP progC progsK hgate hok, linv_init cfg adv gate progP progC progsK,
   fun h => absurd h (Nat.lt_irrefl 0), fun h => absurd h (Nat.lt_irrefl 0)⟩

theorem live_run (cfg : Cfg) (base : Nat) (s : St) (sched : List Tid) (h : Live cfg base s) :
    Live cfg base (run cfg s sched) :=
  run_induction (fun s t s' h hs => live_step cfg base s s' t h hs) s sched h

/-- **Deadlock freedom and no lost wake-up, at quiescence** (`C15_Progress_quiescent`). -/
theorem quiescent_legit (cfg : Cfg) (base : Nat) (s : St) (h : Live cfg base s) (hq : ∀ t, step cfg s t = none)
    (t : Tid) (th : Th) (hth : s.getTh t = some th) :
    (th.pc = .idle ∧ th.prog = []) ∨
    (t = .c ∧ cParked th.pc = true ∧ noDataAt s.sh.pseq th.pc ∧ s.sh.done = false) ∨
    (t = .p ∧ pParked th.pc = true ∧ noSpaceAt cfg.size s.sh.cseq th.pc ∧ s.sh.done = false) := by
  rcases quiescent_parked cfg s h.lock hq t th hth with e | ⟨m, hpk, hnote, _⟩
  · exact .inl e
  · cases m
    · exact .inr (.inr (quiescent_waits cfg base .pL s h.safe h.lock ((nlwp_iff cfg s).mp h.nlwp) hq t th hth hpk hnote))
    · exact .inr (.inl (quiescent_waits cfg base .cL s h.safe h.lock ((nlwc_iff cfg s).mp h.nlwc) hq t th hth hpk hnote))

def closeRank : Pc → Nat
  | .x10 => 7 | .x11 => 6 | .x12 => 5 | .x13 => 4 | .x14 => 3 | .x15 => 2 | .x16 => 1
  | _ => 0

/-- upper bound on the own steps until a thread inside a critical section has released the mutex
(by `Unlock` or by parking in `Wait`) -/
def csRank : Pc → Nat
  | .x12 | .r66 _ _ _ | .k104 _ | .x15 | .w44 _ | .c52 _ => 2
  | .x13 | .r67 _ _ _ | .k105 _ | .x16 | .w45 _ | .c53 _ => 1
  | .r74 _ _ | .r78 _ _ | .p83 _ _ _ | .p87 _ _ _ => 4
  | .s33 _ _ | .s37 _ _ | .r75 _ _ | .p84 _ _ _ => 3
  | .s34 _ _ | .r75r _ _ | .p84r _ _ _ => 2
  | .s35 _ _ | .s36 _ _ | .s38 _ _ _ | .r76 _ _ | .r77 _ _ | .r79 _ | .p85 _ _ _ | .p86 _ _ _ | .p88 _ _ _ _ => 1
  | _ => 0

/-- `Close` is seven statements in a straight line (`C15_CloseTerminates` (1)) -/
theorem closeRank_step (cfg : Cfg) (sh sh' : Sh) (me : Tid) (th th' : Th)
    (hc : 0 < closeRank th.pc) (hs : tstep cfg sh me th = some (sh', th')) :
    closeRank th'.pc + 1 = closeRank th.pc ∧
    (closeRank th'.pc = 0 → th'.pc = .idle ∧ ∃ r, th'.res = some r ∧
      ((∀ n e, th.cur ≠ some (.rfret n e)) → r.err = .ok) ∧ (∀ n e, th.cur = some (.rfret n e) → r.n = n ∧ r.err = e)) := by
  have hst := tstep_step _ _ _ _ _ _ hs
  generalize th.pc = pc at hst hc
  cases hst <;> try (cases hc; done)
  case x16 =>
    refine ⟨by rw [closeRet_pc]; rfl, fun _ => ⟨closeRet_pc _, ?_⟩⟩
    unfold closeRet
    split
    · rename_i n e hcur
      exact ⟨_, rfl, fun h => absurd hcur (h n e), fun n' e' h => by cases hcur.symm.trans h; exact ⟨rfl, rfl⟩⟩
    · rename_i hne
      exact ⟨_, rfl, fun _ => rfl, fun n e h => absurd h (hne n e)⟩
  all_goals exact ⟨rfl, nofun⟩

/-- `Close` blocks nowhere but at its two `Lock`s -/
theorem close_wants (pc : Pc) (hc : 0 < closeRank pc) :
    pc ≠ .idle ∧ parkedOn pc = none ∧ ∀ m, wantsLock pc = some m → (pc = .x11 ∧ m = .pL) ∨ (pc = .x14 ∧ m = .cL) := by
  cases pc <;> first
    | (cases hc; done)
    | exact ⟨Pc.noConfusion, rfl, fun m h => by cases h <;> first | exact .inl ⟨rfl, rfl⟩ | exact .inr ⟨rfl, rfl⟩⟩

theorem close_blocked (cfg : Cfg) (sh : Sh) (me : Tid) (th : Th) (hcr : sh.crash = false)
    (hc : 0 < closeRank th.pc) (hs : tstep cfg sh me th = none) :
    (th.pc = .x11 ∧ sh.owner .pL ≠ none) ∨ (th.pc = .x14 ∧ sh.owner .cL ≠ none) := by
  obtain ⟨h1, h2, h3⟩ := close_wants _ hc
  rcases tstep_none cfg sh me th hs with h | h | ⟨m, h, ho⟩ | ⟨m, h, _⟩
  · rw [hcr] at h; cases h
  · exact absurd h.1 h1
  · rcases h3 m h with ⟨e, rfl⟩ | ⟨e, rfl⟩
    · exact .inl ⟨e, ho⟩
    · exact .inr ⟨e, ho⟩
  · rw [h2] at h; cases h

/-- a `Close` that cannot step waits at one of its two `Lock`s for a mutex whose holder can -/
theorem close_blocked_holder (cfg : Cfg) {s : St} (h : LInv s) {t : Tid} {th : Th} (hth : s.getTh t = some th)
    (hc : 0 < closeRank th.pc) (hs : step cfg s t = none) :
    ∃ m t' th', wantsLock th.pc = some m ∧ s.sh.owner m = some t' ∧ s.getTh t' = some th' ∧
      holds th'.pc m = true ∧ step cfg s t' ≠ none := by
  have key : ∀ m, wantsLock th.pc = some m → s.sh.owner m ≠ none →
      ∃ m t' th', wantsLock th.pc = some m ∧ s.sh.owner m = some t' ∧ s.getTh t' = some th' ∧
        holds th'.pc m = true ∧ step cfg s t' ≠ none := fun m hw ho =>
    have ⟨t', hot⟩ := Option.ne_none_iff_exists'.mp ho
    have ⟨th', a, b, c⟩ := owner_enabled cfg h hot
    ⟨m, t', th', hw, hot, a, b, c⟩
  rcases close_blocked cfg s.sh t th h.nocrash hc (step_none_tstep cfg s t th hth hs) with ⟨hpc, ho⟩ | ⟨hpc, ho⟩
  · exact key .pL (by rw [hpc]; rfl) ho
  · exact key .cL (by rw [hpc]; rfl) ho

theorem csRank_le (pc : Pc) : csRank pc ≤ 4 := by
  unfold csRank
  split <;> decide

/-- `csRank` fits the program: it falls along every edge that stays inside a critical section -/
theorem csRank_edge {p q : Pc} (h : Edge p q) (m : Mx) (hp : holds p m = true) (hq : holds q m = true) :
    csRank q < csRank p := by
  cases h <;> first | (cases hp; done) | (cases hq; done) | (cases m <;> first | (cases hp; done) | (cases hq; done) | exact Nat.le_of_ble_eq_true rfl)

theorem csRank_step (cfg : Cfg) (sh sh' : Sh) (me : Tid) (th th' : Th) (m : Mx)
    (hh : holds th.pc m = true) (hs : tstep cfg sh me th = some (sh', th')) :
    holds th'.pc m = true → csRank th'.pc < csRank th.pc :=
  csRank_edge (step_edge (tstep_step _ _ _ _ _ _ hs)) m hh

theorem done_stable (cfg : Cfg) (sh sh' : Sh) (me : Tid) (th th' : Th) (hd : sh.done = true)
    (hs : tstep cfg sh me th = some (sh', th')) : sh'.done = true :=
  (tstep_done cfg sh sh' me th th' hs).elim (fun h => h.2.trans hd) (·.2)

/-- a thread past the first statement of `Close` has set `done` -/
def DInv (s : St) : Prop := ∀ t th, s.getTh t = some th → closeTail th.pc = true → s.sh.done = true

theorem dinv_step (cfg : Cfg) (s s' : St) (t : Tid) (h : DInv s) (hs : step cfg s t = some s') : DInv s' := by
  intro u thu hu htail
  obtain ⟨th0, th1, h0, hst, h1⟩ := step_t cfg s s' t hs
  by_cases e : t = u
  · subst e
    rw [hu] at h1; cases h1
    -- the tail of `Close` is entered only from its first statement
    rcases closeTail_edge (step_edge (tstep_step _ _ _ _ _ _ hst)) htail with e | e
    · exact (tstep_done cfg _ _ _ _ _ hst).elim (fun h => absurd e h.1) (·.2)
    · exact done_stable cfg _ _ t _ _ (h t th0 h0 e) hst
  · exact done_stable cfg _ _ t _ _ (h u thu (by rw [← step_other cfg s s' t u hs e]; exact hu) htail) hst

theorem dinv_init (cfg : Cfg) (adv gate : Nat) (progP progC : List Call) (progsK : List (List Call)) :
    DInv (mkInit cfg adv gate progP progC progsK) := by
  intro t th hg ht
  rw [mkInit_idle hg] at ht; cases ht

theorem dinv_run (cfg : Cfg) (s : St) (sched : List Tid) (h : DInv s) : DInv (run cfg s sched) :=
  run_induction (fun a t a' h hs => dinv_step cfg a a' t h hs) s sched h

/-- is this the program counter of a wait-loop test / entry check that looks at `done` -/
def doneTest : Pc → Bool
  | .s30 _ | .w40 _ | .s34 _ _ | .s39 _ _ | .r75 _ _ | .p84 _ _ _ | .g110 _ _ => true
  | _ => false

/-- `waitForWriteSpace` fails: the caller of the ring gets the error, or — inside `ReadFrom` —
`ReadFrom`'s deferred `Close` begins, after which `ReadFrom` returns that error -/
theorem wfsErr_cases (th : Th) (e : Err) :
    ((wfsErr th e).pc = .idle ∧ ∃ r, (wfsErr th e).res = some r ∧ r.err = e) ∨
    ((wfsErr th e).pc = .x10 ∧ ∃ n, (wfsErr th e).cur = some (.rfret n e)) := by
  unfold wfsErr
  split
  · exact Or.inr ⟨rfl, _, rfl⟩
  · exact Or.inr ⟨rfl, _, rfl⟩
  · exact Or.inl ⟨rfl, _, rfl, rfl⟩

/-- with `done` set, every test of `done` takes the end-of-stream exit (`C15_DoneUnblocks` (2)) -/
theorem done_exits (cfg : Cfg) (sh sh' : Sh) (me : Tid) (th th' : Th) (hd : sh.done = true)
    (ht : doneTest th.pc = true) (hs : tstep cfg sh me th = some (sh', th')) :
    (th'.pc = .idle ∧ ∃ r, th'.res = some r ∧ r.err = .eof) ∨
    (th'.pc = .x10 ∧ ∃ n, th'.cur = some (.rfret n .eof)) ∨
    (∃ n p, th'.pc = .s35 n p) ∨ (∃ n c, th'.pc = .r75r n c) ∨ (∃ w n c, th'.pc = .p84r w n c) := by
  have hst := tstep_step _ _ _ _ _ _ hs
  generalize th.pc = pc at hst ht
  cases hst <;> try (cases ht; done)
  case s30_done | s39_done => exact (wfsErr_cases _ _).imp_right .inl
  case w40_done => exact .inl ⟨rfl, _, rfl, rfl⟩
  case g110_done => exact .inr (.inl ⟨rfl, _, rfl⟩)
  case s34_done => exact .inr (.inr (.inl ⟨_, _, rfl⟩))
  case r75_done => exact .inr (.inr (.inr (.inl ⟨_, _, rfl⟩)))
  case p84_done => exact .inr (.inr (.inr (.inr ⟨_, _, _, rfl⟩)))
  all_goals exact absurd hd ‹_›

/-- a consumer that has seen `done` loads the producer cursor once more and leaves its wait loop either way (`C15_DoneUnblocks` (2b)) -/
theorem reread_exits (cfg : Cfg) (sh sh' : Sh) (me : Tid) (th th' : Th)
    (ht : (∃ n c, th.pc = .r75r n c) ∨ (∃ w n c, th.pc = .p84r w n c))
    (hs : tstep cfg sh me th = some (sh', th')) :
    sh' = sh ∧
    ((∃ n c, th'.pc = .r76 n c ∧ sh.pseq ≤ c) ∨ (∃ n, th'.pc = .r79 n) ∨
     (∃ w n c, th'.pc = .p85 w n c ∧ mustWait w n c sh.pseq = true) ∨
     (∃ w n c, th'.pc = .p88 w n c sh.pseq ∧ mustWait w n c sh.pseq = false)) := by
  have hst := tstep_step _ _ _ _ _ _ hs
  rcases ht with ⟨n, c, e⟩ | ⟨w, n, c, e⟩ <;> rw [e] at hst <;> cases hst
  case r75r_eof h => exact ⟨rfl, .inl ⟨n, c, rfl, h⟩⟩
  case r75r_data => exact ⟨rfl, .inr (.inl ⟨n, rfl⟩)⟩
  case p84r_eof h => exact ⟨rfl, .inr (.inr (.inl ⟨w, n, c, rfl, h⟩))⟩
  case p84r_data h => exact ⟨rfl, .inr (.inr (.inr ⟨w, n, c, rfl, Bool.eq_false_iff.mpr h⟩))⟩

/-- the unlock-and-return statements return `eof` with the mutex released (`C15_DoneUnblocks` (3)) -/
theorem eof_exit_returns (cfg : Cfg) (sh sh' : Sh) (me : Tid) (th th' : Th)
    (ht : (∃ n p, th.pc = .s35 n p) ∨ (∃ n c, th.pc = .r76 n c) ∨ (∃ w n c, th.pc = .p85 w n c))
    (hs : tstep cfg sh me th = some (sh', th')) :
    ((th'.pc = .idle ∧ ∃ r, th'.res = some r ∧ r.err = .eof) ∨
     (th'.pc = .x10 ∧ ∃ n, th'.cur = some (.rfret n .eof))) ∧ ∀ m, holds th'.pc m = false := by
  have hst := tstep_step _ _ _ _ _ _ hs
  have he := holds_edge (step_edge hst)
  rcases ht with ⟨n, p, e⟩ | ⟨n, c, e⟩ | ⟨w, n, c, e⟩ <;> rw [e] at hst he <;> cases hst
  case s35 => exact ⟨wfsErr_cases _ _, fun m => by rw [he]; cases m <;> rfl⟩
  all_goals exact ⟨.inl ⟨rfl, _, rfl, rfl⟩, fun m => by rw [he]; cases m <;> rfl⟩

/-! An observation `f` of the program counter with the same value `v` at `idle`, at the first statement
of `Close`, at the entry of `waitForWriteSpace` and at the head of `ReadFrom`'s loop has that value
after every helper of the model: so each table of the liveness argument, listed below.  No proof uses the list: the arguments
follow the tables along `Edge`, so neither a new table nor a new helper adds to it. -/

section
variable {α : Type} {f : Pc → α} {v : α}

theorem wfsErr_obs (h0 : f .idle = v) (h1 : f .x10 = v) (th : Th) (e : Err) : f (wfsErr th e).pc = v := by
  rcases wfsErr_pc th e with h | h <;> rw [h] <;> assumption

theorem enterWfs_obs (h0 : f .idle = v) (h1 : f .x10 = v) (h2 : ∀ n, f (.s30 n) = v) (cfg : Cfg) (th : Th) (n : Nat) :
    f (enterWfs cfg th n).pc = v := by
  rcases enterWfs_pc cfg th n with h | h | h <;> rw [h]
  · exact h2 n
  · exact h0
  · exact h1

theorem wcRet_obs (h0 : f .idle = v) (h3 : ∀ tot ms, f (.g110 tot ms) = v) (th : Th) (n : Nat) : f (wcRet th n).pc = v := by
  rcases wcRet_pc th n with h | ⟨tot, ms, h⟩ <;> rw [h]
  · exact h0
  · exact h3 tot ms

theorem closeRet_obs (h0 : f .idle = v) (th : Th) : f (closeRet th).pc = v := by
  rw [closeRet_pc]; exact h0

end

@[simp] theorem closeTail_closeRet (th : Th) : closeTail (closeRet th).pc = false := closeRet_obs rfl th
@[simp] theorem pendC_rfExit (th : Th) (n : Nat) (e : Err) : pendC (rfExit th n e).pc = false := rfl
@[simp] theorem pendC_wfsErr (th : Th) (e : Err) : pendC (wfsErr th e).pc = false := wfsErr_obs rfl rfl th e
@[simp] theorem pendC_enterWfs (cfg : Cfg) (th : Th) (n : Nat) : pendC (enterWfs cfg th n).pc = false := enterWfs_obs rfl rfl (fun _ => rfl) cfg th n
@[simp] theorem pendC_wcRet (th : Th) (n : Nat) : pendC (wcRet th n).pc = false := wcRet_obs rfl (fun _ _ => rfl) th n
@[simp] theorem pendC_closeRet (th : Th) : pendC (closeRet th).pc = false := closeRet_obs rfl th
@[simp] theorem pendCd_rfExit (th : Th) (n : Nat) (e : Err) : pendCd (rfExit th n e).pc = false := rfl
@[simp] theorem pendCd_wfsErr (th : Th) (e : Err) : pendCd (wfsErr th e).pc = false := wfsErr_obs rfl rfl th e
@[simp] theorem pendCd_enterWfs (cfg : Cfg) (th : Th) (n : Nat) : pendCd (enterWfs cfg th n).pc = false := enterWfs_obs rfl rfl (fun _ => rfl) cfg th n
@[simp] theorem pendCd_wcRet (th : Th) (n : Nat) : pendCd (wcRet th n).pc = false := wcRet_obs rfl (fun _ _ => rfl) th n
@[simp] theorem pendCd_closeRet (th : Th) : pendCd (closeRet th).pc = false := closeRet_obs rfl th
@[simp] theorem cParked_rfExit (th : Th) (n : Nat) (e : Err) : cParked (rfExit th n e).pc = false := rfl
@[simp] theorem cParked_wfsErr (th : Th) (e : Err) : cParked (wfsErr th e).pc = false := wfsErr_obs rfl rfl th e
@[simp] theorem cParked_enterWfs (cfg : Cfg) (th : Th) (n : Nat) : cParked (enterWfs cfg th n).pc = false := enterWfs_obs rfl rfl (fun _ => rfl) cfg th n
@[simp] theorem cParked_wcRet (th : Th) (n : Nat) : cParked (wcRet th n).pc = false := wcRet_obs rfl (fun _ _ => rfl) th n
@[simp] theorem cParked_closeRet (th : Th) : cParked (closeRet th).pc = false := closeRet_obs rfl th
@[simp] theorem pendP_rfExit (th : Th) (n : Nat) (e : Err) : pendP (rfExit th n e).pc = false := rfl
@[simp] theorem pendP_wfsErr (th : Th) (e : Err) : pendP (wfsErr th e).pc = false := wfsErr_obs rfl rfl th e
@[simp] theorem pendP_enterWfs (cfg : Cfg) (th : Th) (n : Nat) : pendP (enterWfs cfg th n).pc = false := enterWfs_obs rfl rfl (fun _ => rfl) cfg th n
@[simp] theorem pendP_wcRet (th : Th) (n : Nat) : pendP (wcRet th n).pc = false := wcRet_obs rfl (fun _ _ => rfl) th n
@[simp] theorem pendP_closeRet (th : Th) : pendP (closeRet th).pc = false := closeRet_obs rfl th
@[simp] theorem pendPd_rfExit (th : Th) (n : Nat) (e : Err) : pendPd (rfExit th n e).pc = false := rfl
@[simp] theorem pendPd_wfsErr (th : Th) (e : Err) : pendPd (wfsErr th e).pc = false := wfsErr_obs rfl rfl th e
@[simp] theorem pendPd_enterWfs (cfg : Cfg) (th : Th) (n : Nat) : pendPd (enterWfs cfg th n).pc = false := enterWfs_obs rfl rfl (fun _ => rfl) cfg th n
@[simp] theorem pendPd_wcRet (th : Th) (n : Nat) : pendPd (wcRet th n).pc = false := wcRet_obs rfl (fun _ _ => rfl) th n
@[simp] theorem pendPd_closeRet (th : Th) : pendPd (closeRet th).pc = false := closeRet_obs rfl th
@[simp] theorem pParked_rfExit (th : Th) (n : Nat) (e : Err) : pParked (rfExit th n e).pc = false := rfl
@[simp] theorem pParked_wfsErr (th : Th) (e : Err) : pParked (wfsErr th e).pc = false := wfsErr_obs rfl rfl th e
@[simp] theorem pParked_enterWfs (cfg : Cfg) (th : Th) (n : Nat) : pParked (enterWfs cfg th n).pc = false := enterWfs_obs rfl rfl (fun _ => rfl) cfg th n
@[simp] theorem pParked_wcRet (th : Th) (n : Nat) : pParked (wcRet th n).pc = false := wcRet_obs rfl (fun _ _ => rfl) th n
@[simp] theorem pParked_closeRet (th : Th) : pParked (closeRet th).pc = false := closeRet_obs rfl th
@[simp] theorem wantsLock_rfExit (th : Th) (n : Nat) (e : Err) : wantsLock (rfExit th n e).pc = none := rfl
@[simp] theorem wantsLock_wfsErr (th : Th) (e : Err) : wantsLock (wfsErr th e).pc = none := wfsErr_obs rfl rfl th e
@[simp] theorem wantsLock_enterWfs (cfg : Cfg) (th : Th) (n : Nat) : wantsLock (enterWfs cfg th n).pc = none := enterWfs_obs rfl rfl (fun _ => rfl) cfg th n
@[simp] theorem wantsLock_wcRet (th : Th) (n : Nat) : wantsLock (wcRet th n).pc = none := wcRet_obs rfl (fun _ _ => rfl) th n
@[simp] theorem wantsLock_closeRet (th : Th) : wantsLock (closeRet th).pc = none := closeRet_obs rfl th
@[simp] theorem parkedOn_rfExit (th : Th) (n : Nat) (e : Err) : parkedOn (rfExit th n e).pc = none := rfl
@[simp] theorem parkedOn_wfsErr (th : Th) (e : Err) : parkedOn (wfsErr th e).pc = none := wfsErr_obs rfl rfl th e
@[simp] theorem parkedOn_enterWfs (cfg : Cfg) (th : Th) (n : Nat) : parkedOn (enterWfs cfg th n).pc = none := enterWfs_obs rfl rfl (fun _ => rfl) cfg th n
@[simp] theorem parkedOn_wcRet (th : Th) (n : Nat) : parkedOn (wcRet th n).pc = none := wcRet_obs rfl (fun _ _ => rfl) th n
@[simp] theorem parkedOn_closeRet (th : Th) : parkedOn (closeRet th).pc = none := closeRet_obs rfl th
@[simp] theorem csRank_rfExit (th : Th) (n : Nat) (e : Err) : csRank (rfExit th n e).pc = 0 := rfl
@[simp] theorem csRank_wfsErr (th : Th) (e : Err) : csRank (wfsErr th e).pc = 0 := wfsErr_obs rfl rfl th e
@[simp] theorem csRank_enterWfs (cfg : Cfg) (th : Th) (n : Nat) : csRank (enterWfs cfg th n).pc = 0 := enterWfs_obs rfl rfl (fun _ => rfl) cfg th n
@[simp] theorem csRank_wcRet (th : Th) (n : Nat) : csRank (wcRet th n).pc = 0 := wcRet_obs rfl (fun _ _ => rfl) th n
@[simp] theorem csRank_closeRet (th : Th) : csRank (closeRet th).pc = 0 := closeRet_obs rfl th

end Mqtt.Proofs.Ring
