/-
Client role: packet identifiers of the requests in flight on one connection
(property C12, last clause).

The library numbers a request that comes without an identifier from a
process-wide counter (`message.nextPacketID`, `Model.Broker.nextPacketID`)
without looking at what is in flight, and a caller may supply identifiers of
its own.  This file says exactly when a request is written with an identifier
that no request in flight bears (`clearStep`), what follows when it is and when
it is not, and gives the condition on a history - in terms of the counter, i.e.
of the number of identifiers drawn process-wide - under which it always is
(`Roomy`).

Two distinctness notions: WITHIN each queue (`IdsNodup`, an invariant of every history, since `Wait` drops a duplicate)
and ACROSS the four queues (`AllDistinct`, kept exactly by clear steps).  `Clear` says every own step of a history with
other connections' draws is clear; `Roomy` is a condition on the counter's window under which that holds
(`roomy_clear`).  At the end `FreshA`, what exactly-once completion needs of a plain history.
-/
import Mqtt.Proofs.ClientCompletions
import Mqtt.Proofs.BrokerTables

namespace Mqtt.Proofs.Client
open Mqtt.Iface.Broker (Pub Packet)
open Mqtt.Iface.Client
open Mqtt.Model.Client
open Mqtt.Model.Broker (nextPacketID)
open Mqtt.Proofs.Broker (nextPacketID_ne_zero)

theorem nextPacketID_snd (ctr : Nat) :
    (nextPacketID ctr).2 = if (ctr + 1) % 65536 = 0 then ctr + 2 else ctr + 1 := by
  unfold nextPacketID
  by_cases h : (ctr + 1) % 65536 = 0
  · rw [if_neg (by simpa using h), if_pos h]
  · rw [if_pos h, if_neg h]

theorem nextPacketID_fst (ctr : Nat) : (nextPacketID ctr).1 = (nextPacketID ctr).2 % 65536 := by
  unfold nextPacketID; split <;> rfl

theorem nextPacketID_lt (ctr : Nat) : (nextPacketID ctr).1 < 65536 := by
  rw [nextPacketID_fst]; exact Nat.mod_lt _ (by decide)

theorem nextPacketID_gt (ctr : Nat) : ctr < (nextPacketID ctr).2 := by
  rw [nextPacketID_snd]; split <;> omega

/-- the number of identifiers drawn while the counter went from 0 to `n`: every value but the
multiples of 2^16 is one draw -/
def drawn (n : Nat) : Nat := n - n / 65536

/-- every call of `nextPacketID` is one draw, whether or not it passes a multiple of 2^16 -/
theorem drawn_next (ctr : Nat) : drawn (nextPacketID ctr).2 = drawn ctr + 1 := by
  unfold drawn
  have hle := Nat.div_le_self ctr 65536
  rw [nextPacketID_snd]
  by_cases h0 : (ctr + 1) % 65536 = 0
  · have h2 : ¬ 65536 ∣ ctr + 1 + 1 := by rw [Nat.dvd_iff_mod_eq_zero, Nat.add_mod, h0]; decide
    rw [if_pos h0, Nat.succ_div_of_not_dvd h2, Nat.succ_div_of_dvd (Nat.dvd_of_mod_eq_zero h0)]
    show ctr + 1 + 1 - (ctr / 65536 + 1) = _
    rw [Nat.add_sub_add_right]
    exact Nat.sub_add_comm hle
  · rw [if_neg h0, Nat.succ_div_of_not_dvd fun hd => h0 (Nat.mod_eq_zero_of_dvd hd)]
    exact Nat.sub_add_comm hle

/-- the identifier a request is written with is never 0: a caller-supplied identifier is
non-zero by definition (0 = none supplied), an assigned one by `nextPacketID` -/
theorem assigned_ne_zero (c : C) (id : Nat) : assigned c id ≠ 0 := by
  unfold assigned
  split
  · exact nextPacketID_ne_zero c.ctr
  · assumption

theorem apiWrite_ctr (c : C) (call : Api) :
    (apiWrite c call).1.ctr = if drawsId call then (nextPacketID c.ctr).2 else c.ctr := by
  rw [apiWrite_eq]

def evDraws (c : C) : Ev → Bool
  | .api call | .apiEarlyAck call _ => c.connected && drawsId call
  | _ => false

theorem step_ctr (c : C) (ev : Ev) :
    (step c ev).1.ctr = if evDraws c ev then (nextPacketID c.ctr).2 else c.ctr := by
  refine step_elim (motive := fun c ev r => r.1.ctr = if evDraws c ev then (nextPacketID c.ctr).2 else c.ctr)
    (fun c a => by rw [connect_fst]; rfl) (fun c ev hc _ => by cases ev <;> simp [evDraws, hc]) ?_
    (fun c p _ => (peer_keeps c p).2.1) (fun c call ack _ _ h _ => by rw [(peer_keeps _ ack).2.1]; exact h) c ev
  intro c call hc
  simp only [evDraws, hc, Bool.true_and]
  exact ((apiRegister_keeps _ _).2.1).trans (apiWrite_ctr c call)

theorem step_ctr_mono (c : C) (ev : Ev) : c.ctr ≤ (step c ev).1.ctr := by
  rw [step_ctr]; split
  · exact Nat.le_of_lt (nextPacketID_gt c.ctr)
  · exact Nat.le_refl _

def writtenId : Out → Option Nat
  | .wrote (.publish p) => if p.qos == 0 then none else some p.pktid
  | .wrote (.subscribe id _) => some id
  | .wrote (.unsubscribe id _) => some id
  | _ => none

theorem written_apiWrite (c : C) (call : Api) :
    (apiWrite c call).2.1.filterMap writtenId =
      match callReq call with
      | some (_, id, _) => [assigned c id]
      | none => [] := by
  rw [apiWrite_eq]
  cases call with
  | publish p tag =>
    simp only [stamped, reqPacket, callReq, List.filterMap_cons, List.filterMap_nil, writtenId]
    by_cases h0 : (p.qos == 0) = true
    · simp only [h0, ↓reduceIte]
    · simp only [h0, ↓reduceIte, Bool.false_eq_true]
      cases p.qos == 1 <;> rfl
  | _ => rfl

theorem written_completeOut (tag : Nat) (err : Bool) : (completeOut tag err).filterMap writtenId = [] := by
  unfold completeOut; split <;> rfl

theorem written_onPublish (c : C) (p : Pub) : (onPublish c p).filterMap writtenId = [] := by
  unfold onPublish
  split
  · rfl
  · rw [List.filterMap_map]
    exact List.filterMap_eq_nil_iff.mpr fun _ _ => rfl

theorem written_flatMap_nil {α} (l : List α) (f : α → List Out) (h : ∀ a, (f a).filterMap writtenId = []) :
    (l.flatMap f).filterMap writtenId = [] := by
  induction l with
  | nil => rfl
  | cons a l ih => rw [List.flatMap_cons, List.filterMap_append, h a, ih]; rfl

theorem written_foldDone (f : C → Req → C × List Out) (hf : ∀ c r, (f c r).2.filterMap writtenId = []) (c : C)
    (rs : List Req) : (foldDone f c rs).2.filterMap writtenId = [] := by
  induction rs generalizing c with
  | nil => rfl
  | cons r rs ih =>
    simp only [foldDone]
    rw [List.filterMap_append, hf, ih]; rfl

theorem written_peer (c : C) (p : Packet) : (peer c p).2.filterMap writtenId = [] := by
  have hc : ∀ (l : List Req), (l.flatMap fun r => completeOut r.tag false).filterMap writtenId = [] :=
    fun l => written_flatMap_nil l _ fun _ => written_completeOut _ _
  cases p with
  | publish pub =>
    simp only [peer]
    split
    · rfl
    · split
      · exact written_onPublish c pub
      · exact written_onPublish c pub
  | pubrel id =>
    simp only [peer]
    rw [List.filterMap_append, written_flatMap_nil]
    · rfl
    · intro r; split
      · exact written_onPublish _ _
      · rfl
  | puback id | pubcomp id => exact hc _
  | suback id codes =>
    refine written_foldDone _ (fun c r => ?_) _ _
    unfold subscribeDone
    split <;> exact written_completeOut _ _
  | unsuback id => exact written_foldDone _ (fun c r => written_completeOut _ _) _ _
  | pingresp => exact written_flatMap_nil _ _ fun _ => written_completeOut _ _
  | _ => rfl

theorem written_apiRegister (c : C) (call : Api) : (apiRegister c call).2.filterMap writtenId = [] := by
  rw [(apiRegister_keeps c call).2.2.2]
  cases call with
  | publish p tag =>
    dsimp only
    split
    · exact written_completeOut _ _
    · rfl
  | _ => rfl

/-- a call writes its request, nothing else writes a request -/
theorem mem_written (c : C) (ev : Ev) : ∀ i ∈ (step c ev).2.filterMap writtenId, ∃ id, i = assigned c id := by
  refine step_elim (motive := fun c _ r => ∀ i ∈ r.2.filterMap writtenId, ∃ id, i = assigned c id)
    ?_ (fun c ev _ _ i hi => by cases ev <;> cases hi) ?_ (fun c p _ i hi => by rw [written_peer] at hi; cases hi) ?_ c ev
  · intro c a i hi
    cases a with
    | connack sp code => simp only [connect] at hi; split at hi <;> cases hi
    | _ => cases hi
  · intro c call _ i hi
    rw [callOf, List.filterMap_append, written_apiWrite, written_apiRegister, List.append_nil] at hi
    split at hi
    · exact ⟨_, List.mem_singleton.mp hi⟩
    · cases hi
  · intro c call ack _ _ h1 _ i hi
    rw [List.filterMap_append, written_peer, List.append_nil] at hi
    exact h1 i hi

theorem step_api_written (c : C) (hc : c.connected = true) (call : Api) (k : Kind) (id tag : Nat)
    (h : callReq call = some (k, id, tag)) :
    (step c (.api call)).2.filterMap writtenId = [assigned c id] ∧
    ∀ r ∈ stepAccepted k c (.api call), r.id = assigned c id := by
  have h2 : callReq (apiWrite c call).2.2 = some (k, assigned c id, tag) := by rw [callReq_apiWrite, h]; rfl
  constructor
  · rw [step_api c hc, callOf, List.filterMap_append, written_apiWrite, h, apiRegister_out_nil _ _ k _ tag h2]
    rfl
  · intro r hr
    simp only [stepAccepted, hc, ↓reduceIte] at hr
    obtain ⟨⟨tag', hreq⟩, _⟩ := regAccepted_ids k _ _ r hr
    rw [h2] at hreq
    exact (Prod.mk.inj (Prod.mk.inj (Option.some.inj hreq)).2).1.symm

def IdsNodup (c : C) : Prop := ∀ k, ((queue k c).map (·.id)).Nodup

def IdsNonzero (c : C) : Prop := ∀ k, ∀ e ∈ queue k c, e.id ≠ 0

theorem peer_ids_sublist (k : Kind) (c : C) (p : Packet) :
    ((queue k (peer c p).1).map (·.id)).Sublist ((queue k c).map (·.id)) := by
  have := congrArg (List.map (·.1)) (peer_conservation k c p)
  rw [List.map_append, List.map_append, map_key_id, map_key_id, map_key_id] at this
  rw [← this]
  exact List.sublist_append_right _ _

theorem peer_mem_id (k : Kind) (c : C) (p : Packet) (e : Req) (he : e ∈ queue k (peer c p).1) :
    ∃ e' ∈ queue k c, e'.id = e.id :=
  List.mem_map.mp ((peer_ids_sublist k c p).subset (List.mem_map.mpr ⟨e, he, rfl⟩))

theorem idsNodup_peer (c : C) (p : Packet) (h : IdsNodup c) : IdsNodup (peer c p).1 :=
  fun k => (h k).sublist (peer_ids_sublist k c p)

theorem idsNodup_apiRegister (c : C) (call : Api) (h : IdsNodup c) : IdsNodup (apiRegister c call).1 := by
  intro k
  rw [apiRegister_queue, List.map_append, List.nodup_append]
  refine ⟨h k, regAccepted_nodup k c call, ?_⟩
  intro a ha b hb hab
  obtain ⟨e, he, rfl⟩ := List.mem_map.mp ha
  obtain ⟨r, hr, rfl⟩ := List.mem_map.mp hb
  exact (regAccepted_ids k c call r hr).2 e he hab

theorem idsNodup_init : IdsNodup init := fun k => by cases k <;> exact List.nodup_nil

theorem idsNodup_step (c : C) (ev : Ev) (h : IdsNodup c) : IdsNodup (step c ev).1 :=
  step_keeps (P := IdsNodup) (fun c a h k => by rw [connect_queue]; exact h k)
    (fun c call h => idsNodup_apiRegister _ _ fun k => by rw [apiWrite_queue]; exact h k)
    idsNodup_peer c ev h

theorem idsNonzero_init : IdsNonzero init := fun k e he => by cases k <;> cases he

theorem idsNonzero_step (c : C) (ev : Ev) (h : IdsNonzero c) : IdsNonzero (step c ev).1 := by
  refine step_keeps (P := IdsNonzero) (fun c a h k e he => h k e (connect_queue k c a ▸ he)) ?_ ?_ c ev h
  · intro c call h k e he
    rw [callOf, apiRegister_queue, apiWrite_queue, List.mem_append] at he
    rcases he with he | he
    · exact h k e he
    · -- a new request bears the identifier it was written with
      obtain ⟨⟨tag, hreq⟩, _⟩ := regAccepted_ids k _ _ e he
      rw [callReq_apiWrite] at hreq
      obtain ⟨x, _, hx⟩ := Option.map_eq_some_iff.mp hreq
      rw [← (Prod.mk.inj (Prod.mk.inj hx).2).1]
      exact assigned_ne_zero c _
  · intro c p h k e he
    obtain ⟨e', he', hid⟩ := peer_mem_id k c p e he
    rw [← hid]; exact h k e' he'

/-- the identifiers of the requests in flight: the QoS 1 and QoS 2 publishes, subscribes and
unsubscribes of one connection share one identifier space (MQTT-2.3.1) -/
def inFlightIds (c : C) : List Nat := (c.pub1ack ++ c.pub2out ++ c.suback ++ c.unsuback).map (·.id)

theorem inFlightIds_eq (c : C) :
    inFlightIds c = (queue .pub1 c).map (·.id) ++ (queue .pub2 c).map (·.id) ++ (queue .sub c).map (·.id) ++
      (queue .unsub c).map (·.id) := by
  rw [inFlightIds, List.map_append, List.map_append, List.map_append]; rfl

theorem mem_kinds {α} {f : Kind → List α} {i : α} :
    i ∈ f .pub1 ++ f .pub2 ++ f .sub ++ f .unsub ↔ ∃ k, i ∈ f k := by
  simp only [List.mem_append]
  constructor
  · rintro (((h | h) | h) | h)
    · exact ⟨.pub1, h⟩
    · exact ⟨.pub2, h⟩
    · exact ⟨.sub, h⟩
    · exact ⟨.unsub, h⟩
  · rintro ⟨k, h⟩
    cases k
    · exact .inl (.inl (.inl h))
    · exact .inl (.inl (.inr h))
    · exact .inl (.inr h)
    · exact .inr h

theorem mem_inFlightIds (c : C) (i : Nat) : i ∈ inFlightIds c ↔ ∃ k, ∃ e ∈ queue k c, e.id = i := by
  rw [inFlightIds_eq, mem_kinds (f := fun k => (queue k c).map (·.id))]
  simp only [List.mem_map]

def AllDistinct (c : C) : Prop := (inFlightIds c).Nodup

theorem allDistinct_init : AllDistinct init := List.nodup_nil

theorem inFlightIds_congr {c c' : C} (h : ∀ k, queue k c' = queue k c) : inFlightIds c' = inFlightIds c := by
  rw [inFlightIds_eq, inFlightIds_eq, h, h, h, h]

theorem inFlightIds_apiWrite (c : C) (call : Api) : inFlightIds (apiWrite c call).1 = inFlightIds c :=
  inFlightIds_congr fun k => apiWrite_queue k c call

theorem inFlightIds_connect (c : C) (a : Answer) : inFlightIds (connect c a).1 = inFlightIds c :=
  inFlightIds_congr fun k => connect_queue k c a

theorem inFlightIds_peer_sublist (c : C) (p : Packet) : (inFlightIds (peer c p).1).Sublist (inFlightIds c) := by
  rw [inFlightIds_eq, inFlightIds_eq]
  exact (((peer_ids_sublist .pub1 c p).append (peer_ids_sublist .pub2 c p)).append
    (peer_ids_sublist .sub c p)).append (peer_ids_sublist .unsub c p)

theorem inFlightIds_peer_subset (c : C) (p : Packet) : ∀ i ∈ inFlightIds (peer c p).1, i ∈ inFlightIds c :=
  fun _ hi => (inFlightIds_peer_sublist c p).subset hi

theorem allDistinct_peer (c : C) (p : Packet) (h : AllDistinct c) : AllDistinct (peer c p).1 :=
  h.sublist (inFlightIds_peer_sublist c p)

theorem perm_append_append {α} (a r b s : List α) : ((a ++ r) ++ (b ++ s)).Perm ((a ++ b) ++ (r ++ s)) := by
  rw [List.append_assoc, List.append_assoc]
  exact (List.perm_append_comm_assoc r b s).append_left a

/-- the identifiers of the requests a registration puts in flight (at most one) -/
def newIds (c : C) (call : Api) : List Nat :=
  (regAccepted .pub1 c call).map (·.id) ++ (regAccepted .pub2 c call).map (·.id) ++
    (regAccepted .sub c call).map (·.id) ++ (regAccepted .unsub c call).map (·.id)

theorem inFlightIds_apiRegister (c : C) (call : Api) :
    (inFlightIds (apiRegister c call).1).Perm (inFlightIds c ++ newIds c call) := by
  rw [inFlightIds_eq, inFlightIds_eq, newIds]
  simp only [apiRegister_queue, List.map_append]
  exact (((perm_append_append ..).append_right _).trans (perm_append_append ..) |>.append_right _).trans
    (perm_append_append ..)

theorem mem_newIds {c : C} {call : Api} {i : Nat} (h : i ∈ newIds c call) :
    ∃ k tag, callReq call = some (k, i, tag) ∧ ∀ e ∈ queue k c, e.id ≠ i := by
  obtain ⟨k, hk⟩ := (mem_kinds (f := fun k => (regAccepted k c call).map (·.id))).mp h
  obtain ⟨r, hr, rfl⟩ := List.mem_map.mp hk
  obtain ⟨⟨tag, hreq⟩, hne⟩ := regAccepted_ids k c call r hr
  exact ⟨k, tag, hreq, hne⟩

theorem newIds_eq (c : C) (call : Api) :
    newIds c call = match callReq call with
      | some (k, _, _) => (regAccepted k c call).map (·.id)
      | none => [] := by
  cases hcr : callReq call with
  | none => simp [newIds, regAccepted_none c call hcr]
  | some x =>
    obtain ⟨k, a, tag⟩ := x
    have h : ∀ k', k' ≠ k → regAccepted k' c call = [] := regAccepted_other c call k a tag hcr
    cases k <;> simp [newIds, h]

theorem newIds_nodup (c : C) (call : Api) : (newIds c call).Nodup := by
  rw [newIds_eq]
  split
  · exact regAccepted_nodup _ c call
  · exact List.nodup_nil

theorem allDistinct_apiRegister (c : C) (call : Api) (h : AllDistinct c)
    (hclear : ∀ k a tag, callReq call = some (k, a, tag) → a ∉ inFlightIds c) :
    AllDistinct (apiRegister c call).1 := by
  refine (inFlightIds_apiRegister c call).nodup_iff.mpr (List.nodup_append.mpr ⟨h, newIds_nodup c call, ?_⟩)
  intro a ha b hb hab
  obtain ⟨k, tag, hreq, _⟩ := mem_newIds hb
  exact hclear k b tag hreq (hab ▸ ha)

/-- the request of this event is written with an identifier that no request in flight on the
connection bears (vacuous for events that write no request with an identifier) -/
def clearStep (c : C) : Ev → Bool
  | .api call | .apiEarlyAck call _ =>
    match callReq call with
    | some (_, id, _) => !c.connected || !(inFlightIds c).contains (assigned c id)
    | none => true
  | _ => true

theorem clearStep_early (c : C) (call : Api) (ack : Packet) :
    clearStep c (.apiEarlyAck call ack) = clearStep c (.api call) := rfl

theorem clearStep_api {c : C} (hc : c.connected = true) {call : Api} {k : Kind} {id tag : Nat}
    (hreq : callReq call = some (k, id, tag)) :
    clearStep c (.api call) = true ↔ assigned c id ∉ inFlightIds c := by
  simp only [clearStep, hreq, hc, Bool.not_true, Bool.false_or, Bool.not_eq_true', List.contains_eq_mem,
    decide_eq_false_iff_not]

theorem allDistinct_api (c : C) (hc : c.connected = true) (call : Api) (h : AllDistinct c)
    (hclear : clearStep c (.api call) = true) : AllDistinct (step c (.api call)).1 := by
  rw [step_api c hc, callOf]
  refine allDistinct_apiRegister _ _ (by unfold AllDistinct; rw [inFlightIds_apiWrite]; exact h) ?_
  intro k a tag hreq
  rw [inFlightIds_apiWrite, callReq_apiWrite] at *
  obtain ⟨⟨k', id, tag'⟩, hcr, hx⟩ := Option.map_eq_some_iff.mp hreq
  cases hx
  exact (clearStep_api hc hcr).mp hclear

/-- **Preservation.**  A step whose request is written with an identifier not in flight keeps
the identifiers in flight pairwise distinct - the composite event (the call, then the packet)
included. -/
theorem allDistinct_step (c : C) (ev : Ev) : AllDistinct c → clearStep c ev = true → AllDistinct (step c ev).1 :=
  step_elim (motive := fun c ev r => AllDistinct c → clearStep c ev = true → AllDistinct r.1)
    (fun c a h _ => by unfold AllDistinct; rw [inFlightIds_connect]; exact h) (fun _ _ _ _ h _ => h)
    (fun c call hc h hcl => step_api c hc call ▸ allDistinct_api c hc call h hcl)
    (fun c p _ h _ => allDistinct_peer c p h) (fun c call ack _ _ h1 h2 h hcl => h2 (h1 h (clearStep_early c call ack ▸ hcl)) rfl) c ev

/-- the request written by a step with a clear identifier is registered, under that identifier
(also when its acknowledgement arrives before the registration) -/
theorem clear_registered (c : C) (hc : c.connected = true) (ev : Ev) (call : Api)
    (hev : ev = .api call ∨ ∃ ack, ev = .apiEarlyAck call ack) (k : Kind) (id tag : Nat)
    (hreq : callReq call = some (k, id, tag)) (hclear : clearStep c ev = true) :
    ∃ r, stepAccepted k c ev = [r] ∧ r.id = assigned c id ∧ r.tag = tag := by
  have hnot : assigned c id ∉ inFlightIds c := by
    rcases hev with rfl | ⟨ack, rfl⟩
    · exact (clearStep_api hc hreq).mp hclear
    · exact (clearStep_api hc hreq).mp (clearStep_early c call ack ▸ hclear)
  have := api_registers c hc call k id tag hreq fun e he heq => hnot ((mem_inFlightIds c _).mpr ⟨k, e, he, heq⟩)
  rcases hev with rfl | ⟨ack, rfl⟩
  · exact this
  · rwa [stepAccepted_early]

/-! ### histories of a connection inside a process

The counter is process-wide: between two events of one connection other
connections may draw identifiers.  `others d`: the counter advances by `d`. -/

inductive PEv where
  | own (ev : Ev)
  | others (d : Nat)
deriving Repr

def pstep (c : C) : PEv → C
  | .own ev => (step c ev).1
  | .others d => { c with ctr := c.ctr + d }

def prunState (c : C) (xs : List PEv) : C := xs.foldl pstep c

theorem prunState_append (c : C) (a b : List PEv) : prunState c (a ++ b) = prunState (prunState c a) b :=
  List.foldl_append

def Clear (c : C) : List PEv → Bool
  | [] => true
  | .own ev :: xs => clearStep c ev && Clear (step c ev).1 xs
  | .others d :: xs => Clear { c with ctr := c.ctr + d } xs

theorem clear_cons (c : C) (x : PEv) (xs : List PEv) :
    Clear c (x :: xs) = ((match x with | .own ev => clearStep c ev | .others _ => true) && Clear (pstep c x) xs) := by
  cases x <;> rfl

theorem clear_append (c : C) (a b : List PEv) : Clear c (a ++ b) = (Clear c a && Clear (prunState c a) b) := by
  induction a generalizing c with
  | nil => rfl
  | cons x a ih => rw [List.cons_append, clear_cons, clear_cons, ih, Bool.and_assoc]; rfl

theorem allDistinct_prun (c : C) (xs : List PEv) (h : AllDistinct c) (hclear : Clear c xs = true) :
    AllDistinct (prunState c xs) := by
  induction xs generalizing c with
  | nil => exact h
  | cons x xs ih =>
    rw [clear_cons, Bool.and_eq_true] at hclear
    refine ih _ ?_ hclear.2
    cases x with
    | own ev => exact allDistinct_step c ev h hclear.1
    | others d => exact h

/-! ### when every identifier is clear: the window of the counter

Ghost bookkeeping: `born` lists, for the requests in flight whose identifier the
library assigned, the identifier and the counter value that produced it. -/

structure G where
  c : C
  born : List (Nat × Nat) := []

/-- an identifier leaves `born` when its request leaves the queues (the filter by what is in flight AFTER the
step): `born` knows nothing of requests that were completed, nor of what was in flight before the ghost was set up -/
def gstep (g : G) : PEv → G
  | .others d => ⟨{ g.c with ctr := g.c.ctr + d }, g.born⟩
  | .own ev =>
    ⟨(step g.c ev).1,
     (if evDraws g.c ev then ((nextPacketID g.c.ctr).1, (nextPacketID g.c.ctr).2) :: g.born else g.born).filter
       (fun b => (inFlightIds (step g.c ev).1).contains b.1)⟩

theorem gstep_c (g : G) (x : PEv) : (gstep g x).c = pstep g.c x := by cases x <;> rfl

/-- every recorded identifier is its counter value modulo 2^16, and the counter has not gone back -/
def GInv (g : G) : Prop := ∀ b ∈ g.born, b.1 = b.2 % 65536 ∧ b.2 ≤ g.c.ctr

theorem gInv_gstep (g : G) (x : PEv) (h : GInv g) : GInv (gstep g x) := by
  cases x with
  | others d => exact fun b hb => ⟨(h b hb).1, Nat.le_trans (h b hb).2 (Nat.le_add_right _ _)⟩
  | own ev =>
    intro b hb
    have hb' := (List.mem_filter.mp hb).1
    have hold : ∀ b ∈ g.born, b.1 = b.2 % 65536 ∧ b.2 ≤ (step g.c ev).1.ctr :=
      fun b hb => ⟨(h b hb).1, Nat.le_trans (h b hb).2 (step_ctr_mono g.c ev)⟩
    split at hb'
    · rename_i hd
      rcases List.mem_cons.mp hb' with rfl | hb'
      · exact ⟨nextPacketID_fst _, by show _ ≤ (step g.c ev).1.ctr; rw [step_ctr, hd]; exact Nat.le_refl _⟩
      · exact hold b hb'
    · exact hold b hb'

/-- the condition on one event.  A request with a caller-supplied identifier: the identifier is
not in flight.  A request the library numbers: (window) every library-assigned identifier in
flight was produced fewer than 2^16 counter steps before the new one - fewer than 2^16 - 1
identifiers have been drawn process-wide since (`C12_window_in_draws`) -, and (caller) the new
identifier is not a caller-supplied one in flight. -/
def roomyStep (g : G) : PEv → Bool
  | .others _ => true
  | .own ev =>
    match ev with
    | .api call | .apiEarlyAck call _ =>
      match callReq call with
      | some (_, id, _) =>
        !g.c.connected ||
        (if id == 0 then
           g.born.all (fun b => (nextPacketID g.c.ctr).2 - b.2 < 65536) &&
           !((inFlightIds g.c).filter (fun i => !(g.born.map (·.1)).contains i)).contains (nextPacketID g.c.ctr).1
         else !(inFlightIds g.c).contains id)
      | none => true
    | _ => true

def Roomy (g : G) : List PEv → Bool
  | [] => true
  | x :: xs => roomyStep g x && Roomy (gstep g x) xs

/-- the new identifier is clear: a recorded one that equals it would be a whole cycle of the counter
old, a caller-supplied one is excluded outright -/
theorem roomy_clearStep_api (g : G) (hinv : GInv g) (call : Api) (h : roomyStep g (.own (.api call)) = true) :
    clearStep g.c (.api call) = true := by
  simp only [roomyStep, clearStep] at h ⊢
  cases hcr : callReq call with
  | none => rfl
  | some x =>
    obtain ⟨k, id, tag⟩ := x
    simp only [hcr] at h ⊢
    cases hc : g.c.connected with
    | false => rfl
    | true =>
      simp only [hc, Bool.not_true, Bool.false_or] at h ⊢
      by_cases hid : id = 0
      · subst hid
        simp only [BEq.rfl, ↓reduceIte, Bool.and_eq_true, List.all_eq_true, decide_eq_true_eq,
          List.contains_eq_mem, decide_eq_false_iff_not, List.mem_filter,
          List.mem_map, not_and, Bool.not_eq_eq_eq_not, Bool.not_true] at h
        obtain ⟨hwin, hcaller⟩ := h
        simp only [assigned, ↓reduceIte, Bool.not_eq_true', List.contains_eq_mem, decide_eq_false_iff_not]
        intro hin
        by_cases hb : ∃ b ∈ g.born, b.1 = (nextPacketID g.c.ctr).1
        · obtain ⟨b, hb, hbe⟩ := hb
          have hw := hwin b hb
          obtain ⟨h1, h2⟩ := hinv b hb
          have hgt := nextPacketID_gt g.c.ctr
          have hf := nextPacketID_fst g.c.ctr
          omega
        · exact hcaller hin hb
      · simp only [beq_iff_eq, hid, ↓reduceIte] at h
        simp only [assigned, hid, ↓reduceIte]
        exact h

/-- **The window.**  A history in which every event meets the condition writes every request with
an identifier that is not in flight. -/
theorem roomy_clear (g : G) (xs : List PEv) (hinv : GInv g) (h : Roomy g xs = true) : Clear g.c xs = true := by
  induction xs generalizing g with
  | nil => rfl
  | cons x xs ih =>
    rw [Roomy, Bool.and_eq_true] at h
    have ih' := ih (gstep g x) (gInv_gstep g x hinv) h.2
    rw [gstep_c] at ih'
    rw [clear_cons, ih', Bool.and_true]
    cases x with
    | own ev =>
      cases ev with
      | api call | apiEarlyAck call ack => exact roomy_clearStep_api g hinv call h.1
      | _ => rfl
    | others d => rfl

/-! ### exactly-once completion for requests the library numbers

`Fresh` (`ClientCompletions`) admits caller-supplied identifiers only.  `FreshA` asks
of every request just that the identifier it is *written with* - the caller's or
the one the library assigns - is not in flight in its ack queue. -/

def freshStepA (c : C) : Ev → Bool
  | .api call | .apiEarlyAck call _ =>
    match callReq call with
    | some (k, id, _) => !(queue k c).any (fun e => e.id == assigned c id)
    | none => true
  | _ => true

def FreshA (c : C) : List Ev → Bool
  | [] => true
  | ev :: evs => freshStepA c ev && FreshA (step c ev).1 evs

theorem freshStepA_of_freshStep (c : C) (ev : Ev) (h : freshStep c ev = true) : freshStepA c ev = true := by
  have key : ∀ call, freshStep c (.api call) = true → freshStepA c (.api call) = true := by
    intro call h
    simp only [freshStep, freshStepA] at h ⊢
    cases hcr : callReq call with
    | none => rfl
    | some x =>
      obtain ⟨k, id, tag⟩ := x
      simp only [hcr, Bool.and_eq_true, bne_iff_ne, ne_eq] at h ⊢
      simp only [assigned, h.1, ↓reduceIte]
      exact h.2
  cases ev with
  | api call => exact key call h
  | apiEarlyAck call ack => exact key call h
  | _ => rfl

theorem freshA_of_fresh (c : C) (evs : List Ev) (h : Fresh c evs = true) : FreshA c evs = true := by
  induction evs generalizing c with
  | nil => rfl
  | cons ev evs ih =>
    simp only [Fresh, FreshA, Bool.and_eq_true] at h ⊢
    exact ⟨freshStepA_of_freshStep c ev h.1, ih _ h.2⟩

theorem stepAccepted_freshA (k : Kind) (c : C) (call : Api) (hc : c.connected = true)
    (hf : freshStepA c (.api call) = true) :
    (stepAccepted k c (.api call)).map (·.tag) =
      (match callReq call with
       | some (k', _, tag) => if k' = k then [tag] else []
       | none => []) := by
  cases hcr : callReq call with
  | none =>
    simp only [stepAccepted, hc, ↓reduceIte]
    rw [regAccepted_none _ _ (by rw [callReq_apiWrite, hcr]; rfl)]; rfl
  | some x =>
    obtain ⟨k', id, tag⟩ := x
    by_cases hk : k' = k
    · subst hk
      simp only [freshStepA, hcr, Bool.not_eq_true', List.any_eq_false, beq_iff_eq] at hf
      obtain ⟨r, hr, _, htag⟩ := api_registers c hc call k' id tag hcr hf
      simp [hr, htag]
    · simp only [stepAccepted, hc, ↓reduceIte]
      rw [regAccepted_other _ _ k' (assigned c id) tag (by rw [callReq_apiWrite, hcr]; rfl) k (fun h => hk h.symm)]
      simp [hk]

theorem accepted_freshA (k : Kind) (c : C) (evs : List Ev) (hc : c.connected = true)
    (hf : FreshA c evs = true) : (accepted k c evs).map (·.tag) = requestedTags k evs := by
  induction evs generalizing c with
  | nil => rfl
  | cons ev evs ih =>
    simp only [FreshA, Bool.and_eq_true] at hf
    have ih' := ih (step c ev).1 (step_connected c ev hc) hf.2
    cases ev with
    | api call =>
      simp only [accepted, requestedTags, List.map_append, ih']
      rw [stepAccepted_freshA k c call hc hf.1]
      cases callReq call with
      | none => rfl
      | some x => rfl
    | apiEarlyAck call ack =>
      simp only [accepted, requestedTags, List.map_append, ih']
      rw [stepAccepted_early,
        stepAccepted_freshA k c call hc hf.1]
      cases callReq call with
      | none => rfl
      | some x => rfl
    | connect a | peer p => simp only [accepted, requestedTags, stepAccepted, List.nil_append, ih']

theorem accepted_fresh (k : Kind) (c : C) (evs : List Ev) (hc : c.connected = true)
    (hf : Fresh c evs = true) : (accepted k c evs).map (·.tag) = requestedTags k evs :=
  accepted_freshA k c evs hc (freshA_of_fresh c evs hf)

end Mqtt.Proofs.Client
