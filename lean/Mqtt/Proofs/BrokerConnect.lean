/-
`handleConnection` = `takeOver` (disconnect the existing connections of the client, MQTT-3.1.4-2)
followed by `first` (getSession … CONNACK): what `stop` and `first` keep, `connect` keeps.  Then histories:
what every step keeps, `run` keeps (`run_induction`), and the equations of `run` (`BrokerOrder.run_cons`, `run_append`).
-/
import Mqtt.Model.Broker

namespace Mqtt.Proofs.Connect
open Mqtt.Iface.Broker Mqtt.Model.Broker

theorem connect_eq (b : B) (c : Nat) (f : First) (a : Bool) :
    connect b c f a = ((first (takeOver b f a).1 c f a).1, (takeOver b f a).2 ++ (first (takeOver b f a).1 c f a).2) := rfl

theorem step_first_eq (b : B) (c : Nat) (f : First) (a : Bool) : step b (.first c f a) = connect b c f a := rfl

theorem stopAll_nil (b : B) : stopAll b [] = (b, []) := rfl

theorem stopAll_cons (b : B) (c : Nat) (cs : List Nat) :
    stopAll b (c :: cs) = ((stopAll (stop b c).1 cs).1, (stop b c).2 ++ (stopAll (stop b c).1 cs).2) := rfl

theorem takeOver_cases (b : B) (f : First) (a : Bool) :
    takeOver b f a = (b, []) ∨
    ∃ req, f = .connect req ∧ connectDecode req = .inr true ∧ a = true ∧ req.clientId.isEmpty = false ∧
      takeOver b f a = stopAll b (sameClient b req.clientId) := by
  cases f with
  | garbage => exact .inl rfl
  | other t => exact .inl rfl
  | connect req =>
    unfold takeOver
    cases hd : connectDecode req with
    | inl k => left; simp [hd]
    | inr ok =>
      cases ok with
      | false => left; simp [hd]
      | true =>
        cases a with
        | false => left; simp [hd]
        | true =>
          cases he : req.clientId.isEmpty with
          | true => left; simp [hd, he]
          | false => exact .inr ⟨req, rfl, hd, rfl, he, by simp [he, hd]⟩

theorem stopAll_state (P : B → Prop) (hstop : ∀ b c, P b → P (stop b c).1) :
    ∀ (cs : List Nat) (b : B), P b → P (stopAll b cs).1 := by
  intro cs
  induction cs with
  | nil => intro b h; exact h
  | cons c cs ih => intro b h; rw [stopAll_cons]; exact ih _ (hstop b c h)

theorem stopAll_out (Q : Out → Prop) (hstop : ∀ b c, ∀ o ∈ (stop b c).2, Q o) :
    ∀ (cs : List Nat) (b : B), ∀ o ∈ (stopAll b cs).2, Q o := by
  intro cs
  induction cs with
  | nil => intro b o ho; cases ho
  | cons c cs ih =>
    intro b o ho
    rw [stopAll_cons] at ho
    rcases List.mem_append.mp ho with h | h
    · exact hstop b c o h
    · exact ih _ o h

theorem takeOver_state (P : B → Prop) (hstop : ∀ b c, P b → P (stop b c).1) (b : B) (f : First) (a : Bool)
    (h : P b) : P (takeOver b f a).1 := by
  rcases takeOver_cases b f a with h0 | ⟨req, _, _, _, _, h1⟩
  · rw [h0]; exact h
  · rw [h1]; exact stopAll_state P hstop _ b h

theorem takeOver_out (Q : Out → Prop) (hstop : ∀ b c, ∀ o ∈ (stop b c).2, Q o) (b : B) (f : First) (a : Bool) :
    ∀ o ∈ (takeOver b f a).2, Q o := by
  rcases takeOver_cases b f a with h0 | ⟨req, _, _, _, _, h1⟩
  · rw [h0]; intro o ho; cases ho
  · rw [h1]; exact stopAll_out Q hstop _ b

theorem connect_state (P : B → Prop) (hstop : ∀ b c, P b → P (stop b c).1)
    (hfirst : ∀ b c f a, P b → P (first b c f a).1) (b : B) (c : Nat) (f : First) (a : Bool) (h : P b) :
    P (connect b c f a).1 := by
  rw [connect_eq]
  exact hfirst _ c f a (takeOver_state P hstop b f a h)

theorem connect_out (Q : Out → Prop) (hstop : ∀ b c, ∀ o ∈ (stop b c).2, Q o)
    (hfirst : ∀ b c f a, ∀ o ∈ (first b c f a).2, Q o) (b : B) (c : Nat) (f : First) (a : Bool) :
    ∀ o ∈ (connect b c f a).2, Q o := by
  rw [connect_eq]
  intro o ho
  rcases List.mem_append.mp ho with h | h
  · exact takeOver_out Q hstop b f a o h
  · exact hfirst _ c f a o h

theorem run_induction {P : B → Prop} (hstep : ∀ b e, P b → P (step b e).1) {b : B} (evs : List Ev) (h : P b) :
    P (run b evs).1 := by
  induction evs generalizing b with
  | nil => exact h
  | cons e es ih => exact ih (hstep b e h)

end Mqtt.Proofs.Connect

namespace Mqtt.Proofs.BrokerOrder
open Mqtt.Iface.Broker Mqtt.Model.Broker

theorem run_nil (b : B) : run b [] = (b, []) := rfl

theorem run_cons (b : B) (e : Ev) (es : List Ev) :
    run b (e :: es) = ((run (step b e).1 es).1, (step b e).2 :: (run (step b e).1 es).2) := rfl

theorem run_append (b : B) (e1 e2 : List Ev) :
    run b (e1 ++ e2) = ((run (run b e1).1 e2).1, (run b e1).2 ++ (run (run b e1).1 e2).2) := by
  induction e1 generalizing b with
  | nil => rfl
  | cons e es ih =>
    simp only [List.cons_append, run_cons, ih, List.cons_append]

theorem run_length (b : B) (evs : List Ev) : (run b evs).2.length = evs.length := by
  induction evs generalizing b with
  | nil => rfl
  | cons e es ih => simp only [run_cons, List.length_cons, ih]

theorem run_getElem (b : B) (evs : List Ev) (i : Nat) :
    (run b evs).2[i]? = evs[i]?.map (fun e => (step (run b (evs.take i)).1 e).2) := by
  induction evs generalizing b i with
  | nil => simp [run_nil]
  | cons e es ih =>
    cases i with
    | zero => simp [run_cons, run_nil]
    | succ i => simp only [run_cons, List.getElem?_cons_succ, List.take_succ_cons]; exact ih _ i

end Mqtt.Proofs.BrokerOrder
