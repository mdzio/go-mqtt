/-
Core B, retained trie: abstraction `absR`, well-formedness `RWF`, the walk `rwalk` of `rmatch`
(recursion on the FILTER's levels), `rmatch_char`, refinement lemmas for `rinsertL` / `rremoveL`,
the pruning invariant.  Same plan as for the subscription trie, and kept parallel to TopicsAbs / TopicsStore
declaration by declaration (`RWF`/`WF`, `rremoveL_cons_some`/`sremoveL_cons_some`, `RPruned`/`Pruned`): a change
to the node type of one trie is made in both.  A node's own entries are its message, if any.
-/
import Mqtt.Proofs.Topics
import Mqtt.Spec.Match

namespace Mqtt.Proofs.Topics
open Shortcuts
open Mqtt.Model.Topics

abbrev REntry := List Level × RMsg

mutual
  /-- every (path from this node, message) held in the retained trie -/
  def absR : RNode → List REntry
    | .mk m kids => m.toList.map (fun x => (([] : List Level), x)) ++ absRKids kids
  def absRKids : List (Level × RNode) → List REntry
    | [] => []
    | (k, n) :: rest => (absR n).map (fun e => (k :: e.1, e.2)) ++ absRKids rest
end

theorem absRKids_eq_flatMap (kids : List (Level × RNode)) : absRKids kids = kids.flatMap (below absR) := by
  induction kids with
  | nil => rfl
  | cons p rest ih => rw [absRKids, ih]; rfl

theorem absR_mk (m : Option RMsg) (kids : List (Level × RNode)) :
    absR (.mk m kids) = nodeEntries absR m.toList kids := by
  rw [absR, absRKids_eq_flatMap]; rfl

theorem absR_empty : absR RNode.empty = [] := rfl

mutual
  def RWF : RNode → Prop
    | .mk _ kids => (kids.map (·.1)).Nodup ∧ RWFKids kids
  def RWFKids : List (Level × RNode) → Prop
    | [] => True
    | (_, n) :: rest => RWF n ∧ RWFKids rest
end

theorem RWFKids_iff (kids : List (Level × RNode)) : RWFKids kids ↔ ∀ p ∈ kids, RWF p.2 := by
  induction kids with
  | nil => exact ⟨fun _ _ h => (nomatch h), fun _ => trivial⟩
  | cons p rest ih => rw [RWFKids, ih, List.forall_mem_cons]

/-- `RWF` at a node, one level unfolded -/
structure RWFAt (kids : List (Level × RNode)) : Prop where
  keys : (kids.map (·.1)).Nodup
  below : ∀ p ∈ kids, RWF p.2

theorem RWF_mk (m : Option RMsg) (kids : List (Level × RNode)) : RWF (.mk m kids) ↔ RWFAt kids := by
  rw [RWF, RWFKids_iff]
  exact ⟨fun ⟨a, b⟩ => ⟨a, b⟩, fun h => ⟨h.keys, h.below⟩⟩

theorem RWF_empty : RWF RNode.empty := (RWF_mk none []).mpr ⟨.nil, fun _ h => nomatch h⟩

mutual
  theorem allRetained_eq : ∀ n : RNode, n.allRetained = (absR n).map (·.2)
    | .mk m kids => by
      rw [RNode.allRetained, absR, List.map_append, allRetainedKids_eq kids, List.map_map]
      exact congrArg (· ++ _) (List.map_id' _).symm
  theorem allRetainedKids_eq : ∀ kids : List (Level × RNode),
      RNode.allRetainedKids kids = (absRKids kids).map (·.2)
    | [] => rfl
    | (k, n) :: rest => by
      rw [RNode.allRetainedKids, absRKids, List.map_append, allRetained_eq n, allRetainedKids_eq rest, List.map_map]
      rfl
end

/-- `rwalk filter path`: does `rmatch`, walking along the filter's levels,
collect the message stored under `path`? -/
def rwalk : List Level → List Level → Bool
  | [], [] => true
  | [], _ :: _ => false
  | f :: _, [] => f == MWC
  | f :: fs, k :: p => if f == MWC then true else (f == SWC || f == k) && rwalk fs p

/-- (the right-hand side is `pick (rwalk fs) id (absR n)` spelled out) -/
theorem rmatch_char (n : RNode) (fs : List Level) (hwf : RWF n) :
    ∃ r, n.rmatchL fs true = some r ∧
      r.Perm ((absR n).filterMap (fun e => if rwalk fs e.1 then some e.2 else none)) := by
  show ∃ r, _ ∧ List.Perm r (pick (rwalk fs) id (absR n))
  induction fs generalizing n with
  | nil =>
    obtain ⟨m, kids⟩ := n
    refine ⟨_, rfl, .of_eq ?_⟩
    -- the filter is exhausted: the node's own message
    rw [absR_mk, pick_congr (w' := List.isEmpty) _ _ _ fun e _ => by cases e.1 <;> rfl, pick_isEmpty, List.map_id]
  | cons l ls ih =>
    obtain ⟨m, kids⟩ := n
    rw [RWF_mk] at hwf
    rw [RNode.rmatchL]
    by_cases h1 : l = MWC
    · -- `#`: everything below this node
      subst h1
      refine ⟨_, rfl, .of_eq ?_⟩
      rw [allRetained_eq, pick_true _ _ fun e _ => by cases e.1 <;> rfl]
      rfl
    · have h1' : (l == MWC) = false := beq_eq_false_iff_ne.mpr h1
      rw [h1', if_neg Bool.false_ne_true]
      by_cases h2 : l = SWC
      · -- `+`: every child is walked into
        subst h2
        rw [beq_self_eq_true, if_pos rfl, absR_mk, pick_nodeEntries]
        refine optConcat_map_perm kids _ _ fun p hp => ?_
        show ∃ x, _ ∧ List.Perm x (pick (fun path => if SWC == MWC then true
          else (SWC == SWC || SWC == p.1) && rwalk ls path) id (absR p.2))
        exact ih p.2 (hwf.below p hp)
      · -- a literal level: the child under it, if any
        have h2' : (l == SWC) = false := beq_eq_false_iff_ne.mpr h2
        rw [h2', if_neg Bool.false_ne_true, absR_mk]
        have hsplit := pick_perm (rwalk (l :: ls)) id (nodeEntries_perm absR m.toList kids l hwf.keys)
        have h0 : pick (rwalk (l :: ls)) id (m.toList.map fun x => (([] : List Level), x)) = [] :=
          pick_false _ _ fun e he => by
            obtain ⟨x, _, rfl⟩ := List.mem_map.mp he
            exact h1'
        have h3 : pick (rwalk (l :: ls)) id ((kidDel kids l).flatMap (below absR)) = [] :=
          pick_false _ _ fun e he => by
            obtain ⟨p, hp, hpe⟩ := List.mem_flatMap.mp he
            obtain ⟨e', _, rfl⟩ := List.mem_map.mp hpe
            show (if l == MWC then true else (l == SWC || l == p.1) && _) = false
            rw [h1', h2', beq_eq_false_iff_ne.mpr (Ne.symm ((mem_kidDel kids l p).mp hp).2)]
            rfl
        have h4 : (fun path => rwalk (l :: ls) (l :: path)) = rwalk ls := funext fun path => by
          show (if l == MWC then true else (l == SWC || l == l) && _) = _
          rw [h1', beq_self_eq_true, Bool.or_true, Bool.true_and]; rfl
        rw [pick_append, pick_append, h0, h3, pick_push, h4, List.nil_append, List.append_nil, under] at hsplit
        cases hk : kidGet kids l with
        | none => rw [hk] at hsplit; exact ⟨_, rfl, hsplit.symm⟩
        | some c =>
          obtain ⟨r, hr, hp⟩ := ih c (kidGet_all hwf.below hk)
          rw [hk] at hsplit
          exact ⟨r, hr, hp.trans hsplit.symm⟩

theorem rinsertL_RWF (ls : List Level) (ok : Bool) (msg : RMsg) :
    ∀ n, RWF n → RWF (RNode.rinsertL ls ok msg n) := by
  induction ls with
  | nil => intro ⟨m, kids⟩ h; cases ok <;> exact h
  | cons l ls ih =>
    intro ⟨m, kids⟩ h
    rw [RWF_mk] at h
    rw [RNode.rinsertL, RWF_mk]
    exact ⟨kidSet_nodup kids l _ h.keys, kidSet_all h.below l (ih _ (kidGet_getD_all h.below l RWF_empty))⟩

theorem rinsertL_absR (ls : List Level) (msg : RMsg) :
    ∀ n, RWF n → (absR (RNode.rinsertL ls true msg n)).Perm
      ((absR n).filter (fun e => !(e.1 == ls)) ++ [(ls, msg)]) := by
  rw [hitPath_all]
  induction ls with
  | nil =>
    intro ⟨m, kids⟩ _
    rw [RNode.rinsertL, if_pos rfl, absR_mk, absR_mk, filter_nodeEntries_nil]
    exact nodeEntries_own absR _ kids (.of_eq (congrArg (· ++ [msg]) (List.filter_eq_nil_iff.mpr fun _ _ => Bool.false_ne_true).symm))
  | cons l ls ih =>
    intro ⟨m, kids⟩ h
    rw [RWF_mk] at h
    rw [RNode.rinsertL, absR_mk, absR_mk]
    refine nodeEntries_step absR m.toList kids l ls _ (prune := false) (a := [(ls, msg)]) h.keys (fun x => nomatch x) ?_
    rw [← under_getD absR kids l absR_empty]
    exact ih _ (kidGet_getD_all h.below l RWF_empty)

theorem rinsertL_absR_false (ls : List Level) (msg : RMsg) :
    ∀ n, RWF n → (absR (RNode.rinsertL ls false msg n)).Perm (absR n) := by
  induction ls with
  | nil => intro ⟨m, kids⟩ _; exact .refl _
  | cons l ls ih =>
    intro ⟨m, kids⟩ h
    rw [RWF_mk] at h
    rw [RNode.rinsertL, absR_mk, absR_mk]
    refine nodeEntries_kidSet_same absR m.toList kids l h.keys ?_
    rw [← under_getD absR kids l absR_empty]
    exact ih _ (kidGet_getD_all h.below l RWF_empty)

def isVoidR (n : RNode) : Bool := n.kids.isEmpty && n.msg.isNone

theorem absR_of_isVoidR (n : RNode) (h : isVoidR n = true) : absR n = [] := by
  obtain ⟨m, kids⟩ := n
  rw [isVoidR, Bool.and_eq_true, List.isEmpty_iff, Option.isNone_iff_eq_none] at h
  obtain ⟨rfl, rfl⟩ : kids = [] ∧ m = none := h
  rfl

theorem rremoveL_nil (ok : Bool) (m : Option RMsg) (kids : List (Level × RNode)) :
    RNode.rremoveL [] ok (.mk m kids) = if ok then (.mk none kids, true) else (.mk m kids, false) := by
  rw [RNode.rremoveL]

theorem rremoveL_cons_none {l : Level} (ls : List Level) (ok : Bool)
    (m : Option RMsg) {kids : List (Level × RNode)} (hk : kidGet kids l = none) :
    RNode.rremoveL (l :: ls) ok (.mk m kids) = (.mk m kids, false) := by
  rw [RNode.rremoveL, hk]

/-- the three branches of `rremove` in one (as `sremoveL_cons_some`) -/
theorem rremoveL_cons_some {l : Level} (ls : List Level) (ok : Bool)
    (m : Option RMsg) {kids : List (Level × RNode)} {c : RNode} (hk : kidGet kids l = some c) :
    RNode.rremoveL (l :: ls) ok (.mk m kids) =
      (.mk m (kidPut kids l (RNode.rremoveL ls ok c).1
        ((RNode.rremoveL ls ok c).2 && isVoidR (RNode.rremoveL ls ok c).1)), (RNode.rremoveL ls ok c).2) := by
  rw [RNode.rremoveL, hk]
  dsimp only
  generalize RNode.rremoveL ls ok c = res
  obtain ⟨c', r⟩ := res
  cases r
  · rfl
  · show (if isVoidR c' = true then _ else _) = (_, true)
    rw [kidPut, Bool.true_and]
    cases isVoidR c' <;> rfl

theorem rremoveL_RWF (ls : List Level) (ok : Bool) :
    ∀ n, RWF n → RWF (RNode.rremoveL ls ok n).1 := by
  induction ls with
  | nil => intro ⟨m, kids⟩ h; cases ok <;> exact h
  | cons l ls ih =>
    intro ⟨m, kids⟩ h
    cases hk : kidGet kids l with
    | none => rw [rremoveL_cons_none ls ok m hk]; exact h
    | some c =>
      rw [rremoveL_cons_some ls ok m hk]
      rw [RWF_mk] at h ⊢
      exact ⟨kidPut_nodup kids l _ _ h.keys, kidPut_all h.below l fun _ => ih c (kidGet_all h.below hk)⟩

theorem rremoveL_absR (ls : List Level) :
    ∀ n, RWF n → (absR (RNode.rremoveL ls true n).1).Perm ((absR n).filter (fun e => !(e.1 == ls))) := by
  rw [hitPath_all]
  induction ls with
  | nil =>
    intro ⟨m, kids⟩ _
    rw [rremoveL_nil, if_pos rfl, absR_mk, absR_mk, filter_nodeEntries_nil]
    exact .of_eq (congrArg (nodeEntries absR · kids) (List.filter_eq_nil_iff.mpr fun _ _ => Bool.false_ne_true).symm)
  | cons l ls ih =>
    intro ⟨m, kids⟩ h
    rw [RWF_mk] at h
    cases hk : kidGet kids l with
    | none =>
      rw [rremoveL_cons_none ls true m hk, absR_mk]
      exact .of_eq (filter_nodeEntries_of_none absR m.toList kids l ls _ hk).symm
    | some c =>
      rw [rremoveL_cons_some ls true m hk, absR_mk, absR_mk]
      refine (nodeEntries_step absR m.toList kids l ls _ (a := []) h.keys (fun hp => ?_) ?_).trans
        (.of_eq (List.append_nil _))
      · exact absR_of_isVoidR _ (Bool.and_eq_true_iff.mp hp).2
      · rw [under_some absR kids l hk, List.append_nil]
        exact ih c (kidGet_all h.below hk)

theorem rremoveL_false_snd (ls : List Level) : ∀ n, (RNode.rremoveL ls false n).2 = false := by
  induction ls with
  | nil => intro ⟨m, kids⟩; rfl
  | cons l ls ih =>
    intro ⟨m, kids⟩
    cases hk : kidGet kids l with
    | none => rw [rremoveL_cons_none ls false m hk]
    | some c => rw [rremoveL_cons_some ls false m hk]; exact ih c

theorem rremoveL_eq_of_failed (ls : List Level) (ok : Bool) :
    ∀ n, RWF n → (RNode.rremoveL ls ok n).2 = false → (RNode.rremoveL ls ok n).1 = n := by
  induction ls with
  | nil =>
    intro ⟨m, kids⟩ _ hr
    cases ok
    · rfl
    · cases hr
  | cons l ls ih =>
    intro ⟨m, kids⟩ h hr
    rw [RWF_mk] at h
    cases hk : kidGet kids l with
    | none => rw [rremoveL_cons_none ls ok m hk]
    | some c =>
      rw [rremoveL_cons_some ls ok m hk] at hr ⊢
      have hr : (RNode.rremoveL ls ok c).2 = false := hr
      show RNode.mk m (kidPut kids l _ (_ && _)) = _
      rw [hr, Bool.false_and, ih c (kidGet_all h.below hk) hr]
      exact congrArg (RNode.mk m) (kidSet_self kids l c h.keys hk)

theorem rremoveL_false (ls : List Level) (n : RNode) (h : RWF n) : RNode.rremoveL ls false n = (n, false) :=
  Prod.ext (rremoveL_eq_of_failed ls false n h (rremoveL_false_snd ls n)) (rremoveL_false_snd ls n)

/-! ### pruning invariant: every node below the root has a child or a message -/

mutual
  def RPruned : RNode → Prop
    | .mk _ kids => RPrunedKids kids
  def RPrunedKids : List (Level × RNode) → Prop
    | [] => True
    | (_, n) :: rest => (isVoidR n = false ∧ RPruned n) ∧ RPrunedKids rest
end

theorem RPrunedKids_iff (kids : List (Level × RNode)) :
    RPrunedKids kids ↔ ∀ p ∈ kids, isVoidR p.2 = false ∧ RPruned p.2 := by
  induction kids with
  | nil => exact ⟨fun _ _ h => (nomatch h), fun _ => trivial⟩
  | cons p rest ih => rw [RPrunedKids, ih, List.forall_mem_cons]

theorem RPruned_mk (m : Option RMsg) (kids : List (Level × RNode)) :
    RPruned (.mk m kids) ↔ ∀ p ∈ kids, isVoidR p.2 = false ∧ RPruned p.2 := by
  rw [RPruned, RPrunedKids_iff]

theorem RPruned_empty : RPruned RNode.empty := (RPruned_mk none []).mpr fun _ h => nomatch h

theorem rinsertL_not_void (ls : List Level) (msg : RMsg) (n : RNode) :
    isVoidR (RNode.rinsertL ls true msg n) = false := by
  obtain ⟨m, kids⟩ := n
  cases ls with
  | nil => exact Bool.and_false _
  | cons l ls =>
    rw [RNode.rinsertL, isVoidR, RNode.kids, List.isEmpty_eq_false_iff.mpr (kidSet_ne_nil kids l _), Bool.false_and]

theorem rinsertL_RPruned (ls : List Level) (msg : RMsg) :
    ∀ n, RPruned n → RPruned (RNode.rinsertL ls true msg n) := by
  induction ls with
  | nil => intro ⟨m, kids⟩ h; exact h
  | cons l ls ih =>
    intro ⟨m, kids⟩ h
    rw [RPruned_mk] at h
    rw [RNode.rinsertL, RPruned_mk]
    exact kidSet_all (Q := fun n => isVoidR n = false ∧ RPruned n) h l ⟨rinsertL_not_void _ _ _,
      ih _ (kidGet_getD_all (Q := RPruned) (fun p hp => (h p hp).2) l RPruned_empty)⟩

theorem rremoveL_RPruned (ls : List Level) (ok : Bool) :
    ∀ n, RWF n → RPruned n → RPruned (RNode.rremoveL ls ok n).1 := by
  induction ls with
  | nil => intro ⟨m, kids⟩ _ h; cases ok <;> exact h
  | cons l ls ih =>
    intro ⟨m, kids⟩ hwf h
    cases hk : kidGet kids l with
    | none => rw [rremoveL_cons_none ls ok m hk]; exact h
    | some c =>
      rw [rremoveL_cons_some ls ok m hk]
      rw [RWF_mk] at hwf
      rw [RPruned_mk] at h ⊢
      have hc := kidGet_all hwf.below hk
      have hpc := kidGet_all (Q := fun n => isVoidR n = false ∧ RPruned n) h hk
      refine kidPut_all (Q := fun n => isVoidR n = false ∧ RPruned n) h l fun hp => ⟨?_, ih c hc hpc.2⟩
      -- kept: the removal failed and left the child as it was, or the child is not void
      cases hr : (RNode.rremoveL ls ok c).2 with
      | false => rw [rremoveL_eq_of_failed ls ok c hc hr]; exact hpc.1
      | true => rw [hr, Bool.true_and] at hp; exact hp

end Mqtt.Proofs.Topics
