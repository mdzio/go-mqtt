/-
C17, whole packets and progress over an unbounded buffer: the invariant of `service.writeMessage`
run by any number of goroutines under `wmu` (`Model/WriteLock.lean`, `locked = true`), progress and
a termination measure.  Who committed what is tracked by a ghost commit log
`log : List (Nat × List UInt8)` (thread, packet) that exists only in the proofs.  The lock
discipline does the work: the thread that moves holds `wmu` or takes it now, so every other thread
is idle before and after, and an idle thread asserts nothing (`Inv.move`).
-/
import Mqtt.Model.WriteLock
import Mqtt.Proofs.WriteThreads

namespace Mqtt.Proofs.WriteLock
open Mqtt.Model.WriteLock Mqtt.Proofs.WriteThreads

theorem writeAt_eq (buf : List UInt8) (a : Nat) (bs : List UInt8) :
    ∃ p r, p.length = a ∧ writeAt buf a bs = p ++ (bs ++ r) ∧ (a ≤ buf.length → p = buf.take a) := by
  refine ⟨_, _, ?_, List.append_assoc _ _ _, fun h => List.take_append_of_le_length h⟩
  rw [List.length_take, List.length_append, List.length_replicate, Nat.add_comm buf.length]
  exact Nat.min_eq_left (Nat.le_trans (Nat.le_add_right a bs.length) (Nat.le_add_of_sub_le (Nat.le_refl _)))

theorem writeAt_take (buf : List UInt8) (a : Nat) (bs : List UInt8) (h : a ≤ buf.length) :
    (writeAt buf a bs).take a = buf.take a := by
  obtain ⟨p, r, hl, he, hp⟩ := writeAt_eq buf a bs
  rw [he, List.take_left' hl, hp h]

theorem writeAt_window (buf : List UInt8) (a : Nat) (bs : List UInt8) :
    ((writeAt buf a bs).drop a).take bs.length = bs := by
  obtain ⟨p, r, hl, he, _⟩ := writeAt_eq buf a bs
  rw [he, List.drop_left' hl, List.take_left]

/-- the packets of the commit log that thread `t` committed, in commit order -/
def fromThread (log : List (Nat × List UInt8)) (t : Nat) : List (List UInt8) :=
  (log.filter (fun e => e.1 == t)).map (·.2)

structure ThOk (s : St) (t : Nat) (th : Th) : Prop where
  holder : th.pc ≠ .idle → s.holder = some t
  work   : th.pc ≠ .idle → th.todo ≠ []
  /-- its reservation starts at the producer cursor -/
  start  : th.pc = .reserved ∨ th.pc = .encoded → th.start = s.pseq
  /-- after `Encode` the reserved bytes are the packet -/
  bytes  : th.pc = .encoded → ∀ m rest, th.todo = m :: rest →
             (s.buf.drop th.start).take m.length = m

structure Inv (todos : List (List (List UInt8))) (s : St) (log : List (Nat × List UInt8)) : Prop where
  prov : Prov todos (·.1) (·.2) Th.todo log s.ths
  logd : log.map (·.2) = s.done
  pseq : s.pseq = s.done.flatten.length
  vis  : s.buf.take s.pseq = s.done.flatten
  ths  : ∀ t th, s.ths[t]? = some th → ThOk s t th
  held : ∀ t, s.holder = some t → ∃ th, s.ths[t]? = some th ∧ th.pc ≠ .idle

theorem thOk_idle (s : St) (t : Nat) (th : Th) (h : th.pc = .idle) : ThOk s t th :=
  { holder := fun c => absurd h c
    work := fun c => absurd h c
    start := by intro c; rcases c with c | c <;> rw [h] at c <;> cases c
    bytes := by intro c; rw [h] at c; cases c }

theorem inv_init (todos : List (List (List UInt8))) : Inv todos (init todos) [] where
  prov := Prov.init _ (fun _ => rfl)
  logd := rfl
  pseq := rfl
  vis := rfl
  ths := by
    intro t th h
    obtain ⟨l, _, rfl⟩ := List.mem_map.mp (List.mem_of_getElem? h)
    exact thOk_idle _ _ _ rfl
  held := nofun

namespace Inv
variable {todos : List (List (List UInt8))} {s : St} {log : List (Nat × List UInt8)}

theorem pseq_le (h : Inv todos s log) : s.pseq ≤ s.buf.length := by
  have h1 := congrArg List.length h.vis
  rw [← h.pseq, List.length_take] at h1
  exact h1 ▸ Nat.min_le_right _ _

theorem idle_of_not_holder (hI : Inv todos s log) {u : Nat} {thu : Th} (hu : s.ths[u]? = some thu)
    (h : s.holder ≠ some u) : thu.pc = .idle :=
  Decidable.byContradiction fun hc => h ((hI.ths u thu hu).holder hc)

theorem critical (hI : Inv todos s log) {t : Nat} {th : Th} (hth : s.ths[t]? = some th) (hne : th.pc ≠ .idle) :
    s.holder = some t ∧ th.todo ≠ [] ∧
    (∀ u thu, s.ths[u]? = some thu → u ≠ t → thu.pc = .idle) ∧
    (th.pc = .reserved ∨ th.pc = .encoded → th.start = s.pseq) ∧
    (th.pc = .encoded → ∀ m rest, th.todo = m :: rest → (s.buf.drop s.pseq).take m.length = m) :=
  have hok := hI.ths t th hth
  have hm := mutex (idle := fun x : Th => x.pc = .idle) (fun _ _ hu => hI.idle_of_not_holder hu) hth hne
  ⟨hm.1, hok.work hne, hm.2, hok.start, fun hpc => hok.start (.inr hpc) ▸ hok.bytes hpc⟩

theorem move (hI : Inv todos s log) {t : Nat} {th th' : Th} (hth : s.ths[t]? = some th)
    (ht : s.holder = none ∨ s.holder = some t) {s' : St} {log' : List (Nat × List UInt8)}
    (hths : s'.ths = s.ths.set t th') (hheld : ∀ u, s'.holder = some u → u = t ∧ th'.pc ≠ .idle)
    (prov : Prov todos (·.1) (·.2) Th.todo log' s'.ths) (logd : log'.map (·.2) = s'.done)
    (pseq : s'.pseq = s'.done.flatten.length) (vis : s'.buf.take s'.pseq = s'.done.flatten)
    (hok : ThOk s' t th') : Inv todos s' log' where
  prov := prov
  logd := logd
  pseq := pseq
  vis := vis
  ths := hths ▸ forall_set_of_idle (fun _ _ hu => hI.idle_of_not_holder hu) ht
    (fun _ _ => thOk_idle _ _ _) hok
  held := hths ▸ held_set hth hheld

end Inv

theorem step_cases {s s' : St} {t : Nat} (h : step true s t = some s') :
    ∃ th, s.ths[t]? = some th ∧
      ((∃ m rest, th.pc = .idle ∧ th.todo = m :: rest ∧ s.holder = none ∧
          s' = { (setTh s t { th with pc := .entered }) with holder := some t }) ∨
       (th.pc = .entered ∧ s' = setTh s t { th with pc := .reserved, start := s.pseq }) ∨
       (∃ m rest, th.pc = .reserved ∧ th.todo = m :: rest ∧
          s' = { (setTh s t { th with pc := .encoded }) with buf := writeAt s.buf th.start m }) ∨
       (∃ m rest, th.pc = .encoded ∧ th.todo = m :: rest ∧
          s' = { (setTh s t { th with pc := .idle, todo := rest }) with
                 pseq := th.start + m.length, done := s.done ++ [m], holder := none })) := by
  unfold step at h
  split at h
  · cases h
  · rename_i th hth
    refine ⟨th, hth, ?_⟩
    split at h
    · cases h
    · rename_i m rest hpc htodo
      cases hh : s.holder with
      | some x => simp [hh] at h
      | none =>
        rw [hh] at h
        exact .inl ⟨m, rest, hpc, htodo, rfl, (Option.some.inj h).symm⟩
    · rename_i hpc
      exact .inr (.inl ⟨hpc, (Option.some.inj h).symm⟩)
    · rename_i m rest hpc htodo
      exact .inr (.inr (.inl ⟨m, rest, hpc, htodo, (Option.some.inj h).symm⟩))
    · cases h
    · rename_i m rest hpc htodo
      exact .inr (.inr (.inr ⟨m, rest, hpc, htodo, (Option.some.inj h).symm⟩))
    · cases h

variable {todos : List (List (List UInt8))} {s : St} {log : List (Nat × List UInt8)} {t : Nat} {th : Th}
  {m : List UInt8} {rest : List (List UInt8)}

/-- `Lock`: idle → entered -/
theorem inv_enter (hI : Inv todos s log) (hth : s.ths[t]? = some th) (htodo : th.todo = m :: rest)
    (hh : s.holder = none) :
    Inv todos { (setTh s t { th with pc := .entered }) with holder := some t } log :=
  hI.move hth (.inl hh) rfl (fun _ hu => ⟨(Option.some.inj hu).symm, nofun⟩) (hI.prov.keep hth rfl)
    hI.logd hI.pseq hI.vis
    { holder := fun _ => rfl
      work := fun _ => htodo ▸ List.cons_ne_nil _ _
      start := by rintro (c | c) <;> cases c
      bytes := nofun }

theorem held_stays (hI : Inv todos s log) (hth : s.ths[t]? = some th) (hne : th.pc ≠ .idle)
    {pc' : PC} (hpc' : pc' ≠ .idle) : ∀ u, s.holder = some u → u = t ∧ pc' ≠ .idle := by
  intro u hu
  rw [(hI.ths t th hth).holder hne] at hu
  exact ⟨(Option.some.inj hu).symm, hpc'⟩

/-- `WriteWait`: entered → reserved, `start := pseq` -/
theorem inv_reserve (hI : Inv todos s log) (hth : s.ths[t]? = some th) (hpc : th.pc = .entered) :
    Inv todos (setTh s t { th with pc := .reserved, start := s.pseq }) log :=
  have hne : th.pc ≠ .idle := hpc ▸ nofun
  have hok := hI.ths t th hth
  hI.move hth (.inr (hok.holder hne)) rfl (held_stays hI hth hne nofun) (hI.prov.keep hth rfl)
    hI.logd hI.pseq hI.vis
    { holder := fun _ => hok.holder hne
      work := fun _ => hok.work hne
      start := fun _ => rfl
      bytes := nofun }

/-- `Encode` into the reserved bytes: reserved → encoded -/
theorem inv_encode (hI : Inv todos s log) (hth : s.ths[t]? = some th) (hpc : th.pc = .reserved)
    (htodo : th.todo = m :: rest) :
    Inv todos { (setTh s t { th with pc := .encoded }) with buf := writeAt s.buf th.start m } log :=
  have hne : th.pc ≠ .idle := hpc ▸ nofun
  have hok := hI.ths t th hth
  have hst : th.start = s.pseq := hok.start (.inl hpc)
  hI.move hth (.inr (hok.holder hne)) rfl (held_stays hI hth hne nofun) (hI.prov.keep hth rfl)
    hI.logd hI.pseq
    (by show (writeAt s.buf th.start m).take s.pseq = _
        rw [hst, writeAt_take _ _ _ hI.pseq_le]
        exact hI.vis)
    { holder := fun _ => hok.holder hne
      work := fun _ => hok.work hne
      start := fun _ => hst
      bytes := by
        intro _ m' rest' hm
        cases htodo.symm.trans hm
        exact writeAt_window _ _ _ }

/-- `WriteCommit` + `Unlock`: encoded → idle, the packet joins the visible stream -/
theorem inv_commit (hI : Inv todos s log) (hth : s.ths[t]? = some th) (hpc : th.pc = .encoded)
    (htodo : th.todo = m :: rest) :
    Inv todos { (setTh s t { th with pc := .idle, todo := rest }) with
                pseq := th.start + m.length, done := s.done ++ [m], holder := none }
      (log ++ [(t, m)]) :=
  have hne : th.pc ≠ .idle := hpc ▸ nofun
  have hok := hI.ths t th hth
  have hst : th.start = s.pseq := hok.start (.inr hpc)
  hI.move hth (.inr (hok.holder hne)) rfl nofun (hI.prov.finish hth rfl htodo)
    (by rw [List.map_append, hI.logd]; rfl)
    (by show th.start + m.length = (s.done ++ [m]).flatten.length
        rw [hst, hI.pseq, List.flatten_append, List.length_append, List.flatten_singleton])
    (by show s.buf.take (th.start + m.length) = (s.done ++ [m]).flatten
        rw [List.take_add, hok.bytes hpc m rest htodo, hst, hI.vis, List.flatten_append,
          List.flatten_singleton])
    (thOk_idle _ _ _ rfl)

/-- the log grows by the committed packet, if any -/
theorem inv_step (hI : Inv todos s log) {s' : St} (h : step true s t = some s') :
    ∃ log', Inv todos s' log' := by
  obtain ⟨th, hth, hc⟩ := step_cases h
  rcases hc with ⟨m, rest, _, htodo, hh, rfl⟩ | ⟨hpc, rfl⟩ | ⟨m, rest, hpc, htodo, rfl⟩ |
    ⟨m, rest, hpc, htodo, rfl⟩
  · exact ⟨log, inv_enter hI hth htodo hh⟩
  · exact ⟨log, inv_reserve hI hth hpc⟩
  · exact ⟨log, inv_encode hI hth hpc htodo⟩
  · exact ⟨_, inv_commit hI hth hpc htodo⟩

theorem inv_run (sched : List Nat) : ∀ {s log}, Inv todos s log →
    ∃ log', Inv todos (run true s sched) log' := by
  induction sched with
  | nil => intro s log h; exact ⟨log, h⟩
  | cons t ts ih =>
    intro s log h
    unfold run
    cases hs : step true s t with
    | none => exact ih h
    | some s' =>
      obtain ⟨log', h'⟩ := inv_step h hs
      exact ih h'

theorem inv_reachable (todos : List (List (List UInt8))) (sched : List Nat) :
    ∃ log, Inv todos (run true (init todos) sched) log := inv_run sched (inv_init todos)

theorem holder_enabled (hI : Inv todos s log) (hh : s.holder = some t) :
    (step true s t).isSome = true := by
  obtain ⟨th, hth, hne⟩ := hI.held t hh
  have hw := (hI.ths t th hth).work hne
  unfold step
  rw [hth]
  rcases th with ⟨pc, todo, start⟩
  cases todo with
  | nil => exact absurd rfl hw
  | cons m rest =>
    cases pc with
    | idle => exact absurd rfl hne
    | _ => rfl

theorem free_enabled (hI : Inv todos s log) (hh : s.holder = none)
    (hth : s.ths[t]? = some th) (hw : th.todo ≠ []) : (step true s t).isSome = true := by
  have hpc := hI.idle_of_not_holder hth (hh ▸ nofun)
  unfold step
  rw [hth]
  rcases th with ⟨pc, todo, start⟩
  cases todo with
  | nil => exact absurd rfl hw
  | cons m rest => cases hpc; simp [hh]

theorem some_enabled (hI : Inv todos s log) (hw : ∃ th ∈ s.ths, th.todo ≠ []) :
    ∃ t, (step true s t).isSome = true := by
  obtain ⟨th, hm, hw⟩ := hw
  cases hh : s.holder with
  | some t => exact ⟨t, holder_enabled hI hh⟩
  | none =>
    obtain ⟨t, ht, rfl⟩ := List.getElem_of_mem hm
    exact ⟨t, free_enabled hI hh (List.getElem?_eq_getElem ht) hw⟩

theorem quiescent_done (hI : Inv todos s log) (hq : ∀ t, step true s t = none) : ∀ th ∈ s.ths, th.todo = [] :=
  fun th hm => Decidable.byContradiction fun hne => by
    obtain ⟨t, ht⟩ := some_enabled hI ⟨th, hm, hne⟩
    rw [hq t] at ht; cases ht

def rank : PC → Nat
  | .idle => 0 | .entered => 1 | .reserved => 2 | .encoded => 3

/-- own steps thread `th` still has to take: four per packet, minus those taken
for the packet in hand -/
def thWork (th : Th) : Nat := 4 * th.todo.length - rank th.pc

def work (s : St) : Nat := (s.ths.map thWork).sum

theorem rank_lt (pc : PC) : rank pc < 4 := by cases pc <;> decide

theorem thWork_next {th' : Th} (htodo : th.todo ≠ []) (h' : th'.todo = th.todo)
    (hr : rank th'.pc = rank th.pc + 1) : thWork th' + 1 = thWork th :=
  weight_next (f := thWork) (rk := fun th => rank th.pc) (fun _ => rfl) (fun th => rank_lt th.pc) htodo h' hr

theorem sum_map_set_succ {α} (f : α → Nat) {l : List α} {t : Nat} {a x : α} (h : l[t]? = some a)
    (hx : f x + 1 = f a) : ((l.set t x).map f).sum + 1 = (l.map f).sum := by
  have e := List.sum_map_set f l t (b := x) h
  rw [← hx, Nat.add_comm (f x), ← Nat.add_assoc] at e
  exact Nat.add_right_cancel e

theorem work_step (hI : Inv todos s log) {s' : St} (h : step true s t = some s') :
    work s' + 1 = work s := by
  obtain ⟨th, hth, hc⟩ := step_cases h
  have key : ∀ th' : Th, s'.ths = s.ths.set t th' → thWork th' + 1 = thWork th → work s' + 1 = work s := by
    intro th' hs hw
    unfold work
    rw [hs]
    exact sum_map_set_succ thWork hth hw
  rcases hc with ⟨m, rest, hpc, htodo, _, rfl⟩ | ⟨hpc, rfl⟩ | ⟨m, rest, hpc, htodo, rfl⟩ |
    ⟨m, rest, hpc, htodo, rfl⟩
  · exact key _ rfl (thWork_next (htodo ▸ nofun) rfl (by rw [hpc]; rfl))
  · exact key _ rfl (thWork_next ((hI.ths t th hth).work (hpc ▸ nofun)) rfl (by rw [hpc]; rfl))
  · exact key _ rfl (thWork_next (htodo ▸ nofun) rfl (by rw [hpc]; rfl))
  · apply key _ rfl
    -- the last step for a packet: from 4·(n+1) − 3 to 4·n
    show 4 * rest.length - 0 + 1 = 4 * th.todo.length - rank th.pc
    rw [htodo, hpc, List.length_cons, Nat.mul_succ]
    exact (Nat.add_sub_assoc (by decide : 3 ≤ 4) _).symm

theorem work_init (todos : List (List (List UInt8))) :
    work (init todos) = 4 * (todos.map List.length).sum :=
  sum_map_init thWork _ 4 (fun _ => rfl) todos

theorem work_zero (h : work s = 0) : ∀ th ∈ s.ths, th.todo = [] :=
  todo_nil_of_sum_zero (f := thWork) (rk := fun th => rank th.pc) (fun _ => rfl) (fun th => rank_lt th.pc) h

end Mqtt.Proofs.WriteLock
