/-
Core F (framing part): the framing functions of `Model/Framing.lean` are total, consume only a
prefix of the stream they are given, and allocate boundedly.  For each function a predicate says
what every outcome tells about the stream (`HdrOk`, `PreOk`, `FirstOk`, `SizeOk`, `PostOk`); it is
proved by one walk through the function.
-/
import Mqtt.Model.Framing
import Mqtt.Proofs.CodecDecode

namespace Mqtt.Proofs.Framing

open Mqtt.Model.Framing Mqtt.Generated
open Mqtt.Model.Codec (uvarint decodeNew)

/-- largest remaining length four length bytes can express -/
def maxRemlen : Nat := 268435455

/-- type byte, four length bytes, `maxRemlen` -/
def preBound : Nat := 1 + 4 + maxRemlen

/-- at most four length bytes: a value read is below `128 ^ 4` (`Codec.uvarint_bounds`), no value is 0 -/
theorem uvarint_le4 (buf : Bytes) (h : buf.length ≤ 4) : (uvarint buf).1 ≤ maxRemlen := by
  by_cases h1 : 0 < (uvarint buf).2
  · have hc := (Mqtt.Proofs.Codec.uvarintAux_ok buf 0 0 (by simp) h1).2.1
    exact Nat.le_of_lt_succ (Mqtt.Proofs.Codec.uvarint_bounds buf h1 (by unfold uvarint; omega)).1
  · rw [show (uvarint buf).1 = 0 from Mqtt.Proofs.Codec.uvarintAux_fail buf 0 0 (Int.not_lt.mp h1)]; decide

def HdrOk (acc stream : Bytes) : HdrRes → Prop
  | .done buf rest => buf ++ rest = acc ++ stream ∧ 2 ≤ buf.length ∧ buf.length ≤ framingPreMaxHeader + 1
  | .eof l => l = acc.length + stream.length ∧ l ≤ framingPreMaxHeader
  | .tooLong l => l = framingPreMaxHeader + 1

theorem readHeader_ok (stream : Bytes) : ∀ acc : Bytes, acc.length ≤ framingPreMaxHeader + 1 →
    HdrOk acc stream (readHeader stream acc) := by
  induction stream with
  | nil =>
    intro acc h
    show HdrOk acc [] (if acc.length > framingPreMaxHeader then _ else _)
    by_cases hl : acc.length > framingPreMaxHeader
    · rw [if_pos hl]; exact Nat.le_antisymm h hl
    · rw [if_neg hl]; exact ⟨rfl, Nat.le_of_not_lt hl⟩
  | cons b tl ih =>
    intro acc h
    show HdrOk acc (b :: tl) (if acc.length > framingPreMaxHeader then _ else _)
    by_cases hl : acc.length > framingPreMaxHeader
    · rw [if_pos hl]; exact Nat.le_antisymm h hl
    · rw [if_neg hl]
      have hlen : (acc ++ [b]).length = acc.length + 1 := List.length_append
      have hle : (acc ++ [b]).length ≤ framingPreMaxHeader + 1 :=
        hlen ▸ Nat.succ_le_succ (Nat.le_of_not_lt hl)
      by_cases hd : ((acc ++ [b]).length > 1 && b.toNat < 0x80) = true
      · rw [if_pos hd]
        rw [Bool.and_eq_true, decide_eq_true_eq] at hd
        exact ⟨(List.append_cons ..).symm, hd.1, hle⟩
      · rw [if_neg hd]
        have ih := ih (acc ++ [b]) hle
        revert ih
        cases readHeader tl (acc ++ [b]) with
        | done buf rest => exact fun ih => ⟨ih.1.trans (List.append_cons ..).symm, ih.2⟩
        | eof l => exact fun ih => ⟨by rw [ih.1, hlen, List.length_cons, Nat.add_right_comm]; rfl, ih.2⟩
        | tooLong l => exact id

def PreOk (stream : Bytes) : PreOutcome → Prop
  | .buffer buf n => n ≤ stream.length ∧ buf = stream.take n ∧ 2 ≤ n
  | .needMore | .error => True

theorem getMessageBuffer_ok (stream : Bytes) :
    PreOk stream (getMessageBuffer stream).outcome ∧ ∀ a ∈ (getMessageBuffer stream).allocs, a ≤ preBound := by
  have hdr : ∀ l, l ≤ framingPreMaxHeader + 1 → ∀ a ∈ [1, l], a ≤ preBound := fun l hl =>
    List.forall_mem_cons.2 ⟨by decide, List.forall_mem_singleton.2 (Nat.le_trans hl (by decide))⟩
  have h := readHeader_ok stream [] (Nat.zero_le _)
  unfold getMessageBuffer
  revert h
  cases readHeader stream [] with
  | eof l => exact fun h => ⟨trivial, hdr l (Nat.le_succ_of_le h.2)⟩
  | tooLong l => exact fun h => ⟨trivial, hdr l (Nat.le_of_eq h)⟩
  | done hb rest =>
    intro ⟨h1, h2, h3⟩
    have hrem : (uvarint (hb.drop 1)).1 ≤ maxRemlen :=
      uvarint_le4 _ (List.length_drop ▸ Nat.sub_le_of_le_add h3)
    have hlen : stream.length = hb.length + rest.length := by rw [← List.length_append, h1]; rfl
    dsimp only
    generalize (uvarint (List.drop 1 hb)).1 = remlen at hrem ⊢
    have hal : ∀ a ∈ [1, hb.length, remlen, hb.length + remlen], a ≤ preBound :=
      List.forall_mem_cons.2 ⟨by decide, List.forall_mem_cons.2 ⟨Nat.le_trans h3 (by decide),
        List.forall_mem_cons.2 ⟨Nat.le_trans hrem (by decide),
          List.forall_mem_singleton.2 (Nat.add_le_add h3 hrem)⟩⟩⟩
    by_cases hlt : rest.length < remlen
    · rw [if_pos hlt]; exact ⟨trivial, hal⟩
    · rw [if_neg hlt]
      exact ⟨⟨hlen ▸ Nat.add_le_add_left (Nat.le_of_not_lt hlt) _,
        by rw [← List.nil_append stream, ← h1, List.take_length_add_append],
        Nat.le_trans h2 (Nat.le_add_right ..)⟩, hal⟩

def FirstOutcome.consumed : FirstOutcome → Nat
  | .connect _ n | .refused _ n => n
  | _ => 0

def FirstOk (stream : Bytes) : FirstOutcome → Prop
  | .connect c n => 2 ≤ n ∧ n ≤ stream.length ∧
      ∃ d h, decodeNew tCONNECT (stream.take n) = .ok d ∧ d.msg = .connect h c
  | .refused _ n => n ≤ stream.length
  | .needMore | .error => True
  | .panicked => False

theorem getConnectMessage_ok (stream : Bytes) :
    FirstOk stream (getConnectMessage stream).outcome ∧
    ∀ a ∈ (getConnectMessage stream).allocs, a ≤ preBound := by
  obtain ⟨hbuf, hal⟩ := getMessageBuffer_ok stream
  unfold getConnectMessage
  dsimp only
  split
  · exact ⟨trivial, hal⟩
  · exact ⟨trivial, hal⟩
  · next buf n ho =>
    obtain ⟨hn, rfl, h2⟩ : PreOk stream (.buffer buf n) := ho ▸ hbuf
    split
    · next d hd =>
      split
      · next h c hm => exact ⟨⟨h2, hn, d, h, hd, hm⟩, hal⟩
      · exact ⟨hn, hal⟩
    · exact ⟨hn, hal⟩
    · next hd => exact absurd hd (Mqtt.Proofs.Codec.decodeNew_total _ _).ne_panic

theorem readWait_of_ok {sz : Nat} {avail : Bytes} {n : Nat} {b : Bytes} (h : readWait sz avail n = .ok b) :
    n ≤ sz ∧ n ≤ avail.length ∧ b = avail.take n ∧ b.length = n := by
  unfold readWait at h
  by_cases h1 : n > sz
  · rw [if_pos h1] at h; cases h
  · rw [if_neg h1] at h
    by_cases h2 : avail.length < n
    · rw [if_pos h2] at h; cases h
    · rw [if_neg h2] at h
      cases h
      exact ⟨Nat.le_of_not_lt h1, Nat.le_of_not_lt h2, rfl, List.length_take_of_le (Nat.le_of_not_lt h2)⟩

/-- `a`: the sizes the (possibly copying) `ReadWait` calls asked for -/
def SizeOk (sz : Nat) : SizeRes → Prop
  | .size _ _ a | .needMore a | .error a => ∀ x ∈ a, x ≤ sz
  | .panicked | .stuck => False

/-- `1 ≤ cnt` makes both index expressions safe on the `cnt` bytes `ReadWait` delivered; with
`framingPostMaxCnt + 2 ≤ cnt + fuel` the loop ends by its own test on `cnt` before the fuel does. -/
theorem peekSizeLoop_ok (sz : Nat) (avail : Bytes) : ∀ (fuel cnt : Nat) (allocs : List Nat),
    1 ≤ cnt → cnt ≤ framingPostMaxCnt + 1 → framingPostMaxCnt + 2 ≤ cnt + fuel → (∀ a ∈ allocs, a ≤ sz) →
    SizeOk sz (peekSizeLoop sz avail fuel cnt allocs) := by
  intro fuel
  induction fuel with
  | zero => exact fun cnt _ _ h2 h3 _ => absurd (Nat.le_trans h3 h2) (Nat.not_succ_le_self _)
  | succ fuel ih =>
    intro cnt allocs h1 h2 h3 ha
    show SizeOk sz (if cnt > framingPostMaxCnt then _ else _)
    by_cases hc : cnt > framingPostMaxCnt
    · rw [if_pos hc]; exact ha
    · rw [if_neg hc]
      cases hw : readWait sz avail cnt with
      | full => exact ha
      | blocked => exact ha
      | ok b =>
        obtain ⟨hsz, _, _, hlen⟩ := readWait_of_ok hw
        have ha' := List.forall_mem_append.2 ⟨ha, List.forall_mem_singleton.2 hsz⟩
        obtain ⟨last, hlast⟩ := Mqtt.Proofs.Codec.index_ok' (s := b) (i := cnt - 1)
          (hlen.symm ▸ Nat.sub_lt h1 Nat.one_pos)
        obtain ⟨tf, htf⟩ := Mqtt.Proofs.Codec.index_ok' (s := b) (i := 0) (hlen.symm ▸ h1)
        dsimp only
        rw [hlast]
        dsimp only
        by_cases hb : last.toNat ≥ 0x80
        · rw [if_pos hb]
          exact ih (cnt + 1) _ (Nat.le_succ_of_le h1) (Nat.succ_le_succ (Nat.le_of_not_lt hc))
            (Nat.add_right_comm .. ▸ h3) ha'
        · rw [if_neg hb, htf]
          exact ha'

theorem peekMessageSize_ok (sz : Nat) (avail : Bytes) : SizeOk sz (peekMessageSize sz avail) :=
  peekSizeLoop_ok sz avail _ _ [] (by decide) (by decide) (Nat.le_add_left ..) nofun

theorem decodeNew_nil (t : Nat) : decodeNew t [] = .err := by
  unfold decodeNew
  cases Mqtt.Model.Codec.Msg.new t with
  | none => rfl
  | some m => cases m <;> rfl

def PostOk (sz : Nat) (avail : Bytes) : PostOutcome → Prop
  | .packet d total => 1 ≤ total ∧ total ≤ avail.length ∧ total ≤ sz ∧
      (∃ t, decodeNew t (avail.take total) = .ok d) ∧ publishIdMissing d.msg = false
  | .needMore | .closeThis => True
  | .panicked | .stuck => False

theorem nextPacket_ok (sz : Nat) (avail : Bytes) :
    PostOk sz avail (nextPacket sz avail).outcome ∧ ∀ a ∈ (nextPacket sz avail).allocs, a ≤ sz := by
  have hs := peekMessageSize_ok sz avail
  unfold nextPacket
  revert hs
  cases peekMessageSize sz avail with
  | stuck | panicked => exact False.elim
  | error a | needMore a => exact fun hs => ⟨trivial, hs⟩
  | size mtype total a =>
    intro (hs : ∀ x ∈ a, x ≤ sz)
    dsimp only
    by_cases hneg : total < 0
    · rw [if_pos hneg]; exact ⟨trivial, hs⟩
    · rw [if_neg hneg]
      cases hw : readWait sz avail total.toNat with
      | full | blocked => exact ⟨trivial, hs⟩
      | ok b =>
        obtain ⟨hsz, hlen, rfl, _⟩ := readWait_of_ok hw
        have ha' := List.forall_mem_append.2 ⟨hs, List.forall_mem_singleton.2 hsz⟩
        dsimp only
        cases hd : decodeNew mtype (avail.take total.toNat) with
        | panic => exact absurd hd (Mqtt.Proofs.Codec.decodeNew_total _ _).ne_panic
        | err => exact ⟨trivial, ha'⟩
        | ok d =>
          dsimp only
          by_cases hm : (framingRejectsPublishIdZero && publishIdMissing d.msg) = true
          · rw [if_pos hm]; exact ⟨trivial, ha'⟩
          · rw [if_neg hm]
            refine ⟨⟨Nat.pos_of_ne_zero fun h0 => ?_, hlen, hsz, ⟨mtype, hd⟩,
              Bool.eq_false_iff.2 fun hp => hm (by rw [hp]; rfl)⟩, ha'⟩
            -- an empty packet is not decoded
            rw [h0, List.take_zero, decodeNew_nil] at hd
            cases hd

end Mqtt.Proofs.Framing
