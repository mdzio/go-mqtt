/-
`resubscribe` puts every entry of a session's topic list that the store accepts into the trie for the new
connection (`resubscribe_holds`: read off the entries after the loop, `Broker.resubscribe_abs`).
-/
import Mqtt.Proofs.BrokerLifeSession
import Mqtt.Proofs.BrokerFanoutEntries

namespace Mqtt.Proofs.BrokerLife
open Mqtt.Iface.Broker Mqtt.Model.Broker
open Mqtt.Model.Topics
open Mqtt.Proofs.Topics (WF abs entryLevels)
open Mqtt.Proofs.Broker (resubscribe_abs entriesAfterSub_mem)

/-- the QoS `Subscribe` stores -/
def grant (mq q : Nat) : Nat := if q > mq then mq else q

/-- After `resubscribe`, every entry `(filter, qos)` of the list that the store accepts (`Broker.accepts`)
whose path is not addressed again later in the list is held in the trie for
`c`, at the granted QoS. -/
theorem resubscribe_holds (c : Nat) (l : List (Bytes × Nat)) : ∀ ts : MemTopics, WF ts.sroot →
    l.Pairwise (fun p p' => (entryLevels p.1).1 ≠ (entryLevels p'.1).1) →
    ∀ p ∈ l, Broker.accepts p.1 p.2 = true →
      ((entryLevels p.1).1, c, grant Generated.maxQosAllowed p.2) ∈ abs (resubscribe ts c l).sroot := by
  intro ts h hpw p hp hs
  obtain ⟨pre, post, rfl⟩ := List.append_of_mem hp
  rw [(resubscribe_abs c _ ts h).mem_iff, grant, Mqtt.Proofs.Topics.grant_eq_min]
  refine entriesAfterSub_mem c pre post p.1 p.2 _ hs fun tq htq _ e => ?_
  exact (List.pairwise_cons.mp (List.pairwise_append.mp hpw).2.1).1 tq htq e.symm

end Mqtt.Proofs.BrokerLife
