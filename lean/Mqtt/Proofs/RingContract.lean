/-
Core D → Core F — the call-level ring contract of the life-cycle model, proved of the ring program.

The facts of `Proofs/RingCall.lean` and `RingCalls.lean` are restated as equations about the life-cycle model's ring functions
`RingA.waitSpace / commitP / waitData / commitC / close` (`Model/Lifecycle.lean`) applied to `absRing` of the
linearisation state (`lin*_ringA`; `call_blocked`: a call that neither is over nor can go on is parked, and the function of its kind
answers `none`), and assembled into the six parts of the contract (`…Contract cfg s`, stated here; the
table relating them to the life-cycle steps is in `Proofs/LifecycleRing.lean`): `step_contract` … `quiescent_contract` prove
them for every state satisfying the safety invariant `RInv` (`step_contract`), the liveness invariant `Live` (the others), and
for `readfrom_contract` also `DInv` (past the first statement of `Close` the ring is closed).

Where the equation needs the `done` flag as it was at ANOTHER moment of the same call, the flag is overridden
explicitly (`asOpen`): `RingA` tests `done` and the cursors atomically, the ring program
tests them at two different program counters.
-/
import Mqtt.Proofs.RingCalls
import Mqtt.Proofs.Lifecycle

namespace Mqtt.Proofs.Ring
open Mqtt.Model.Ring Mqtt.Iface.Ring
open Mqtt.Model.Lifecycle (RingA)

theorem ra_commitP_ok (c : Mqtt.Model.Lifecycle.Cfg) (r : RingA) (l : Nat) (hd : r.done = false) (h : r.buf + l ≤ c.cap) :
    RingA.commitP c r l = some (.ok, { r with buf := r.buf + l }) := by
  unfold RingA.commitP
  rw [Mqtt.Proofs.Lifecycle.space_unblocks c r l hd h]

theorem ra_waitSpace_full (c : Mqtt.Model.Lifecycle.Cfg) (r : RingA) (l : Nat) (h : c.cap < l) :
    RingA.waitSpace c r l = some (.full, r) := by
  unfold RingA.waitSpace; simp [h]

theorem ra_waitSpace_eof (c : Mqtt.Model.Lifecycle.Cfg) (hd2 : c.d2 = false) (r : RingA) (l : Nat) (hd : r.done = true) (h : l ≤ c.cap) :
    RingA.waitSpace c r l = some (.eof, r) := by
  rw [Mqtt.Proofs.Lifecycle.done_waitSpace c hd2 r l hd, if_neg (by omega)]

theorem ra_commitP_eof (c : Mqtt.Model.Lifecycle.Cfg) (hd2 : c.d2 = false) (r : RingA) (l : Nat) (hd : r.done = true) (h : l ≤ c.cap) :
    RingA.commitP c r l = some (.eof, r) := by
  rw [Mqtt.Proofs.Lifecycle.done_commitP c hd2 r l hd, if_neg (by omega)]

theorem ra_waitData_full (c : Mqtt.Model.Lifecycle.Cfg) (r : RingA) (n : Nat) (h : c.cap < n) :
    RingA.waitData c r n = some (.full, r) := by
  unfold RingA.waitData; simp [h]

theorem ra_waitData_eof (c : Mqtt.Model.Lifecycle.Cfg) (hd2 : c.d2 = false) (r : RingA) (n : Nat) (hn : n ≤ c.cap)
    (h : r.buf < n) (hd : r.done = true) : RingA.waitData c r n = some (.eof, r) := by
  unfold RingA.waitData
  rw [if_neg (by omega), if_neg (by omega), if_pos hd, hd2]
  rfl

/-- the ring with its `done` flag as it was when the call tested it: still open -/
def asOpen (r : RingA) : RingA := { buf := r.buf, done := false, pHeld := r.pHeld, cHeld := r.cHeld }
def asClosed (r : RingA) : RingA := { buf := r.buf, done := true, pHeld := r.pHeld, cHeld := r.cHeld }

@[simp] theorem asOpen_buf (r : RingA) : (asOpen r).buf = r.buf := rfl
@[simp] theorem asOpen_done (r : RingA) : (asOpen r).done = false := rfl
@[simp] theorem asClosed_buf (r : RingA) : (asClosed r).buf = r.buf := rfl
@[simp] theorem asClosed_done (r : RingA) : (asClosed r).done = true := rfl
theorem asClosed_of_closed (r : RingA) (h : r.done = true) : asClosed r = r := by
  cases r; simp only [asClosed]; simp only at h; rw [h]

theorem buf_room {cfg : Cfg} {s : St} {n : Nat} (hcp : s.sh.cseq ≤ s.sh.pseq) (h : s.sh.pseq + n ≤ s.sh.cseq + cfg.size) :
    (absRing s).buf + n ≤ (ringCfg cfg).cap := by
  simp only [absRing_buf, ringCfg_cap]; omega

/-- a producer commit: with the `done` flag masked it is `RingA.commitP … = ok`; on a ring that is still open, as it is -/
theorem linP_ringA (cfg : Cfg) (l : Nat) (x y : St) (hcp : x.sh.cseq ≤ x.sh.pseq) (h : LinP cfg l x y) :
    (absRing x).buf + l ≤ (ringCfg cfg).cap ∧
    absRing y = { absRing x with buf := (absRing x).buf + l } ∧
    RingA.commitP (ringCfg cfg) (asOpen (absRing x)) l = some (.ok, asOpen (absRing y)) ∧
    (x.sh.done = false → RingA.commitP (ringCfg cfg) (absRing x) l = some (.ok, absRing y)) := by
  obtain ⟨hg, hp, hc, hd⟩ := h
  have hb := buf_room hcp hg
  have he : absRing y = { absRing x with buf := (absRing x).buf + l } := by
    unfold absRing
    simp only [hp, hc, hd]
    congr 1
    omega
  refine ⟨hb, he, ?_, fun hdx => ?_⟩
  · rw [ra_commitP_ok (ringCfg cfg) (asOpen (absRing x)) l rfl hb, he]
    rfl
  · rw [ra_commitP_ok (ringCfg cfg) _ l hdx hb, he]

theorem linC_ringA (cfg : Cfg) (l : Nat) (x y : St) (h : LinC l x y) :
    l ≤ (absRing x).buf ∧ RingA.commitC (ringCfg cfg) (absRing x) l = some (absRing y) := by
  obtain ⟨hg, hc, hp, hd⟩ := h
  refine ⟨by simp only [absRing_buf]; omega, ?_⟩
  rw [Mqtt.Proofs.Lifecycle.commitC_returns (ringCfg cfg) rfl]
  unfold absRing
  simp only [hp, hc, hd]
  congr 2
  omega

theorem linX_ringA (cfg : Cfg) (x y : St) (h : LinX x y) :
    RingA.close (ringCfg cfg) (absRing x) = some (absRing y) := by
  obtain ⟨hd, hp, hc⟩ := h
  rw [Mqtt.Proofs.Lifecycle.close_returns (ringCfg cfg) rfl]
  unfold absRing
  simp only [hp, hc, hd]

/-- the last `isDone` test of `waitForWriteSpace(l)`, passed, IS `RingA.waitSpace … l = ok` — exactly, on the ring as it is -/
theorem linW_ringA (cfg : Cfg) (l : Nat) (x y : St) (hcp : x.sh.cseq ≤ x.sh.pseq) (h : LinW cfg l x y) :
    RingA.waitSpace (ringCfg cfg) (absRing x) l = some (.ok, absRing x) ∧ absRing y = absRing x := by
  obtain ⟨hd, hg, he⟩ := h
  exact ⟨Mqtt.Proofs.Lifecycle.space_unblocks (ringCfg cfg) _ l hd (buf_room hcp hg), by unfold absRing; rw [he]⟩

/-- the load of the producer cursor after `done` was seen, finding too little, IS `RingA.waitData … = eof` — exactly -/
theorem linE_ringA (cfg : Cfg) (nd : Nat) (x y : St) (hnd : nd ≤ cfg.size) (h : LinE nd x y) :
    RingA.waitData (ringCfg cfg) (absRing x) nd = some (.eof, absRing x) ∧ absRing y = absRing x := by
  obtain ⟨hd, hlt, he⟩ := h
  exact ⟨ra_waitData_eof (ringCfg cfg) rfl _ nd hnd hlt hd, by unfold absRing; rw [he]⟩

/-- inside the `WriteCommit(n)` that `ReadFrom` calls the `n` bytes fit: `buf + n ≤ cap`, before and at the
cursor store (the life-cycle model's `InvA.rcommit`): they were free when `ReadFrom` filled them, and the
consumer cursor only moves forward -/
theorem rfcommit_fits (cfg : Cfg) (base : Nat) (s : St) (h : RInv cfg base s) (tot : Nat) (ms : List Nat) (n : Nat)
    (hcur : s.P.cur = some (.rfcommit tot ms)) (hpc : wfsArg s.P.pc = some n ∨ ∃ ppos, s.P.pc = .c50 n ppos) :
    s.sh.pseq + n ≤ s.sh.cseq + cfg.size := by
  have hp := h.invP.pcinv
  have hf := h.invP.fill.2
  have hpcs : s.sh.pseq ≤ s.sh.cseq + cfg.size := h.glob.pc
  have key : n ≤ s.P.filled → s.sh.pseq + n ≤ s.sh.cseq + cfg.size := by
    intro hn
    by_cases hz : s.P.filled = 0
    · omega
    · have := hf (by omega)
      have this' : s.sh.pseq + s.P.filled ≤ s.sh.cseq + cfg.size := this
      omega
  rcases hpc with hw | ⟨ppos, e⟩
  · -- in `waitForWriteSpace(n)`: `n ≤ filled`
    exact key ((pcP_wcOK hp hw).2.1 tot ms hcur)
  · unfold pcP at hp
    rw [e] at hp
    exact key hp.2

/-- a call of kind `K` for `l` bytes is blocked: its thread is parked and the life-cycle model's function does not answer -/
def Blocked (cfg : Cfg) (a : St) (pc : Pc) : Kind → Nat → Prop
  | .prod, l => pParked pc = true ∧ RingA.waitSpace (ringCfg cfg) (absRing a) l = none
  | .wait w, l => cParked pc = true ∧ RingA.waitData (ringCfg cfg) (absRing a) (need w l) = none
  | _, _ => False

theorem need_le (w : Bool) (n size : Nat) (hs : 1 ≤ size) (hn : n ≤ size) : need w n ≤ size := by
  cases w
  · exact hs
  · exact hn

/-- **parked = guard false**, for every followed call: in a state in which nothing can run the call is over, or its thread is
parked inside it and the `RingA` function of its kind answers `none` (so `ReadCommit` and `Close` never wait) -/
theorem call_blocked (cfg : Cfg) (base : Nat) (t : Tid) (call : Call) (rest : List Call) (hf : followed call = true)
    (s : St) (sched : List Tid) (h : Live cfg base s) (th : Th) (hth : s.getTh t = some th) (hidle : th.pc = .idle)
    (hprog : th.prog = call :: rest) (hq : ∀ u, step cfg (run cfg s sched) u = none) :
    ∃ th', (run cfg s sched).getTh t = some th' ∧
      (Over th' rest ∨ (th'.cur = some call ∧ th'.prog = rest ∧ Blocked cfg (run cfg s sched) th'.pc (kindOf call) (amt call th))) := by
  obtain ⟨th', hth', hov | hbi⟩ :=
    (call_run cfg base t call _ rest hf s h.safe (.before th hth hidle hprog ⟨rfl, rfl⟩) sched).over_or_inside
  · exact ⟨th', hth', .inl hov⟩
  have hbi := hbi.imp_right (·.ph)
  have hl := live_run cfg base s sched h
  generalize run cfg s sched = a at hth' hbi hl hq
  -- a thread about to start the call could step; a parked one is inside the call, at a program counter whose row carries the call's
  -- amount, with the size test behind it
  have inside : th'.pc ≠ .idle → CIn cfg call (amt call th) rest a.sh th' := fun hne => hbi.resolve_left (fun e => hne e.1)
  refine ⟨th', hth', .inr ?_⟩
  rcases quiescent_legit cfg base a hl hq t th' hth' with ⟨e, e'⟩ | ⟨rfl, hpk, _⟩ | ⟨rfl, hpk, _⟩
  · rcases hbi with ⟨_, e2⟩ | hi
    · rw [e'] at e2; cases e2
    · exact absurd e hi.not_idle
  · cases hth'
    have hi := inside (fun e => by rw [e] at hpk; cases hpk)
    obtain ⟨m, hm⟩ := hi.pc
    rcases quiescent_c cfg base a hl hq with ⟨e, _⟩ | ⟨w, n, cpos, e, hd, hb⟩ | ⟨_, _, e, _⟩
    · exact absurd e hi.not_idle
    · rw [e] at hm
      cases hm.is
      rw [← hm.code, ← hm.arg n rfl]
      exact ⟨hi.cur, hi.prog, by rw [e]; rfl, (Mqtt.Proofs.Lifecycle.waitData_none_iff _ _ _).mpr
        ⟨need_le w n _ (size_pos cfg) (hm.arg n rfl ▸ hm.fits rfl), hb, hd⟩⟩
    · rw [e] at hm; cases hm.is
  · cases hth'
    have hi := inside (fun e => by rw [e] at hpk; cases hpk)
    obtain ⟨m, hm⟩ := hi.pc
    rcases quiescent_p cfg base a hl hq with ⟨e, _⟩ | ⟨n, ppos, e, hd, hb, _⟩
    · exact absurd e hi.not_idle
    · rw [e] at hm
      cases hm.is
      rw [← hm.code, ← hm.arg n rfl]
      exact ⟨hi.cur, hi.prog, by rw [e]; rfl,
        (Mqtt.Proofs.Lifecycle.waitSpace_none_iff _ _ _).mpr ⟨hm.arg n rfl ▸ hm.fits rfl, hd, hb⟩⟩

theorem not_over {th : Th} {rest : List Call} (hpc : th.pc ≠ .idle) (hpr : th.prog = rest) : ¬ Over th rest := by
  rintro (⟨_, hi⟩ | hlt)
  · exact hpc hi
  · rw [hpr] at hlt; exact Nat.lt_irrefl _ hlt

theorem readfrom_waits_full (cfg : Cfg) (base : Nat) (s : St) (h : Live cfg base s) (hq : ∀ t, step cfg s t = none) :
    (s.P.pc = .idle ∧ s.P.prog = []) ∨
    (pParked s.P.pc = true ∧ s.sh.done = false ∧
      (∀ tot ms, s.P.cur = some (.rfrom tot ms) → s.sh.pseq = s.sh.cseq + cfg.size) ∧
      (∀ tot ms, s.P.cur ≠ some (.rfcommit tot ms))) := by
  rcases quiescent_p cfg base s h hq with a | ⟨n, ppos, e, hd, hb, hw, hn⟩
  · exact .inl a
  · refine .inr ⟨by rw [e]; rfl, hd, fun tot ms hcur => ?_, hn⟩
    -- `ReadFrom` asks for one byte
    have := hw.2.2 tot ms hcur
    have hpcs : s.sh.pseq ≤ s.sh.cseq + cfg.size := h.safe.glob.pc
    have hcp : s.sh.cseq ≤ s.sh.pseq := h.safe.glob.cp
    omega

end Mqtt.Proofs.Ring

/-! ## the contract

The six statements keep the namespace `Mqtt.Proofs.LifecycleRing` of the file that assembles them into `ring_contract`
(`Proofs/LifecycleRing.lean`); they are stated here because their proofs need the call theorems, and that file needs them stated.
Each stands a second time, word for word, as the statement of the theorem of `Properties/C15.lean` named in its comment: a new clause is written
in both places, and the proof in `C15.lean`, which applies the one to the other, fails if the two texts differ. -/

namespace Mqtt.Proofs.LifecycleRing
open Mqtt.Model.Ring Mqtt.Iface.Ring Mqtt.Proofs.Ring
open Mqtt.Model.Lifecycle (RingA)

/-- `C15_step_refines_ringA`: every step of the ring program is `RingA.commitP` (producer only), `RingA.commitC`
(consumer only), `RingA.close`, or does not change `absRing` -/
def StepContract (cfg : Cfg) (s : St) : Prop :=
  ∀ (t : Tid) (th : Th) (s' : St), s.getTh t = some th → step cfg s t = some s' →
    match visOf th.pc with
    | .tau => absRing s' = absRing s
    | .prod n => t = .p ∧ (absRing s).buf + n ≤ (ringCfg cfg).cap ∧
        absRing s' = { absRing s with buf := (absRing s).buf + n } ∧
        RingA.commitP (ringCfg cfg) (asOpen (absRing s)) n = some (.ok, asOpen (absRing s'))
    | .cons n => t = .c ∧ n ≤ (absRing s).buf ∧ RingA.commitC (ringCfg cfg) (absRing s) n = some (absRing s')
    | .close => RingA.close (ringCfg cfg) (absRing s) = some (absRing s')

/-- `C15_call_refines_ringA_producer`: `WriteWait(l)` = `RingA.waitSpace`, `WriteCommit(l)` / `Write(l)` = `RingA.commitP`
(`pstep .ownWait / .ownCommit`, `wstep .wait / .commit`) -/
def ProducerContract (cfg : Cfg) (s : St) : Prop :=
  ∀ (call : Call) (rest : List Call), ((∃ n, call = .write n) ∨ (∃ n, call = .wwait n) ∨ ∃ m, call = .wcommit m) →
  ∀ sched : List Tid, s.P.pc = .idle → s.P.prog = call :: rest →
    let l := amount call s.P
    let c := ringCfg cfg
    let a := run cfg s sched
    (∀ r, pRet a rest r →
      (r.err = .ok ∨ r.err = .eof ∨ r.err = .full) ∧
      (r.err = .full → c.cap < l ∧ RingA.waitSpace c (absRing a) l = some (.full, absRing a) ∧ a.sh.pseq = s.sh.pseq) ∧
      (r.err = .eof → a.sh.done = true ∧ a.sh.pseq = s.sh.pseq ∧
        (l ≤ c.cap → RingA.waitSpace c (absRing a) l = some (.eof, absRing a))) ∧
      (r.err = .ok → s.sh.done = false ∧
        (∃ pre post, sched = pre ++ .p :: post ∧
          step cfg (run cfg s pre) .p = some (run cfg s (pre ++ [.p])) ∧
          RingA.waitSpace c (absRing (run cfg s pre)) l = some (.ok, absRing (run cfg s pre)) ∧
          absRing (run cfg s (pre ++ [.p])) = absRing (run cfg s pre) ∧
          (commits call = true → ∃ mid post', post = mid ++ .p :: post' ∧
            step cfg (run cfg s (pre ++ .p :: mid)) .p = some (run cfg s (pre ++ .p :: mid ++ [.p])) ∧
            (absRing (run cfg s (pre ++ .p :: mid))).buf + l ≤ c.cap ∧
            absRing (run cfg s (pre ++ .p :: mid ++ [.p])) =
              { absRing (run cfg s (pre ++ .p :: mid)) with buf := (absRing (run cfg s (pre ++ .p :: mid))).buf + l } ∧
            ((run cfg s (pre ++ .p :: mid)).sh.done = false →
              RingA.commitP c (absRing (run cfg s (pre ++ .p :: mid))) l =
                some (.ok, absRing (run cfg s (pre ++ .p :: mid ++ [.p])))))) ∧
        (commits call = true → r.n = l ∧ a.sh.pseq = s.sh.pseq + l) ∧
        (commits call = false → a.sh.pseq = s.sh.pseq ∧
          RingA.waitSpace c (asOpen (absRing a)) l = some (.ok, asOpen (absRing a))))) ∧
    (∀ pre post r, sched = pre ++ post → (run cfg s pre).sh.done = true → notPastFinal call rest (run cfg s pre) →
      pRet a rest r → r.err ≠ .ok) ∧
    ((∀ t, step cfg a t = none) →
      (¬ pOver rest a ↔
        (pParked a.P.pc = true ∧ a.P.cur = some call ∧ a.P.prog = rest ∧ RingA.waitSpace c (absRing a) l = none)))

/-- `C15_call_refines_ringA_consumer`: `ReadWait(n)` / `ReadPeek(n)` = `RingA.waitData` (`pstep .size / .msg`, `sstep .peek`),
`ReadCommit(n)` = `RingA.commitC` (`pstep .commit`, `sstep .commit`) -/
def ConsumerContract (cfg : Cfg) (s : St) : Prop :=
  ∀ (rest : List Call) (sched : List Tid),
    let c := ringCfg cfg
    let a := run cfg s sched
    s.C.pc = .idle →
    (∀ w n, s.C.prog = waitCall w n :: rest →
      (∀ r, cRet a rest r →
        a.sh.cseq = s.sh.cseq ∧ (r.err = .full ↔ c.cap < n) ∧
        (r.err = .full → RingA.waitData c (absRing a) n = some (.full, absRing a)) ∧
        (r.err = .eof → a.sh.done = true ∧
          ∃ pre post, sched = pre ++ .c :: post ∧
            step cfg (run cfg s pre) .c = some (run cfg s (pre ++ [.c])) ∧
            RingA.waitData c (absRing (run cfg s pre)) (need w n) = some (.eof, absRing (run cfg s pre)) ∧
            absRing (run cfg s (pre ++ [.c])) = absRing (run cfg s pre)) ∧
        (r.err ≠ .eof → r.err ≠ .full → waitRes w n r ∧ r.n ≤ (absRing a).buf ∧
          (w = true → RingA.waitData c (absRing a) n = some (.ok, absRing a)))) ∧
      ((∀ t, step cfg a t = none) →
        (¬ cOver rest a ↔
          (cParked a.C.pc = true ∧ a.C.cur = some (waitCall w n) ∧ a.C.prog = rest ∧
            RingA.waitData c (absRing a) (need w n) = none)))) ∧
    (∀ m, s.C.prog = .commit m :: rest →
      (∀ r, cRet a rest r →
        (r.err = .full ↔ c.cap < min m s.C.pending.length) ∧ (r.err = .full → a.sh.cseq = s.sh.cseq) ∧
        (r.err ≠ .full → r.err = .ok ∧ r.n = min m s.C.pending.length ∧
          a.sh.cseq = s.sh.cseq + min m s.C.pending.length ∧
          ∃ pre post, sched = pre ++ .c :: post ∧
            step cfg (run cfg s pre) .c = some (run cfg s (pre ++ [.c])) ∧
            min m s.C.pending.length ≤ (absRing (run cfg s pre)).buf ∧
            RingA.commitC c (absRing (run cfg s pre)) (min m s.C.pending.length) = some (absRing (run cfg s (pre ++ [.c]))))) ∧
      ((∀ t, step cfg a t = none) → cOver rest a))

/-- `C15_call_refines_ringA_close`: `Close()` = `RingA.close` (`rstep .close`, `sstep .close`, `execStop .inClose / .outClose`,
`estep .preClose`); with `done` set nothing stays parked -/
def CloseContract (cfg : Cfg) (s : St) : Prop :=
  ∀ (t : Tid) (th : Th) (rest : List Call) (sched : List Tid),
    let c := ringCfg cfg
    let a := run cfg s sched
    s.getTh t = some th → th.pc = .idle → th.prog = .close :: rest →
    (∀ r, tRet a t rest r →
      r.err = .ok ∧ a.sh.done = true ∧
      ∃ pre post, sched = pre ++ t :: post ∧
        step cfg (run cfg s pre) t = some (run cfg s (pre ++ [t])) ∧
        RingA.close c (absRing (run cfg s pre)) = some (absRing (run cfg s (pre ++ [t])))) ∧
    ((∀ u, step cfg a u = none) →
      (∀ u thu, a.getTh u = some thu → closeRank thu.pc = 0) ∧
      (a.sh.done = true → ∀ u thu, a.getTh u = some thu → thu.pc = .idle ∧ thu.prog = []))

/-- `C15_readfrom_refines_ringA`: one iteration of `ReadFrom` = `rstep .space`, `.read`, `.commit n`; its exit = `rstep .close` -/
def ReadFromContract (cfg : Cfg) (s : St) : Prop :=
  let c := ringCfg cfg
  (∀ tot ms ppos, s.P.pc = .g112 tot ms ppos → (absRing s).buf + 1 ≤ c.cap) ∧
  (∀ tot ms start len, s.P.pc = .g111 tot ms start len → len ≤ c.cap - (absRing s).buf) ∧
  (∀ tot ms n, s.P.pc = .g111r tot ms n → (absRing s).buf + n ≤ c.cap) ∧
  (∀ tot ms n, s.P.cur = some (.rfcommit tot ms) → (wfsArg s.P.pc = some n ∨ ∃ ppos, s.P.pc = .c50 n ppos) →
    (absRing s).buf + n ≤ c.cap) ∧
  (∀ n e s', s.P.pc = .x16 → s.P.cur = some (.rfret n e) → step cfg s .p = some s' →
    s'.P.pc = .idle ∧ s'.P.res = some { n := n, err := e } ∧ s'.sh.done = true) ∧
  ((∀ t, step cfg s t = none) → ¬ (s.P.pc = .idle ∧ s.P.prog = []) → ∀ tot ms, s.P.cur = some (.rfrom tot ms) →
    pParked s.P.pc = true ∧ RingA.waitSpace c (absRing s) 1 = none)

/-- `C15_parked_iff_guard_false`: a state in which nothing can run, thread by thread -/
def QuiescentContract (cfg : Cfg) (s : St) : Prop :=
  let c := ringCfg cfg
  (∀ t, step cfg s t = none) →
  (¬ (s.P.pc = .idle ∧ s.P.prog = []) ↔
    ∃ n ppos, s.P.pc = .s36w n ppos ∧ s.sh.done = false ∧ c.cap < (absRing s).buf + n ∧
      (n ≤ c.cap → RingA.waitSpace c (absRing s) n = none)) ∧
  (¬ (s.C.pc = .idle ∧ s.C.prog = []) ↔
    (∃ w n cpos, s.C.pc = .p86w w n cpos ∧ s.sh.done = false ∧ (absRing s).buf < need w n ∧
      (n ≤ c.cap → RingA.waitData c (absRing s) (need w n) = none)) ∨
    (∃ n cpos, s.C.pc = .r77w n cpos ∧ s.sh.done = false ∧ (absRing s).buf = 0)) ∧
  (∀ (i : Nat) (th : Th), s.K[i]? = some th → th.pc = .idle ∧ th.prog = [])

structure RingContract (cfg : Cfg) (s : St) : Prop where
  step : StepContract cfg s
  producer : ProducerContract cfg s
  consumer : ConsumerContract cfg s
  close : CloseContract cfg s
  readfrom : ReadFromContract cfg s
  quiescent : QuiescentContract cfg s

theorem step_contract (cfg : Cfg) (base : Nat) (s : St) (h : RInv cfg base s) : StepContract cfg s := by
  intro t th s' hth hs
  have hv := vis_step cfg base s s' t th h hth hs
  cases hvis : visOf th.pc with
  | tau =>
    rw [hvis] at hv
    obtain ⟨a, b, c⟩ := hv
    unfold absRing
    rw [a, b, c]
  | prod n =>
    rw [hvis] at hv
    obtain ⟨rfl, a, b, c, d⟩ := hv
    obtain ⟨x, y, z, _⟩ := linP_ringA cfg n s s' h.glob.cp ⟨d, a, b, c⟩
    exact ⟨rfl, x, y, z⟩
  | cons n =>
    rw [hvis] at hv
    obtain ⟨rfl, a, b, c, d⟩ := hv
    obtain ⟨x, y⟩ := linC_ringA cfg n s s' ⟨d, a, b, c⟩
    exact ⟨rfl, x, y⟩
  | close =>
    rw [hvis] at hv
    obtain ⟨a, b, c⟩ := hv
    exact linX_ringA cfg s s' ⟨c, a, b⟩

theorem producer_contract (cfg : Cfg) (base : Nat) (s : St) (h : Live cfg base s) : ProducerContract cfg s := by
  intro call rest hk sched hidle hprog l c a
  have hr := h.safe
  have hf : followed call = true ∧ kindOf call = .prod ∧ amt call s.P = l := by
    rcases hk with ⟨n, rfl⟩ | ⟨n, rfl⟩ | ⟨n, rfl⟩ <;> exact ⟨rfl, rfl, rfl⟩
  refine ⟨fun r hret => ?_, fun pre post r hsch hd hnp hret => ?_, fun hq => ?_⟩
  · have hres := call_ret cfg base .p call rest hf.1 s sched hr s.P rfl hidle hprog r ⟨_, rfl, hret⟩
    rw [hf.2.2] at hres
    obtain ⟨k, hp, hh, pre, post, e, _, hok⟩ := hres
    rw [hf.2.1] at hp hh hok
    -- by the stage the call returned from: 0 end-of-stream or `ErrBufferFull`, 1 `WriteWait`, 2 `Write` / `WriteCommit`
    match k, hok with
    | 0, .inl ⟨he, hd⟩ =>
      have hda : a.sh.done = true := by show (run cfg s sched).sh.done = true; rw [e]; exact (took_mono cfg base s pre post .p hr).2.2.1 hd
      exact ⟨.inr (.inl he), (fun e => nomatch he.symm.trans e), fun _ => ⟨hda, hp, fun hl => ra_waitSpace_eof c rfl _ l hda hl⟩,
        (fun e => nomatch he.symm.trans e)⟩
    | 0, .inr ⟨he, hbig⟩ =>
      exact ⟨.inr (.inr he), fun _ => ⟨hbig, ra_waitSpace_full c _ l hbig, hp⟩, (fun e => nomatch he.symm.trans e),
        (fun e => nomatch he.symm.trans e)⟩
    | 1, ⟨hok, hnc⟩ =>
      refine ⟨.inl hok, (fun e => nomatch hok.symm.trans e), (fun e => nomatch hok.symm.trans e), fun _ => ?_⟩
      obtain ⟨pre, post, e, hst, hw⟩ := hh.one (Nat.le_refl _)
      obtain ⟨w1, w2⟩ := linW_ringA cfg l _ _ (rinv_run cfg base s pre hr).glob.cp hw
      refine ⟨run_done_false cfg s pre hw.1, ⟨pre, post, e, hst, w1, w2, (fun hc => nomatch hnc.symm.trans hc)⟩,
        (fun hc => nomatch hnc.symm.trans hc), fun _ => ⟨hp, Mqtt.Proofs.Lifecycle.space_unblocks c _ l rfl ?_⟩⟩
      -- room as of that step, and still: the producer cursor has not moved, the consumer cursor not gone back
      have hcp : (run cfg s sched).sh.cseq ≤ (run cfg s sched).sh.pseq := (rinv_run cfg base s sched hr).glob.cp
      have m1 := (run_mono cfg base s pre hr).1
      have m2 := took_mono cfg base s pre post .p hr
      rw [← e] at m2
      have hp' : (run cfg s sched).sh.pseq = s.sh.pseq := hp
      have hw' : (run cfg s pre).sh.pseq + amount call s.P ≤ (run cfg s pre).sh.cseq + cfg.size := hw.2.1
      exact buf_room (s := run cfg s sched) (n := amount call s.P) hcp (by omega)
    | 2, ⟨hok, hn, hc⟩ =>
      refine ⟨.inl hok, (fun e => nomatch hok.symm.trans e), (fun e => nomatch hok.symm.trans e), fun _ => ?_⟩
      obtain ⟨pre, mid, post', e, ⟨hst, hw⟩, hst', hp'⟩ := hh.two (Nat.le_refl _)
      obtain ⟨w1, w2⟩ := linW_ringA cfg l _ _ (rinv_run cfg base s pre hr).glob.cp hw
      obtain ⟨x, y, _, z⟩ := linP_ringA cfg l _ _ (rinv_run cfg base s (pre ++ .p :: mid) hr).glob.cp hp'
      exact ⟨run_done_false cfg s pre hw.1,
        ⟨pre, mid ++ .p :: post', by rw [e, List.append_assoc]; rfl, hst, w1, w2, fun _ => ⟨mid, post', rfl, hst', x, y, z⟩⟩,
        fun _ => ⟨hn, hp⟩, (fun hc' => nomatch hc.symm.trans hc')⟩
  · exact pcall_start_closed cfg base call rest hk s pre post hr hidle hprog r (by rw [← hsch]; exact hret) hd hnp
  · obtain ⟨_, hth', hb⟩ := call_blocked cfg base .p call rest hf.1 s sched h s.P rfl hidle hprog hq
    cases hth'
    rw [hf.2.1, hf.2.2] at hb
    exact ⟨fun hno => have ⟨h1, h2, h3, h4⟩ := hb.resolve_left hno; ⟨h3, h1, h2, h4⟩,
      fun ⟨hpk, _, hpr, _⟩ => not_over (fun e => by rw [e] at hpk; cases hpk) hpr⟩

theorem consumer_contract (cfg : Cfg) (base : Nat) (s : St) (h : Live cfg base s) : ConsumerContract cfg s := by
  intro rest sched c a hidle
  have hr := h.safe
  have hsz : 1 ≤ cfg.size := size_pos cfg
  refine ⟨fun w n hprog => ⟨fun r hret => ?_, fun hq => ?_⟩, fun m hprog => ⟨fun r hret => ?_, fun hq => ?_⟩⟩
  · obtain ⟨hf, hK, ha⟩ := kindOf_waitCall w n
    have hres := call_ret cfg base .c (waitCall w n) rest hf s sched hr s.C rfl hidle hprog r ⟨_, rfl, hret⟩
    rw [ha] at hres
    obtain ⟨k, hc, hh, pre, post, e, _, hok⟩ := hres
    rw [hK] at hc hh hok
    have hm := took_mono cfg base s pre post .c hr
    rw [← e] at hm
    -- by the stage the call returned from: 0 `ErrBufferFull` or data, 1 end-of-stream
    match k, hok with
    | 0, .inl ⟨he, hbig⟩ =>
      exact ⟨hc, ⟨fun _ => hbig, fun _ => he⟩, fun _ => ra_waitData_full c _ n hbig, (fun e => nomatch he.symm.trans e),
        fun _ e => absurd he e⟩
    | 0, .inr ⟨hres, hle, hfit⟩ =>
      have hne : r.err ≠ .eof ∧ r.err ≠ .full := by rcases hres.2.2.2 with e | e <;> rw [e] <;> exact ⟨nofun, nofun⟩
      -- the bytes handed out are buffered, and stay so: the consumer cursor has not moved, the producer cursor not gone back
      have hle' : r.n ≤ (absRing a).buf := by
        have m1 := (run_mono cfg base s pre hr).2
        have hc' : (run cfg s sched).sh.cseq = s.sh.cseq := hc
        show r.n ≤ (run cfg s sched).sh.pseq - (run cfg s sched).sh.cseq
        omega
      refine ⟨hc, ⟨fun e => absurd e hne.2, fun hb => absurd hfit (Nat.not_le.mpr hb)⟩, fun e => absurd e hne.2,
        fun e => absurd e hne.1, fun _ _ => ⟨hres, hle', fun hw => Mqtt.Proofs.Lifecycle.data_unblocks c _ n hfit ?_⟩⟩
      rw [← (hres.2.1 hw).1]
      exact hle'
    | 1, ⟨he, hd, hfit⟩ =>
      obtain ⟨pre, post, e, hst, hl⟩ := hh.one (Nat.le_refl _)
      obtain ⟨e1, e2⟩ := linE_ringA cfg _ _ _ (need_le w n _ hsz hfit) hl
      exact ⟨hc, ⟨(fun e => nomatch he.symm.trans e), fun hb => absurd hfit (Nat.not_le.mpr hb)⟩,
        (fun e => nomatch he.symm.trans e), fun _ => ⟨hm.2.2.1 hd, pre, post, e, hst, e1, e2⟩, fun e => absurd he e⟩
  · obtain ⟨hf, hK, ha⟩ := kindOf_waitCall w n
    obtain ⟨_, hth', hb⟩ := call_blocked cfg base .c (waitCall w n) rest hf s sched h s.C rfl hidle hprog hq
    cases hth'
    rw [hK, ha] at hb
    exact ⟨fun hno => have ⟨h1, h2, h3, h4⟩ := hb.resolve_left hno; ⟨h3, h1, h2, h4⟩,
      fun ⟨hpk, _, hpr, _⟩ => not_over (fun e => by rw [e] at hpk; cases hpk) hpr⟩
  · obtain ⟨k, hc, hh, _, _, _, _, hok⟩ := call_ret cfg base .c (.commit m) rest rfl s sched hr s.C rfl hidle hprog r ⟨_, rfl, hret⟩
    match k, hok with
    | 0, ⟨he, hbig⟩ => exact ⟨⟨fun _ => hbig, fun _ => he⟩, fun _ => hc, fun e => absurd he e⟩
    | 1, ⟨he, hn, hfit⟩ =>
      obtain ⟨pre, post, e, hst, hl⟩ := hh.one (Nat.le_refl _)
      obtain ⟨x, y⟩ := linC_ringA cfg _ _ _ hl
      exact ⟨⟨(fun e => nomatch he.symm.trans e), fun hb => absurd hfit (Nat.not_le.mpr hb)⟩, (fun e => nomatch he.symm.trans e),
        fun _ => ⟨he, hn, hc, pre, post, e, hst, x, y⟩⟩
  · obtain ⟨_, hth', hb⟩ := call_blocked cfg base .c (.commit m) rest rfl s sched h s.C rfl hidle hprog hq
    cases hth'
    exact hb.elim id (fun hb => hb.2.2.elim)

theorem close_contract (cfg : Cfg) (base : Nat) (s : St) (h : Live cfg base s) : CloseContract cfg s := by
  intro t th rest sched c a hth hidle hprog
  have hla : Live cfg base a := live_run cfg base s sched h
  refine ⟨fun r hret => ?_, fun hq => ⟨quiescent_no_close cfg base a hla hq, quiescent_done cfg base a hla hq⟩⟩
  obtain ⟨k, _, hh, _, _, _, _, hok⟩ := call_ret cfg base t .close rest rfl s sched h.safe th hth hidle hprog r hret
  match k, hok with
  | 1, hok =>
    obtain ⟨pre, post, e, hst, hl⟩ := hh.one (Nat.le_refl _)
    exact ⟨hok, by show (run cfg s sched).sh.done = true; rw [e]; exact (took_mono cfg base s pre post t h.safe).2.2.2 hl.1,
      pre, post, e, hst, linX_ringA cfg _ _ hl⟩

theorem readfrom_contract (cfg : Cfg) (base : Nat) (s : St) (h : Live cfg base s) (hD : DInv s) : ReadFromContract cfg s := by
  have hr := h.safe
  have hcp : s.sh.cseq ≤ s.sh.pseq := hr.glob.cp
  have hp := hr.invP.pcinv
  unfold pcP at hp
  refine ⟨?_, ?_, ?_, ?_, ?_, ?_⟩
  · intro tot ms ppos hpc
    rw [hpc] at hp
    obtain ⟨rfl, hp⟩ := hp
    exact buf_room hcp hp
  · intro tot ms start len hpc
    rw [hpc] at hp
    obtain ⟨rfl, hp⟩ := hp
    exact Nat.le_sub_of_add_le' (buf_room hcp hp)
  · intro tot ms n hpc
    rw [hpc] at hp
    exact buf_room hcp hp.2
  · intro tot ms n hcur hpc
    exact buf_room hcp (rfcommit_fits cfg base s hr tot ms n hcur hpc)
  · -- `ReadFrom` returns through the last statement of its deferred `Close`: the ring is closed then
    intro n e s' hpc hcur hs
    obtain ⟨th, th', hth, hst, hth'⟩ := step_t cfg s s' .p hs
    cases hth
    rw [show s'.P = th' from Option.some.inj hth']
    have hd : s.sh.done = true := hD .p s.P rfl (by rw [hpc]; rfl)
    have hst' := tstep_step _ _ _ _ _ _ hst
    generalize s'.sh = sh' at hst'
    rw [hpc] at hst'
    cases hst'
    have hc : s.P.clr.cur = some (.rfret n e) := hcur
    simp only [closeRet, hc]
    exact ⟨rfl, rfl, by rw [done_unlock]; exact hd⟩
  · intro hq hnf tot ms hcur
    rcases readfrom_waits_full cfg base s h hq with hfin | ⟨hpk, hd, hfull, _⟩
    · exact absurd hfin hnf
    · refine ⟨hpk, (Mqtt.Proofs.Lifecycle.waitSpace_none_iff _ _ _).mpr ⟨size_pos cfg, hd, ?_⟩⟩
      have := hfull tot ms hcur
      show cfg.size < s.sh.pseq - s.sh.cseq + 1
      omega

theorem quiescent_contract (cfg : Cfg) (base : Nat) (s : St) (h : Live cfg base s) : QuiescentContract cfg s := by
  intro hq
  have hsz : 1 ≤ cfg.size := size_pos cfg
  refine ⟨⟨fun hnf => ?_, ?_⟩, ⟨fun hnf => ?_, ?_⟩, fun i th hth => ?_⟩
  · rcases quiescent_p cfg base s h hq with hf | ⟨n, ppos, e, hd, hb, _⟩
    · exact absurd hf hnf
    · exact ⟨n, ppos, e, hd, hb, fun hn => (Mqtt.Proofs.Lifecycle.waitSpace_none_iff _ _ _).mpr ⟨hn, hd, hb⟩⟩
  · rintro ⟨n, ppos, hpc, _⟩ ⟨hi, _⟩
    rw [hpc] at hi; cases hi
  · rcases quiescent_c cfg base s h hq with hf | ⟨w, n, cpos, e, hd, hb⟩ | hr
    · exact absurd hf hnf
    · exact .inl ⟨w, n, cpos, e, hd, hb, fun hn =>
        (Mqtt.Proofs.Lifecycle.waitData_none_iff _ _ _).mpr ⟨need_le w n _ hsz hn, hb, hd⟩⟩
    · exact .inr hr
  · rintro (⟨w, n, cpos, hpc, _⟩ | ⟨n, cpos, hpc, _⟩) ⟨hi, _⟩
    · rw [hpc] at hi; cases hi
    · rw [hpc] at hi; cases hi
  · rcases quiescent_legit cfg base s h hq (.k i) th hth with hf | ⟨hc, _⟩ | ⟨hc, _⟩
    · exact hf
    · cases hc
    · cases hc

theorem ring_contract_of_live (cfg : Cfg) (base : Nat) (s : St) (h : Live cfg base s) (hD : DInv s) : RingContract cfg s :=
  ⟨step_contract cfg base s h.safe, producer_contract cfg base s h, consumer_contract cfg base s h, close_contract cfg base s h,
    readfrom_contract cfg base s h hD, quiescent_contract cfg base s h⟩

theorem ring_contract_reach (cfg : Cfg) (adv gate : Nat) (progP progC : List Call) (progsK : List (List Call))
    (hgate : gate ≤ adv) (hok : ProgsOK progP progC progsK) (sched : List Tid) :
    RingContract cfg (run cfg (mkInit cfg adv gate progP progC progsK) sched) :=
  ring_contract_of_live cfg adv _ (live_run cfg adv _ sched (live_init cfg adv gate progP progC progsK hgate hok))
    (dinv_run cfg _ sched (dinv_init cfg adv gate progP progC progsK))

end Mqtt.Proofs.LifecycleRing
