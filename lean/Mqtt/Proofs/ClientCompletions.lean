/-
Client role: when completions fire.  Per ack queue `k`: what an event puts in flight, hands back and fires
(`stepAccepted`, `stepReleased`, `stepFired`), conservation per event (`step_conservation`), the requests a fresh
identifier gets registered (`api_registers`), eagerness (`Eager`); and the same for the ping FIFO
(`step_ping_conservation`, `PingsWaiting`).
-/
import Mqtt.Proofs.Client

namespace Mqtt.Proofs.Client
open Mqtt.Iface.Broker (Packet)
open Mqtt.Iface.Client
open Mqtt.Model.Client
open Mqtt.Generated

def stepAccepted (k : Kind) (c : C) : Ev → List Req
  | .api call => if c.connected then regAccepted k (apiWrite c call).1 (apiWrite c call).2.2 else []
  | .apiEarlyAck call _ => if c.connected then regAccepted k (apiWrite c call).1 (apiWrite c call).2.2 else []
  | _ => []

def stepReleased (k : Kind) (c : C) : Ev → List Req
  | .peer p => if c.connected then peerReleased k c p else []
  | .apiEarlyAck call ack => if c.connected then peerReleased k (step c (.api call)).1 ack else []
  | _ => []

theorem stepAccepted_early (k : Kind) (c : C) (call : Api) (ack : Packet) :
    stepAccepted k c (.apiEarlyAck call ack) = stepAccepted k c (.api call) := rfl

def accepted (k : Kind) (c : C) : List Ev → List Req
  | [] => []
  | ev :: evs => stepAccepted k c ev ++ accepted k (step c ev).1 evs

def released (k : Kind) (c : C) : List Ev → List Req
  | [] => []
  | ev :: evs => stepReleased k c ev ++ released k (step c ev).1 evs

theorem step_conservation (k : Kind) (c : C) (ev : Ev) :
    (stepReleased k c ev ++ queue k (step c ev).1).map key = (queue k c ++ stepAccepted k c ev).map key := by
  refine step_elim
    (motive := fun c ev r => (stepReleased k c ev ++ queue k r.1).map key = (queue k c ++ stepAccepted k c ev).map key)
    (fun c a => congrArg (List.map key) ((connect_queue k c a).trans (List.append_nil _).symm))
    (fun c ev hc _ => by cases ev <;> simp [stepReleased, stepAccepted, hc]) ?_ ?_ ?_ c ev
  · intro c call hc
    simp only [stepReleased, stepAccepted, hc, ↓reduceIte, List.nil_append, callOf, apiRegister_queue, apiWrite_queue]
  · intro c p hc
    simp only [stepReleased, stepAccepted, hc, ↓reduceIte, List.append_nil]
    exact peer_conservation k c p
  · intro c call ack hc hc1 h1 h2
    simp only [stepReleased, stepAccepted, hc, hc1, ↓reduceIte, step_api c hc, List.nil_append, List.append_nil] at h1 h2 ⊢
    rw [h2, h1]

def stepFired (k : Kind) (c : C) : Ev → List Nat
  | .peer p => if (termId k p).isSome then doneTags (step c (.peer p)).2 else []
  | .apiEarlyAck call ack =>
    if (termId k ack).isSome then doneTags (step (step c (.api call)).1 (.peer ack)).2 else []
  | _ => []

def fired (k : Kind) (c : C) : List Ev → List Nat
  | [] => []
  | ev :: evs => stepFired k c ev ++ fired k (step c ev).1 evs

theorem stepFired_eq (k : Kind) (c : C) (ev : Ev) :
    stepFired k c ev = nz ((stepReleased k c ev).map (·.tag)) := by
  cases ev with
  | peer p =>
    cases hc : c.connected with
    | false => simp [stepFired, stepReleased, step_off c hc, hc, doneTags, nz]
    | true =>
      simp only [stepFired, stepReleased, hc, ↓reduceIte]
      rw [step_peer c hc]; exact peer_fired k c p
  | apiEarlyAck call ack =>
    cases hc : c.connected with
    | false => simp [stepFired, stepReleased, step_off c hc, hc, doneTags, nz]
    | true =>
      simp only [stepFired, stepReleased, hc, ↓reduceIte]
      rw [step_peer _ (step_connected c (.api call) hc)]; exact peer_fired k _ ack
  | _ => rfl

theorem fired_eq (k : Kind) (c : C) (evs : List Ev) :
    fired k c evs = nz ((released k c evs).map (·.tag)) := by
  induction evs generalizing c with
  | nil => rfl
  | cons ev evs ih =>
    simp only [fired, released, List.map_append, nz_append]
    rw [stepFired_eq k c ev, ih _]

/-- the call supplies an identifier that is non-zero and not in flight in its queue -/
def freshStep (c : C) : Ev → Bool
  | .api call | .apiEarlyAck call _ =>
    match callReq call with
    | some (k, id, _) => id != 0 && !(queue k c).any (fun e => e.id == id)
    | none => true
  | _ => true

def Fresh (c : C) : List Ev → Bool
  | [] => true
  | ev :: evs => freshStep c ev && Fresh (step c ev).1 evs

def requestedTags (k : Kind) : List Ev → List Nat
  | [] => []
  | .api call :: evs =>
    (match callReq call with
     | some (k', _, tag) => if k' = k then [tag] else []
     | none => []) ++ requestedTags k evs
  | .apiEarlyAck call _ :: evs =>
    (match callReq call with
     | some (k', _, tag) => if k' = k then [tag] else []
     | none => []) ++ requestedTags k evs
  | _ :: evs => requestedTags k evs

theorem api_registers (c : C) (hc : c.connected = true) (call : Api) (k : Kind) (id tag : Nat)
    (hreq : callReq call = some (k, id, tag)) (hq : ∀ e ∈ queue k c, e.id ≠ assigned c id) :
    ∃ r, stepAccepted k c (.api call) = [r] ∧ r.id = assigned c id ∧ r.tag = tag := by
  simp only [stepAccepted, hc, ↓reduceIte]
  refine regAccepted_clear _ _ k _ tag (by rw [callReq_apiWrite, hreq]; rfl) ?_
  rw [apiWrite_queue]; exact hq

/-- the oldest request of every queue is not terminal: completions are never held back -/
def Eager (c : C) : Prop := ∀ k e, (queue k c).head? = some e → terminal e.state = false

theorem eager_init : Eager init := by
  intro k e h
  cases k <;> cases h

theorem eager_peer (c : C) (p : Packet) (h : Eager c) : Eager (peer c p).1 := by
  intro k e he
  rcases peer_kind k c p with ⟨t, id, codes, _, _, _, hq, _⟩ | ⟨_, _, hq | ⟨id, hq⟩⟩ <;> rw [hq] at he
  · have := List.head?_dropWhile_not (fun e => terminal e.state) ((queue k c).ack t id codes)
    rw [show (List.dropWhile _ _).head? = some e from he] at this
    exact this
  · exact h k e he
  · unfold Queue.ack at he
    rw [List.head?_map] at he
    obtain ⟨a, ha, rfl⟩ := Option.map_eq_some_iff.mp he
    split
    · exact terminal_PUBREC
    · exact h k a ha

theorem eager_api (c : C) (call : Api) (h : Eager c) :
    Eager (callOf c call).1 := by
  intro k e he
  rw [callOf, apiRegister_queue, apiWrite_queue, List.head?_append] at he
  cases hq : (queue k c).head? with
  | some a => rw [hq] at he; cases he; exact h k _ hq
  | none =>
    rw [hq] at he
    rw [regAccepted_state k _ _ e (List.mem_of_mem_head? he)]; exact terminal_zero

theorem eager_step (c : C) (ev : Ev) (h : Eager c) : Eager (step c ev).1 :=
  step_keeps (fun c a h k e he => h k e (connect_queue k c a ▸ he)) eager_api eager_peer c ev h

def evAck (k : Kind) : Ev → Option Nat
  | .peer p => termId k p
  | .apiEarlyAck _ p => termId k p
  | _ => none

theorem api_single (c : C) (hc : c.connected = true) (call : Api) (k : Kind) (id tag : Nat)
    (hreq : callReq call = some (k, id, tag)) (hid : id ≠ 0) (hq : queue k c = []) :
    ∃ r, queue k (step c (.api call)).1 = [r] ∧ r.id = id ∧ r.tag = tag := by
  obtain ⟨r, hr, hrid, htag⟩ := api_registers c hc call k id tag hreq (by rw [hq]; exact fun e he => nomatch he)
  refine ⟨r, ?_, by rw [hrid, assigned, if_neg hid], htag⟩
  rw [step_api c hc, callOf, apiRegister_queue, apiWrite_queue, hq, List.nil_append]
  simpa only [stepAccepted, hc, ↓reduceIte] using hr

theorem api_doneTags_nil (c : C) (hc : c.connected = true) (call : Api) (k : Kind) (id tag : Nat)
    (h : callReq call = some (k, id, tag)) : doneTags (step c (.api call)).2 = [] := by
  rw [step_api c hc, callOf, doneTags_append, apiWrite_doneTags,
    apiRegister_out_nil _ _ k (assigned c id) tag (by rw [callReq_apiWrite, h]; rfl)]
  rfl

def pingTags (c : C) : List Nat := c.pings.map (·.2)

def pingFiredStep (c : C) : Ev → List Nat
  | .peer .pingresp => doneTags (step c (.peer .pingresp)).2
  | .apiEarlyAck call .pingresp => doneTags (step (step c (.api call)).1 (.peer .pingresp)).2
  | _ => []

def pingFired (c : C) : List Ev → List Nat
  | [] => []
  | ev :: evs => pingFiredStep c ev ++ pingFired (step c ev).1 evs

theorem pingAck_tags (l : List (Nat × Nat)) : (pingAck l).map (·.2) = l.map (·.2) := by
  induction l with
  | nil => rfl
  | cons e l ih =>
    rw [pingAck]
    split
    · rfl
    · rw [List.map_cons, List.map_cons, ih]

theorem peer_ping_conservation (c : C) (p : Packet) :
    (match p with | .pingresp => doneTags (peer c p).2 | _ => []) ++ nz (pingTags (peer c p).1) =
      nz (pingTags c) := by
  by_cases hp : p = .pingresp
  · subst hp
    rw [peer_pingresp, pingTags, pingTags, ← pingAck_tags c.pings]
    show doneTags (List.flatMap _ _) ++ nz (List.map _ (pingAcked _).1) = _
    rw [doneTags_flatMap (fun e : Nat × Nat => completeOut e.2 false) (·.2) (fun _ => doneTags_completeOut _ _),
      ← nz_append, ← List.map_append]
    exact congrArg (fun l : List (Nat × Nat) => nz (l.map (·.2))) List.takeWhile_append_dropWhile
  · rw [pingTags, peer_pings c p hp]
    cases p with
    | pingresp => exact absurd rfl hp
    | _ => rfl

theorem pingRequested_cons (ev : Ev) (evs : List Ev) :
    pingRequested (ev :: evs) = pingRequested [ev] ++ pingRequested evs := by
  cases ev with
  | api call => cases call <;> rfl
  | apiEarlyAck call ack => cases call <;> rfl
  | _ => rfl

theorem step_ping_conservation (c : C) (ev : Ev) (hc : c.connected = true) :
    pingFiredStep c ev ++ nz (pingTags (step c ev).1) =
      nz (pingTags c) ++ nz (pingRequested [ev]) := by
  have hapi : ∀ call, nz (pingTags (step c (.api call)).1) = nz (pingTags c) ++ nz (pingRequested [.api call]) := by
    intro call
    rw [step_api c hc, pingTags, api_pings, List.map_append, nz_append, List.map_map]
    cases call <;> rfl
  cases ev with
  | connect a =>
    show [] ++ nz (pingTags (connect c a).1) = _ ++ []
    rw [pingTags, connect_pings, List.append_nil]; rfl
  | api call => exact hapi call
  | peer p =>
    have := peer_ping_conservation c p
    rw [← step_peer c hc] at this
    rw [← this]
    cases p <;> exact (List.append_nil _).symm
  | apiEarlyAck call ack =>
    have hc1 := step_connected c (.api call) hc
    have := peer_ping_conservation (step c (.api call)).1 ack
    rw [← step_peer _ hc1, hapi call] at this
    rw [step_early, show pingRequested [Ev.apiEarlyAck call ack] = pingRequested [.api call] by cases call <;> rfl,
      ← this]
    cases ack <;> rfl

/-- no ping in flight carries a PINGRESP: `processIncoming` collects (`Acked`) right after it
acknowledges (`Ack`), so between two events every queued ping is still waiting -/
def PingsWaiting (c : C) : Prop := ∀ e ∈ c.pings, e.1 ≠ tPINGRESP

theorem pingsWaiting_init : PingsWaiting init := by intro e he; cases he

theorem pingAcked_pingAck_waiting (l : List (Nat × Nat)) (h : ∀ e ∈ l, e.1 ≠ tPINGRESP) :
    pingAcked (pingAck l) = (l.tail, (l.head?.map (fun e => (tPINGRESP, e.2))).toList) := by
  cases l with
  | nil => rfl
  | cons e l =>
    have he : (e.1 != tPINGRESP) = true := by simpa using h e (by simp)
    -- the next ping, if any, is waiting too: the hand-back stops behind the first
    have hl := List.dropWhile_takeWhile_of_head (p := fun e : Nat × Nat => e.1 == tPINGRESP) (l := l)
      fun a ha => by simpa using h a (List.mem_cons_of_mem _ (List.mem_of_mem_head? ha))
    rw [pingAck, if_pos he, pingAcked, List.dropWhile_cons_of_pos (by rfl), List.takeWhile_cons_of_pos (by rfl),
      hl.1, hl.2]
    rfl

theorem peer_pingsWaiting (c : C) (p : Packet) (h : PingsWaiting c) : PingsWaiting (peer c p).1 := by
  by_cases hp : p = .pingresp
  · subst hp
    rw [peer_pingresp, pingAcked_pingAck_waiting c.pings h]
    exact fun e he => h e (List.mem_of_mem_tail he)
  · unfold PingsWaiting; rw [peer_pings c p hp]; exact h

theorem api_pingsWaiting (c : C) (call : Api) (h : PingsWaiting c) :
    PingsWaiting (callOf c call).1 := by
  unfold PingsWaiting
  rw [api_pings]
  intro e he
  rcases List.mem_append.mp he with he | he
  · exact h e he
  · obtain ⟨t, _, rfl⟩ := List.mem_map.mp he
    exact (by decide : (0 : Nat) ≠ tPINGRESP)

theorem pingsWaiting_step (c : C) (ev : Ev) (h : PingsWaiting c) : PingsWaiting (step c ev).1 :=
  step_keeps (P := PingsWaiting) (fun c a h => by unfold PingsWaiting; rw [connect_pings]; exact h)
    api_pingsWaiting peer_pingsWaiting c ev h

end Mqtt.Proofs.Client
