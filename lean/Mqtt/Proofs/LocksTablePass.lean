/-
Core G (C18) — the one evaluation over the regenerated access table that the statements of
`Properties/C18.lean` about rows and about classes rest on.  It is a module of its
own because `Proofs/LocksTable.lean` has to build whatever the regenerated table holds: `bin/check C18`
evaluates the table through `LocksTable` alone to name the rows that do not fit.
-/
import Mqtt.Proofs.LocksTable

namespace Mqtt.Proofs.LocksTable
open Mqtt.Generated

/-- the classes whose kind of protection the trace theory does not justify: the write-once fields
of `Session` (assumption A-init) and the scratch buffer confined to one goroutine -/
def untraceableClasses : List Key :=
  [(false, "Session", "Pub1ack"), (false, "Session", "Pub2in"), (false, "Session", "Pub2out"),
   (false, "Session", "Suback"), (false, "Session", "Unsuback"), (false, "Session", "Pingack"),
   (false, "Session", "id"), (false, "service", "intmp")]

/-- the pass over the regenerated table.  (One evaluation for both halves: they share the lookup
`guardOf (keyOf r)`, which dominates.) -/
theorem table_pass : ∀ r ∈ lockAccesses,
    (disciplined r = true ∨ (excuseOf r).isSome = true) ∧
    (traceable (keyOf r) = true ∨ keyOf r ∈ untraceableClasses) := by
  decide +kernel

end Mqtt.Proofs.LocksTable
