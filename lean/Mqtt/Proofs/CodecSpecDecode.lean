/-
Core A (codec): completeness of the reference decoder of `Spec/Wire.lean` — it accepts the
reference encoding of every well-formed packet (followed by anything) and returns that packet (`spec_decode_complete`).
With `Wire.decode_sound` this makes `Wire.decode` the inverse of `Wire.encode` on well-formed packets
(`spec_decode_iff`); with `accepts_wf`, the library's decoder agrees with it (`decode_agrees_with_reference`).
-/
import Mqtt.Proofs.CodecWireV


namespace Mqtt.Proofs.Codec

open Mqtt.Model.Codec Mqtt.Iface.Codec
open Mqtt.Spec

theorem encode_append (p : Wire.Packet) (rest : Bytes) :
    Wire.encode p ++ rest =
      UInt8.ofNat (p.type * 16 + p.flags) :: (Wire.varint p.body.length ++ (p.body ++ rest)) := by
  simp [Wire.encode]

theorem getU16_u16 (v : UInt16) (r : Bytes) : Wire.getU16 (Wire.u16 v ++ r) = some (v, r) := by
  show some (UInt16.ofNat (beU16 _ _), r) = _
  rw [beU16_ofNat v.toNat_lt]
  simp

theorem takeN_append (a b : Bytes) : Wire.takeN a.length (a ++ b) = some (a, b) := by
  unfold Wire.takeN
  rw [if_pos (by simp)]
  simp

theorem getStr_str (s r : Bytes) (hs : s.length ≤ 65535) : Wire.getStr (Wire.str s ++ r) = some (s, r) := by
  show Wire.takeN (UInt16.ofNat (beU16 _ _)).toNat (s ++ r) = _
  rw [beU16_ofNat (Nat.lt_succ_of_le hs)]
  have : (UInt16.ofNat s.length).toNat = s.length := by simp; omega
  rw [this]
  exact takeN_append s r

/-- the body parser of the reference decoder returns the packet whose body it is given -/
def DecBody (p : Wire.Packet) : Prop := Wire.decodeBody p.type p.flags p.body = some p

theorem getU16_u16_nil (v : UInt16) : Wire.getU16 (Wire.u16 v) = some (v, []) := by
  have := getU16_u16 v []
  rwa [List.append_nil] at this

theorem decBody_suback (id : UInt16) (codes : List UInt8) : DecBody (.suback id codes) := by
  show (do let (id, r) ← Wire.getU16 (Wire.u16 id ++ codes); pure (Wire.Packet.suback id r)) = _
  rw [getU16_u16]
  rfl

theorem bit_eq (n k : Nat) (b : Bool) (h : n / 2 ^ k % 2 = 1 ↔ b = true) : Wire.bit n k = b :=
  decide_eq_of_iff h

theorem decBody_publish (dup : Bool) (qos : UInt8) (ret : Bool) (topic : Bytes) (id : UInt16) (payload : Bytes)
    (hwf : Wire.WF (.publish dup qos ret topic id payload)) : DecBody (.publish dup qos ret topic id payload) := by
  obtain ⟨hq, hts, _, hid, _⟩ := wf_publish hwf
  obtain ⟨_, f2, f3, f4⟩ := pubFlags_fields dup ret ⟨_, Nat.lt_succ_of_le hq⟩
  unfold DecBody
  have hbody : (Wire.Packet.publish dup qos ret topic id payload).body =
      Wire.str topic ++ ((if qos = 0 then [] else Wire.u16 id) ++ payload) := by
    simp [Wire.Packet.body]
  rw [show (Wire.Packet.publish dup qos ret topic id payload).flags = Wire.b2n dup * 8 + qos.toNat * 2 + Wire.b2n ret from rfl,
    hbody, show (Wire.Packet.publish dup qos ret topic id payload).type = 3 from rfl]
  generalize hF : Wire.b2n dup * 8 + qos.toNat * 2 + Wire.b2n ret = F
  have hfq : F / 2 % 4 = qos.toNat := hF ▸ f2
  have hb3 : Wire.bit F 3 = dup := bit_eq _ _ _ (hF ▸ f3)
  have hb0 : Wire.bit F 0 = ret := bit_eq _ _ _ (by show F / 1 % 2 = 1 ↔ _; rw [Nat.div_one]; exact hF ▸ f4)
  show (do
    let (topic, r) ← Wire.getStr (Wire.str topic ++ ((if qos = 0 then [] else Wire.u16 id) ++ payload))
    let q := F / 2 % 4
    if q = 0 then pure (Wire.Packet.publish (Wire.bit F 3) 0 (Wire.bit F 0) topic 0 r)
    else do
      let (id, r) ← Wire.getU16 r
      pure (Wire.Packet.publish (Wire.bit F 3) (UInt8.ofNat q) (Wire.bit F 0) topic id r)) = _
  rw [getStr_str _ _ hts]
  simp only [Option.bind_eq_bind, Option.bind_some, Option.pure_def, hfq, hb3, hb0]
  by_cases hq0 : qos = 0
  · have hqn : qos.toNat = 0 := by rw [hq0]; rfl
    have hid' : id = 0 := by rwa [if_pos hq0] at hid
    simp only [hq0, if_true, List.nil_append, hid']
    rfl
  · have hqn : qos.toNat ≠ 0 := fun e => hq0 (UInt8.toNat_inj.mp e)
    simp only [hq0, hqn, if_false]
    rw [getU16_u16]
    simp

theorem str_cons (s : Bytes) (r : Bytes) :
    Wire.str s ++ r = UInt8.ofNat (s.length / 256) :: UInt8.ofNat (s.length % 256) :: (s ++ r) := rfl

theorem getFilters_enc : ∀ (fs : List (Bytes × UInt8)) (fuel : Nat), fs.length ≤ fuel →
    (∀ f ∈ fs, f.1.length ≤ 65535) → Wire.getFilters fuel (encFilters fs) = some fs := by
  intro fs
  induction fs with
  | nil => intro fuel _ _; cases fuel <;> rfl
  | cons f fs ih =>
    intro fuel hf hs
    cases fuel with
    | zero => simp at hf
    | succ k =>
      rw [encFilters_cons]
      have hg := getStr_str f.1 (f.2 :: encFilters fs) (hs f (by simp))
      rw [str_cons] at hg ⊢
      unfold Wire.getFilters
      rw [hg]
      simp only []
      rw [ih k (by simpa using hf) (fun g hg => hs g (by simp [hg]))]

theorem getTopics_enc : ∀ (fs : List Bytes) (fuel : Nat), fs.length ≤ fuel →
    (∀ f ∈ fs, f.length ≤ 65535) → Wire.getTopics fuel (encTopics fs) = some fs := by
  intro fs
  induction fs with
  | nil => intro fuel _ _; cases fuel <;> rfl
  | cons f fs ih =>
    intro fuel hf hs
    cases fuel with
    | zero => simp at hf
    | succ k =>
      rw [encTopics_cons]
      have hg := getStr_str f (encTopics fs) (hs f (by simp))
      rw [str_cons] at hg ⊢
      unfold Wire.getTopics
      rw [hg]
      simp only []
      rw [ih k (by simpa using hf) (fun g hg => hs g (by simp [hg]))]

theorem encFilters_len_ge (fs : List (Bytes × UInt8)) : fs.length ≤ (encFilters fs).length := by
  induction fs with
  | nil => simp [encFilters]
  | cons f fs ih => rw [encFilters_cons]; simp [Wire.str]; omega

theorem encTopics_len_ge (fs : List Bytes) : fs.length ≤ (encTopics fs).length := by
  induction fs with
  | nil => simp [encTopics]
  | cons f fs ih => rw [encTopics_cons]; simp [Wire.str]; omega

theorem decBody_subscribe (id : UInt16) (fs : List (Bytes × UInt8)) (hwf : Wire.WF (.subscribe id fs)) :
    DecBody (.subscribe id fs) := by
  have hs := (wf_subscribe hwf).2.1
  show (do
    let (id, r) ← Wire.getU16 (Wire.u16 id ++ encFilters fs)
    let fs ← Wire.getFilters r.length r
    pure (Wire.Packet.subscribe id fs)) = _
  rw [getU16_u16]
  simp only [Option.bind_eq_bind, Option.bind_some]
  rw [getFilters_enc fs _ (encFilters_len_ge fs) hs]
  rfl

theorem decBody_unsubscribe (id : UInt16) (fs : List Bytes) (hwf : Wire.WF (.unsubscribe id fs)) :
    DecBody (.unsubscribe id fs) := by
  have hs := (wf_unsubscribe hwf).2.1
  show (do
    let (id, r) ← Wire.getU16 (Wire.u16 id ++ encTopics fs)
    let fs ← Wire.getTopics r.length r
    pure (Wire.Packet.unsubscribe id fs)) = _
  rw [getU16_u16]
  simp only [Option.bind_eq_bind, Option.bind_some]
  rw [getTopics_enc fs _ (encTopics_len_ge fs) hs]
  rfl

/-- an optional field of CONNECT as the reference decoder reads it (present exactly when its flag is set), in front
of whatever comes next (`K`: `do` notation copies the continuation into both branches) -/
theorem getOpt_optStr {β : Type} (o : Option Bytes) (R : Bytes) (b : Bool) (K : Option Bytes × Bytes → Option β)
    (hb : b = o.isSome) (hok : ∀ x, o = some x → x.length ≤ 65535) :
    (if b = true then ((Wire.getStr (Wire.optStr o ++ R)).bind fun x => some (some x.fst, x.snd)).bind K
     else (some (none, Wire.optStr o ++ R)).bind K) = K (o, R) := by
  subst hb
  cases o with
  | none => rfl
  | some x => simp only [Option.isSome_some, if_true, Wire.optStr, getStr_str _ _ (hok x rfl), Option.bind_some]

theorem getWill_willBytes {β : Type} (w : Option Wire.Will) (R : Bytes) (b : Bool) (q : UInt8) (rt : Bool)
    (K : Option Wire.Will × Bytes → Option β) (hb : b = w.isSome)
    (hq : ∀ x, w = some x → x.qos = q ∧ x.retain = rt ∧ x.topic.length ≤ 65535 ∧ x.message.length ≤ 65535) :
    (if b = true then (Wire.getStr (willBytes w ++ R)).bind fun wt => (Wire.getStr wt.snd).bind fun wm =>
        (some (some (Wire.Will.mk wt.fst wm.fst q rt), wm.snd)).bind K
     else (some (none, willBytes w ++ R)).bind K) = K (w, R) := by
  subst hb
  cases w with
  | none => rfl
  | some x =>
    obtain ⟨rfl, rfl, h1, h2⟩ := hq x rfl
    simp only [Option.isSome_some, if_true, willBytes, List.append_assoc, getStr_str _ _ h1, getStr_str _ _ h2,
      Option.bind_some]

theorem decBody_connect (c : Wire.Connect) (hwf : Wire.WF (.connect c)) : DecBody (.connect c) := by
  have hq := willQos_le_of_wf c hwf
  obtain ⟨fLt, fBit0, fClean, fWill, fWillQos, fWillRetain, fPass, fUser⟩ := specFlags_bits c hq
  have hF : (UInt8.ofNat c.flags).toNat = c.flags := u8_ofNat_toNat fLt
  obtain ⟨hlev, hcid, hwill, hun, hpw⟩ := wf_connect hwf
  obtain ⟨hc1, _, _⟩ := validClientID_of_ok _ _ hcid
  have hnl : (Wire.protoName c.level).length ≤ 65535 := by
    rcases hlev with h | h <;> rw [h] <;> decide
  show Wire.decodeConnect (Wire.Packet.connect c).body = _
  rw [connect_body_eq]
  unfold Wire.decodeConnect
  simp only [Option.bind_eq_bind, Option.pure_def]
  -- one read at a time: `simp` with `Option.bind_some` would reduce `(some _).bind K` in the `else` branches too, and the
  -- two copies of `K` that the optional-field lemmas match would no longer be alike
  rw [getStr_str _ _ hnl, Option.bind_some]
  dsimp only [Wire.getByte]
  rw [Option.bind_some]
  dsimp only
  rw [if_neg (fun h => h rfl), Option.bind_some]
  dsimp only
  rw [getU16_u16, Option.bind_some]
  dsimp only
  rw [getStr_str _ _ (show c.clientId.length ≤ 65535 by omega), Option.bind_some]
  dsimp only
  rw [hF]
  rw [getWill_willBytes c.will _ _ _ _ _ (bit_eq _ _ _ fWill) (fun x hx => by
    have := hwill x hx
    refine ⟨?_, ?_, this.1, this.2.1⟩
    · rw [fWillQos]; simp [willQosOf, hx]
    · rw [bit_eq _ _ _ fWillRetain]; simp [willRetainOf, hx])]
  dsimp only
  rw [getOpt_optStr c.username _ _ _ (bit_eq _ _ _ fUser) hun]
  dsimp only
  rw [getOpt_optStr c.password _ _ _ (bit_eq _ _ _ fPass) hpw]
  have hb1 : Wire.bit c.flags 1 = c.clean := bit_eq _ _ _ fClean
  rw [if_neg (fun h => h rfl), hb1]

theorem decBody_wf (p : Wire.Packet) (hwf : Wire.WF p) : DecBody p := by
  cases p with
  | connect c => exact decBody_connect c hwf
  | connack sp code => cases sp <;> rfl
  | publish dup qos ret topic id payload => exact decBody_publish _ _ _ _ _ _ hwf
  | puback id | pubrec id | pubrel id | pubcomp id | unsuback id =>
    show (match Wire.getU16 (Wire.u16 id) with | some (id, []) => some _ | _ => none) = _
    rw [getU16_u16_nil]
  | subscribe id fs => exact decBody_subscribe id fs hwf
  | suback id codes => exact decBody_suback id codes
  | unsubscribe id fs => exact decBody_unsubscribe id fs hwf
  | pingreq => rfl
  | pingresp => rfl
  | disconnect => rfl

theorem spec_decode_complete (p : Wire.Packet) (hwf : Wire.WF p) (rest : Bytes) :
    Wire.decode p.type (Wire.encode p ++ rest) = some (p, (Wire.encode p).length) := by
  have hb := decBody_wf p hwf
  have hL := packet_body_le p hwf
  obtain ⟨hb0, h16, hmod⟩ := packet_tf p hwf
  rw [hb0] at h16 hmod
  rw [encode_append]
  unfold Wire.decode
  simp only []
  rw [hb0, if_neg (fun h => h h16)]
  rw [getVarint_varint _ hL]
  simp only []
  rw [takeN_append]
  simp only []
  rw [hmod]
  unfold DecBody at hb
  rw [hb]
  simp only []
  have hn : (UInt8.ofNat (p.type * 16 + p.flags) :: (Wire.varint p.body.length ++ (p.body ++ rest))).length -
      (p.body ++ rest).length + p.body.length = (Wire.encode p).length := by
    unfold Wire.encode
    simp only [List.length_cons, List.length_append]; omega
  rw [hn]
  have htake : (UInt8.ofNat (p.type * 16 + p.flags) :: (Wire.varint p.body.length ++ (p.body ++ rest))).take (Wire.encode p).length =
      Wire.encode p := by
    rw [← encode_append]; simp
  rw [htake]
  have hwf' : Wire.wf p = true := hwf
  rw [hwf']
  simp

theorem spec_decode_count {t : Nat} {bs : Bytes} {p : Wire.Packet} {n : Nat} (h : Wire.decode t bs = some (p, n)) :
    p.type = t ∧ n = (Wire.encode p).length ∧ n ≤ bs.length := by
  obtain ⟨hwf, henc⟩ := Wire.decode_sound h
  unfold Wire.decode at h
  split at h
  · simp at h
  · rename_i b0 r
    split at h
    · simp at h
    · rename_i ht
      split at h
      · simp at h
      · rename_i remlen r2 hv
        split at h
        · simp at h
        · rename_i body rest htk
          split at h
          · simp at h
          · simp only [] at h
            split at h
            · simp only [Option.some.injEq, Prod.mk.injEq] at h
              obtain ⟨_, hn⟩ := h
              have hsuf := (getVarint_lt 4 r remlen r2 hv).2.1
              have hrem : remlen ≤ r2.length := by
                unfold Wire.takeN at htk
                split at htk
                · assumption
                · cases htk
              have hnle : n ≤ (b0 :: r).length := by
                rw [← hn]; simp only [List.length_cons]; omega
              have hlen : (Wire.encode p).length = n := by rw [henc, List.length_take]; omega
              refine ⟨?_, hlen.symm, hnle⟩
              have hn1 : 1 ≤ n := by rw [← hlen]; unfold Wire.encode; simp
              have hhead : UInt8.ofNat (p.type * 16 + p.flags) = b0 := by
                have := congrArg List.head? henc
                unfold Wire.encode at this
                cases n with
                | zero => omega
                | succ k => simpa using this
              simp only [ne_eq, Decidable.not_not] at ht
              rw [← ht, ← hhead]
              exact (packet_tf p hwf).2.1.symm
            · simp at h

theorem spec_decode_iff (t : Nat) (bs : Bytes) (p : Wire.Packet) (n : Nat) :
    Wire.decode t bs = some (p, n) ↔
      Wire.WF p ∧ p.type = t ∧ n = (Wire.encode p).length ∧ n ≤ bs.length ∧ bs.take n = Wire.encode p := by
  constructor
  · intro h
    obtain ⟨hwf, henc⟩ := Wire.decode_sound h
    obtain ⟨ht, hn, hle⟩ := spec_decode_count h
    exact ⟨hwf, ht, hn, hle, henc.symm⟩
  · rintro ⟨hwf, ht, hn, hle, henc⟩
    have hbs : bs = Wire.encode p ++ bs.drop n := by rw [← henc, List.take_append_drop]
    rw [hbs, ← ht, hn]
    exact spec_decode_complete p hwf _

theorem decode_agrees_with_reference {t : Nat} {bs : Bytes} {p : Wire.Packet} {n : Nat}
    (h : Wire.decode t bs = some (p, n)) : ∃ d, decodeNew t bs = .ok d ∧ d.n = n ∧ absMsg d.msg = p := by
  obtain ⟨hwf, ht, hn, hle, htake⟩ := (spec_decode_iff t bs p n).mp h
  have hbs : bs = Wire.encode p ++ bs.drop n := by rw [← htake, List.take_append_drop]
  obtain ⟨d, hd, hdn, habs⟩ := accepts_wf p hwf (bs.drop n)
  rw [← hbs, ht] at hd
  exact ⟨d, hd, by rw [hdn, hn], habs⟩

end Mqtt.Proofs.Codec
