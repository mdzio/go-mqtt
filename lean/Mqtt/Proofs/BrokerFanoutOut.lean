/-
The publish machinery (`Msg.encode`, `deliverConn`, `fanout`, `fanoutLive`, `retainStep`, `onPublish`) said once.
Closed forms: `encode_eq` (with `wire`, the fields as they go on the wire, and `encId`, the one identifier
the object has afterwards), `deliverConn_eq`, `onPublish_eq`; the retain step by cases (`retainStep_cases`).  Of the
state the machinery moves only the retained trie and the packet-identifier counter (`fanout_like`,
`retainStep_frame`), and every output is the message up to QoS and identifier with RETAIN = 0 (`Like`, `Fwd`,
`onPublish_like`).  Then what a step may write: everything else it emits is an acknowledgement, a CONNACK, a
close or an API error, except the retained delivery that answers a SUBSCRIBE or an in-process `Subscribe`
(`step_out`; per operation `stop_out`, `packet_out`, which looks at forwards only where `quietEv` is false).
-/
import Mqtt.Proofs.BrokerLife
namespace Mqtt.Proofs.BrokerIso
open Mqtt.Iface.Broker

/-- events of a connection that hand no application message to the fan-out: everything
except a QoS 0/1 PUBLISH, a PUBREL (releases QoS 2 messages) and the end of the connection
without DISCONNECT (will) -/
def quietEv : Ev → Bool
  | .packet _ (.publish p) => p.qos == 2
  | .packet _ (.pubrel _) => false
  | .close _ => false
  | _ => true

end Mqtt.Proofs.BrokerIso

namespace Mqtt.Proofs.Broker
open Mqtt.Iface.Broker Mqtt.Model.Broker
open Mqtt.Proofs.Topics (retain_sroot)

/-- the fields as they go on the wire: a QoS 0 PUBLISH carries no identifier -/
def wire (p : Pub) : Pub := if p.qos == 0 then { p with pktid := 0 } else p

/-- `Encode` draws an identifier from the counter: a dirty object with QoS > 0 that has none -/
def draws (m : Msg) : Bool := m.dirty && (m.p.qos != 0 && m.p.pktid == 0)

/-- the identifier the object has after `Encode` -/
def encId (m : Msg) (ctr : Nat) : Nat := if draws m then (nextPacketID ctr).1 else m.p.pktid

/-- the counter after `Encode` -/
def encCtr (m : Msg) (ctr : Nat) : Nat := if draws m then (nextPacketID ctr).2 else ctr

/-- `Encode` has three outcomes that are one: it refuses a dirty object without topic; otherwise the object keeps
its fields up to ONE identifier (`encId`: its own, or one drawn from the counter), and exactly those fields go on
the wire, the identifier dropped at QoS 0 -/
theorem encode_eq (m : Msg) (ctr : Nat) :
    m.encode ctr =
      if m.dirty && m.p.topic.isEmpty then none
      else some (wire { m.p with pktid := encId m ctr }, ⟨{ m.p with pktid := encId m ctr }, m.dirty⟩, encCtr m ctr) := by
  obtain ⟨p, dirty⟩ := m
  unfold Msg.encode encId encCtr draws
  cases dirty with
  | false => rfl
  | true =>
    cases p.topic.isEmpty with
    | true => rfl
    | false =>
      cases hq : p.qos != 0 with
      | false => rfl
      | true =>
        cases p.pktid == 0 with
        | false => rfl
        | true =>
          have : (p.qos == 0) = false := by rw [bne, Bool.not_eq_true'] at hq; exact hq
          simp only [Bool.not_true, Bool.false_eq_true, ↓reduceIte, Bool.and_self, Bool.true_and, wire, this]

theorem wire_eq (p : Pub) : wire p = { p with pktid := if p.qos = 0 then 0 else p.pktid } := by
  unfold wire
  by_cases h : p.qos = 0 <;> simp [h]

theorem wire_pktid (p : Pub) : wire p = { p with pktid := (wire p).pktid } := by
  unfold wire; split <;> rfl

theorem draws_clean {m : Msg} (h : m.dirty = true → m.p.qos = 0 ∨ m.p.pktid ≠ 0) : draws m = false := by
  unfold draws
  cases hd : m.dirty
  · rfl
  · rcases h hd with h | h <;> simp [h]

/-- the identifier after `Encode`: one that the object has stays; one is drawn only for a dirty object, and is not 0 -/
theorem encId_spec (m : Msg) (ctr : Nat) :
    (m.p.pktid ≠ 0 ∨ m.dirty = false → encId m ctr = m.p.pktid) ∧ (m.dirty = true → m.p.qos ≠ 0 → encId m ctr ≠ 0) := by
  unfold encId draws
  cases hd : m.dirty <;> by_cases hq : m.p.qos = 0 <;> by_cases hp : m.p.pktid = 0 <;>
    simp [hq, hp, nextPacketID_ne_zero]

/-- the `svc.onpub` closure in closed form: a live connection is written the fields with RETAIN = 0 and the object
keeps its flag; otherwise (dead connection, or the encoder refuses) nothing is written and the flag stays cleared -/
theorem deliverConn_eq (b : B) (d : Nat) (m : Msg) :
    deliverConn b d m =
      if b.alive d && !(m.dirty && m.p.topic.isEmpty) then
        ({ b with ctr := encCtr m b.ctr }, ⟨{ m.p with pktid := encId m b.ctr }, m.dirty⟩,
          [.send d (.publish (wire { m.p with retain := false, pktid := encId m b.ctr }))])
      else (b, ⟨{ m.p with retain := false }, m.dirty⟩, []) := by
  obtain ⟨⟨dup, qos, retain, topic, pktid, payload⟩, dirty⟩ := m
  unfold deliverConn
  cases b.alive d with
  | false => cases retain <;> rfl
  | true =>
    cases retain <;> simp only [Bool.not_true, Bool.false_eq_true, ↓reduceIte, encode_eq, Bool.true_and] <;>
      cases dirty && topic.isEmpty <;> rfl

/-- a live connection is written to, whatever the message (if it has a topic: the encoder refuses none other) -/
theorem deliverConn_alive (b : B) (d : Nat) (m : Msg) (ha : b.alive d = true) (ht : m.p.topic ≠ []) :
    ∃ w, (deliverConn b d m).2.2 = [.send d (.publish w)] := by
  rw [deliverConn_eq, ha, List.isEmpty_eq_false_iff.mpr ht, Bool.and_false]
  exact ⟨_, rfl⟩

theorem setQoS_retain (m : Msg) (q : Nat) : (m.setQoS q).p.retain = m.p.retain := rfl

theorem loopMsg_eq (m : Msg) :
    (if m.p.retain then m.setRetain false else m) = ⟨{ m.p with retain := false }, m.dirty⟩ := by
  obtain ⟨⟨dup, qos, retain, topic, pktid, payload⟩, dirty⟩ := m
  cases retain <;> rfl

/-- `w` is `p` up to QoS, packet identifier and RETAIN: all the encoder and the subscriber loop ever change -/
structure Like (p w : Pub) : Prop where
  dup : w.dup = p.dup
  topic : w.topic = p.topic
  payload : w.payload = p.payload

theorem Like.refl (p : Pub) : Like p p := ⟨rfl, rfl, rfl⟩

theorem Like.trans {a b c : Pub} (h1 : Like a b) (h2 : Like b c) : Like a c :=
  ⟨h2.dup.trans h1.dup, h2.topic.trans h1.topic, h2.payload.trans h1.payload⟩

/-- what the subscriber loop hands out for a message with fields `p`: a connection is sent RETAIN = 0 in any
case, a callback is handed the object as it is -/
def Fwd (p : Pub) (o : Out) : Prop :=
  (∃ d w, o = .send d (.publish w) ∧ d < cbBase ∧ w.retain = false ∧ Like p w) ∨
  (∃ cb w, o = .call cb w ∧ cbBase ≤ cb ∧ (p.retain = false → w.retain = false) ∧ Like p w)

/-- the outputs of a fan-out: a PUBLISH with RETAIN = 0 to a connection, or a callback invocation -/
def fwdOk : Out → Bool
  | .send d (.publish w) => !w.retain && decide (d < cbBase)
  | .call cb _ => decide (cbBase ≤ cb)
  | _ => false

theorem Fwd.fwdOk {p : Pub} {o : Out} (h : Fwd p o) : fwdOk o = true := by
  rcases h with ⟨d, w, rfl, hd, hw, _⟩ | ⟨cb, w, rfl, hc, _, _⟩
  · simp [Broker.fwdOk, hw, hd]
  · simp [Broker.fwdOk, hc]

/-- what is handed out for the object as an earlier round of the loop left it, in terms of the original -/
theorem Fwd.of_like {p p' : Pub} {o : Out} (hl : Like p p') (hr : p.retain = false → p'.retain = false)
    (h : Fwd p' o) : Fwd p o :=
  h.imp (fun ⟨d, w, e, hd, hw, l⟩ => ⟨d, w, e, hd, hw, hl.trans l⟩)
    (fun ⟨cb, w, e, hc, hw, l⟩ => ⟨cb, w, e, hc, fun h => hw (hr h), hl.trans l⟩)

/-- one round of the subscriber loop (`r`, its result, is named so that the statement need not repeat it) -/
theorem fanoutStep_like (b : B) (m : Msg) (s eqos : Nat) :
    ∀ r, r = (if s < cbBase then deliverConn b s (m.setQoS eqos) else (b, m.setQoS eqos, [Out.call s (m.setQoS eqos).p])) →
      r.1 = { b with ctr := r.1.ctr } ∧ (∀ o ∈ r.2.2, Fwd m.p o) ∧ Like m.p r.2.1.p ∧
      (m.p.retain = false → r.2.1.p.retain = false) := by
  rintro r rfl
  split
  · -- the `svc.onpub` closure never sets the object's flag: it restores what it cleared, and only after a successful write
    rename_i hs
    rw [deliverConn_eq]
    split
    · refine ⟨rfl, fun o ho => .inl ⟨s, _, List.mem_singleton.mp ho, hs, ?_, ?_⟩, ⟨rfl, rfl, rfl⟩, id⟩ <;> rw [wire_pktid]
      exact ⟨rfl, rfl, rfl⟩
    · exact ⟨rfl, fun _ ho => (List.not_mem_nil ho).elim, ⟨rfl, rfl, rfl⟩, fun _ => rfl⟩
  · rename_i hs
    exact ⟨rfl, fun o ho => .inr ⟨s, _, List.mem_singleton.mp ho, Nat.le_of_not_lt hs, id, ⟨rfl, rfl, rfl⟩⟩, ⟨rfl, rfl, rfl⟩, id⟩

theorem fanout_like (subs : List (Nat × Nat)) : ∀ (b : B) (m : Msg),
    (fanout b m subs).1 = { b with ctr := (fanout b m subs).1.ctr } ∧
    (∀ o ∈ (fanout b m subs).2.2, Fwd m.p o) ∧ Like m.p (fanout b m subs).2.1.p ∧
    (m.p.retain = false → (fanout b m subs).2.1.p.retain = false) := by
  induction subs with
  | nil => intro b m; exact ⟨rfl, fun _ ho => (List.not_mem_nil ho).elim, .refl _, id⟩
  | cons sq rest ih =>
    intro b m
    obtain ⟨r1, r2, r3, r4⟩ := fanoutStep_like b m sq.1 sq.2 _ rfl
    unfold fanout
    simp only
    generalize (if sq.1 < cbBase then deliverConn b sq.1 (m.setQoS sq.2)
      else (b, m.setQoS sq.2, [Out.call sq.1 (m.setQoS sq.2).p])) = r at r1 r2 r3 r4 ⊢
    obtain ⟨g1, g2, g3, g4⟩ := ih r.1 r.2.1
    exact ⟨by rw [g1, r1], fun o ho => (List.mem_append.mp ho).elim (r2 o) fun h => (g2 o h).of_like r3 r4,
      r3.trans g3, fun hr => g4 (r4 hr)⟩

theorem fanoutLive_fst (b : B) (m : Msg) (subs : List (Nat × Nat)) :
    (fanoutLive b m subs).1 = (fanout b (if m.p.retain then m.setRetain false else m) subs).1 := rfl

theorem fanoutLive_like (subs : List (Nat × Nat)) (b : B) (m : Msg) :
    (fanoutLive b m subs).1 = { b with ctr := (fanoutLive b m subs).1.ctr } ∧
    (∀ o ∈ (fanoutLive b m subs).2.2, Fwd { m.p with retain := false } o) ∧
    Like m.p (fanoutLive b m subs).2.1.p ∧ (fanoutLive b m subs).2.1.p.retain = m.p.retain := by
  obtain ⟨⟨dup, qos, retain, topic, pktid, payload⟩, dirty⟩ := m
  obtain ⟨h1, h2, h3, h4⟩ := fanout_like subs b ⟨⟨dup, qos, false, topic, pktid, payload⟩, dirty⟩
  cases retain with
  | false => exact ⟨h1, h2, h3, h4 rfl⟩
  | true => exact ⟨h1, h2, ⟨h3.dup, h3.topic, h3.payload⟩, rfl⟩

theorem fanoutLive_state (subs : List (Nat × Nat)) (b : B) (m : Msg) :
    (fanoutLive b m subs).1.topics = b.topics ∧ (fanoutLive b m subs).1.conns = b.conns ∧
    (fanoutLive b m subs).1.sess = b.sess := by
  rw [(fanoutLive_like subs b m).1]
  exact ⟨rfl, rfl, rfl⟩

/-- the retain step hands the store ONE message, with fields `p`; `m'` is the object and `ctr` the counter afterwards.
`p` is the object's own fields, which the store does not keep (empty payload: a deletion; a topic `Retain` turns
away), or what the encoder made of them (`src`) -/
structure Stored (b : B) (m : Msg) (p : Pub) (m' : Msg) (ctr : Nat) : Prop where
  eq : retainStep b m = ({ b with topics := (b.topics.retain (toRMsg p)).1, ctr := ctr }, m')
  retain : m.p.retain = true
  fields : p = { m.p with pktid := p.pktid }
  obj : m'.p = { m.p with pktid := m'.p.pktid }
  clean : m.dirty = false → m' = m ∧ ctr = b.ctr
  src : (p = m.p ∧ m' = m ∧ (m.p.payload.isEmpty = true ∨ (Mqtt.Proofs.Topics.entryLevels m.p.topic).2 = false)) ∨
    m.encode b.ctr = some (p, m', ctr)

/-- nothing happens (RETAIN = 0), or the store is handed one message (the encoder cannot refuse: `checkTopic` has
turned an empty topic away before) -/
theorem retainStep_cases (b : B) (m : Msg) :
    (m.p.retain = false ∧ retainStep b m = (b, m)) ∨ ∃ (p : Pub) (m' : Msg) (ctr : Nat), Stored b m p m' ctr := by
  cases hr : m.p.retain with
  | false => exact .inl ⟨rfl, by unfold retainStep; rw [hr]; rfl⟩
  | true =>
    cases hpl : m.p.payload.isEmpty with
    | true =>
      exact .inr ⟨m.p, m, b.ctr, by unfold retainStep; rw [hr, hpl]; rfl, hr, rfl, rfl, fun _ => ⟨rfl, rfl⟩,
        .inl ⟨rfl, rfl, .inl hpl⟩⟩
    | false =>
      cases hbad : (Mqtt.Model.Topics.checkTopic m.p.topic || !(Mqtt.Model.Topics.levels m.p.topic).2) with
      | true =>
        refine .inr ⟨m.p, m, b.ctr, by unfold retainStep; rw [hr, hpl, hbad]; rfl, hr, rfl, rfl, fun _ => ⟨rfl, rfl⟩,
          .inl ⟨rfl, rfl, .inr ?_⟩⟩
        rw [Mqtt.Proofs.Topics.entryLevels_snd]
        simp only [Bool.or_eq_true, Bool.not_eq_true'] at hbad
        rcases hbad with h | h <;> simp [h]
      | false =>
        have he := encode_eq m b.ctr
        rw [(Bool.or_eq_false_iff.mp (Bool.or_eq_false_iff.mp hbad).1).1, Bool.and_false, if_neg Bool.false_ne_true] at he
        refine .inr ⟨wire { m.p with pktid := encId m b.ctr }, ⟨{ m.p with pktid := encId m b.ctr }, m.dirty⟩, encCtr m b.ctr,
          by unfold retainStep; rw [hr, hpl, hbad, he]; rfl, hr, by rw [wire_pktid], rfl, fun hd => ?_, .inr he⟩
        rw [encId, encCtr, draws_clean fun h => Bool.noConfusion (hd.symm.trans h)]
        exact ⟨rfl, rfl⟩

theorem retainStep_noretain (b : B) (m : Msg) (hr : m.p.retain = false) : retainStep b m = (b, m) := by
  unfold retainStep; simp [hr]

theorem retainStep_frame (b : B) (m : Msg) :
    (retainStep b m).1.topics.sroot = b.topics.sroot ∧ (retainStep b m).1.conns = b.conns ∧
    (retainStep b m).1.sess = b.sess ∧ (retainStep b m).1.store = b.store ∧
    (retainStep b m).1.nextRef = b.nextRef := by
  rcases retainStep_cases b m with ⟨_, h⟩ | ⟨p, m', ctr, h, _⟩ <;> rw [h]
  · exact ⟨rfl, rfl, rfl, rfl, rfl⟩
  · exact ⟨retain_sroot _ _, rfl, rfl, rfl, rfl⟩

theorem retainStep_msg (b : B) (m : Msg) :
    (retainStep b m).2.p.retain = m.p.retain ∧ (retainStep b m).2.p.topic = m.p.topic ∧
    (retainStep b m).2.p.payload = m.p.payload ∧ (retainStep b m).2.p.qos = m.p.qos ∧
    (retainStep b m).2.p.dup = m.p.dup := by
  rcases retainStep_cases b m with ⟨_, h⟩ | ⟨p, m', ctr, s⟩
  · rw [h]; exact ⟨rfl, rfl, rfl, rfl, rfl⟩
  · rw [s.eq]
    show m'.p.retain = _ ∧ m'.p.topic = _ ∧ m'.p.payload = _ ∧ m'.p.qos = _ ∧ m'.p.dup = _
    rw [s.obj]
    exact ⟨rfl, rfl, rfl, rfl, rfl⟩

theorem retainStep_clean (b : B) (m : Msg) (hd : m.dirty = false) :
    (retainStep b m).2 = m ∧ (retainStep b m).1.ctr = b.ctr := by
  rcases retainStep_cases b m with ⟨_, h⟩ | ⟨p, m', ctr, s⟩
  · rw [h]; exact ⟨rfl, rfl⟩
  · rw [s.eq]; exact s.clean hd

/-- `onPublish` once the two things every user works out first are said: the subscribers are looked up in the trie as
it was before the retain step, under the topic and QoS of the message as it came; and the loop runs over the object
the retain step left, RETAIN cleared, which gets the flag back afterwards -/
theorem onPublish_eq (b : B) (m : Msg) :
    onPublish b m =
      match b.topics.subscribers m.p.topic m.p.qos with
      | none => ((retainStep b m).1, (retainStep b m).2, [], false)
      | some subs =>
        let f := fanout (retainStep b m).1 ⟨{ (retainStep b m).2.p with retain := false }, (retainStep b m).2.dirty⟩ subs
        (f.1, if m.p.retain then f.2.1.setRetain true else f.2.1, f.2.2, true) := by
  obtain ⟨m1, m2, _, m4, _⟩ := retainStep_msg b m
  unfold onPublish fanoutLive
  simp only [loopMsg_eq]
  simp only [subscribers_congr (retainStep_frame b m).1, m1, m2, m4]
  cases b.topics.subscribers m.p.topic m.p.qos <;> rfl

theorem onPublish_like (b : B) (m : Msg) : ∀ o ∈ (onPublish b m).2.2.1, Fwd { m.p with retain := false } o := by
  obtain ⟨_, r2, r3, _, r5⟩ := retainStep_msg b m
  rw [onPublish_eq]
  split
  · exact fun _ ho => (List.not_mem_nil ho).elim
  · exact fun o ho => ((fanout_like _ _ _).2.1 o ho).of_like (p' := { (retainStep b m).2.p with retain := false })
      ⟨r5, r2, r3⟩ (fun _ => rfl)

theorem onPublish_topics (b : B) (m : Msg) : (onPublish b m).1.topics = (retainStep b m).1.topics := by
  rw [onPublish_eq]
  split
  · rfl
  · dsimp only; rw [(fanout_like _ _ _).1]

theorem onPublish_out (b : B) (m : Msg) : ∀ o ∈ (onPublish b m).2.2.1, fwdOk o = true :=
  fun o ho => (onPublish_like b m o ho).fwdOk

/-! Each lemma of this section says of one operation: a predicate that holds of what the operation can
emit - every live forward, every packet other than PUBLISH written to the connection, the close, ... -
holds of all it does emit. -/

section outs
variable (Q : Out → Prop) (hpub : ∀ b m, ∀ o ∈ (onPublish b m).2.2.1, Q o)
include hpub

theorem releaseAll_out (l : List QEntry) : ∀ b : B, ∀ o ∈ (releaseAll b l).2, Q o := by
  induction l with
  | nil => exact fun _ _ ho => (List.not_mem_nil ho).elim
  | cons e rest ih =>
    intro b
    unfold releaseAll
    exact List.forall_mem_append.mpr ⟨hpub _ _, ih _⟩

theorem stop_out (b : B) (c : Nat) (hclosed : Q (.closed c)) : ∀ o ∈ (stop b c).2, Q o := by
  have h1 : ∀ o ∈ [Out.closed c], Q o := fun o ho => List.mem_singleton.mp ho ▸ hclosed
  rcases stop_cases b c with ⟨_, h⟩ | h | ⟨cn, s, hc, ha, hs⟩
  · rw [h]; exact fun _ ho => (List.not_mem_nil ho).elim
  · rw [h]; exact h1
  · rw [BrokerLife.stop_live b c cn s hc ha hs]
    split
    · split
      · exact h1
      · exact List.forall_mem_cons.mpr ⟨hclosed, hpub _ _⟩
    · exact h1

end outs

/-- What a packet emits.  The outputs of `onPublish` have to be looked at only for the packets that hand a
message over (`quietEv` false: a QoS 0/1 PUBLISH, a PUBREL; a DISCONNECT clears the will flag before it ends the
connection); `hret`: the PUBLISHes of the retained delivery, which only a SUBSCRIBE causes. -/
theorem packet_out (Q : Out → Prop) (b : B) (c : Nat) (p : Packet)
    (hpub : BrokerIso.quietEv (.packet c p) = false → ∀ b m, ∀ o ∈ (onPublish b m).2.2.1, Q o)
    (hclosed : Q (.closed c)) (hsend : ∀ q, (∀ w, q ≠ .publish w) → Q (.send c q))
    (hret : (∃ id ts, p = .subscribe id ts) → ∀ w, Q (.send c (.publish w))) : ∀ o ∈ (packet b c p).2, Q o := by
  have hs1 : ∀ b q, (∀ w, q ≠ .publish w) → ∀ o ∈ send b c q, Q o := by
    intro b q hq o ho
    unfold send at ho
    split at ho
    · exact List.mem_singleton.mp ho ▸ hsend q hq
    · cases ho
  rcases packet_cases b c p with h0 | ⟨cn, s, hc, ha, hs, h1⟩
  · rw [h0]; exact fun _ ho => nomatch ho
  cases p with
  | publish pub =>
    rw [h1]
    simp only [BrokerLife.served]
    cases h2 : pub.qos == 2
    · cases pub.qos == 1
      · exact hpub h2 _ _
      · exact List.forall_mem_append.mpr ⟨hs1 _ _ (fun _ h => Packet.noConfusion h), hpub h2 _ _⟩
    · exact hs1 _ _ (fun _ h => Packet.noConfusion h)
  | pubrel id =>
    rw [h1]
    exact List.forall_mem_append.mpr ⟨releaseAll_out Q (hpub rfl) _ _, hs1 _ _ (fun _ h => Packet.noConfusion h)⟩
  | subscribe id ts =>
    rw [h1]
    refine List.forall_mem_append.mpr ⟨hs1 _ _ (fun _ h => Packet.noConfusion h), fun o ho => ?_⟩
    have := sendRetained_out c _ _ o ho
    unfold isPublishTo at this
    split at this
    · rw [beq_iff_eq.mp this]; exact hret ⟨id, ts, rfl⟩ _
    · cases this
  | unsubscribe id ts => rw [h1]; exact hs1 _ _ (fun _ h => Packet.noConfusion h)
  | disconnect => rw [BrokerLife.packet_disconnect b c cn s hc ha hs]; exact fun o ho => List.mem_singleton.mp ho ▸ hclosed
  | pubrec id => rw [h1]; exact hs1 _ _ (fun _ h => Packet.noConfusion h)
  | pingreq => rw [h1]; exact hs1 _ _ (fun _ h => Packet.noConfusion h)
  | _ => rw [h1]; exact fun _ ho => nomatch ho

/-- `hcall`: the invocations of the retained delivery, which only the in-process `Subscribe` causes -/
theorem srvSub_out (Q : Out → Prop) (b : B) (cb : Nat) (f : Bytes) (q : Nat) (herr : Q .apiErr) (hcall : ∀ w, Q (.call cb w)) :
    ∀ o ∈ (srvSub b cb f q).2, Q o := by
  unfold srvSub
  split
  · exact fun o ho => List.mem_singleton.mp ho ▸ herr
  · intro o ho
    obtain ⟨w, _, rfl⟩ := List.mem_map.mp ho
    exact hcall w

/-- a SUBSCRIBE packet (whose retained delivery legitimately carries RETAIN = 1) -/
def isSubscribeEv : Ev → Bool
  | .packet _ (.subscribe _ _) => true
  | _ => false

/-- the in-process `Subscribe` (whose retained delivery legitimately carries RETAIN = 1) -/
def isSrvSubEv : Ev → Bool
  | .srvSub _ _ _ => true
  | _ => false

theorem step_out (Q : Out → Prop) (b : B) (e : Ev) (hpub : ∀ b m, ∀ o ∈ (onPublish b m).2.2.1, Q o)
    (hclosed : ∀ c, Q (.closed c)) (hsend : ∀ c q, (∀ w, q ≠ .publish w) → Q (.send c q)) (herr : Q .apiErr)
    (hret : isSubscribeEv e = true → ∀ c w, Q (.send c (.publish w)))
    (hcall : isSrvSubEv e = true → ∀ cb w, Q (.call cb w)) : ∀ o ∈ (step b e).2, Q o := by
  cases e with
  | first c f a =>
    refine Mqtt.Proofs.Connect.connect_out Q (fun b c => stop_out Q hpub b c (hclosed c)) (fun b c f a o ho => ?_) b c f a
    have hk := fun sp k => hsend c (.connack sp k) (fun _ h => Packet.noConfusion h)
    rcases BrokerLife.first_cases c f a with ⟨_, _, h1, rfl | ⟨k, _, rfl⟩⟩ | ⟨req, _, _, h1⟩ <;> rw [h1] at ho
    · exact List.mem_singleton.mp ho ▸ hclosed c
    · exact List.forall_mem_cons.mpr ⟨hk false k, fun o ho => List.mem_singleton.mp ho ▸ hclosed c⟩ o ho
    · exact List.mem_singleton.mp ho ▸ hk _ 0
  | packet c p =>
    exact packet_out Q b c p (fun _ => hpub) (hclosed c) (hsend c) (fun ⟨id, ts, h⟩ => hret (h ▸ rfl) c)
  | close c => exact stop_out Q hpub b c (hclosed c)
  | srvPub p =>
    unfold step srvPub
    simp only
    split
    · exact hpub _ _
    · exact List.forall_mem_append.mpr ⟨hpub _ _, fun o ho => List.mem_singleton.mp ho ▸ herr⟩
  | srvSub cb f q => exact srvSub_out Q b cb f q herr (hcall rfl cb)
  | srvUnsub cb f =>
    unfold step srvUnsub
    simp only
    split
    · exact fun _ ho => (List.not_mem_nil ho).elim
    · exact fun o ho => List.mem_singleton.mp ho ▸ herr

end Mqtt.Proofs.Broker
