/-
The reference broker (`Spec/Broker.lean`, written from MQTT 3.1.1) keeps the open
inbound QoS 2 exchanges of a connection as `open2 : List (id, PUBREL seen, first
PUBLISH)`.  Under `toOpen2` the model's list operations are the reference
broker's: same registration rule, same marking, same released prefix.
-/
import Mqtt.Proofs.BrokerQosInv
import Mqtt.Spec.Broker

namespace Mqtt.Proofs.BrokerQos
open Mqtt.Iface.Broker Mqtt.Model.Broker
open Mqtt.Generated (tPUBREL)

/-- the reference broker's view of an inbound QoS 2 queue -/
def toOpen2 (q : List QEntry) : List (Nat × Bool × Pub) :=
  q.map (fun e => (e.id, e.state == tPUBREL, e.msg))

theorem open2_wait (q : List QEntry) (p : Pub) :
    (if (toOpen2 q).any (fun e => e.1 == p.pktid) then toOpen2 q else toOpen2 q ++ [(p.pktid, false, p)]) =
      toOpen2 (q2Wait q p) := by
  unfold toOpen2 q2Wait
  rw [List.any_map]
  show (if (q.any fun e => e.id == p.pktid) = true then _ else _) = _
  split
  · rfl
  · rw [List.map_append]; rfl

theorem open2_mark (q : List QEntry) (id : Nat) :
    (toOpen2 q).map (fun e => if e.1 == id then (e.1, true, e.2.2) else e) = toOpen2 (q2Ack q id) := by
  unfold toOpen2 q2Ack
  rw [List.map_map, List.map_map]
  apply List.map_congr_left
  intro e _
  simp only [Function.comp_apply]
  split <;> simp

theorem open2_release (q : List QEntry) :
    (toOpen2 q).takeWhile (fun e => e.2.1) = toOpen2 (q2Acked q).2 ∧
    (toOpen2 q).dropWhile (fun e => e.2.1) = toOpen2 (q2Acked q).1 :=
  ⟨List.takeWhile_map, List.dropWhile_map⟩

open Mqtt.Spec.Broker in
theorem spec_getConn_setConn (s : S) (cn : Spec.Broker.Conn) :
    getConn (setConn s cn) cn.id = some cn := by
  unfold getConn setConn
  rw [List.find?_append, List.find?_filter_key_self Spec.Broker.Conn.id, List.find?_singleton, if_pos (beq_self_eq_true cn.id)]
  rfl

open Mqtt.Spec.Broker in
theorem spec_getConn_id {s : S} {c : Nat} {cn : Spec.Broker.Conn} (h : getConn s c = some cn) : cn.id = c :=
  List.key_of_find? Spec.Broker.Conn.id h

/-- the reference broker's hand-overs of a list of contents, in order -/
def specReleaseAll (s : Spec.Broker.S) : List Pub → Spec.Broker.S × List Spec.Broker.SOut
  | [] => (s, [])
  | p :: rest =>
    let (s1, o1) := Spec.Broker.accept s p
    let (s2, o2) := specReleaseAll s1 rest
    (s2, o1 ++ o2)

open Mqtt.Spec.Broker in
theorem spec_foldl_release (l : List (Nat × Bool × Pub)) (s : S) (acc : List SOut) :
    l.foldl (fun (a : S × List SOut) e =>
        let (s', o') := accept a.1 e.2.2
        (s', a.2 ++ o')) (s, acc) =
      ((specReleaseAll s (l.map (·.2.2))).1, acc ++ (specReleaseAll s (l.map (·.2.2))).2) := by
  induction l generalizing s acc with
  | nil => simp [specReleaseAll]
  | cons e rest ih =>
    simp only [List.foldl_cons, List.map_cons, specReleaseAll]
    rw [ih]
    simp [List.append_assoc]

open Mqtt.Spec.Broker in
theorem spec_accept_conns (s : S) (p : Pub) : (accept s p).1.conns = s.conns := by
  unfold accept Spec.Broker.retainStep
  simp only
  split
  · rfl
  · split <;> rfl

open Mqtt.Spec.Broker in
theorem specReleaseAll_conns (s : S) (l : List Pub) : (specReleaseAll s l).1.conns = s.conns := by
  induction l generalizing s with
  | nil => rfl
  | cons p rest ih =>
    simp only [specReleaseAll]
    rw [ih, spec_accept_conns]

theorem toOpen2_msgs (q : List QEntry) : (toOpen2 q).map (·.2.2) = q.map (·.msg) := by
  simp [toOpen2, List.map_map, Function.comp_def]

open Mqtt.Spec.Broker in
theorem spec_publish2 (s : S) (c : Nat) (cn : Spec.Broker.Conn) (q : List QEntry) (p : Pub)
    (hc : getConn s c = some cn) (ho : cn.open2 = toOpen2 q) (hq : p.qos = 2) :
    (step1 s (.packet c (.publish p))).2 = [.send c (.pubrec p.pktid)] ∧
    ∃ cn', getConn (step1 s (.packet c (.publish p))).1 c = some cn' ∧ cn'.open2 = toOpen2 (q2Wait q p) := by
  simp only [step1, hc, hq, Nat.reduceBEq, Bool.false_eq_true, ↓reduceIte]
  obtain rfl := spec_getConn_id hc
  refine ⟨trivial, _, spec_getConn_setConn s _, ?_⟩
  rw [← open2_wait, ← ho]

open Mqtt.Spec.Broker in
theorem spec_pubrel (s : S) (c : Nat) (cn : Spec.Broker.Conn) (q : List QEntry) (id : Nat)
    (hc : getConn s c = some cn) (ho : cn.open2 = toOpen2 q) :
    (step1 s (.packet c (.pubrel id))).2 =
      (specReleaseAll (setConn s { cn with open2 := toOpen2 (q2Acked (q2Ack q id)).1 })
        ((q2Acked (q2Ack q id)).2.map (·.msg))).2 ++ [.send c (.pubcomp id)] ∧
    ∃ cn', getConn (step1 s (.packet c (.pubrel id))).1 c = some cn' ∧
      cn'.open2 = toOpen2 (q2Acked (q2Ack q id)).1 := by
  simp only [step1, hc]
  rw [ho, open2_mark, (open2_release _).1, (open2_release _).2, spec_foldl_release, toOpen2_msgs]
  refine ⟨List.nil_append _ ▸ rfl, { cn with open2 := toOpen2 (q2Acked (q2Ack q id)).1 }, ?_, rfl⟩
  obtain rfl := spec_getConn_id hc
  have h := spec_getConn_setConn s { cn with open2 := toOpen2 (q2Acked (q2Ack q id)).1 }
  unfold getConn at h ⊢
  rw [specReleaseAll_conns]
  exact h

end Mqtt.Proofs.BrokerQos
