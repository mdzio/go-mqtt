/-
Tie of the translated standard-library function `encoding/binary.PutUvarint`
(`Mqtt.Generated.Xlate.Binary.PutUvarint`, from `$GOROOT/src/encoding/binary/varint.go`)
to the hand-written model `Mqtt.Model.Codec.putUvarint` (the bytes written).

On a buffer that is long enough it writes the model's bytes over the front and returns their number; on a
shorter one it panics (the Go index panic that `Hdr.encode` of the model represents by `.panic`).  Iteration
budget 10 (`putUvarint_fuel_nine`: 9 is too little).
-/
import Mqtt.Proofs.XlateBasic
import Mqtt.Proofs.CodecBasic

namespace Mqtt.Proofs.XlatePutUvarint

open Mqtt.Generated.Xlate
open Mqtt.Model.Codec
open Mqtt.Proofs.Xlate (set_mid)
open Mqtt.Proofs.Codec (putUvarintAux_small putUvarintAux_big putUvarintAux_length_pos putUvarintAux_length_le)

private theorem or128_nat : ∀ n : Nat, n < 256 → (n ||| 128) = n % 128 + 128 := by
  decide +kernel

/-- the continuation byte: `byte(x) | 0x80` is `x % 128 + 128` -/
theorem cont_byte (x : UInt64) :
    x.toUInt8 ||| (128 : UInt8) = UInt8.ofNat (x.toNat % 128 + 128) := by
  apply UInt8.toNat_inj.mp
  rw [UInt8.toNat_or, UInt64.toNat_toUInt8, UInt8.toNat_ofNat']
  show x.toNat % 256 ||| 128 = (x.toNat % 128 + 128) % 256
  rw [or128_nat (x.toNat % 256) (Nat.mod_lt _ (by decide))]
  omega

/-- the last byte: `byte(x)` is `UInt8.ofNat x` -/
theorem last_byte (x : UInt64) : x.toUInt8 = UInt8.ofNat x.toNat := by
  apply UInt8.toNat_inj.mp
  rw [UInt64.toNat_toUInt8, UInt8.toNat_ofNat']

theorem shift7 (x : UInt64) : (x >>> (7 : UInt64)).toNat = x.toNat / 128 := by
  rw [UInt64.toNat_shiftRight, Nat.shiftRight_eq_div_pow]
  rfl

theorem ge128 (x : UInt64) : (x ≥ (128 : UInt64)) ↔ x.toNat ≥ 128 := UInt64.le_iff_toNat_le

/-- loop invariant: with `pre` already written (`i = pre.length`) the loop writes the model's bytes for `x`
over the front of `rest`, or panics on the index when `rest` is too short for them -/
theorem loop_eq (m : Nat) : ∀ (x : UInt64) (pre rest : List UInt8) (fuel : Nat),
    x.toNat < 128 ^ (m + 1) → m + 1 ≤ fuel →
    Binary.PutUvarint.loop1 fuel (pre ++ rest) x pre.length =
      if rest.length < (putUvarintAux m x.toNat).length then .panic
      else .ok (pre ++ (putUvarintAux m x.toNat ++ rest.drop (putUvarintAux m x.toNat).length),
                pre.length + (putUvarintAux m x.toNat).length) := by
  induction m with
  | zero =>
    intro x pre rest fuel hx hf
    obtain ⟨f, rfl⟩ : ∃ f, fuel = f + 1 := ⟨fuel - 1, by omega⟩
    rw [Binary.PutUvarint.loop1, if_neg (by rw [decide_eq_true_eq, ge128]; omega), last_byte]
    cases rest with
    | nil => rw [if_neg (by rw [decide_eq_true_eq, List.append_nil]; exact Nat.lt_irrefl _)]; rfl
    | cons r rest =>
      rw [if_pos (by rw [decide_eq_true_eq, List.length_append]; exact Nat.lt_add_of_pos_right (Nat.succ_pos _)),
        set_mid]
      rfl
  | succ m ih =>
    intro x pre rest fuel hx hf
    obtain ⟨f, rfl⟩ : ∃ f, fuel = f + 1 := ⟨fuel - 1, by omega⟩
    rw [Binary.PutUvarint.loop1]
    cases rest with
    | nil =>
      have hn : ¬ decide (pre.length < (pre ++ []).length) = true := by
        rw [decide_eq_true_eq, List.append_nil]; exact Nat.lt_irrefl _
      rw [if_neg hn, if_neg hn, ite_self,
        if_pos (show ([] : List UInt8).length < _ from putUvarintAux_length_pos (m + 1) x.toNat)]
    | cons r rest =>
      have hi : decide (pre.length < (pre ++ r :: rest).length) = true := by
        rw [decide_eq_true_eq, List.length_append]; exact Nat.lt_add_of_pos_right (Nat.succ_pos _)
      rw [if_pos hi, if_pos hi]
      by_cases hx' : x.toNat ≥ 128
      · have hx2 : (x >>> (7 : UInt64)).toNat < 128 ^ (m + 1) := by
          rw [shift7]; rw [Nat.pow_succ] at hx; omega
        have := ih (x >>> (7 : UInt64)) (pre ++ [UInt8.ofNat (x.toNat % 128 + 128)]) rest f hx2 (by omega)
        rw [List.append_assoc, List.length_append, shift7] at this
        rw [if_pos (by rw [decide_eq_true_eq, ge128]; exact hx'), cont_byte, set_mid, putUvarintAux_big _ _ hx']
        show Binary.PutUvarint.loop1 f (pre ++ ([_] ++ rest)) _ (pre.length + [UInt8.ofNat (x.toNat % 128 + 128)].length) = _
        rw [this]
        simp only [List.length_cons, List.length_nil, Nat.add_lt_add_iff_right, List.drop_succ_cons]
        split
        · rfl
        · rw [List.append_assoc, Nat.add_assoc, Nat.zero_add, Nat.add_comm 1]; rfl
      · rw [if_neg (by rw [decide_eq_true_eq, ge128]; exact hx'), last_byte, set_mid, putUvarintAux_small _ _ (by omega)]
        rfl

theorem toNat_lt_pow (x : UInt64) : x.toNat < 128 ^ (9 + 1) := by
  have := x.toNat_lt
  omega

/-- every outcome of `binary.PutUvarint` with `fuel ≥ 10` -/
theorem putUvarint_eq (buf : List UInt8) (x : UInt64) (fuel : Nat) (hf : 10 ≤ fuel) :
    Binary.PutUvarint fuel buf x =
      if buf.length < (putUvarint x.toNat).length then .panic
      else .ok (putUvarint x.toNat ++ buf.drop (putUvarint x.toNat).length,
                (putUvarint x.toNat).length) :=
  (loop_eq 9 x [] buf fuel (toNat_lt_pow x) hf).trans (by rw [List.nil_append, List.length_nil, Nat.zero_add]; rfl)

theorem putUvarint_length (x : UInt64) :
    1 ≤ (putUvarint x.toNat).length ∧ (putUvarint x.toNat).length ≤ 10 :=
  ⟨putUvarintAux_length_pos 9 x.toNat, putUvarintAux_length_le 9 x.toNat⟩

/-- the MQTT remaining length (at most 268435455) takes at most four bytes -/
theorem putUvarint_length_le_four (x : Nat) (hx : x ≤ 268435455) :
    (putUvarint x).length ≤ 4 := by
  rw [Mqtt.Proofs.Codec.putUvarint_eq_varint x (by omega)]
  exact (Mqtt.Proofs.Codec.varint_len_bounds x).2

theorem putUvarint_never_fuel (buf : List UInt8) (x : UInt64) (fuel : Nat) (hf : 10 ≤ fuel) :
    Binary.PutUvarint fuel buf x ≠ .fuel := by
  rw [putUvarint_eq buf x fuel hf]
  split <;> exact fun h => nomatch h

/-- 10 is the least budget: with 9 the largest `uint64` runs out of fuel -/
theorem putUvarint_fuel_nine :
    Binary.PutUvarint 9 (List.replicate 10 0) (18446744073709551615 : UInt64) = .fuel := by
  decide

end Mqtt.Proofs.XlatePutUvarint
