/-
C17, wrap path — the tie of the model's `ringPut` to the regenerated translation of `service.ringCopy`.
Imported by `Properties/C17Source.lean` and by nothing else (BUILDING.md, "Source-tie modules");
`Proofs/WriteWrapRing.lean` is model side only.
-/
import Mqtt.Proofs.WriteWrapRing
import Mqtt.Proofs.XlateRingCopy

namespace Mqtt.Proofs.WriteWrap
open Mqtt.Model.WriteWrap
open Mqtt.Generated.Xlate

/-- what `service.ringCopy(ring, src, pos & mask)` — the translation of the Go function,
regenerated on every check — returns is the model's `ringPut`, for every loop budget ≥ 3 -/
theorem ringPut_is_source (fuel : Nat) (hf : 3 ≤ fuel) (size : Nat) (hsz : 0 < size)
    (ring src : List UInt8) (pos : Nat) (hlen : ring.length = size) (hS : src.length ≤ size) :
    Service.ringCopy fuel ring src ((pos % size : Nat) : Int) =
      Res.ok (ringPut ring src (pos % size), src.length) := by
  subst hlen
  exact Mqtt.Proofs.XlateRingCopy.ringCopy_eq fuel hf ring src _ hS (Nat.le_of_lt (Nat.mod_lt _ hsz))

end Mqtt.Proofs.WriteWrap
