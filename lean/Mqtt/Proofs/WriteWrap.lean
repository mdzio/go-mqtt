/-
C17, wrap path — `writeMessage` (both branches, scratch buffer included) run by any number of
goroutines under `wmu` against a ring of `size` cells with one consumer (`Model/WriteWrap.lean`,
shape `code`): the assertions of a delivery by program counter and what one step does to them
(`pcStep_ok`), the invariant of the whole program (`Inv`), and that the contents of the scratch
buffer never show (`EqvSt`; the buffers themselves may differ for ever: their lengths record the
growth history).
-/
import Mqtt.Proofs.WriteWrapRing
import Mqtt.Proofs.WriteThreads

namespace Mqtt.Proofs.WriteWrap
open Mqtt.Model.WriteWrap Mqtt.Proofs.WriteThreads

/-- what `waitForWriteSpace` established; stays true while the consumer advances -/
def Fits (size : Nat) (sh : Sh) (m : List UInt8) : Prop :=
  m.length ≤ size ∧ sh.pseq + m.length ≤ sh.cseq + size

/-- what holds at program counter `pc` of a delivery of `m` under `wmu` -/
def PcOk (size : Nat) (sh : Sh) (m : List UInt8) : PC → Prop
  | .idle => False
  | .entered => True
  | .reserved st => st = sh.pseq ∧ Fits size sh m ∧ sh.pseq % size + m.length ≤ size
  | .encoded st => st = sh.pseq ∧ Fits size sh m ∧ readRing sh.ring size sh.pseq m.length = m
  | .commit st2 => st2 = sh.pseq ∧ Fits size sh m ∧ readRing sh.ring size sh.pseq m.length = m
  | .wrapped => Fits size sh m
  | .grown => Fits size sh m ∧ m.length ≤ sh.outtmp.length
  | .tmpEncoded n => n = m.length ∧ Fits size sh m ∧ sh.outtmp.take m.length = m
  | .copying st2 len => st2 = sh.pseq ∧ len = m.length ∧ Fits size sh m ∧ sh.outtmp.take m.length = m
  | .copied st2 len => st2 = sh.pseq ∧ len = m.length ∧ Fits size sh m ∧
      readRing sh.ring size sh.pseq m.length = m

/-- ring-level invariant; `D` = concatenation of the packets committed so far -/
structure ShOk (size : Nat) (sh : Sh) (D : List UInt8) : Prop where
  ringlen : sh.ring.length = size
  le      : sh.cseq ≤ sh.pseq
  room    : sh.pseq ≤ sh.cseq + size
  pseq    : sh.pseq = D.length
  stream  : sh.got ++ readRing sh.ring size sh.cseq (sh.pseq - sh.cseq) = D

namespace PcOk
theorem not_idle {size sh m pc} (h : PcOk size sh m pc) : pc ≠ .idle := by
  intro c; subst c; exact h

/-- past `WriteWait` the packet in hand fits -/
theorem fits {size sh m pc} (h : PcOk size sh m pc) (hpc : pc ≠ .entered) : Fits size sh m := by
  cases pc with
  | idle => exact h.elim
  | entered => exact absurd rfl hpc
  | reserved _ | encoded _ | commit _ | tmpEncoded _ => exact h.2.1
  | wrapped => exact h
  | grown => exact h.1
  | copying _ _ | copied _ _ => exact h.2.2.1
end PcOk

/-- how far a delivery has got -/
def rank : PC → Nat
  | .idle => 0 | .entered => 1 | .reserved _ => 2 | .encoded _ => 3 | .commit _ => 4
  | .wrapped => 2 | .grown => 3 | .tmpEncoded _ => 4 | .copying _ _ => 5 | .copied _ _ => 6

variable {size : Nat} {sh : Sh} {D m : List UInt8}

/-! `WriteCommit` and `Write` ask `waitForWriteSpace` again; under `Fits` the answer is known.  `Encode`
into a slice that does not reach the end of the ring is the copy `Write` makes.  At `commit` and
`copied` the step function has no test and reduces by itself. -/

theorem pcStep_entered : pcStep code size sh m .entered =
    if size < m.length then .ret false sh
    else if sh.cseq + size < sh.pseq + m.length then .blocked
    else .goto (if size < sh.pseq % size + m.length then .wrapped else .reserved sh.pseq) sh := by
  -- `.goto · sh` pushed into the last `if` of the right-hand side: the two sides then agree by unfolding
  rw [apply_ite (Out.goto · sh)]
  rfl

theorem pcStep_reserved (hl : sh.ring.length = size) {st : Nat} (h : st % size + m.length ≤ size) :
    pcStep code size sh m (.reserved st) =
      .goto (.encoded st) { sh with ring := ringPut sh.ring m (st % size) } := by
  rw [← encodeAt_eq_ringPut _ _ _ (hl ▸ h)]
  rfl

theorem pcStep_encoded (hF : Fits size sh m) (st : Nat) :
    pcStep code size sh m (.encoded st) = .goto (.commit sh.pseq) sh :=
  (if_neg (Nat.not_lt.mpr hF.1)).trans (if_neg (Nat.not_lt.mpr hF.2))

theorem pcStep_wrapped : pcStep code size sh m .wrapped = .goto .grown
    { sh with outtmp := if sh.outtmp.length < m.length then List.replicate m.length 0 else sh.outtmp } := by
  by_cases h : sh.outtmp.length < m.length
  · rw [if_pos h]; exact if_pos (decide_eq_true h)
  · rw [if_neg h]; exact if_neg fun c => h (of_decide_eq_true c)

theorem pcStep_grown (h : m.length ≤ sh.outtmp.length) : pcStep code size sh m .grown =
    .goto (.tmpEncoded m.length) { sh with outtmp := m ++ sh.outtmp.drop m.length } :=
  if_neg (Nat.not_lt.mpr h)

theorem pcStep_tmpEncoded (hF : Fits size sh m) :
    pcStep code size sh m (.tmpEncoded m.length) = .goto (.copying sh.pseq m.length) sh :=
  (if_neg (Nat.not_lt.mpr hF.1)).trans (if_neg (Nat.not_lt.mpr hF.2))

theorem pcStep_copying (h : sh.outtmp.take m.length = m) (st : Nat) :
    pcStep code size sh m (.copying st m.length) =
      .goto (.copied st m.length) { sh with ring := ringPut sh.ring m (st % size) } :=
  congrArg (fun x => Out.goto (.copied st m.length) { sh with ring := ringPut sh.ring x (st % size) }) h

/-- a producer's step from `sh` to `sh'` that the consumer need not know of -/
structure Safe (size : Nat) (sh sh' : Sh) : Prop where
  cseq    : sh'.cseq = sh.cseq
  pseq    : sh.pseq ≤ sh'.pseq
  got     : sh'.got = sh.got
  ringlen : sh'.ring.length = sh.ring.length
  /-- every cell that holds a committed, not yet consumed byte is left as it is -/
  cells   : ∀ pos, sh.cseq ≤ pos → pos < sh.pseq → sh'.ring[pos % size]? = sh.ring[pos % size]?

namespace Safe

theorem of_ring_eq {sh' : Sh} (hc : sh'.cseq = sh.cseq) (hp : sh.pseq ≤ sh'.pseq)
    (hg : sh'.got = sh.got) (hr : sh'.ring = sh.ring) : Safe size sh sh' :=
  ⟨hc, hp, hg, by rw [hr], fun _ _ _ => by rw [hr]⟩

theorem refl (sh : Sh) : Safe size sh sh := of_ring_eq rfl (Nat.le_refl _) rfl rfl

theorem unread {sh' : Sh} (h : Safe size sh sh') :
    readRing sh'.ring size sh.cseq (sh.pseq - sh.cseq) = readRing sh.ring size sh.cseq (sh.pseq - sh.cseq) :=
  readRing_congr _ _ _ _ _ fun _ hi => h.cells _ (Nat.le_add_right _ _) (Nat.add_lt_of_lt_sub' hi)

end Safe

namespace ShOk

theorem tmp (hS : ShOk size sh D) (o : List UInt8) :
    ShOk size { sh with outtmp := o } D ∧ Safe size sh { sh with outtmp := o } :=
  ⟨⟨hS.ringlen, hS.le, hS.room, hS.pseq, hS.stream⟩, .of_ring_eq rfl (Nat.le_refl _) rfl rfl⟩

theorem cseq_eq (hS : ShOk size sh D) : sh.cseq = sh.got.length := by
  have hl := congrArg List.length hS.stream
  rw [List.length_append, readRing_length, ← hS.pseq] at hl
  exact (Nat.add_right_cancel (hl.trans (Nat.add_sub_cancel' hS.le).symm)).symm

/-- the cursor store: the packet just written joins the committed stream -/
theorem commit (hS : ShOk size sh D) (hF : Fits size sh m)
    (hb : readRing sh.ring size sh.pseq m.length = m) :
    ShOk size { sh with pseq := sh.pseq + m.length } (D ++ m) := by
  refine ⟨hS.ringlen, Nat.le_trans hS.le (Nat.le_add_right _ _), hF.2, ?_, ?_⟩
  · show sh.pseq + m.length = (D ++ m).length
    rw [List.length_append, hS.pseq]
  · show sh.got ++ readRing sh.ring size sh.cseq (sh.pseq + m.length - sh.cseq) = D ++ m
    rw [readRing_split _ _ hS.le (Nat.le_add_right _ _), Nat.add_sub_cancel_left, hb,
      ← List.append_assoc, hS.stream]

end ShOk

theorem put_ok (hsz : 0 < size) (hS : ShOk size sh D) (hF : Fits size sh m) :
    let sh' := { sh with ring := ringPut sh.ring m (sh.pseq % size) }
    ShOk size sh' D ∧ Safe size sh sh' ∧ readRing sh'.ring size sh.pseq m.length = m := by
  intro sh'
  have hl := (ringPut_spec size hsz sh.ring m sh.pseq hS.ringlen hF.1).1
  have hs : Safe size sh sh' := ⟨rfl, Nat.le_refl _, rfl, hl.trans hS.ringlen.symm, fun pos h1 h2 =>
    ringPut_other size hsz sh.ring m sh.pseq pos hS.ringlen hF.1 h2
      (Nat.le_trans hF.2 (Nat.add_le_add_right h1 size))⟩
  exact ⟨⟨hl, hS.le, hS.room, hS.pseq, (congrArg _ hs.unread).trans hS.stream⟩, hs,
    readRing_ringPut_same size hsz sh.ring m sh.pseq hS.ringlen hF.1⟩

/-- By outcome.  A delivery waits only in `WriteWait`, only for a packet that fits into the ring,
and then there are unread bytes for the consumer to take; the call returns an error exactly for a
packet longer than the ring.  A step that goes on raises `rank` by one (the measure of
`Proofs/WriteWrapProgress.lean` counts on it) and establishes the assertion of the next program counter. -/
def StepOk (size : Nat) (sh : Sh) (D m : List UInt8) (pc : PC) : Out → Prop
  | .blocked => pc = .entered ∧ m.length ≤ size ∧ sh.cseq < sh.pseq
  | .goto pc' sh' => rank pc' = rank pc + 1 ∧ ShOk size sh' D ∧ PcOk size sh' m pc' ∧ Safe size sh sh'
  | .ret ok sh' =>
    (ok = true ↔ m.length ≤ size) ∧ ShOk size sh' (D ++ if ok then m else []) ∧ Safe size sh sh'

theorem pcStep_ok (hsz : 0 < size) {pc : PC} (hS : ShOk size sh D) (hP : PcOk size sh m pc) :
    StepOk size sh D m pc (pcStep code size sh m pc) := by
  have hcommit : Fits size sh m → readRing sh.ring size sh.pseq m.length = m →
      StepOk size sh D m pc (.ret true { sh with pseq := sh.pseq + m.length }) := fun hF hb =>
    ⟨iff_of_true rfl hF.1, hS.commit hF hb, .of_ring_eq rfl (Nat.le_add_right _ _) rfl rfl⟩
  cases pc with
  | idle => exact hP.elim
  | entered =>
    rw [pcStep_entered]
    by_cases h1 : size < m.length
    · rw [if_pos h1]
      exact ⟨iff_of_false nofun (Nat.not_le.mpr h1), (List.append_nil D).symm ▸ hS, .refl sh⟩
    have hle := Nat.not_lt.mp h1
    rw [if_neg h1]
    by_cases h2 : sh.cseq + size < sh.pseq + m.length
    · rw [if_pos h2]
      exact ⟨rfl, hle, Nat.lt_of_add_lt_add_right (Nat.lt_of_lt_of_le h2 (Nat.add_le_add_left hle _))⟩
    have hF : Fits size sh m := ⟨hle, Nat.not_lt.mp h2⟩
    rw [if_neg h2]
    by_cases h3 : size < sh.pseq % size + m.length
    · rw [if_pos h3]
      exact ⟨rfl, hS, hF, .refl sh⟩
    · rw [if_neg h3]
      exact ⟨rfl, hS, ⟨rfl, hF, Nat.not_lt.mp h3⟩, .refl sh⟩
  | reserved st =>
    obtain ⟨rfl, hF, hnw⟩ := hP
    obtain ⟨h1, h2, h3⟩ := put_ok hsz hS hF
    rw [pcStep_reserved hS.ringlen hnw]
    exact ⟨rfl, h1, ⟨rfl, hF, h3⟩, h2⟩
  | encoded st =>
    obtain ⟨rfl, hF, hb⟩ := hP
    rw [pcStep_encoded hF]
    exact ⟨rfl, hS, ⟨rfl, hF, hb⟩, .refl sh⟩
  | commit st2 =>
    obtain ⟨rfl, hF, hb⟩ := hP
    exact hcommit hF hb
  | wrapped =>
    rw [pcStep_wrapped]
    refine ⟨rfl, (hS.tmp _).1, ⟨hP, ?_⟩, (hS.tmp _).2⟩
    show m.length ≤ (if _ then _ else _ : List UInt8).length
    split
    · rw [List.length_replicate]; exact Nat.le_refl _
    · rename_i h; exact Nat.not_lt.mp h
  | grown =>
    rw [pcStep_grown hP.2]
    exact ⟨rfl, (hS.tmp _).1, ⟨rfl, hP.1, List.take_left⟩, (hS.tmp _).2⟩
  | tmpEncoded n =>
    obtain ⟨rfl, hF, hb⟩ := hP
    rw [pcStep_tmpEncoded hF]
    exact ⟨rfl, hS, ⟨rfl, rfl, hF, hb⟩, .refl sh⟩
  | copying st2 len =>
    obtain ⟨rfl, rfl, hF, hb⟩ := hP
    obtain ⟨h1, h2, h3⟩ := put_ok hsz hS hF
    rw [pcStep_copying hb]
    exact ⟨rfl, h1, ⟨rfl, rfl, hF, h3⟩, h2⟩
  | copied st2 len =>
    obtain ⟨rfl, rfl, hF, hb⟩ := hP
    exact hcommit hF hb

variable {s : St} {k : Nat}

theorem consume_ok (hS : ShOk size s.sh D) : ShOk size (consume size s k).sh D := by
  have hn : min k (s.sh.pseq - s.sh.cseq) ≤ s.sh.pseq - s.sh.cseq := Nat.min_le_right _ _
  have h1 := Nat.add_le_of_le_sub' hS.le hn
  refine ⟨hS.ringlen, h1, Nat.le_trans hS.room (Nat.add_le_add_right (Nat.le_add_right _ _) _), hS.pseq, ?_⟩
  show (s.sh.got ++ readRing s.sh.ring size s.sh.cseq _) ++ readRing s.sh.ring size _ (s.sh.pseq - _) = D
  rw [← hS.stream, readRing_split _ _ (Nat.le_add_right _ _) h1, Nat.add_sub_cancel_left,
    List.append_assoc]
  rfl

/-- the consumer only moves `cseq` forward, which `Fits` allows -/
theorem consume_pcOk {pc : PC} (hP : PcOk size s.sh m pc) : PcOk size (consume size s k).sh m pc := by
  have hF : Fits size s.sh m → Fits size (consume size s k).sh m := fun h =>
    ⟨h.1, Nat.le_trans h.2 (Nat.add_le_add_right (Nat.le_add_right _ _) _)⟩
  cases pc with
  | idle | entered => exact hP
  | reserved _ | encoded _ | commit _ | tmpEncoded _ => exact ⟨hP.1, hF hP.2.1, hP.2.2⟩
  | wrapped => exact hF hP
  | grown => exact ⟨hF hP.1, hP.2⟩
  | copying _ _ | copied _ _ => exact ⟨hP.1, hP.2.1, hF hP.2.2.1, hP.2.2.2⟩

structure Inv (size : Nat) (todos : List (List (List UInt8))) (s : St) : Prop where
  prov  : Prov todos Entry.t Entry.pkt Th.todo s.log s.ths
  /-- a delivery fails exactly when the packet is longer than the ring -/
  logok : ∀ e ∈ s.log, (e.ok = true ↔ e.pkt.length ≤ size)
  sh    : ShOk size s.sh (done s).flatten
  idle  : ∀ t th, s.ths[t]? = some th → s.holder ≠ some t → th.pc = .idle
  held  : ∀ t, s.holder = some t → ∃ th m rest, s.ths[t]? = some th ∧ th.todo = m :: rest ∧
            PcOk size s.sh m th.pc

theorem inv_init (size : Nat) (tmp0 : List UInt8) (todos : List (List (List UInt8))) :
    Inv size todos (init size tmp0 todos) where
  prov := Prov.init _ (fun _ => rfl)
  logok := nofun
  sh := ⟨List.length_replicate, Nat.le_refl _, Nat.le_add_right _ _, rfl, rfl⟩
  idle := by
    intro t th h _
    obtain ⟨l, _, rfl⟩ := List.mem_map.mp (List.mem_of_getElem? h)
    rfl
  held := nofun

variable {todos : List (List (List UInt8))} {t : Nat} {th : Th} {rest : List (List UInt8)}

namespace Inv

theorem holder_of_busy (hI : Inv size todos s) (hth : s.ths[t]? = some th) (hpc : th.pc ≠ .idle) :
    s.holder = some t :=
  (mutex (idle := fun x : Th => x.pc = .idle) hI.idle hth hpc).1

theorem pcOk_of_busy (hI : Inv size todos s) (hth : s.ths[t]? = some th) (htodo : th.todo = m :: rest)
    (hpc : th.pc ≠ .idle) : PcOk size s.sh m th.pc := by
  obtain ⟨th', m', rest', hth', htodo', hP⟩ := hI.held t (hI.holder_of_busy hth hpc)
  cases hth.symm.trans hth'
  cases htodo.symm.trans htodo'
  exact hP

theorem critical (hI : Inv size todos s) (hth : s.ths[t]? = some th) (hpc : th.pc ≠ .idle) :
    s.holder = some t ∧ (∀ u thu, s.ths[u]? = some thu → u ≠ t → thu.pc = .idle) ∧
    ∃ m rest, th.todo = m :: rest ∧ PcOk size s.sh m th.pc :=
  have hm := mutex (idle := fun x : Th => x.pc = .idle) hI.idle hth hpc
  have ⟨_, m, rest, hth', htodo, hP⟩ := hI.held t hm.1
  ⟨hm.1, hm.2, m, rest, by cases hth.symm.trans hth'; exact ⟨htodo, hP⟩⟩

theorem done_given (hI : Inv size todos s) {p : List UInt8} (hp : p ∈ done s) :
    p.length ≤ size ∧ ∃ l ∈ todos, p ∈ l := by
  obtain ⟨e, he, rfl⟩ := List.mem_map.mp hp
  obtain ⟨he, hok⟩ := List.mem_filter.mp he
  exact ⟨(hI.logok e he).mp hok, hI.prov.given he⟩

/-- thread `t`, which moves, holds `wmu` or takes it now; the other threads were idle and stay so -/
theorem move (hI : Inv size todos s) {th' : Th} (hth : s.ths[t]? = some th)
    (ht : s.holder = none ∨ s.holder = some t) {s' : St} (hths : s'.ths = s.ths.set t th')
    (hheld : ∀ u, s'.holder = some u → u = t ∧ ∃ m rest, th'.todo = m :: rest ∧ PcOk size s'.sh m th'.pc)
    (hidle : s'.holder ≠ some t → th'.pc = .idle)
    (prov : Prov todos Entry.t Entry.pkt Th.todo s'.log s'.ths)
    (logok : ∀ e ∈ s'.log, (e.ok = true ↔ e.pkt.length ≤ size))
    (sh : ShOk size s'.sh (done s').flatten) : Inv size todos s' where
  prov := prov
  logok := logok
  sh := sh
  idle := hths ▸ forall_set_of_idle hI.idle ht (fun _ _ h _ => h) hidle
  held := by
    intro u hu
    obtain ⟨thu, h1, m, rest, h2, h3⟩ := hths ▸ held_set
      (Q := fun x : Th => ∃ m rest, x.todo = m :: rest ∧ PcOk size s'.sh m x.pc) hth hheld u hu
    exact ⟨thu, m, rest, h1, h2, h3⟩

theorem dealt_with (hI : Inv size todos s) (hall : ∀ th ∈ s.ths, th.todo = [])
    {l : List (List UInt8)} {p : List UInt8} (hl : l ∈ todos) (hp : p ∈ l) :
    (p.length ≤ size → p ∈ done s) ∧ (size < p.length → p ∈ failed s) := by
  obtain ⟨t, ht⟩ := List.mem_iff_getElem?.mp hl
  rw [← hI.prov.complete hall ht] at hp
  obtain ⟨e, he, rfl⟩ := List.mem_map.mp hp
  have he := (List.mem_filter.mp he).1
  have hok := hI.logok e he
  refine ⟨fun hle => List.mem_map.mpr ⟨e, List.mem_filter.mpr ⟨he, hok.mpr hle⟩, rfl⟩,
    fun hgt => List.mem_map.mpr ⟨e, List.mem_filter.mpr ⟨he, ?_⟩, rfl⟩⟩
  cases hb : e.ok with
  | false => rfl
  | true => exact absurd (hok.mp hb) (Nat.not_le.mpr hgt)

end Inv

theorem step_cases {s' : St} (h : step code size s t = some s') :
    ∃ th m rest, s.ths[t]? = some th ∧ th.todo = m :: rest ∧
      ((th.pc = .idle ∧ s.holder = none ∧
          s' = { s with holder := some t, ths := s.ths.set t { th with pc := .entered } }) ∨
       (th.pc ≠ .idle ∧ ∃ pc' sh', pcStep code size s.sh m th.pc = .goto pc' sh' ∧
          s' = { s with sh := sh', ths := s.ths.set t { th with pc := pc' } }) ∨
       (th.pc ≠ .idle ∧ ∃ ok sh', pcStep code size s.sh m th.pc = .ret ok sh' ∧
          s' = { sh := sh', holder := none, ths := s.ths.set t { pc := .idle, todo := rest },
                 log := s.log ++ [{ t := t, ok := ok, pkt := m }] })) := by
  unfold step at h
  split at h
  · cases h
  · rename_i th hth
    split at h
    · cases h
    · rename_i m rest htodo
      refine ⟨th, m, rest, hth, htodo, ?_⟩
      by_cases hpc : th.pc = .idle
      · rw [if_pos hpc] at h
        cases hs : s.holder with
        | none => rw [hs] at h; exact .inl ⟨hpc, rfl, (Option.some.inj h).symm⟩
        | some x => rw [hs] at h; cases h
      · rw [if_neg hpc] at h
        cases hps : pcStep code size s.sh m th.pc with
        | blocked => rw [hps] at h; cases h
        | goto pc' sh' => rw [hps] at h; exact .inr (.inl ⟨hpc, pc', sh', rfl, (Option.some.inj h).symm⟩)
        | ret ok sh' => rw [hps] at h; exact .inr (.inr ⟨hpc, ok, sh', rfl, (Option.some.inj h).symm⟩)

theorem blocked_of_step_none {v : Shape} (hth : s.ths[t]? = some th) (htodo : th.todo = m :: rest)
    (hpc : th.pc ≠ .idle) (hs : step v size s t = none) : pcStep v size s.sh m th.pc = .blocked := by
  unfold step at hs
  rw [hth] at hs
  simp only [htodo, hpc, ↓reduceIte] at hs
  -- by the outcome of `pcStep`: `.blocked`, `.goto`, `.ret`; the last two enable the step
  split at hs
  · assumption
  · cases hs
  · cases hs

theorem Inv.blocked_waiting (hsz : 0 < size) (hI : Inv size todos s) (hth : s.ths[t]? = some th)
    (htodo : th.todo = m :: rest) (hpc : th.pc ≠ .idle) (hs : step code size s t = none) :
    th.pc = .entered ∧ m.length ≤ size ∧ s.sh.cseq < s.sh.pseq := by
  have hk := pcStep_ok hsz hI.sh (hI.pcOk_of_busy hth htodo hpc)
  rw [blocked_of_step_none hth htodo hpc hs] at hk
  exact hk

theorem free_enabled (hth : s.ths[t]? = some th) (htodo : th.todo ≠ []) (hpc : th.pc = .idle)
    (hh : s.holder = none) : ∃ s', step code size s t = some s' := by
  unfold step
  rw [hth]
  cases hm : th.todo with
  | nil => exact absurd hm htodo
  | cons m rest => simp [hm, hpc, code, hh]

theorem done_snoc (log : List Entry) (e : Entry) :
    (((log ++ [e]).filter (·.ok)).map (·.pkt)).flatten =
      ((log.filter (·.ok)).map (·.pkt)).flatten ++ if e.ok then e.pkt else [] := by
  cases h : e.ok <;> simp [List.filter_append, h]

theorem inv_step {s' : St} (hsz : 0 < size) (hI : Inv size todos s)
    (h : step code size s t = some s') : Inv size todos s' := by
  obtain ⟨th, m, rest, hth, htodo, hc⟩ := step_cases h
  rcases hc with ⟨_, hh, rfl⟩ | ⟨hpc, pc', sh', hps, rfl⟩ | ⟨hpc, ok, sh', hps, rfl⟩
  · exact hI.move hth (.inl hh) rfl (fun _ hu => ⟨(Option.some.inj hu).symm, m, rest, htodo, trivial⟩)
      (fun c => absurd rfl c) (hI.prov.keep hth rfl) hI.logok hI.sh
  · obtain ⟨_, hS', hP', _⟩ := hps ▸ pcStep_ok hsz hI.sh (hI.pcOk_of_busy hth htodo hpc)
    have hh := hI.holder_of_busy hth hpc
    exact hI.move hth (.inr hh) rfl
      (fun _ hu => ⟨(Option.some.inj (hh.symm.trans hu)).symm, m, rest, htodo, hP'⟩)
      (fun c => absurd hh c) (hI.prov.keep hth rfl) hI.logok hS'
  · obtain ⟨hok, hS', _⟩ := hps ▸ pcStep_ok hsz hI.sh (hI.pcOk_of_busy hth htodo hpc)
    refine hI.move hth (.inr (hI.holder_of_busy hth hpc)) rfl nofun (fun _ => rfl)
      (hI.prov.finish hth rfl htodo) ?_ ((done_snoc s.log _).symm ▸ hS')
    intro e he
    rcases List.mem_append.mp he with he | he
    · exact hI.logok e he
    · cases List.mem_singleton.mp he
      exact hok

theorem inv_consume (hI : Inv size todos s) (k : Nat) : Inv size todos (consume size s k) where
  prov := hI.prov
  logok := hI.logok
  sh := consume_ok hI.sh
  idle := hI.idle
  held := by
    intro t ht
    obtain ⟨th, m, rest, hth, htodo, hP⟩ := hI.held t ht
    exact ⟨th, m, rest, hth, htodo, consume_pcOk hP⟩

theorem inv_act (hsz : 0 < size) (hI : Inv size todos s) (a : Act) :
    Inv size todos (act code size s a) := by
  cases a with
  | th t =>
    simp only [act]
    cases h : step code size s t with
    | none => exact hI
    | some s' => exact inv_step hsz hI h
  | consume k => exact inv_consume hI k

theorem run_induction {P : St → Prop} (hstep : ∀ s a, P s → P (act code size s a)) {s : St} (sched : List Act)
    (h : P s) : P (run code size s sched) := by
  induction sched generalizing s with
  | nil => exact h
  | cons a as ih => exact ih (hstep s a h)

theorem inv_run (hsz : 0 < size) (sched : List Act) {s : St} (hI : Inv size todos s) :
    Inv size todos (run code size s sched) :=
  run_induction (P := Inv size todos) (fun _ a h => inv_act hsz h a) sched hI

theorem inv_reachable (size : Nat) (hsz : 0 < size) (tmp0 : List UInt8) (todos : List (List (List UInt8)))
    (sched : List Act) : Inv size todos (run code size (init size tmp0 todos) sched) :=
  inv_run hsz sched (inv_init size tmp0 todos)

theorem step_safe {s' : St} (hsz : 0 < size) (hI : Inv size todos s)
    (h : step code size s t = some s') : Safe size s.sh s'.sh := by
  obtain ⟨th, m, rest, hth, htodo, hc⟩ := step_cases h
  rcases hc with ⟨_, _, rfl⟩ | ⟨hpc, pc', sh', hps, rfl⟩ | ⟨hpc, ok, sh', hps, rfl⟩
  · exact .refl _
  · exact (hps ▸ pcStep_ok hsz hI.sh (hI.pcOk_of_busy hth htodo hpc)).2.2.2
  · exact (hps ▸ pcStep_ok hsz hI.sh (hI.pcOk_of_busy hth htodo hpc)).2.2

def withTmp (o : List UInt8) (s : St) : St := { s with sh := { s.sh with outtmp := o } }

/-- equal up to the scratch buffer -/
def EqvSt (s1 s2 : St) : Prop := ∃ o, s2 = withTmp o s1

inductive EqvOut : Out → Out → Prop
  | blocked : EqvOut .blocked .blocked
  | goto (pc : PC) (sh : Sh) (o : List UInt8) : EqvOut (.goto pc sh) (.goto pc { sh with outtmp := o })
  | ret (ok : Bool) (sh : Sh) (o : List UInt8) : EqvOut (.ret ok sh) (.ret ok { sh with outtmp := o })

namespace EqvOut
theorem ite {c : Prop} [Decidable c] {a a' b b' : Out} (ha : EqvOut a a') (hb : EqvOut b b') :
    EqvOut (if c then a else b) (if c then a' else b') := by
  split <;> assumption
end EqvOut

/-- under the assertions of the delivery in progress a step's outcome does not depend on the
scratch buffer: only the growth test, `Encode` and `ringCopy` read it, the first only to replace
it, and what the other two read is the packet -/
theorem pcStep_eqv {pc : PC} (o : List UInt8) (hPa : PcOk size sh m pc)
    (hPb : PcOk size { sh with outtmp := o } m pc) :
    EqvOut (pcStep code size sh m pc) (pcStep code size { sh with outtmp := o } m pc) := by
  cases pc with
  | idle => exact hPa.elim
  | entered =>
    rw [pcStep_entered, pcStep_entered]
    exact .ite (.ret _ _ _) (.ite .blocked (.goto _ _ _))
  | reserved _ => exact .goto _ _ _
  | commit _ | copied _ _ => exact .ret _ _ _
  | encoded st =>
    rw [pcStep_encoded (hPa.fits nofun), pcStep_encoded (hPb.fits nofun)]
    exact .goto _ _ _
  | wrapped =>
    rw [pcStep_wrapped, pcStep_wrapped]
    exact .goto _ _ _
  | grown =>
    rw [pcStep_grown hPa.2, pcStep_grown hPb.2]
    exact .goto _ _ _
  | tmpEncoded n =>
    cases hPa.1
    rw [pcStep_tmpEncoded (hPa.fits nofun), pcStep_tmpEncoded (hPb.fits nofun)]
    exact .goto _ _ _
  | copying st2 len =>
    cases hPa.2.1
    rw [pcStep_copying hPa.2.2.2, pcStep_copying hPb.2.2.2]
    exact .goto _ _ _

theorem step_eqv (o : List UInt8) (hI1 : Inv size todos s) (hI2 : Inv size todos (withTmp o s)) :
    ∃ o', step code size (withTmp o s) t = (step code size s t).map (withTmp o') := by
  unfold step
  dsimp only [withTmp]
  cases hth : s.ths[t]? with
  | none => exact ⟨o, rfl⟩
  | some th =>
    cases htodo : th.todo with
    | nil => exact ⟨o, by simp only [htodo]; rfl⟩
    | cons m rest =>
      simp only [htodo]
      by_cases hpc : th.pc = .idle
      · rw [if_pos hpc, if_pos hpc]
        cases s.holder <;> exact ⟨o, rfl⟩
      · rw [if_neg hpc, if_neg hpc]
        have ho := pcStep_eqv o (hI1.pcOk_of_busy hth htodo hpc) (hI2.pcOk_of_busy hth htodo hpc)
        generalize pcStep code size s.sh m th.pc = o1 at ho
        generalize pcStep code size { s.sh with outtmp := o } m th.pc = o2 at ho
        cases ho with
        | blocked => exact ⟨o, rfl⟩
        | goto pc' a o' => exact ⟨o', rfl⟩
        | ret ok a o' => exact ⟨o', rfl⟩

theorem act_eqv {s1 s2 : St} (hI1 : Inv size todos s1) (hI2 : Inv size todos s2) (h : EqvSt s1 s2)
    (a : Act) : EqvSt (act code size s1 a) (act code size s2 a) := by
  obtain ⟨o, rfl⟩ := h
  cases a with
  | th t =>
    obtain ⟨o', h⟩ := step_eqv (t := t) o hI1 hI2
    simp only [act, h]
    cases step code size s1 t with
    | none => exact ⟨o, rfl⟩
    | some s' => exact ⟨o', rfl⟩
  | consume k => exact ⟨o, rfl⟩

theorem run_eqv (hsz : 0 < size) (sched : List Act) : ∀ {s1 s2}, Inv size todos s1 →
    Inv size todos s2 → EqvSt s1 s2 → EqvSt (run code size s1 sched) (run code size s2 sched) := by
  induction sched with
  | nil => intro s1 s2 _ _ h; exact h
  | cons a as ih =>
    intro s1 s2 hI1 hI2 h
    exact ih (inv_act hsz hI1 a) (inv_act hsz hI2 a) (act_eqv hI1 hI2 h a)

theorem scratch_irrelevant (size : Nat) (hsz : 0 < size) (tmp0 tmp1 : List UInt8)
    (todos : List (List (List UInt8))) (sched : List Act) :
    EqvSt (run code size (init size tmp0 todos) sched) (run code size (init size tmp1 todos) sched) :=
  run_eqv hsz sched (inv_init size tmp0 todos) (inv_init size tmp1 todos) ⟨tmp1, rfl⟩

end Mqtt.Proofs.WriteWrap
