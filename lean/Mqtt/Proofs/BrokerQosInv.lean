/-
Representation invariant `BInv` of the broker model as far as C02 needs it.  It is kept by every primitive
move (`binv_prim`), hence by every event; what an event does to the inbound QoS 2 queues is read off the
tables after a packet, the end of a connection and an accepted CONNECT (`step_pub2in`): only a packet on a
live connection bound to session object `r` changes the queue of `r`, to `newQ`.
-/
import Mqtt.Proofs.BrokerLifeSession

namespace Mqtt.Proofs.BrokerQos
open Mqtt.Iface.Broker Mqtt.Model.Broker
open Mqtt.Generated (tPUBREL)
open Mqtt.Proofs.Broker (packet_dead)
open Mqtt.Proofs.BrokerLife (getSess_ref getSess_setSess getSess_setSess_ne packet_live served_tables accepted first_state resumed updSess newSess effCid accepted_resumed accepted_fresh resumed_some)
open Mqtt.Proofs.Broker (SessStep Prim step_moves first_moves)

structure QInv (q : List QEntry) : Prop where
  ids    : (q.map (·.id)).Nodup
  states : ∀ e ∈ q, e.state = 0 ∨ e.state = tPUBREL
  head   : ∀ e, q.head? = some e → e.state ≠ tPUBREL

theorem qInv_nil : QInv [] := ⟨List.nodup_nil, (fun _ h => nomatch h), (fun _ h => nomatch h)⟩

theorem q2Wait_open (q : List QEntry) (p : Pub) (h : (q.any fun e => e.id == p.pktid) = true) :
    q2Wait q p = q := by simp [q2Wait, h]

theorem q2Wait_new (q : List QEntry) (p : Pub) (h : (q.any fun e => e.id == p.pktid) = false) :
    q2Wait q p = q ++ [⟨p.pktid, 0, p⟩] := by simp [q2Wait, h]

theorem states_wait {q : List QEntry} (h : ∀ e ∈ q, e.state = 0 ∨ e.state = tPUBREL) (p : Pub) :
    ∀ e ∈ q2Wait q p, e.state = 0 ∨ e.state = tPUBREL := by
  unfold q2Wait
  split
  · exact h
  · intro e he
    rcases List.mem_append.mp he with h1 | h1
    · exact h e h1
    · rw [List.mem_singleton.mp h1]; exact .inl rfl

theorem states_ack {q : List QEntry} (h : ∀ e ∈ q, e.state = 0 ∨ e.state = tPUBREL) (id : Nat) :
    ∀ e ∈ q2Ack q id, e.state = 0 ∨ e.state = tPUBREL := by
  intro e he
  obtain ⟨x, hx, rfl⟩ := List.mem_map.mp he
  split
  · exact .inr rfl
  · exact h x hx

theorem qInv_wait {q : List QEntry} (h : QInv q) (p : Pub) : QInv (q2Wait q p) := by
  have hst := states_wait h.states p
  by_cases ha : (q.any fun e => e.id == p.pktid) = true
  · rw [q2Wait_open q p ha]; exact h
  · rw [Bool.not_eq_true] at ha
    rw [q2Wait_new q p ha] at hst ⊢
    refine ⟨?_, hst, ?_⟩
    · rw [List.map_append, List.nodup_append]
      refine ⟨h.ids, List.pairwise_singleton _ _, ?_⟩
      intro a ha1 b hb e
      obtain ⟨x, hx, hxe⟩ := List.mem_map.mp ha1
      rw [List.any_eq_false] at ha
      exact ha x hx (by rw [hxe, e, List.mem_singleton.mp hb]; exact beq_self_eq_true _)
    · intro e he
      cases q with
      | nil => cases he; exact Nat.succ_ne_zero _ ∘ Eq.symm
      | cons x xs => exact h.head e he

theorem q2Ack_map {α : Type} (f : QEntry → α) (hf : ∀ e st, f { e with state := st } = f e)
    (q : List QEntry) (id : Nat) : (q2Ack q id).map f = q.map f := by
  unfold q2Ack
  rw [List.map_map]
  refine List.map_congr_left fun e _ => ?_
  show f (if e.id == id then _ else e) = f e
  split
  · exact hf e _
  · rfl

theorem q2Ack_fix (q : List QEntry) (id : Nat) (h : ∀ e ∈ q, e.id = id → e.state = tPUBREL) :
    q2Ack q id = q :=
  List.map_ite_eq_self fun ⟨_, _, _⟩ he hi => by cases h _ he (eq_of_beq hi); rfl

theorem q2Acked_append (q : List QEntry) : (q2Acked q).2 ++ (q2Acked q).1 = q :=
  List.takeWhile_append_dropWhile

theorem q2Acked_rest_sublist (q : List QEntry) : (q2Acked q).1.Sublist q := List.dropWhile_sublist _

theorem qInv_pubrel {q : List QEntry} (h : QInv q) (id : Nat) : QInv (q2Acked (q2Ack q id)).1 := by
  refine ⟨?_, fun e he => states_ack h.states id e ((q2Acked_rest_sublist _).subset he), ?_⟩
  · exact List.Nodup.sublist ((q2Acked_rest_sublist _).map _) (q2Ack_map (·.id) (fun _ _ => rfl) q id ▸ h.ids)
  · intro e he
    have := List.head?_dropWhile_not (fun e => e.state == tPUBREL) (q2Ack q id)
    rw [show List.dropWhile _ (q2Ack q id) = (q2Acked (q2Ack q id)).1 from rfl, he] at this
    simpa using this

structure BInv (b : B) : Prop where
  refsLt    : ∀ r ∈ refs b, r < b.nextRef
  refsNodup : (refs b).Nodup
  connSess  : ∀ cn ∈ b.conns, cn.sess ∈ refs b
  queues    : ∀ r, QInv (pub2inOf b r)

theorem binv_init : BInv {} :=
  ⟨(fun _ h => nomatch h), List.nodup_nil, (fun _ h => nomatch h), fun _ => qInv_nil⟩

theorem BInv.live {b : B} (h : BInv b) {c : Nat} (hl : b.alive c = true) :
    ∃ cn s, b.getConn c = some cn ∧ cn.alive = true ∧ b.getSess cn.sess = some s :=
  Broker.live_of (fun cn hcn _ => (getSess_isSome_iff b cn.sess).mpr (h.connSess cn hcn)) hl

theorem pub2inOf_setSess (b : B) (s : Sess) (r : Nat) :
    pub2inOf (b.setSess s) r = if r = s.ref then s.pub2in else pub2inOf b r := by
  unfold pub2inOf
  by_cases h : r = s.ref
  · rw [if_pos h, h, getSess_setSess]
  · rw [if_neg h, getSess_setSess_ne b s r (Ne.symm h)]

theorem pub2inOf_eq {b : B} {r : Nat} {s : Sess} (h : b.getSess r = some s) : pub2inOf b r = s.pub2in := by
  unfold pub2inOf; rw [h]

theorem BInv.setSess {b : B} (h : BInv b) {s s' : Sess} (hs : b.getSess s'.ref = some s)
    (hq : QInv s'.pub2in) : BInv (b.setSess s') := by
  have hm : refs (b.setSess s') = refs b :=
    refs_setSess_mem b s' ((getSess_isSome_iff b s'.ref).mp (by rw [hs]; rfl))
  refine ⟨hm ▸ h.refsLt, hm ▸ h.refsNodup, hm ▸ h.connSess, fun r => ?_⟩
  rw [pub2inOf_setSess]
  split
  · exact hq
  · exact h.queues r

theorem _root_.Mqtt.Proofs.Broker.SessStep.queue {s s' : Sess} (h : SessStep s s') (hq : QInv s.pub2in) :
    QInv s'.pub2in := by
  cases h with
  | wait p => exact qInv_wait hq p
  | release id => exact qInv_pubrel hq id
  | _ => exact hq

theorem pub2inOf_if {b b' : B} {r0 : Nat} {s' : Sess}
    (h : ∀ r, b'.getSess r = if r = r0 then some s' else b.getSess r) (r : Nat) :
    pub2inOf b' r = if r = r0 then s'.pub2in else pub2inOf b r := by
  unfold pub2inOf
  rw [h]
  by_cases e : r = r0
  · rw [if_pos e, if_pos e]
  · rw [if_neg e, if_neg e]

theorem stop_pub2in (b : B) (c r : Nat) : pub2inOf (stop b c).1 r = pub2inOf b r := by
  rcases Broker.stop_cases b c with ⟨_, h⟩ | h | ⟨cn, s, hc, ha, hs⟩
  · rw [h]
  · rw [h]; rfl
  · obtain ⟨s', h⟩ := BrokerLife.stop_ended b c cn s hc ha hs
    rw [pub2inOf_if h.getSess]
    split
    · rename_i e
      rw [e, pub2inOf_eq (getSess_ref hs ▸ hs)]
      rcases h.sess with rfl | ⟨w, rfl⟩ <;> rfl
    · rfl

theorem packet_pub2in {b : B} (h : BInv b) (c : Nat) (p : Packet) (r : Nat) :
    pub2inOf (packet b c p).1 r = if bound b c r then newQ p (pub2inOf b r) else pub2inOf b r := by
  cases hl : b.alive c with
  | false =>
    rw [packet_dead b c p hl]
    exact (if_neg fun hb => Bool.false_ne_true (hl ▸ bound_alive hb)).symm
  | true =>
    obtain ⟨cn, s, hc, ha, hs⟩ := h.live hl
    obtain ⟨s', hp⟩ := served_tables hc ha hs p
    rw [packet_live hc ha hs, pub2inOf_if hp.getSess, bound_eq hc, ha, Bool.true_and, getSess_ref hs, hp.pub2in]
    by_cases e : r = cn.sess
    · rw [if_pos e, if_pos (beq_iff_eq.mpr e.symm), e, pub2inOf_eq hs]
    · rw [if_neg e, if_neg fun h => e (eq_of_beq h).symm]

/-- the session object a CONNECT resumes, if any -/
def resumedOf (b : B) (cid : Bytes) (clean : Bool) : Option Sess :=
  if clean then none else ((b.storeGet cid).bind b.getSess).filter (fun s => !s.clean)

/-- the new connection entered into the table and re-subscribed -/
def attach (b1 : B) (c : Nat) (s : Sess) : B :=
  let b2 := { b1 with conns := b1.conns.filter (fun (x : Conn) => x.id != c) ++ [({ id := c, sess := s.ref, alive := true } : Conn)] }
  { b2 with topics := resubscribe b2.topics c s.topics }

theorem attach_getSess (b1 : B) (c : Nat) (s : Sess) (r : Nat) : (attach b1 c s).getSess r = b1.getSess r := rfl

theorem BInv.fresh {b : B} (h : BInv b) : b.nextRef ∉ refs b := fun hm => Nat.lt_irrefl _ (h.refsLt _ hm)

theorem pub2inOf_new {b : B} (h : BInv b) (s : Sess) (cid : Bytes) (hr : s.ref = b.nextRef) (hq : s.pub2in = [])
    (r : Nat) :
    pub2inOf ((({ b with nextRef := b.nextRef + 1 } : B).setSess s).storeSet cid b.nextRef) r = pub2inOf b r := by
  show pub2inOf (({ b with nextRef := b.nextRef + 1 } : B).setSess s) r = _
  rw [pub2inOf_setSess]
  split
  · rename_i e
    have hn : b.getSess r = none := Option.not_isSome_iff_eq_none.mp
      (mt (getSess_isSome_iff b r).mp (e ▸ hr ▸ h.fresh))
    rw [hq, pub2inOf, hn]
  · rfl

theorem binv_fresh {b : B} (h : BInv b) (s : Sess) (cid : Bytes) (hr : s.ref = b.nextRef) (hq : s.pub2in = []) :
    BInv ((({ b with nextRef := b.nextRef + 1 } : B).setSess s).storeSet cid b.nextRef) := by
  have hrefs : refs ((({ b with nextRef := b.nextRef + 1 } : B).setSess s).storeSet cid b.nextRef) =
      refs b ++ [b.nextRef] := hr ▸ refs_setSess_new { b with nextRef := b.nextRef + 1 } s (hr ▸ h.fresh)
  refine ⟨?_, ?_, ?_, fun r => pub2inOf_new h s cid hr hq r ▸ h.queues r⟩
  · intro r hr'
    rw [hrefs] at hr'
    show r < b.nextRef + 1
    rcases List.mem_append.mp hr' with h1 | h1
    · exact Nat.lt_succ_of_lt (h.refsLt r h1)
    · rw [List.mem_singleton.mp h1]; exact Nat.lt_succ_self _
  · rw [hrefs, List.nodup_append]
    exact ⟨h.refsNodup, List.pairwise_singleton _ _, fun x hx y hy e =>
      h.fresh (List.mem_singleton.mp hy ▸ e ▸ hx)⟩
  · intro cn hcn
    rw [hrefs]
    exact List.mem_append_left _ (h.connSess cn hcn)

theorem _root_.Mqtt.Proofs.Broker.binv_prim (b b' : B) (h : BInv b) (hp : Prim b b') : BInv b' := by
  cases hp with
  | @sess s s' hs hss =>
    exact h.setSess (s := s) (hss.life.1 ▸ hs) (hss.queue (pub2inOf_eq hs ▸ h.queues _))
  | fresh s hr hq _ => exact hr ▸ binv_fresh h s s.cid hr hq
  | dead c =>
    refine ⟨h.refsLt, h.refsNodup, fun cn' hc => ?_, h.queues⟩
    obtain ⟨x, hx, rfl⟩ := List.mem_map.mp hc
    have : (if x.id == c then { x with alive := false } else x).sess = x.sess := by split <;> rfl
    rw [this]; exact h.connSess x hx
  | conn c hs =>
    refine ⟨h.refsLt, h.refsNodup, fun cn hcn => ?_, h.queues⟩
    rcases List.mem_append.mp hcn with h1 | h1
    · exact h.connSess cn (List.mem_filter.mp h1).1
    · rw [List.mem_singleton.mp h1]; exact (getSess_isSome_iff b _).mp (Option.isSome_iff_exists.mpr ⟨_, hs⟩)
  | _ => exact ⟨h.refsLt, h.refsNodup, h.connSess, h.queues⟩

theorem binv_step {b : B} (h : BInv b) (ev : Ev) : BInv (step b ev).1 := (step_moves b ev).keeps Broker.binv_prim h

theorem binv_first {b : B} (h : BInv b) (c : Nat) (f : First) (a : Bool) : BInv (first b c f a).1 :=
  (first_moves b c f a).keeps Broker.binv_prim h

theorem accepted_pub2in {b : B} (h : BInv b) (c : Nat) (req : Connect) (r : Nat) :
    pub2inOf (accepted b c req).1 r = pub2inOf b r := by
  cases hres : resumed b c req with
  | some s =>
    rw [(accepted_resumed b c req s hres).1]
    show pub2inOf (b.setSess (updSess s req)) r = _
    rw [pub2inOf_setSess]
    split
    · rename_i e; rw [e]; exact (pub2inOf_eq (resumed_some hres).2.2.1).symm
    · rfl
  | none => rw [(accepted_fresh b c req hres).1]; exact pub2inOf_new h (newSess b c req) (effCid c req) rfl rfl r

theorem step_pub2in {b : B} (h : BInv b) (ev : Ev) (r : Nat) :
    pub2inOf (step b ev).1 r =
      match ev with
      | .packet c p => if bound b c r then newQ p (pub2inOf b r) else pub2inOf b r
      | _ => pub2inOf b r := by
  cases ev with
  | first c f a =>
    -- the take-over is a series of `stop`s; the invariant is carried through it because `accepted_pub2in` needs it
    exact (Mqtt.Proofs.Connect.connect_state (fun b' => BInv b' ∧ pub2inOf b' r = pub2inOf b r)
      (fun b' c' h' => ⟨binv_step h'.1 (.close c'), (stop_pub2in b' c' r).trans h'.2⟩)
      (fun b' c' f' a' h' => ⟨binv_first h'.1 c' f' a',
        first_state (fun x => pub2inOf x r = pub2inOf b r) h'.2 c' f' a' fun req _ _ =>
          (accepted_pub2in h'.1 c' req r).trans h'.2⟩)
      b c f a ⟨h, rfl⟩).2
  | packet c p => exact packet_pub2in h c p r
  | close c => exact stop_pub2in b c r
  | srvPub p =>
    show pub2inOf (step b (.srvPub p)).1 r = _
    rw [BrokerLife.step_srvPub, pub2inOf, (onPublish_frame b _).getSess]; rfl
  | srvSub cb f q => show pub2inOf (step b (.srvSub cb f q)).1 r = _; rw [BrokerLife.step_srvSub]; rfl
  | srvUnsub cb f => rfl

theorem binv_run {b : B} (h : BInv b) (evs : List Ev) : BInv (run b evs).1 :=
  Mqtt.Proofs.Connect.run_induction (P := BInv) (fun _ e h => binv_step h e) evs h

def isAck : Out → Bool
  | .send _ (.puback _) | .send _ (.pubrec _) | .send _ (.pubrel _) | .send _ (.pubcomp _) => true
  | _ => false

theorem filter_isAck_handOvers {l : List Out} (h : ∀ o ∈ l, isHandOver o = true) : l.filter isAck = [] := by
  rw [List.filter_eq_nil_iff]
  intro o ho
  have := h o ho
  unfold isHandOver at this
  split at this
  · exact Bool.false_ne_true
  · exact Bool.false_ne_true
  · cases this

theorem sessOf_eq {b : B} {c : Nat} {cn : Conn} {s : Sess} (hc : b.getConn c = some cn)
    (hs : b.getSess cn.sess = some s) : sessOf b c = some s := by
  simp [sessOf, hc, hs]

/-- the connection's session object after its inbound queue has been replaced and
any number of hand-overs have run -/
theorem sessOf_after {b b' : B} {c : Nat} {cn : Conn} {s : Sess} (hc : b.getConn c = some cn)
    (hs : b.getSess cn.sess = some s) (q : List QEntry)
    (hf : Frame (b.setSess { s with pub2in := q }) b') :
    sessOf b' c = some { s with pub2in := q } := by
  apply sessOf_eq (cn := cn)
  · rw [getConn_congr (hf.conns.trans (Mqtt.Proofs.Broker.setSess_conns _ _))]; exact hc
  · rw [Mqtt.Proofs.Broker.getSess_congr _ _ hf.sess, ← getSess_ref hs]
    exact getSess_setSess b { s with pub2in := q }

theorem q2Acked_rel_marked (q : List QEntry) : ∀ e ∈ (q2Acked q).2, e.state = tPUBREL :=
  fun e he => eq_of_beq (List.all_eq_true.mp List.all_takeWhile e he)

theorem q2Acked_headOpen {q : List QEntry} (h : QInv q) : q2Acked q = (q, []) := by
  cases q with
  | nil => rfl
  | cons x xs =>
    have hx : (x.state == tPUBREL) = false := by simpa using h.head x rfl
    simp [q2Acked, hx]

end Mqtt.Proofs.BrokerQos
