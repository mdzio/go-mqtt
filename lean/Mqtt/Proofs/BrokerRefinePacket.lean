/-
Events that leave connections and live sessions alone: `R_frame` is the transfer of `R` for all of
them, `R_onPublish` is `onPublish` against `accept`.  Then the refinement step for unknown connections,
PINGREQ, acknowledgements, PUBLISH with QoS 0 and 1, `Server.Publish`.
-/
import Mqtt.Proofs.BrokerRefinePublish

namespace Mqtt.Proofs.BrokerRefine
open Mqtt.Iface.Broker Mqtt.Model.Broker
open Mqtt.Proofs.Topics (good)
open Mqtt.Spec.Match (split validName)
open Mqtt.Proofs.Broker (HeldInv RetInv)

theorem heldOf_congr {s s' : Spec.Broker.S} (h : s'.held = s.held) (c : Nat) :
    Spec.Broker.heldOf s' c = Spec.Broker.heldOf s c := by
  unfold Spec.Broker.heldOf; rw [h]

theorem LiveRel.congr {b b' : B} {s s' : Spec.Broker.S} {c : Nat} {σ : Sess} {k : Spec.Broker.Conn}
    (h : LiveRel b s c σ k) (hst : b'.storeGet σ.cid = b.storeGet σ.cid)
    (hheld : Spec.Broker.heldOf s' c = Spec.Broker.heldOf s c) : LiveRel b' s' c σ k :=
  { h with topics := by rw [hheld]; exact h.topics, store := by rw [hst]; exact h.store }

theorem StoredRel.congr {b b' : B} {s s' : Spec.Broker.S} {x : Bytes} (h : StoredRel b s x)
    (hr : resumable b' x = resumable b x) (hl : s'.stored.lookup x = s.stored.lookup x) : StoredRel b' s' x :=
  ⟨by intro σ hσ; rw [hl]; exact h.some σ (hr ▸ hσ), by intro hn; rw [hl]; exact h.none (hr ▸ hn)⟩

/-- connection tables and live sessions unchanged: the caller re-establishes the subscriptions (`hheld` …
`hheldOf`), the retained messages (`hrets` … `hids`) and the sessions kept under client identifiers
(`hsg`, `hstored`) -/
theorem R_frame {b b' : B} {s s' : Spec.Broker.S} (h : R b s) (hi : Invs b')
    (hc : b'.conns = b.conns) (hls : ∀ c, liveSess b' c = liveSess b c) (hconns : s'.conns = s.conns)
    (hheld : HeldInv b'.topics.sroot s'.held) (hgood : ∀ x ∈ s'.held, good x.filter = true)
    (hown : ∀ x ∈ s'.held, x.owner < cbBase → b.alive x.owner = true)
    (hheldOf : ∀ c, b.alive c = true → Spec.Broker.heldOf s' c = Spec.Broker.heldOf s c)
    (hrets : RetInv b'.topics.rroot s'.rets) (hretsOk : ∀ r ∈ s'.rets, validName r.topic = true)
    (hids : IdsOk b'.topics.rroot)
    (hsg : ∀ c σ, liveSess b c = some σ → b'.storeGet σ.cid = b.storeGet σ.cid)
    (hstored : ∀ x, realCid x = true → (∀ c σ, liveSess b c = some σ → σ.cid ≠ x) → StoredRel b' s' x) :
    R b' s' := by
  have hal : ∀ c, b'.alive c = b.alive c := Mqtt.Proofs.Broker.alive_congr b b' hc
  exact {
    inv := hi.1, linv := hi.2.1, qinv := hi.2.2
    held := hheld, heldGood := hgood
    owners := fun x hx hlt => by rw [hal]; exact hown x hx hlt
    rets := hrets, retsOk := hretsOk, retIds := hids
    connLt := fun c hc' => h.connLt c (by rw [← hal]; exact hc')
    mconns := by rw [hc]; exact h.mconns
    sconns := by rw [hconns]; exact h.sconns
    connsIff := fun c => by rw [hal, spec_getConn_congr hconns]; exact h.connsIff c
    live := fun c σ hl => by
      rw [hls] at hl
      obtain ⟨k, hk, hrel⟩ := h.live c σ hl
      exact ⟨k, by rw [spec_getConn_congr hconns]; exact hk, hrel.congr (hsg c σ hl) (hheldOf c (liveSess_alive hl))⟩
    cidUniq := fun c c' σ σ' h1 h2 => by
      rw [hls] at h1 h2
      exact h.cidUniq c c' σ σ' h1 h2
    stored := fun x hx hfree => hstored x hx (fun c σ hl => hfree c σ (by rw [hls]; exact hl)) }

theorem spec_retainStep_retsOk (s : Spec.Broker.S) (p : Pub) (h : ∀ r ∈ s.rets, validName r.topic = true)
    (hp : validName p.topic = true) : ∀ r ∈ (Spec.Broker.retainStep s p).rets, validName r.topic = true := by
  unfold Spec.Broker.retainStep
  split
  · exact h
  · split
    · intro r hr; exact h r (List.mem_filter.mp hr).1
    · intro r hr
      rcases List.mem_append.mp hr with h1 | h1
      · exact h r (List.mem_filter.mp h1).1
      · simp only [List.mem_singleton] at h1; subst h1; exact hp

theorem R_onPublish {b : B} {s : Spec.Broker.S} (h : R b s) (m : Msg)
    (hg : good m.p.topic = true) (hn : validName m.p.topic = true) (hq : m.p.qos ≤ 2)
    (hok : m.p.pktid ≠ 0 ∨ m.dirty = true ∨ m.p.qos = 0) :
    R (onPublish b m).1 (Spec.Broker.accept s m.p).1 ∧ Fan (Spec.Broker.accept s m.p).2 (onPublish b m).2.2.1 ∧
    (onPublish b m).2.2.2 = true := by
  obtain ⟨r1, r2, r3, r4⟩ := onPublish_refines b m s h.inv.wf h.held h.owners h.rets h.retIds hg hn hq hok
  obtain ⟨fc, fs, fst, _, fsr⟩ := Mqtt.Proofs.BrokerQos.onPublish_frame b m
  obtain ⟨g1, g2, g3⟩ : (Spec.Broker.accept s m.p).1.held = s.held ∧ (Spec.Broker.accept s m.p).1.stored = s.stored ∧
    (Spec.Broker.accept s m.p).1.conns = s.conns := spec_retainStep_frame s m.p
  refine ⟨R_frame h (h.moves (Mqtt.Proofs.Broker.onPublish_moves b m))
    (hc := fc) (hls := liveSess_congr fc fs) (hconns := g3)
    (hheld := by rw [fsr, g1]; exact h.held) (hgood := by rw [g1]; exact h.heldGood)
    (hown := by rw [g1]; exact h.owners) (hheldOf := fun c _ => heldOf_congr g1 c)
    (hrets := r2) (hretsOk := spec_retainStep_retsOk s m.p h.retsOk hn) (hids := r3)
    (hsg := fun _ σ _ => storeGet_congr fst σ.cid)
    (hstored := fun x hx hf => (h.stored x hx hf).congr (resumable_congr fst fs x) (by rw [g2])), r4, r1⟩

theorem R.liveConn {b : B} {s : Spec.Broker.S} (h : R b s) {c : Nat} (hl : b.alive c = true) :
    ∃ cn σ k, b.getConn c = some cn ∧ cn.alive = true ∧ b.getSess cn.sess = some σ ∧
      Spec.Broker.getConn s c = some k ∧ LiveRel b s c σ k := by
  obtain ⟨cn, σ, hc, ha, hs⟩ := h.inv.live hl
  obtain ⟨k, hk, hrel⟩ := h.live c σ (liveSess_eq hc ha hs)
  exact ⟨cn, σ, k, hc, ha, hs, hk, hrel⟩

theorem R.queue {b : B} {s : Spec.Broker.S} (h : R b s) {r : Nat} {σ : Sess} (hs : b.getSess r = some σ) :
    Mqtt.Proofs.BrokerQos.QInv σ.pub2in := by
  have := h.qinv.queues r
  rwa [Mqtt.Proofs.BrokerQos.pub2inOf_eq hs] at this

theorem R.specConn_none {b : B} {s : Spec.Broker.S} (h : R b s) {c : Nat} (hl : b.alive c = false) :
    Spec.Broker.getConn s c = none := by
  have := h.connsIff c
  rw [hl] at this
  cases hg : Spec.Broker.getConn s c with
  | none => rfl
  | some k => rw [hg] at this; cases this

theorem step_packet_dead {b : B} {s : Spec.Broker.S} (h : R b s) (c : Nat) (p : Packet) (hl : b.alive c = false) :
    Refines b s (.packet c p) := by
  unfold Refines
  have hm : step b (.packet c p) = (b, []) := Mqtt.Proofs.Broker.packet_dead b c p hl
  have hsp : Spec.Broker.step1 s (.packet c p) = (s, [.unspecified]) := by
    simp only [Spec.Broker.step1, h.specConn_none hl]
  rw [hm, hsp]
  exact ⟨h, accepts_unspecified _⟩

/-- the packets that change nothing on either side -/
def inert : Packet → Bool
  | .publish _ | .pubrel _ | .subscribe _ _ | .unsubscribe _ _ | .disconnect => false
  | _ => true

theorem step_packet_simple {b : B} {s : Spec.Broker.S} (h : R b s) (c : Nat) (hl : b.alive c = true) (p : Packet)
    (hp : inert p = true) :
    Refines b s (.packet c p) := by
  unfold Refines
  obtain ⟨cn, σ, k, hc, ha, hs, hk, _⟩ := h.liveConn hl
  have hsend : ∀ q, send b c q = [.send c q] := fun q => Mqtt.Proofs.BrokerQos.send_alive hl q
  have hm : step b (.packet c p) = Mqtt.Proofs.BrokerLife.served b c σ p := Mqtt.Proofs.BrokerLife.packet_live hc ha hs p
  rw [hm]
  cases p with
  | publish _ | pubrel _ | subscribe _ _ | unsubscribe _ _ | disconnect => cases hp
  | pingreq | pubrec _ =>
    simp only [Mqtt.Proofs.BrokerLife.served, Mqtt.Proofs.BrokerLife.reply, hsend, Spec.Broker.step1, hk]
    exact ⟨h, accepts_lits (.cons (.send c _ rfl) .nil)⟩
  | puback _ | pubcomp _ =>
    simp only [Mqtt.Proofs.BrokerLife.served, Spec.Broker.step1, hk]
    exact ⟨h, accepts_nil⟩
  | pingresp | suback _ _ | unsuback _ | connack _ _ | connectAgain =>
    simp only [Mqtt.Proofs.BrokerLife.served, Spec.Broker.step1, hk]
    exact ⟨h, accepts_unspecified _⟩

theorem pubOk_iff (p : Pub) (h : pubOk p = true) :
    good p.topic = true ∧ validName p.topic = true ∧ p.qos ≤ 2 ∧ (p.qos = 0 ∨ p.pktid ≠ 0) := by
  simp only [pubOk, Bool.and_eq_true, decide_eq_true_eq, Bool.or_eq_true, beq_iff_eq, bne_iff_ne, ne_eq] at h
  exact ⟨h.1.1.1, h.1.1.2, h.1.2, h.2⟩

theorem pubOk_ready (p : Pub) (h : pubOk p = true) :
    (⟨p, false⟩ : Msg).p.pktid ≠ 0 ∨ (⟨p, false⟩ : Msg).dirty = true ∨ (⟨p, false⟩ : Msg).p.qos = 0 :=
  (pubOk_iff p h).2.2.2.elim (fun h0 => .inr (.inr h0)) .inl

theorem step_publish01 {b : B} {s : Spec.Broker.S} (h : R b s) (c : Nat) (hl : b.alive c = true) (p : Pub)
    (hp : pubOk p = true) (hq : p.qos = 0 ∨ p.qos = 1) :
    Refines b s (.packet c (.publish p)) := by
  unfold Refines
  obtain ⟨cn, σ, k, hc, ha, hs, hk, _⟩ := h.liveConn hl
  obtain ⟨hg, hn, hq2, _⟩ := pubOk_iff p hp
  obtain ⟨r1, r2, _⟩ := R_onPublish h ⟨p, false⟩ hg hn hq2 (pubOk_ready p hp)
  rcases hq with hq | hq
  · have hm : step b (.packet c (.publish p)) = _ := Mqtt.Proofs.BrokerQos.packet_publish0 hc ha hs p hq
    have hsp : Spec.Broker.step1 s (.packet c (.publish p)) = Spec.Broker.accept s p := by
      simp only [Spec.Broker.step1, hk, hq, BEq.rfl, ↓reduceIte]
    rw [hm, hsp]
    exact ⟨r1, accepts_fan r2⟩
  · have hm : step b (.packet c (.publish p)) = _ := Mqtt.Proofs.BrokerQos.packet_publish1 hc ha hs p hq
    have hsp : Spec.Broker.step1 s (.packet c (.publish p)) =
        ((Spec.Broker.accept s p).1, .send c (.puback p.pktid) :: (Spec.Broker.accept s p).2) := by
      simp only [Spec.Broker.step1, hk, hq]
      rfl
    rw [hm, hsp]
    exact ⟨r1, by simpa using accepts_shape (.cons (.send c (.puback p.pktid) rfl) .nil) r2 .nil⟩

/-- `Server.Publish`: the caller's message object is built through the API, hence dirty -/
theorem step_srvPub {b : B} {s : Spec.Broker.S} (h : R b s) (p : Pub)
    (hg : good p.topic = true) (hn : validName p.topic = true) (hq : p.qos ≤ 2) :
    Refines b s (.srvPub p) := by
  unfold Refines
  obtain ⟨r1, r2, r3⟩ := R_onPublish h ⟨p, true⟩ hg hn hq (.inr (.inl rfl))
  have hm : step b (.srvPub p) = ((onPublish b ⟨p, true⟩).1, (onPublish b ⟨p, true⟩).2.2.1) := by
    simp only [step, srvPub, r3, ↓reduceIte]
  have hsp : Spec.Broker.step1 s (.srvPub p) = Spec.Broker.accept s p := rfl
  rw [hm, hsp]
  exact ⟨r1, accepts_fan r2⟩

end Mqtt.Proofs.BrokerRefine
