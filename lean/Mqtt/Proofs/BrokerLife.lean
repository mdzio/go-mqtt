/-
The first packet of a connection on the broker model (`Model/Broker.lean`), for the life-cycle
properties C09, C10, C11: the checks of the CONNECT as one cascade (`connectDecode_eq`,
`first_connect`), the bridge from the regenerated constants to the specification's
(`refusals_eq`), the two ways `first` can go (`first_cases`), the state an accepted CONNECT
leaves (`accepted`), and traffic on a connection that was never accepted (`run_unaccepted`).  At the end, in `namespace Ex`,
the states (`Ex.base`, `Ex.base2`) on which `Properties/C09.lean`, `C10.lean` and `C11.lean` build their examples.
-/
import Mqtt.Proofs.BrokerOps
import Mqtt.Proofs.BrokerConnect

namespace Mqtt.Proofs.BrokerLife
open Mqtt.Iface.Broker Mqtt.Model.Broker
open Mqtt.Proofs.Broker (packet_dead stop_idle)

theorem mqtt_bytes : "MQTT".toUTF8.toList = [77, 81, 84, 84] := by decide +kernel
theorem mqisdp_bytes : "MQIsdp".toUTF8.toList = [77, 81, 73, 115, 100, 112] := by decide +kernel

/-- the name/level check of `connectDecode`, as a Boolean -/
def levelOk (req : Connect) : Bool :=
  match Generated.supportedVersions.lookup req.version with
  | none => false
  | some name => name == req.protoName

/-- `Generated.supportedVersions` (read from `message.SupportedVersions`) is the
specification's table of protocol name/level pairs. -/
theorem facts_versions (req : Connect) :
    levelOk req = Spec.Broker.knownVersion req.protoName req.version := by
  unfold levelOk Spec.Broker.knownVersion Generated.supportedVersions
  rw [mqtt_bytes, mqisdp_bytes]
  simp only [List.lookup]
  cases h3 : req.version == 3 <;> cases h4 : req.version == 4
  · rfl
  · simp only [Bool.true_and, Bool.false_and, Bool.or_false]; exact BEq.comm
  · simp only [Bool.true_and, Bool.false_and, Bool.false_or]; exact BEq.comm
  · rw [beq_iff_eq] at h3 h4; omega

theorem facts_printable (x : UInt8) : printable x = Spec.Broker.printable x := rfl

/-- connect-flag checks of `connectDecode` (reserved bit, will QoS, will bits without will flag) -/
def flagsBad (req : Connect) : Bool :=
  req.reserved ||
  (match req.will with | some w => decide (w.qos > 2) | none => decide (req.willQosNoWill > 2)) ||
  (req.will.isNone && (req.willRetainNoWill || req.willQosNoWill != 0))

/-- client-identifier checks of `connectDecode` -/
def idBad (req : Connect) : Bool :=
  (req.clientId.isEmpty && !req.clean) ||
  (!req.clientId.isEmpty && !(req.clientId.all printable && req.clientId.length ≤ 32))

theorem ite_bor {α} (a b : Bool) (x y : α) :
    (if (a || b) = true then x else y) = if a = true then x else if b = true then x else y := by
  cases a <;> rfl

theorem connectDecode_eq (req : Connect) :
    connectDecode req =
      if !levelOk req then .inl 1
      else if flagsBad req then .inr false
      else if idBad req then .inl 2
      else .inr true := by
  unfold connectDecode levelOk flagsBad idBad
  cases Generated.supportedVersions.lookup req.version with
  | none => rfl
  | some name => simp only [ite_bor]; rfl

def accepts (f : First) (authOk : Bool) : Bool :=
  match f with
  | .connect req => levelOk req && !flagsBad req && !idBad req && authOk
  | _ => false

/-- `getSession`: the client identifier in force (an empty one is replaced) -/
def effCid (c : Nat) (req : Connect) : Bytes :=
  if req.clientId.isEmpty then Mqtt.Model.Broker.anonId c else req.clientId

/-- `getSession`: the CleanSession flag in force (an empty identifier forces 1) -/
def effClean (req : Connect) : Bool := if req.clientId.isEmpty then true else req.clean

theorem accepts_iff_decoded (req : Connect) (a : Bool) :
    accepts (.connect req) a = true ↔ connectDecode req = .inr true ∧ a = true := by
  rw [connectDecode_eq]
  dsimp only [accepts]
  cases levelOk req <;> cases flagsBad req <;> cases idBad req <;> cases a <;> decide

theorem effCid_of_ne (c : Nat) (req : Connect) (h : req.clientId ≠ []) : effCid c req = req.clientId := by
  unfold effCid; rw [List.isEmpty_eq_false_iff.mpr h]; rfl

def resumed (b : B) (c : Nat) (req : Connect) : Option Sess :=
  if effClean req then none
  else ((b.storeGet (effCid c req)).bind b.getSess).filter (fun s => !s.clean)

/-- `Session.Update` -/
def updSess (s : Sess) (req : Connect) : Sess :=
  { s with clean := effClean req, willFlag := req.will.isSome, will := initWill req }

/-- `Session.Init` on a new object -/
def newSess (b : B) (c : Nat) (req : Connect) : Sess :=
  { ref := b.nextRef, cid := effCid c req, clean := effClean req, willFlag := req.will.isSome,
    will := initWill req, topics := [], pub2in := [] }

/-- state and SessionPresent bit after an accepted CONNECT -/
def accepted (b : B) (c : Nat) (req : Connect) : B × Bool :=
  match resumed b c req with
  | some s =>
    let b1 := addConn (b.setSess (updSess s req)) c s.ref
    ({ b1 with topics := resubscribe b1.topics c s.topics }, true)
  | none =>
    let s := newSess b c req
    let b1 := addConn ((({ b with nextRef := b.nextRef + 1 }).setSess s).storeSet s.cid s.ref) c s.ref
    (b1, false)

theorem first_connect (b : B) (c : Nat) (req : Connect) (a : Bool) :
    first b c (.connect req) a =
      if !levelOk req then (b, [.send c (.connack false 1), .closed c])
      else if flagsBad req then (b, [.closed c])
      else if idBad req then (b, [.send c (.connack false 2), .closed c])
      else if !a then (b, [.send c (.connack false 4), .closed c])
      else ((accepted b c req).1, [.send c (.connack (accepted b c req).2 0)]) := by
  simp only [first]
  rw [connectDecode_eq]
  cases levelOk req
  · rfl
  cases flagsBad req
  case true => rfl
  cases idBad req
  case true => rfl
  cases a
  · rfl
  unfold accepted resumed updSess newSess addConn effClean effCid
  cases req.clientId.isEmpty
  · simp only [Bool.false_eq_true, ↓reduceIte, Bool.not_true]
    split <;> rename_i hr <;> simp only [hr] <;> rfl
  · rfl

theorem first_accepted (b : B) (c : Nat) (req : Connect) (a : Bool) (h : accepts (.connect req) a = true) :
    first b c (.connect req) a = ((accepted b c req).1, [.send c (.connack (accepted b c req).2 0)]) := by
  simp only [accepts, Bool.and_eq_true, Bool.not_eq_true'] at h
  obtain ⟨⟨⟨h1, h2⟩, h3⟩, h4⟩ := h
  rw [first_connect]
  simp [h1, h2, h3, h4]

theorem spec_flags (req : Connect) :
    (req.reserved || (match req.will with
      | some w => decide (w.qos > 2)
      | none => decide (req.willQosNoWill != 0) || req.willRetainNoWill)) = flagsBad req := by
  unfold flagsBad
  cases req.will with
  | some w => simp
  | none => cases req.willQosNoWill <;> simp

theorem spec_id (req : Connect) :
    ((req.clientId.isEmpty && !req.clean) ||
      !(req.clientId.all Spec.Broker.printable && req.clientId.length ≤ 32)) = idBad req := by
  unfold idBad
  have : Spec.Broker.printable = printable := rfl
  rw [this]
  cases req.clientId with
  | nil => simp
  | cons x xs => simp

theorem refusals_eq (req : Connect) (a : Bool) :
    Spec.Broker.refusals req a =
      (if !levelOk req then [some 1] else []) ++ (if flagsBad req then [none] else []) ++
      (if idBad req then [some 2] else []) ++ (if !a then [some 4] else []) := by
  unfold Spec.Broker.refusals
  rw [← spec_flags, ← spec_id, facts_versions]
  rfl

theorem refusals_nil_iff (req : Connect) (a : Bool) :
    Spec.Broker.refusals req a = [] ↔ accepts (.connect req) a = true := by
  rw [refusals_eq]
  dsimp only [accepts]
  cases levelOk req <;> cases flagsBad req <;> cases idBad req <;> cases a <;> decide

theorem first_answer (c : Nat) (req : Connect) (a : Bool) (h : accepts (.connect req) a = false) :
    ∃ o, (∀ b, first b c (.connect req) a = (b, o)) ∧
      ((o = [.closed c] ∧ none ∈ Spec.Broker.refusals req a) ∨
       ∃ k, (k = 1 ∨ k = 2 ∨ k = 4) ∧ some k ∈ Spec.Broker.refusals req a ∧
         o = [.send c (.connack false k), .closed c]) := by
  simp only [first_connect, refusals_eq]
  dsimp only [accepts] at h
  cases h1 : levelOk req with
  | false => exact ⟨_, fun _ => rfl, .inr ⟨1, .inl rfl, by simp, rfl⟩⟩
  | true =>
    cases h2 : flagsBad req with
    | true => exact ⟨_, fun _ => rfl, .inl ⟨rfl, by simp⟩⟩
    | false =>
      cases h3 : idBad req with
      | true => exact ⟨_, fun _ => rfl, .inr ⟨2, .inr (.inl rfl), by simp, rfl⟩⟩
      | false =>
        cases a with
        | false => exact ⟨_, fun _ => rfl, .inr ⟨4, .inr (.inr rfl), by simp, rfl⟩⟩
        | true => rw [h1, h2, h3] at h; cases h

theorem first_table (b : B) (c : Nat) (req : Connect) (a : Bool) (h : accepts (.connect req) a = false) :
    (first b c (.connect req) a = (b, [.closed c]) ∧ none ∈ Spec.Broker.refusals req a) ∨
    ∃ k, k ≠ 0 ∧ some k ∈ Spec.Broker.refusals req a ∧
      first b c (.connect req) a = (b, [.send c (.connack false k), .closed c]) := by
  obtain ⟨o, h1, ⟨rfl, hn⟩ | ⟨k, hk, hm, rfl⟩⟩ := first_answer c req a h
  · exact .inl ⟨h1 b, hn⟩
  · exact .inr ⟨k, by omega, hm, h1 b⟩

theorem first_cases (c : Nat) (f : First) (a : Bool) :
    (accepts f a = false ∧ ∃ o, (∀ b, first b c f a = (b, o)) ∧
      (o = [.closed c] ∨ ∃ k, (k = 1 ∨ k = 2 ∨ k = 4) ∧ o = [.send c (.connack false k), .closed c])) ∨
    ∃ req, f = .connect req ∧ accepts f a = true ∧
      ∀ b, first b c f a = ((accepted b c req).1, [.send c (.connack (accepted b c req).2 0)]) := by
  cases f with
  | garbage => exact .inl ⟨rfl, _, fun _ => rfl, .inl rfl⟩
  | other t => exact .inl ⟨rfl, _, fun _ => rfl, .inl rfl⟩
  | connect req =>
    cases h : accepts (.connect req) a with
    | true => exact .inr ⟨req, rfl, rfl, fun b => first_accepted b c req a h⟩
    | false =>
      obtain ⟨o, h1, ⟨ho, _⟩ | ⟨k, hk, _, ho⟩⟩ := first_answer c req a h
      · exact .inl ⟨rfl, o, h1, .inl ho⟩
      · exact .inl ⟨rfl, o, h1, .inr ⟨k, hk, ho⟩⟩

theorem first_state (P : B → Prop) {b : B} (h : P b) (c : Nat) (f : First) (a : Bool)
    (hacc : ∀ req, f = .connect req → accepts f a = true → P (accepted b c req).1) : P (first b c f a).1 := by
  rcases first_cases c f a with ⟨_, o, h1, _⟩ | ⟨req, hf, ha, h1⟩ <;> rw [h1]
  · exact h
  · exact hacc req hf ha

theorem accepts_iff_emits (b : B) (c : Nat) (f : First) (a : Bool) :
    accepts f a = true ↔ ∃ sp, Out.send c (.connack sp 0) ∈ (first b c f a).2 := by
  rcases first_cases c f a with ⟨h0, o, h1, rfl | ⟨k, hk, rfl⟩⟩ | ⟨req, _, h0, h1⟩ <;> rw [h0, h1]
  · simp
  · simp only [Bool.false_eq_true, List.mem_cons, Out.send.injEq, Packet.connack.injEq, true_and, reduceCtorEq,
      List.not_mem_nil, or_false, false_iff, not_exists, not_and]
    omega
  · exact ⟨fun _ => ⟨_, List.mem_singleton.mpr rfl⟩, fun _ => rfl⟩

def acceptedSess (b : B) (c : Nat) (req : Connect) : Sess :=
  match resumed b c req with
  | some s => updSess s req
  | none => newSess b c req

theorem accepted_getConn (b : B) (c : Nat) (req : Connect) :
    (accepted b c req).1.getConn c = some { id := c, sess := (acceptedSess b c req).ref, alive := true } := by
  unfold accepted acceptedSess
  cases resumed b c req with
  | some s => exact getConn_addConn _ _ _
  | none => exact getConn_addConn _ _ _

theorem accepted_getConn_ne (b : B) (c d : Nat) (req : Connect) (h : c ≠ d) :
    (accepted b c req).1.getConn d = b.getConn d := by
  unfold accepted
  cases resumed b c req with
  | some s => exact getConn_addConn_ne _ _ _ _ h
  | none => exact getConn_addConn_ne _ _ _ _ h

theorem accepted_alive (b : B) (c : Nat) (req : Connect) : (accepted b c req).1.alive c = true := by
  unfold B.alive; rw [accepted_getConn]

theorem accepted_getSess (b : B) (c : Nat) (req : Connect) :
    (accepted b c req).1.getSess (acceptedSess b c req).ref = some (acceptedSess b c req) := by
  unfold accepted acceptedSess
  cases resumed b c req with
  | some s => exact getSess_setSess b (updSess s req)
  | none => exact getSess_setSess _ (newSess b c req)

theorem resumed_some {b : B} {c : Nat} {req : Connect} {s : Sess} (h : resumed b c req = some s) :
    effClean req = false ∧ b.storeGet (effCid c req) = some s.ref ∧ b.getSess s.ref = some s ∧ s.clean = false := by
  unfold resumed at h
  cases hcl : effClean req with
  | true => simp [hcl] at h
  | false =>
    simp only [hcl, Bool.false_eq_true, ↓reduceIte] at h
    cases hg : b.storeGet (effCid c req) with
    | none => simp [hg] at h
    | some r =>
      simp only [hg, Option.bind_some] at h
      cases hs : b.getSess r with
      | none => simp [hs] at h
      | some s0 =>
        simp only [hs, Option.filter] at h
        split at h
        · cases h
          rename_i hc
          have hr := getSess_ref hs
          subst hr
          exact ⟨rfl, rfl, hs, by simpa using hc⟩
        · cases h

theorem initWill_isSome (req : Connect) : (initWill req).isSome = req.will.isSome := by
  unfold initWill; cases req.will <;> rfl

theorem initWill_wills (req : Connect) (s : Sess) (h1 : s.willFlag = req.will.isSome) (h2 : s.will = initWill req)
    (hf : s.willFlag = true) : s.will.isSome = true := by
  rw [h2, initWill_isSome, ← h1]; exact hf

def unacceptedOn (c : Nat) : Ev → Bool
  | .first c' f a => c' == c && !accepts f a
  | .packet c' _ => c' == c
  | .close c' => c' == c
  | _ => false

theorem takeOver_refused (b : B) (f : First) (a : Bool) (h : accepts f a = false) : takeOver b f a = (b, []) := by
  rcases Mqtt.Proofs.Connect.takeOver_cases b f a with h0 | ⟨req, rfl, hd, rfl, _, _⟩
  · exact h0
  · rw [(accepts_iff_decoded req true).mpr ⟨hd, rfl⟩] at h; cases h

theorem takeOver_accepted (b : B) (req : Connect) (a : Bool) (h : accepts (.connect req) a = true) :
    takeOver b (.connect req) a =
      if req.clientId.isEmpty then (b, []) else stopAll b (sameClient b req.clientId) := by
  obtain ⟨hd, rfl⟩ := (accepts_iff_decoded req a).mp h
  unfold takeOver
  simp only [hd, Bool.not_true, Bool.false_or]

def refusalOut (c : Nat) (o : Out) : Prop := o = .closed c ∨ ∃ k, k ≠ 0 ∧ o = .send c (.connack false k)

theorem step_unaccepted (b : B) (c : Nat) (e : Ev) (hd : b.alive c = false) (h : unacceptedOn c e = true) :
    (step b e).1 = b ∧ ∀ o ∈ (step b e).2, refusalOut c o := by
  cases e with
  | first c' f a =>
    simp only [unacceptedOn, Bool.and_eq_true, beq_iff_eq, Bool.not_eq_true'] at h
    obtain ⟨rfl, ha⟩ := h
    rw [Mqtt.Proofs.Connect.step_first_eq, Mqtt.Proofs.Connect.connect_eq, takeOver_refused b f a ha]
    rcases first_cases c' f a with ⟨_, o, h1, ho⟩ | ⟨_, _, h0, _⟩
    · rw [h1]
      refine ⟨rfl, fun x hx => ?_⟩
      rcases ho with rfl | ⟨k, hk, rfl⟩
      · exact .inl (List.mem_singleton.mp hx)
      · rcases List.mem_cons.mp hx with rfl | hx
        · exact .inr ⟨k, by omega, rfl⟩
        · exact .inl (List.mem_singleton.mp hx)
    · rw [ha] at h0; cases h0
  | packet c' p =>
    obtain rfl : c' = c := beq_iff_eq.mp h
    show (packet b c' p).1 = b ∧ ∀ o ∈ (packet b c' p).2, refusalOut c' o
    rw [packet_dead b c' p hd]
    exact ⟨rfl, fun _ ho => nomatch ho⟩
  | close c' =>
    obtain rfl : c' = c := beq_iff_eq.mp h
    show (stop b c').1 = b ∧ ∀ o ∈ (stop b c').2, refusalOut c' o
    rw [stop_idle b c' hd]
    exact ⟨rfl, fun _ ho => nomatch ho⟩
  | srvPub p => cases h
  | srvSub cb f q => cases h
  | srvUnsub cb f => cases h

theorem run_unaccepted (b : B) (c : Nat) (evs : List Ev) (hd : b.alive c = false)
    (h : ∀ e ∈ evs, unacceptedOn c e = true) :
    (run b evs).1 = b ∧ ∀ os ∈ (run b evs).2, ∀ o ∈ os, refusalOut c o := by
  induction evs with
  | nil => simp [run]
  | cons e es ih =>
    have h1 := step_unaccepted b c e hd (h e (by simp))
    have h2 := ih (fun e he => h e (by simp [he]))
    simp only [run]
    rw [show step b e = ((step b e).1, (step b e).2) from rfl, h1.1]
    refine ⟨h2.1, ?_⟩
    intro os hos
    simp only [List.mem_cons] at hos
    rcases hos with rfl | hos
    · exact h1.2
    · exact h2.2 os hos

namespace Ex
/-- "MQTT", level 4 -/
def conn (id : Bytes) (clean : Bool) (will : Option Will := none) : Connect :=
  { protoName := [77, 81, 84, 84], version := 4, clean := clean, will := will, clientId := id }

def idA : Bytes := [65]        -- "A"
def idB : Bytes := [66]        -- "B"
def tAB : Bytes := [97, 47, 98] -- "a/b"
def tW : Bytes := [119]        -- "w"

/-- A (persistent, will on "w") is connected as 1 and subscribed to a/b and w;
B (clean) is connected as 2 and subscribed to a/b; a retained message sits on a/b. -/
def base : B :=
  (run {} [.first 1 (.connect (conn idA false (some ⟨tW, [1], 1, false⟩))) true,
           .packet 1 (.subscribe 1 [(tAB, 1), (tW, 2)]),
           .first 2 (.connect (conn idB true)) true,
           .packet 2 (.subscribe 1 [(tAB, 0)]),
           .srvPub { qos := 1, retain := true, topic := tAB, payload := [7] }]).1

/-- `base`, and in addition connection 2 and the in-process callback 1000 listen on the will topic "w" -/
def base2 : B := (run base [.packet 2 (.subscribe 2 [(tW, 1)]), .srvSub 1000 tW 0]).1
end Ex

end Mqtt.Proofs.BrokerLife
