/-
Core A (codec): what one call of a public setter does to a message object (`Step`: all 8 × 25
combinations of `applySetter`), the shape every object keeps under it (`Shape`), and the layout
of an encoding around the packet identifier, through which `SetPacketID` writes; messages built
through the API (`Built`: `Type.New()` + setters) and their invariant (dirty, and of the shape of their
type; `CodecReachThm.built_reachable` ties them to `Reachable`).
-/
import Mqtt.Proofs.CodecEncode


namespace Mqtt.Proofs.Codec

open Mqtt.Model.Codec Mqtt.Iface.Codec Mqtt.Generated
open Mqtt.Spec

/-- `SetDup` and `SetRetain` leave the type nibble and the QoS bits of the type/flags byte alone -/
theorem setBit_tf (v : Bool) : ∀ b : UInt8,
    ((setBit b 8 v).toNat / 16 = b.toNat / 16 ∧ (setBit b 8 v).toNat % 16 / 2 % 4 = b.toNat % 16 / 2 % 4) ∧
    ((setBit b 1 v).toNat / 16 = b.toNat / 16 ∧ (setBit b 1 v).toNat % 16 / 2 % 4 = b.toNat % 16 / 2 % 4) := by
  cases v <;> (apply forall_u8; decide +kernel)

/-- `SetQoS(q)` leaves the type nibble alone and stores `q` in the QoS bits -/
theorem setQos_tf {q : Nat} (hq : q < 3) : ∀ b : UInt8, ((b &&& 249) ||| UInt8.ofNat (q * 2)).toNat / 16 = b.toNat / 16 ∧
    ((b &&& 249) ||| UInt8.ofNat (q * 2)).toNat % 16 / 2 % 4 = q := by
  have h : ∀ q : Fin 3, ∀ n : Fin 256,
      ((UInt8.ofNat n.val &&& 249) ||| UInt8.ofNat (q.val * 2)).toNat / 16 = (UInt8.ofNat n.val).toNat / 16 ∧
      ((UInt8.ofNat n.val &&& 249) ||| UInt8.ofNat (q.val * 2)).toNat % 16 / 2 % 4 = q.val := by decide +kernel
  exact forall_u8 _ (h ⟨q, hq⟩)

/-- the CONNECT flag setters leave the reserved bit 0 alone -/
theorem setBit_bit0 (v : Bool) : ∀ b : UInt8,
    (setBit b 2 v).toNat % 2 = b.toNat % 2 ∧ (setBit b 4 v).toNat % 2 = b.toNat % 2 ∧
    (setBit b 32 v).toNat % 2 = b.toNat % 2 ∧ (setBit b 64 v).toNat % 2 = b.toNat % 2 ∧
    (setBit b 128 v).toNat % 2 = b.toNat % 2 := by
  cases v <;> (apply forall_u8; decide +kernel)

theorem setWillQos_bit0 {q : Nat} (hq : q < 3) : ∀ b : UInt8,
    ((b &&& 231) ||| UInt8.ofNat (q * 8)).toNat % 2 = b.toNat % 2 := by
  have h : ∀ q : Fin 3, ∀ n : Fin 256,
      ((UInt8.ofNat n.val &&& 231) ||| UInt8.ofNat (q.val * 8)).toNat % 2 = (UInt8.ofNat n.val).toNat % 2 := by
    decide +kernel
  exact forall_u8 _ (h ⟨q, hq⟩)

theorem validQos_lt {q : Nat} (h : validQos q = true) : q < 3 := by
  simp only [validQos, qosAtMostOnce, qosAtLeastOnce, qosExactlyOnce, Bool.or_eq_true, beq_iff_eq] at h
  omega

/-- the effect of one setter call, as far as `Encode` and `Shape` can tell -/
inductive Step (m : Msg) : Msg → Prop where
  /-- nothing changed (value refused, or a setter the type does not have) -/
  | same : Step m m
  /-- the object is dirty afterwards (`Encode` rebuilds the bytes from the fields) and keeps its shape -/
  | dirty (m' : Msg) : m'.hdr.dirty = true → (Shape m → Shape m') → Step m m'
  /-- PUBLISH flags written through `mtypeflags[0]`: the type stays, the QoS stays zero or stays non-zero -/
  | flags (h : Hdr) (t p : Bytes) (v : UInt8) : m = .publish h t p → v.toNat / 16 = h.tf.toNat / 16 →
      (pubQoS (h.setTf v) = 0 ↔ pubQoS h = 0) → Step m (.publish (h.setTf v) t p)
  /-- `SetPacketID` -/
  | pid (v : Nat) : Step m (m.setHdr (m.hdr.setPacketID v))

theorem Step.connect {h : Hdr} {c c' : ConnectF} (hf : c'.connectFlags.toNat % 2 = c.connectFlags.toNat % 2)
    (hk : c'.keepAlive = c.keepAlive ∨ c'.keepAlive < 65536) :
    Step (.connect h c) (.connect { h with dirty := true } c') :=
  .dirty _ rfl fun ⟨s1, s2, s3, s4⟩ => ⟨s1, s2, hf ▸ s3, hk.elim (fun e => e ▸ s4) id⟩

theorem Step.subscribe {h : Hdr} {ts ts' : List Bytes} {qs qs' : List UInt8}
    (hl : ts.length = qs.length → ts'.length = qs'.length) :
    Step (.subscribe h ts qs) (.subscribe { h with dirty := true } ts' qs') :=
  .dirty _ rfl fun ⟨s1, s2, s3⟩ => ⟨s1, s2, hl s3⟩

theorem step_connect (h : Hdr) (c : ConnectF) (s : Setter) : Step (.connect h c) (applySetter (.connect h c) s).1 := by
  have hb := fun v => setBit_bit0 v c.connectFlags
  cases s with
  | version v => simp only [applySetter]; split; exact .same; exact .connect rfl (.inl rfl)
  | clean b => exact .connect (hb b).1 (.inl rfl)
  | willFlag b => exact .connect (hb b).2.1 (.inl rfl)
  | willQos q =>
    simp only [applySetter]; split; exact .same
    rename_i hq
    exact .connect (setWillQos_bit0 (validQos_lt (by simpa using hq)) c.connectFlags) (.inl rfl)
  | willRetain b => exact .connect (hb b).2.2.1 (.inl rfl)
  | userFlag b => exact .connect (hb b).2.2.2.2 (.inl rfl)
  | passFlag b => exact .connect (hb b).2.2.2.1 (.inl rfl)
  | keepAlive v => exact .connect rfl (.inr (Nat.mod_lt _ (by omega)))
  | clientId bs => simp only [applySetter]; split; exact .same; exact .connect rfl (.inl rfl)
  | willTopic bs =>
    simp only [applySetter]
    split
    · exact .connect (hb true).2.1 (.inl rfl)
    · split
      · exact .connect (hb false).2.1 (.inl rfl)
      · exact .connect rfl (.inl rfl)
  | willMessage bs =>
    simp only [applySetter]
    split
    · exact .connect (hb true).2.1 (.inl rfl)
    · split
      · exact .connect (hb false).2.1 (.inl rfl)
      · exact .connect rfl (.inl rfl)
  | username bs => exact .connect (hb _).2.2.2.2 (.inl rfl)
  | password bs => exact .connect (hb _).2.2.2.1 (.inl rfl)
  | _ => exact .same

theorem step_publish (h : Hdr) (t p : Bytes) (s : Setter) : Step (.publish h t p) (applySetter (.publish h t p) s).1 := by
  have hq : ∀ v : UInt8, v.toNat % 16 / 2 % 4 = h.tf.toNat % 16 / 2 % 4 → (pubQoS (h.setTf v) = 0 ↔ pubQoS h = 0) :=
    fun v e => by show v.toNat % 16 / 2 % 4 = 0 ↔ h.tf.toNat % 16 / 2 % 4 = 0; rw [e]
  cases s with
  | id v => exact .pid _
  | dup b => exact .flags h t p _ rfl (setBit_tf b h.tf).1.1 (hq _ (setBit_tf b h.tf).1.2)
  | retain b => exact .flags h t p _ rfl (setBit_tf b h.tf).2.1 (hq _ (setBit_tf b h.tf).2.2)
  | qos v =>
    simp only [applySetter]
    split; exact .same
    rename_i hv
    obtain ⟨h1, h2⟩ := setQos_tf (q := v % 256) (by omega) h.tf
    split
    · exact .dirty _ rfl fun hs => h1.trans hs
    · rename_i hcls
      refine .flags h t p _ rfl h1 ?_
      show ((h.tf &&& 249) ||| UInt8.ofNat (v % 256 * 2)).toNat % 16 / 2 % 4 = 0 ↔ pubQoS h = 0
      rw [h2]
      have : (pubQoS h > 0) = (v % 256 > 0) := by simpa using hcls
      constructor <;> intro e <;> rw [e] at this <;> simp at this <;> omega
  | topic bs => simp only [applySetter]; split; exact .same; exact .dirty _ rfl id
  | payload bs => exact .dirty _ rfl id
  | _ => exact .same

theorem step_of_setter (m : Msg) (s : Setter) : Step m (applySetter m s).1 := by
  cases m with
  | connect h c => exact step_connect h c s
  | publish h t p => exact step_publish h t p s
  | connack h sp rc =>
    cases s with
    | id v => exact .pid _
    | sessionPresent b => exact .dirty _ rfl id
    | returnCode c => exact .dirty _ rfl id
    | _ => exact .same
  | ack h =>
    cases s with
    | id v => exact .pid _
    | _ => exact .same
  | bare h =>
    cases s with
    | id v => exact .pid _
    | _ => exact .same
  | suback h codes =>
    cases s with
    | id v => exact .pid _
    | code c => simp only [applySetter]; split; exact .dirty _ rfl id; exact .same
    | _ => exact .same
  | unsubscribe h ts =>
    cases s with
    | id v => exact .pid _
    | addUnsub t => simp only [applySetter]; split; exact .same; exact .dirty _ rfl id
    | remove t => simp only [applySetter]; split <;> exact .dirty _ rfl id
    | _ => exact .same
  | subscribe h ts qs =>
    cases s with
    | id v => exact .pid _
    | addSub t q =>
      simp only [applySetter]
      split; exact .same
      split
      · refine .subscribe fun e => ?_
        rw [List.length_set]; exact e
      · refine .subscribe fun e => ?_
        rw [List.length_append, List.length_append, e]; rfl
    | remove t =>
      simp only [applySetter]
      split
      · refine .subscribe fun e => ?_
        simp only [removeAt, List.length_append, List.length_take, List.length_drop, e]
      · exact .subscribe id
    | _ => exact .same

theorem shape_step {m m' : Msg} (st : Step m m') (hs : Shape m) : Shape m' := by
  cases st with
  | same => exact hs
  | dirty _ _ h => exact h hs
  | flags h t p v hm hty _ => subst hm; exact hty.trans hs
  | pid v => exact shape_setHdr m _ (setPacketID_keeps _ v).1 (setPacketID_keeps _ v).2.1 hs

theorem setHdr_hdr (m : Msg) (h' : Hdr) : (m.setHdr h').hdr = h' := by cases m <;> rfl

theorem step_dirty {m m' : Msg} (st : Step m m') (hd : m.hdr.dirty = true) : m'.hdr.dirty = true := by
  cases st with
  | same => exact hd
  | dirty _ h _ => exact h
  | flags h t p v hm _ _ => subst hm; exact hd
  | pid v => rw [setHdr_hdr]; exact (setPacketID_keeps m.hdr v).2.2 hd

theorem shape_set (m : Msg) (s : Setter) (hs : Shape m) : Shape (applySetter m s).1 :=
  shape_step (step_of_setter m s) hs

/-! ## layout of an encoding around the packet identifier

`Wire.encodeV V p` is the type/flags byte, the remaining-length bytes `V`, and the body of `p`
(`Wire.encode p = Wire.encodeV (Wire.varint |body|) p`). -/

theorem encV_hd (V : Bytes) (m : Msg) (hs : Shape m) :
    Wire.encodeV V (absMsg m) = m.hdr.tf :: (V ++ (absMsg m).body) := by
  unfold Wire.encodeV
  rw [head_tf m hs]

/-- the bytes of the body behind the packet identifier (`bpre`: those in front of it) -/
def bpost : Msg → Bytes
  | .publish _ _ p => p
  | .subscribe _ ts qs => encFilters (ts.zip qs)
  | .suback _ codes => codes
  | .unsubscribe _ ts => encTopics ts
  | _ => []

theorem body_split (m : Msg) (hid : HasId m) (hp : m.hdr.pid.length = 2) :
    (absMsg m).body = bpre m ++ (m.hdr.pid ++ bpost m) := by
  cases m with
  | publish h t p =>
    have hq : ¬ pubQoS h = 0 := hid
    rw [body_publish]
    simp only [hq, if_false, bpre, bpost, Msg.hdr]
    rw [← pid_two h hp]
  | ack h =>
    rw [body_ack]
    simp only [bpre, bpost, Msg.hdr]
    rw [← pid_two h hp]
    simp
  | subscribe h ts qs =>
    show Wire.u16 (u16of h.pid) ++ encFilters (ts.zip qs) = _
    simp only [bpre, bpost, Msg.hdr]
    rw [← pid_two h hp]
    simp
  | suback h codes =>
    show Wire.u16 (u16of h.pid) ++ codes = _
    simp only [bpre, bpost, Msg.hdr]
    rw [← pid_two h hp]
    simp
  | unsubscribe h ts =>
    show Wire.u16 (u16of h.pid) ++ encTopics ts = _
    simp only [bpre, bpost, Msg.hdr]
    rw [← pid_two h hp]
    simp
  | connect h c => exact absurd hid id
  | connack h a b => exact absurd hid id
  | bare h => exact absurd hid id

theorem encV_split (V : Bytes) (m : Msg) (hs : Shape m) (hid : HasId m) (hp : m.hdr.pid.length = 2) :
    Wire.encodeV V (absMsg m) = (m.hdr.tf :: (V ++ bpre m)) ++ (m.hdr.pid ++ bpost m) := by
  rw [encV_hd V m hs, body_split m hid hp]
  simp

theorem set_two (pre post : Bytes) (a b a' b' : UInt8) :
    ((pre ++ (a :: b :: post)).set pre.length a').set (pre.length + 1) b' = pre ++ (a' :: b' :: post) := by
  induction pre with
  | nil => rfl
  | cons x pre ih => simp only [List.cons_append, List.length_cons, List.set_cons_succ]; rw [ih]

/-- messages built through the public API: `Type.New()` followed by setter calls -/
inductive Built : Msg → Prop where
  | new {t : Nat} {m : Msg} : Msg.new t = some m → Built m
  | set {m : Msg} (s : Setter) : Built m → Built (applySetter m s).1

/-- the invariant of `Built`: a message that never went through `Decode` is dirty, whatever setters were called -/
def FreshInv (m : Msg) : Prop := m.hdr.dirty = true ∧ Shape m

theorem freshInv_new {t : Nat} {m : Msg} (h : Msg.new t = some m) : FreshInv m := by
  rcases msgNew_cases h with ⟨_, rfl⟩ | ⟨_, rfl⟩ | ⟨_, rfl⟩ | ⟨rfl | rfl | rfl | rfl | rfl, rfl⟩ | ⟨_, rfl⟩ | ⟨_, rfl⟩ |
    ⟨_, rfl⟩ | ⟨rfl | rfl | rfl, rfl⟩ <;> exact ⟨rfl, by unfold Shape; decide⟩

theorem built_inv {m : Msg} (hb : Built m) : FreshInv m := by
  induction hb with
  | new h => exact freshInv_new h
  | set s _ ih => exact ⟨step_dirty (step_of_setter _ s) ih.1, shape_set _ s ih.2⟩

end Mqtt.Proofs.Codec
