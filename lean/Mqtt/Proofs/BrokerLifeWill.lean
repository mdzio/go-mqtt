/-
Which events read the will message of a session: only `stop` with the will flag
set.  Formulated as non-interference: erasing every stored will message
(`eraseWills`) changes neither the outputs of any other event nor - up to the
erased field - the state it leads to.
-/
import Mqtt.Proofs.BrokerLifeInv

namespace Mqtt.Proofs.BrokerLife
open Mqtt.Iface.Broker Mqtt.Model.Broker
open Mqtt.Proofs.Broker (packet_dead)

def eraseWill (s : Sess) : Sess := { s with will := none }

/-- the same broker state with every stored will message removed (flags kept) -/
def eraseWills (b : B) : B := { b with sess := b.sess.map eraseWill }

theorem eraseWill_idem (s : Sess) : eraseWill (eraseWill s) = eraseWill s := rfl

theorem eraseWills_idem (b : B) : eraseWills (eraseWills b) = eraseWills b := by
  unfold eraseWills
  simp only [List.map_map]
  congr 1

theorem ew_alive (b : B) (c : Nat) : (eraseWills b).alive c = b.alive c := rfl
theorem ew_getConn (b : B) (c : Nat) : (eraseWills b).getConn c = b.getConn c := rfl
theorem ew_storeGet (b : B) (k : Bytes) : (eraseWills b).storeGet k = b.storeGet k := rfl

theorem ew_getSess (b : B) (r : Nat) : (eraseWills b).getSess r = (b.getSess r).map eraseWill :=
  List.find?_map

theorem ew_setSess (b : B) (s : Sess) : (eraseWills b).setSess (eraseWill s) = eraseWills (b.setSess s) := by
  unfold eraseWills B.setSess
  have hany : (b.sess.map eraseWill).any (fun x => x.ref == (eraseWill s).ref) = b.sess.any (fun x => x.ref == s.ref) := by
    rw [List.any_map]; rfl
  simp only [hany]
  cases b.sess.any (fun x => x.ref == s.ref)
  · simp only [Bool.false_eq_true, ↓reduceIte, List.map_append, List.map_cons, List.map_nil]
  · simp only [↓reduceIte, List.map_map]
    congr 1
    apply List.map_congr_left
    intro x _
    show (if (eraseWill x).ref == (eraseWill s).ref then eraseWill s else eraseWill x) = eraseWill (if x.ref == s.ref then s else x)
    have h1 : (eraseWill x).ref = x.ref := rfl
    have h2 : (eraseWill s).ref = s.ref := rfl
    rw [h1, h2]
    split <;> rfl

theorem ew_setSess' (b : B) (s : Sess) : eraseWills ((eraseWills b).setSess s) = eraseWills (b.setSess s) := by
  rw [← ew_setSess (eraseWills b) s, eraseWills_idem, ew_setSess]

theorem ew_storeDel (b : B) (k : Bytes) : (eraseWills b).storeDel k = eraseWills (b.storeDel k) := rfl
theorem ew_storeSet (b : B) (k : Bytes) (r : Nat) : (eraseWills b).storeSet k r = eraseWills (b.storeSet k r) := rfl
theorem ew_markDead (b : B) (c : Nat) : markDead (eraseWills b) c = eraseWills (markDead b c) := rfl

theorem deliverConn_ew (b : B) (d : Nat) (m : Msg) :
    deliverConn (eraseWills b) d m = (eraseWills (deliverConn b d m).1, (deliverConn b d m).2) := by
  rw [Broker.deliverConn_eq, Broker.deliverConn_eq]
  show (if b.alive d && _ then _ else _) = _
  split <;> rfl

theorem fanout_ew (subs : List (Nat × Nat)) : ∀ (b : B) (m : Msg),
    fanout (eraseWills b) m subs = (eraseWills (fanout b m subs).1, (fanout b m subs).2) := by
  induction subs with
  | nil => intro b m; rfl
  | cons x xs ih =>
    intro b m
    obtain ⟨s, eqos⟩ := x
    simp only [fanout]
    split
    · rw [deliverConn_ew, ih]
    · rw [ih]

theorem retainStep_ew (b : B) (m : Msg) :
    retainStep (eraseWills b) m = (eraseWills (retainStep b m).1, (retainStep b m).2) := by
  unfold retainStep
  rw [show (eraseWills b).ctr = b.ctr from rfl, show (eraseWills b).topics = b.topics from rfl]
  cases m.p.retain
  · rfl
  cases m.p.payload.isEmpty
  case true => rfl
  cases (Mqtt.Model.Topics.checkTopic m.p.topic || !(Mqtt.Model.Topics.levels m.p.topic).2)
  case true => rfl
  cases m.encode b.ctr <;> rfl

theorem onPublish_ew (b : B) (m : Msg) :
    onPublish (eraseWills b) m = (eraseWills (onPublish b m).1, (onPublish b m).2) := by
  rw [Broker.onPublish_eq, Broker.onPublish_eq, retainStep_ew]
  show (match b.topics.subscribers m.p.topic m.p.qos with | none => _ | some subs => _) = _
  cases b.topics.subscribers m.p.topic m.p.qos with
  | none => rfl
  | some subs => dsimp only; rw [fanout_ew]

theorem releaseAll_ew (l : List QEntry) : ∀ b : B,
    releaseAll (eraseWills b) l = (eraseWills (releaseAll b l).1, (releaseAll b l).2) := by
  induction l with
  | nil => intro b; rfl
  | cons e es ih =>
    intro b
    simp only [releaseAll]
    rw [onPublish_ew, ih]

theorem sendRetained_ew (c : Nat) (l : List Msg) : ∀ b : B,
    sendRetained (eraseWills b) c l = (eraseWills (sendRetained b c l).1, (sendRetained b c l).2) := by
  induction l with
  | nil => intro b; rfl
  | cons m ms ih =>
    intro b
    simp only [sendRetained, ew_alive]
    have hc : (eraseWills b).ctr = b.ctr := rfl
    rw [hc]
    by_cases hal : b.alive c = true
    · simp only [hal, Bool.not_true, Bool.false_eq_true, ↓reduceIte]
      cases henc : m.encode b.ctr with
      | none => rfl
      | some r =>
        obtain ⟨wire, m', ctr⟩ := r
        have := ih { b with ctr := ctr }
        have he : eraseWills { b with ctr := ctr } = { eraseWills b with ctr := ctr } := rfl
        rw [he] at this
        simp only [this]
    · have hal' : b.alive c = false := by simpa using hal
      simp only [hal', Bool.not_false, ↓reduceIte]

theorem subscribeLoop_ew (c : Nat) (l : List (Bytes × Nat)) (b : B) (s : Sess) (codes : List Nat) (rms : List Msg) :
    subscribeLoop (eraseWills b) c (eraseWill s) l codes rms =
      (eraseWills (subscribeLoop b c s l codes rms).1, eraseWill (subscribeLoop b c s l codes rms).2.1,
        (subscribeLoop b c s l codes rms).2.2) := by
  rw [Broker.subscribeLoop_eq, Broker.subscribeLoop_eq]
  rfl

theorem send_ew (b : B) (c : Nat) (p : Packet) : send (eraseWills b) c p = send b c p := rfl

theorem stop_ew_noflag (b : B) (c : Nat) (cn : Conn) (s : Sess)
    (hc : b.getConn c = some cn) (ha : cn.alive = true) (hs : b.getSess cn.sess = some s)
    (hf : s.willFlag = false) :
    stop (eraseWills b) c = (eraseWills (stop b c).1, (stop b c).2) := by
  have hs' : (eraseWills b).getSess cn.sess = some (eraseWill s) := by rw [ew_getSess, hs]; rfl
  rw [stop_live b c cn s hc ha hs, stop_live (eraseWills b) c cn (eraseWill s) (by exact hc) ha hs']
  have hf' : (eraseWill s).willFlag = false := hf
  simp only [hf, hf', Bool.false_eq_true, ↓reduceIte]
  have hcl : (eraseWill s).clean = s.clean := rfl
  rw [hcl]
  cases s.clean <;> rfl

theorem served_ew {b : B} {c : Nat} {cn : Conn} {s : Sess}
    (hc : b.getConn c = some cn) (ha : cn.alive = true) (hs : b.getSess cn.sess = some s) (p : Packet) :
    served (eraseWills b) c (eraseWill s) p = (eraseWills (served b c s p).1, (served b c s p).2) := by
  cases p with
  | publish pub =>
    simp only [served, send_ew, onPublish_ew]
    cases pub.qos == 2
    · cases pub.qos == 1 <;> rfl
    · exact Prod.ext (ew_setSess b { s with pub2in := q2Wait s.pub2in pub }) rfl
  | pubrel id =>
    have h1 : (eraseWills b).setSess { eraseWill s with pub2in := (q2Acked (q2Ack (eraseWill s).pub2in id)).1 } =
        eraseWills (b.setSess { s with pub2in := (q2Acked (q2Ack s.pub2in id)).1 }) :=
      ew_setSess b { s with pub2in := (q2Acked (q2Ack s.pub2in id)).1 }
    simp only [served]
    rw [h1, releaseAll_ew]
    rfl
  | subscribe id topics =>
    simp only [served]
    rw [subscribeLoop_ew, ew_setSess, sendRetained_ew]
    rfl
  | unsubscribe id topics =>
    exact Prod.ext (ew_setSess { b with topics := topics.foldl (fun ts t => (ts.unsubscribe t (some c)).1) b.topics }
      { s with topics := s.topics.filter (fun p => !topics.contains p.1) }) rfl
  | disconnect =>
    have h1 : (eraseWills b).setSess { eraseWill s with willFlag := false } =
        eraseWills (b.setSess { s with willFlag := false }) := ew_setSess b { s with willFlag := false }
    simp only [served]
    rw [h1]
    refine stop_ew_noflag _ c cn { s with willFlag := false } hc ha ?_ rfl
    rw [← getSess_ref hs]
    exact getSess_setSess b { s with willFlag := false }
  | _ => rfl

theorem packet_ew (b : B) (c : Nat) (p : Packet) :
    packet (eraseWills b) c p = (eraseWills (packet b c p).1, (packet b c p).2) := by
  cases hal : b.alive c with
  | false => rw [packet_dead b c p hal, packet_dead (eraseWills b) c p hal]
  | true =>
    obtain ⟨cn, hc, ha⟩ := (alive_true_iff b c).mp hal
    have hc' : (eraseWills b).getConn c = some cn := hc
    cases hs : b.getSess cn.sess with
    | none => rw [packet_nosess hc hs, packet_nosess hc' (by rw [ew_getSess, hs]; rfl)]
    | some s =>
      rw [packet_live hc ha hs, packet_live hc' ha (by rw [ew_getSess, hs]; rfl), served_ew hc ha hs]

theorem resumed_ew (b : B) (c : Nat) (req : Connect) :
    resumed (eraseWills b) c req = (resumed b c req).map eraseWill := by
  unfold resumed
  rw [ew_storeGet]
  cases effClean req
  · cases b.storeGet (effCid c req) with
    | none => rfl
    | some r =>
      simp only [Bool.false_eq_true, ↓reduceIte, Option.bind_some, ew_getSess]
      cases b.getSess r with
      | none => rfl
      | some s => cases hcl : s.clean <;> simp [Option.filter, eraseWill, hcl]
  · rfl

theorem accepted_ew (b : B) (c : Nat) (req : Connect) :
    (accepted (eraseWills b) c req).2 = (accepted b c req).2 ∧
    eraseWills (accepted (eraseWills b) c req).1 = eraseWills (accepted b c req).1 := by
  unfold accepted
  rw [resumed_ew]
  cases resumed b c req with
  | none =>
    exact ⟨rfl, congrArg (fun x : B => addConn (x.storeSet (effCid c req) b.nextRef) c b.nextRef)
      (ew_setSess' { b with nextRef := b.nextRef + 1 } (newSess b c req))⟩
  | some s =>
    exact ⟨rfl, congrArg (fun x : B => ({ addConn x c s.ref with topics := resubscribe b.topics c s.topics } : B))
      (ew_setSess' b (updSess s req))⟩

theorem first_ew (b : B) (c : Nat) (f : First) (a : Bool) :
    (first (eraseWills b) c f a).2 = (first b c f a).2 ∧
    eraseWills (first (eraseWills b) c f a).1 = eraseWills (first b c f a).1 := by
  rcases first_cases c f a with ⟨_, o, h1, _⟩ | ⟨req, _, _, h1⟩ <;> rw [h1, h1]
  · exact ⟨rfl, eraseWills_idem b⟩
  · exact ⟨by rw [(accepted_ew b c req).1], (accepted_ew b c req).2⟩

/-- the events that can run `stop` with a will flag set, the only reader of a will: the end of a
connection, and a CONNECT with a supplied client identifier (it ends an existing connection of
that client first, MQTT-3.1.4-2).  A DISCONNECT runs `stop` too, but clears the will flag first. -/
def mayStop : Ev → Bool
  | .close _ => true
  | .first _ (.connect req) _ => !req.clientId.isEmpty
  | _ => false

theorem takeOver_of_not_mayStop (b : B) (c : Nat) (f : First) (a : Bool) (h : mayStop (.first c f a) = false) :
    takeOver b f a = (b, []) := by
  rcases Mqtt.Proofs.Connect.takeOver_cases b f a with h0 | ⟨req, rfl, _, _, hne, _⟩
  · exact h0
  · simp [mayStop, hne] at h

theorem ew_pair {x y : B × List Out} (h : x = (eraseWills y.1, y.2)) :
    x.2 = y.2 ∧ eraseWills x.1 = eraseWills y.1 := by
  rw [h]; exact ⟨rfl, eraseWills_idem _⟩

theorem step_ew (b : B) (e : Ev) (h : mayStop e = false) :
    (step (eraseWills b) e).2 = (step b e).2 ∧
    eraseWills (step (eraseWills b) e).1 = eraseWills (step b e).1 := by
  cases e with
  | first c f a =>
    rw [Mqtt.Proofs.Connect.step_first_eq, Mqtt.Proofs.Connect.step_first_eq, Mqtt.Proofs.Connect.connect_eq,
      Mqtt.Proofs.Connect.connect_eq, takeOver_of_not_mayStop b c f a h, takeOver_of_not_mayStop (eraseWills b) c f a h]
    exact first_ew b c f a
  | packet c p => exact ew_pair (packet_ew b c p)
  | close c => cases h
  | srvPub p => exact ew_pair (x := srvPub _ p) (y := srvPub b p) (by unfold srvPub; rw [onPublish_ew])
  | srvSub cb f q =>
    refine ew_pair (x := srvSub _ cb f q) (y := srvSub b cb f q) ?_
    unfold srvSub
    rw [show (eraseWills b).topics = b.topics from rfl]
    split <;> rfl
  | srvUnsub cb f => exact ew_pair rfl

theorem run_ew (evs : List Ev) (h : ∀ e ∈ evs, mayStop e = false) : ∀ b b' : B, eraseWills b' = eraseWills b →
    (run b' evs).2 = (run b evs).2 ∧ eraseWills (run b' evs).1 = eraseWills (run b evs).1 := by
  induction evs with
  | nil => intro b b' hb; exact ⟨rfl, hb⟩
  | cons e es ih =>
    intro b b' hb
    have he := h e List.mem_cons_self
    have h1 := step_ew b e he
    have h2 := step_ew b' e he
    rw [hb] at h2
    have := ih (fun e he => h e (List.mem_cons_of_mem _ he)) (step b e).1 (step b' e).1 (h2.2.symm.trans h1.2)
    simp only [run]
    exact ⟨by rw [h2.1.symm.trans h1.1, this.1], this.2⟩

end Mqtt.Proofs.BrokerLife
