/-
Core G (C18): in a well-formed trace of `Spec/Locks.lean`, accesses that follow the lock discipline
do not race (`race_free_of_disciplined`).  The classic argument: of two critical sections of one
mutex, at least one exclusive, the earlier is released before the later is acquired.  The lock
state is read through one case principle (`stAt_cases`); where a hold begins or ends is found by
the discrete intermediate-value lemma `exists_flip`.  Independent of `Generated.Facts`.
(The specification's `Acc` is written `Spec.Locks.Acc`: the root namespace has an `Acc` of its own.)
-/
import Mqtt.Spec.Locks

namespace Mqtt.Proofs.Locks
open Mqtt.Spec.Locks

variable {τ : List Ev}

theorem stAt_succ_some {k : Nat} {e : Ev} (h : τ[k]? = some e) :
    stAt τ (k + 1) = step (stAt τ k) e := by
  show (match τ[k]? with | some e => step (stAt τ k) e | none => stAt τ k) = _
  rw [h]

theorem acc_tid {e : Ev} {a : Spec.Locks.Acc} (h : e.acc = some a) : a.t = e.tid := by
  unfold Ev.acc at h
  split at h <;> cases h <;> rfl

theorem acc_lt {i r : Nat} {ea er : Ev} {a : Spec.Locks.Acc} (hi : τ[i]? = some ea)
    (ha : ea.acc = some a) (hr : τ[r]? = some er) (hn : er.acc = none) (hir : i ≤ r) : i < r := by
  refine Nat.lt_of_le_of_ne hir fun h => ?_
  subst h
  rw [hr] at hi
  cases hi
  rw [hn] at ha
  cases ha

theorem hb_lt {i j : Nat} (h : HB τ i j) : i < j := by
  induction h with
  | edge h => exact h.1
  | trans _ _ ih1 ih2 => exact Nat.lt_trans ih1 ih2

theorem exists_flip (P : Nat → Prop) {i j : Nat} (hij : i ≤ j) (hi : P i) (hj : ¬ P j) :
    ∃ r, i ≤ r ∧ r < j ∧ P r ∧ ¬ P (r + 1) := by
  induction j with
  | zero => exact absurd (Nat.le_zero.mp hij ▸ hi) hj
  | succ j ih =>
    rcases Nat.lt_or_ge j i with hlt | hle
    · exact absurd (Nat.le_antisymm hij hlt ▸ hi) hj
    · by_cases hp : P j
      · exact ⟨j, hle, Nat.lt_succ_self j, hp, hj⟩
      · obtain ⟨r, h1, h2, h3⟩ := ih hle hp
        exact ⟨r, h1, Nat.lt_succ_of_lt h2, h3⟩

/-- `S'` is `S` after the event `o` (or after none), seen at the exclusive holder of `m` and the
shared holds of `u` on `m` -/
inductive StepAt (S S' : LState) (o : Option Ev) (m : Mid) (u : Tid) : Prop where
  | acq (t : Tid) (he : o = some (.acq t m)) (hx : S'.excl m = some t) (hs : S'.shr m u = S.shr m u)
  | rel (t : Tid) (he : o = some (.rel t m)) (hx : S'.excl m = none) (hs : S'.shr m u = S.shr m u)
  | racq (he : o = some (.racq u m)) (hx : S'.excl m = S.excl m) (hs : S'.shr m u = S.shr m u + 1)
  | rrel (he : o = some (.rrel u m)) (hx : S'.excl m = S.excl m) (hs : S'.shr m u = S.shr m u - 1)
  | same (hx : S'.excl m = S.excl m) (hs : S'.shr m u = S.shr m u)

theorem step_cases (S : LState) (m : Mid) (u : Tid) (o : Option Ev) :
    StepAt S (match o with | some e => step S e | none => S) o m u := by
  cases o with
  | none => exact .same rfl rfl
  | some e =>
    cases e with
    | acq t m' =>
      by_cases hm : m = m'
      · subst hm; exact .acq t rfl (if_pos rfl) rfl
      · exact .same (if_neg hm) rfl
    | rel t m' =>
      by_cases hm : m = m'
      · subst hm; exact .rel t rfl (if_pos rfl) rfl
      · exact .same (if_neg hm) rfl
    | racq t m' =>
      by_cases hc : m = m' ∧ u = t
      · obtain ⟨rfl, rfl⟩ := hc; exact .racq rfl rfl (if_pos ⟨rfl, rfl⟩)
      · exact .same rfl (if_neg hc)
    | rrel t m' =>
      by_cases hc : m = m' ∧ u = t
      · obtain ⟨rfl, rfl⟩ := hc; exact .rrel rfl rfl (if_pos ⟨rfl, rfl⟩)
      · exact .same rfl (if_neg hc)
    | _ => exact .same rfl rfl

theorem stAt_cases (τ : List Ev) (r : Nat) (m : Mid) (u : Tid) :
    StepAt (stAt τ r) (stAt τ (r + 1)) τ[r]? m u :=
  step_cases (stAt τ r) m u τ[r]?

def Holds (S : LState) (u : Tid) (m : Mid) : Prop := S.excl m = some u ∨ 0 < S.shr m u

theorem excl_lost (hwf : WF τ) {r : Nat} {m : Mid} {t : Tid}
    (h0 : (stAt τ r).excl m = some t) (h1 : (stAt τ (r + 1)).excl m ≠ some t) :
    τ[r]? = some (.rel t m) := by
  cases stAt_cases τ r m t with
  | acq t' he _ _ =>
    -- an `acq` is enabled only when nobody holds `m`
    have en := (hwf r _ he).1
    rw [h0] at en
    cases en
  | rel t' he _ _ =>
    -- only the holder releases
    have en : _ = _ := hwf r _ he
    rw [h0] at en
    cases en
    exact he
  | racq _ hx _ | rrel _ hx _ | same hx _ => exact absurd (hx.trans h0) h1

theorem excl_gained {r : Nat} {m : Mid} {u : Tid}
    (h0 : (stAt τ r).excl m ≠ some u) (h1 : (stAt τ (r + 1)).excl m = some u) :
    τ[r]? = some (.acq u m) := by
  cases stAt_cases τ r m u with
  | acq t he hx _ => rw [hx] at h1; cases h1; exact he
  | rel t _ hx _ => rw [hx] at h1; cases h1
  | racq _ hx _ | rrel _ hx _ | same hx _ => exact absurd (hx ▸ h1) h0

theorem shr_lost {r : Nat} {m : Mid} {t : Tid}
    (h0 : 0 < (stAt τ r).shr m t) (h1 : ¬ 0 < (stAt τ (r + 1)).shr m t) :
    τ[r]? = some (.rrel t m) := by
  cases stAt_cases τ r m t with
  | rrel he _ _ => exact he
  | racq _ _ hs => exact absurd (hs ▸ Nat.succ_pos _) h1
  | acq _ _ _ hs | rel _ _ _ hs | same _ hs => exact absurd (hs ▸ h0) h1

theorem holds_gained {r : Nat} {m : Mid} {u : Tid}
    (h0 : ¬ Holds (stAt τ r) u m) (h1 : Holds (stAt τ (r + 1)) u m) :
    τ[r]? = some (.acq u m) ∨ τ[r]? = some (.racq u m) := by
  cases stAt_cases τ r m u with
  | acq t he hx hs =>
    rcases h1 with h | h
    · rw [hx] at h; cases h; exact .inl he
    · exact absurd (.inr (hs ▸ h)) h0
  | rel t _ hx hs =>
    rcases h1 with h | h
    · rw [hx] at h; cases h
    · exact absurd (.inr (hs ▸ h)) h0
  | racq he _ _ => exact .inr he
  | rrel _ hx hs => exact absurd (h1.imp (hx ▸ ·) fun h => Nat.lt_of_lt_of_le (hs ▸ h) (Nat.sub_le _ _)) h0
  | same hx hs => exact absurd (h1.imp (hx ▸ ·) (hs ▸ ·)) h0

theorem no_shared_of_excl (hwf : WF τ) (k : Nat) :
    ∀ m t, (stAt τ k).excl m = some t → ∀ u, (stAt τ k).shr m u = 0 := by
  induction k with
  | zero => exact fun _ _ h => nomatch h
  | succ k ih =>
    intro m t hx u
    cases stAt_cases τ k m u with
    | acq _ he _ hs => exact hs ▸ (hwf k _ he).2 u
    | rel _ _ hx' _ => rw [hx'] at hx; cases hx
    | racq he hx' _ =>
      -- an `racq` is enabled only when `m` has no exclusive holder
      have en : _ = _ := hwf k _ he
      rw [hx', en] at hx
      cases hx
    | rrel _ hx' hs => rw [hs, ih m t (hx' ▸ hx) u]
    | same hx' hs => exact hs ▸ ih m t (hx' ▸ hx) u

theorem excl_then_holds (hwf : WF τ) {i j : Nat} (hij : i ≤ j) {m : Mid} {t u : Tid}
    (htu : t ≠ u) (hi : (stAt τ i).excl m = some t) (hj : Holds (stAt τ j) u m) :
    ∃ r a, i ≤ r ∧ r < a ∧ a < j ∧ τ[r]? = some (.rel t m) ∧
      (τ[a]? = some (.acq u m) ∨ τ[a]? = some (.racq u m)) := by
  -- at `j`, `t` is no longer the exclusive holder
  have hj' : ¬ (stAt τ j).excl m = some t := by
    intro hx
    rcases hj with h | h
    · rw [hx] at h; cases h; exact htu rfl
    · exact absurd (no_shared_of_excl hwf j m t hx u) (Nat.ne_of_gt h)
  obtain ⟨r, hir, hrj, hr0, hr1⟩ :=
    exists_flip (fun k => (stAt τ k).excl m = some t) hij hi hj'
  have hrel := excl_lost hwf hr0 hr1
  -- right after the release nobody holds `m`
  have hfree : ¬ Holds (stAt τ (r + 1)) u m := by
    have hz := no_shared_of_excl hwf r m t hr0 u
    rw [stAt_succ_some hrel]
    rintro (h | h)
    · exact absurd ((if_pos rfl).symm.trans h) nofun
    · exact absurd hz (Nat.ne_of_gt h)
  obtain ⟨a, hra, haj, ha0, ha1⟩ :=
    exists_flip (fun k => ¬ Holds (stAt τ k) u m) (Nat.succ_le_of_lt hrj) hfree (fun h => h hj)
  exact ⟨r, a, hir, hra, haj, hrel, holds_gained ha0 (Classical.not_not.mp ha1)⟩

theorem shared_then_excl (hwf : WF τ) {i j : Nat} (hij : i ≤ j) {m : Mid} {t u : Tid}
    (hi : 0 < (stAt τ i).shr m t) (hj : (stAt τ j).excl m = some u) :
    ∃ r a, i ≤ r ∧ r < a ∧ a < j ∧ τ[r]? = some (.rrel t m) ∧ τ[a]? = some (.acq u m) := by
  have hi' : (stAt τ i).excl m ≠ some u :=
    fun hx => absurd (no_shared_of_excl hwf i m u hx t) (Nat.ne_of_gt hi)
  obtain ⟨a, hia, haj, ha0, ha1⟩ :=
    exists_flip (fun k => (stAt τ k).excl m ≠ some u) hij hi' (fun h => h hj)
  have hacq := excl_gained ha0 (Classical.not_not.mp ha1)
  -- `u`'s `acq` was enabled: no shared hold is left at `a`
  have hz : ¬ 0 < (stAt τ a).shr m t :=
    fun h => absurd ((hwf a _ hacq).2 t) (Nat.ne_of_gt h)
  obtain ⟨r, hir, hra, hr0, hr1⟩ :=
    exists_flip (fun k => 0 < (stAt τ k).shr m t) hia hi hz
  exact ⟨r, a, hir, hra, haj, shr_lost hr0 hr1, hacq⟩

theorem edge_po {i j : Nat} {a b : Ev} (hij : i < j) (hi : τ[i]? = some a)
    (hj : τ[j]? = some b) (ht : a.tid = b.tid) : HB τ i j :=
  .edge ⟨hij, a, b, hi, hj, Or.inl ht⟩

/-- access → release → acquire → access -/
theorem hb_chain {i r c j : Nat} {ea er ec eb : Ev}
    (hi : τ[i]? = some ea) (hr : τ[r]? = some er) (hc : τ[c]? = some ec) (hj : τ[j]? = some eb)
    (hir : i < r) (hrc : r < c) (hcj : c < j)
    (t1 : ea.tid = er.tid) (s : syncEdge er ec) (t2 : ec.tid = eb.tid) : HB τ i j :=
  .trans (edge_po hir hi hr t1) (.trans (.edge ⟨hrc, er, ec, hr, hc, s⟩) (edge_po hcj hc hj t2))

/-- the new goroutine did nothing before its `go` statement (`enabled`) -/
theorem fork_hb (hwf : WF τ) {k j : Nat} {t' : Tid} {e : Ev} {b : Spec.Locks.Acc}
    (hk : τ[k]? = some (.fork t' e.tid)) (hj : τ[j]? = some e) (hb : e.acc = some b) : HB τ k j :=
  have hkj : k < j := Nat.lt_of_not_le fun h => hwf k _ hk j e (acc_lt hj hb hk rfl h) hj rfl
  .edge ⟨hkj, _, e, hk, hj, .inr (.inr (.inr (.inl ⟨t', rfl⟩)))⟩

/-- the joined goroutine does nothing after the join (`enabled`) -/
theorem join_hb (hwf : WF τ) {k i : Nat} {t' : Tid} {e : Ev} {a : Spec.Locks.Acc}
    (hk : τ[k]? = some (.join t' e.tid)) (hi : τ[i]? = some e) (ha : e.acc = some a) : HB τ i k :=
  have hik : i < k := acc_lt hi ha hk rfl (Nat.le_of_not_lt fun h => hwf k _ hk i e h hi rfl)
  .edge ⟨hik, e, _, hi, hk, .inr (.inr (.inr (.inr (.inl ⟨t', rfl⟩))))⟩

theorem ordered_of_initfinal_left (hwf : WF τ) {i j : Nat}
    (hij : i < j) {eb : Ev} {a b : Spec.Locks.Acc}
    (hj : τ[j]? = some eb) (hb : eb.acc = some b)
    (hx : a.x = b.x) (ht : a.t ≠ b.t) (h : InitBefore τ i a ∨ FinalAfter τ i a) : HB τ i j := by
  rcases h with ia | fa
  · -- `a` initialises: it happens before the fork of `b`'s goroutine
    obtain ⟨k, t', hk, hik⟩ := ia j eb b hj hb hx.symm (Ne.symm ht)
    rw [acc_tid hb] at hk
    exact .trans hik (fork_hb hwf hk hj hb)
  · -- `a` is tear-down after a join of `b`'s goroutine: impossible, `b` comes later
    obtain ⟨k, t', hk, hki⟩ := fa j eb b hj hb hx.symm (Ne.symm ht)
    exact absurd (acc_tid hb).symm (hwf k _ hk j eb (Nat.lt_trans (hb_lt hki) hij) hj)

theorem ordered_of_initfinal_right (hwf : WF τ) {i j : Nat}
    (hij : i < j) {ea : Ev} {a b : Spec.Locks.Acc}
    (hi : τ[i]? = some ea) (ha : ea.acc = some a)
    (hx : a.x = b.x) (ht : a.t ≠ b.t) (h : InitBefore τ j b ∨ FinalAfter τ j b) : HB τ i j := by
  rcases h with ib | fb
  · -- `b` initialises before the fork of `a`'s goroutine: impossible, `a` comes earlier
    obtain ⟨k, t', hk, hjk⟩ := ib i ea a hi ha hx ht
    exact absurd (acc_tid ha).symm (hwf k _ hk i ea (Nat.lt_trans hij (hb_lt hjk)) hi)
  · -- `b` is tear-down: `a`'s goroutine was joined before
    obtain ⟨k, t', hk, hkj⟩ := fb i ea a hi ha hx ht
    rw [acc_tid ha] at hk
    exact .trans (join_hb hwf hk hi ha) hkj

theorem ordered_of_disciplined {g : Loc → Option Mid} {τ : List Ev} (hwf : WF τ) {i j : Nat}
    (hij : i < j) {ea eb : Ev} {a b : Spec.Locks.Acc}
    (hi : τ[i]? = some ea) (hj : τ[j]? = some eb) (ha : ea.acc = some a) (hb : eb.acc = some b)
    (hc : conflict a b) (da : DisciplinedAt g τ i a) (db : DisciplinedAt g τ j b) : HB τ i j := by
  obtain ⟨hx, ht, hw, hat⟩ := hc
  have left := ordered_of_initfinal_left hwf hij hj hb hx ht
  have right := ordered_of_initfinal_right hwf hij hi ha hx ht
  -- each access is made under the guard, or its clause orders the two accesses outright
  have sideA : Guarded g τ i a ∨ HB τ i j := by
    rcases da with ⟨haa, hal⟩ | ga | ia | fa | ra
    · -- atomic on an all-atomic location: `b` would be atomic as well
      exact absurd ⟨haa, hal j eb b hj hb hx.symm⟩ hat
    · exact .inl ga
    · exact .inr (left (.inl ia))
    · exact .inr (left (.inr fa))
    · -- a read of a location immutable after initialisation: `b` is one of its initialising writes
      exact .inr (right (ra.2 j eb b hj hb hx.symm (hw.resolve_left (ra.1 ▸ Bool.false_ne_true))))
  have sideB : Guarded g τ j b ∨ HB τ i j := by
    rcases db with ⟨hba, hbl⟩ | gb | ib | fb | rb
    · exact absurd ⟨hbl i ea a hi ha hx, hba⟩ hat
    · exact .inl gb
    · exact .inr (right (.inl ib))
    · exact .inr (right (.inr fb))
    · exact .inr (left (rb.2 i ea a hi ha hx (hw.resolve_right (rb.1 ▸ Bool.false_ne_true))))
  rcases sideA with ga | h
  case inr => exact h
  rcases sideB with gb | h
  case inr => exact h
  -- both under the guard: two critical sections of the same mutex
  obtain ⟨m, hgm, hma⟩ := ga
  obtain ⟨m', hgm', hmb⟩ := gb
  rw [← hx, hgm] at hgm'
  cases hgm'
  have ta := acc_tid ha
  have tb := acc_tid hb
  rcases hma with xa | ⟨ra, sa⟩
  · -- `a` exclusive
    have hh : Holds (stAt τ j) b.t m := hmb.imp id (·.2)
    obtain ⟨r, c, hir, hrc, hcj, hrel, hacq⟩ := excl_then_holds hwf (Nat.le_of_lt hij) ht xa hh
    have hir := acc_lt hi ha hrel rfl hir
    rcases hacq with hq | hq
    · exact hb_chain hi hrel hq hj hir hrc hcj ta.symm (.inr (.inl ⟨a.t, b.t, m, rfl, .inl rfl⟩)) tb
    · exact hb_chain hi hrel hq hj hir hrc hcj ta.symm (.inr (.inl ⟨a.t, b.t, m, rfl, .inr rfl⟩)) tb
  · -- `a` is a read under a shared hold: `b` must be the write, hence exclusive
    rcases hmb with xb | ⟨rb, _⟩
    · obtain ⟨r, c, hir, hrc, hcj, hrel, hacq⟩ := shared_then_excl hwf (Nat.le_of_lt hij) sa xb
      exact hb_chain hi hrel hacq hj (acc_lt hi ha hrel rfl hir) hrc hcj ta.symm
        (.inr (.inr (.inl ⟨a.t, b.t, m, rfl, rfl⟩))) tb
    · rw [ra, rb] at hw
      exact hw.elim nofun nofun

theorem conflict_symm {a b : Spec.Locks.Acc} (h : conflict a b) : conflict b a :=
  ⟨h.1.symm, Ne.symm h.2.1, h.2.2.1.symm, fun ⟨x, y⟩ => h.2.2.2 ⟨y, x⟩⟩

theorem no_race_on_disciplined_loc {g : Loc → Option Mid} {τ : List Ev} (hwf : WF τ) {x : Loc}
    (hd : DisciplinedLoc g τ x) {i j : Nat} : ¬ RaceOn τ x i j := by
  rintro ⟨⟨ea, eb, a, b, hi, hj, ha, hb, hc, n1, n2⟩, e, a', hi', ha', hx⟩
  rw [hi] at hi'; cases hi'
  rw [ha] at ha'; cases ha'
  have da := hd i ea a hi ha hx
  have db := hd j eb b hj hb (hc.1 ▸ hx)
  rcases Nat.lt_trichotomy i j with h | h | h
  · exact n1 (ordered_of_disciplined hwf h hi hj ha hb hc da db)
  · subst h
    rw [hi] at hj; cases hj
    rw [ha] at hb; cases hb
    exact hc.2.1 rfl
  · exact n2 (ordered_of_disciplined hwf h hj hi hb ha (conflict_symm hc) db da)

theorem race_free_of_disciplined {g : Loc → Option Mid} {τ : List Ev} (hwf : WF τ)
    (hd : Disciplined g τ) : RaceFree τ := by
  intro i j hr
  obtain ⟨ea, eb, a, b, hi, hj, ha, hb, hc, n1, n2⟩ := hr
  exact no_race_on_disciplined_loc hwf (hd a.x)
    ⟨⟨ea, eb, a, b, hi, hj, ha, hb, hc, n1, n2⟩, ea, a, hi, ha, rfl⟩

theorem inCS_excl_holds (hwf : WF τ) {i : Nat} {t : Tid} {m : Mid}
    (h : InCS τ i t m .excl) : (stAt τ i).excl m = some t := by
  obtain ⟨p, hpi, hp, hno⟩ := h
  have h1 : (stAt τ (p + 1)).excl m = some t := by
    rw [stAt_succ_some hp]; exact if_pos rfl
  apply Classical.byContradiction
  intro hn
  obtain ⟨r, hpr, hri, hr0, hr1⟩ :=
    exists_flip (fun k => (stAt τ k).excl m = some t) (Nat.succ_le_of_lt hpi) h1 hn
  exact hno r (Nat.lt_of_succ_le hpr) hri (excl_lost hwf hr0 hr1)

theorem inCS_shared_holds {i : Nat} {t : Tid} {m : Mid}
    (h : InCS τ i t m .shared) : 0 < (stAt τ i).shr m t := by
  obtain ⟨p, hpi, hp, hno⟩ := h
  have h1 : 0 < (stAt τ (p + 1)).shr m t := by
    rw [stAt_succ_some hp]
    exact Nat.lt_of_lt_of_eq (Nat.succ_pos _) (if_pos ⟨rfl, rfl⟩).symm
  apply Classical.byContradiction
  intro hn
  obtain ⟨r, hpr, hri, hr0, hr1⟩ :=
    exists_flip (fun k => 0 < (stAt τ k).shr m t) (Nat.succ_le_of_lt hpi) h1 hn
  exact hno r (Nat.lt_of_succ_le hpr) hri (shr_lost hr0 hr1)

end Mqtt.Proofs.Locks
