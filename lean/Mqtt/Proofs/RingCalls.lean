/-
Core D → Core F — a ring call followed from call to return through any schedule, once for every kind of call: `Write`,
`WriteWait`, `WriteCommit` (`Kind.prod`), `ReadWait` / `ReadPeek` (`Kind.wait`), `ReadCommit`, `Close`.  What differs between the
kinds is data: ONE table over the program counters (`mark`: the kind of call a program counter belongs to, the amount it carries, the
linearisation points behind it, whether `done` has been seen); what the `k`-th linearisation step says (`Lin`), what the call
has done to its thread's cursor after `k` of them (`moved`), what a return from stage `k` says (`RetOK`).
`CIn` is the one phase invariant (`PcIn` its part about the program counter), `call_own` the one theorem about an own step inside a
call — a step between program counters with the same mark stays in the phase it is in (`OwnStep.same`) —,
`call_run` the position of the thread after any schedule, with the linearisation steps taken so far (`Hist`); `call_ret` reads it at
the return.  After that what the contract needs besides: `Close` against a producer call in progress (`pcall_start_closed`) and the
states in which nothing can run (`quiescent_p`, `quiescent_c`, `quiescent_no_close`, `quiescent_done`).
-/
import Mqtt.Proofs.RingCall
import Mqtt.Proofs.RingProgress

namespace Mqtt.Proofs.Ring
open Mqtt.Model.Ring Mqtt.Iface.Ring

def isWrite : Call → Bool
  | .write _ => true
  | _ => false
def isWcommit : Call → Bool
  | .wcommit _ => true
  | _ => false
def commits (call : Call) : Bool := isWrite call || isWcommit call

/-- the number of bytes a plain producer call asks for (fixed when the call starts) -/
def amount (call : Call) (th : Th) : Nat :=
  match call with
  | .write n | .wwait n => n
  | .wcommit m => min m th.filled
  | _ => 0

/-- … and any followed call -/
def amt (call : Call) (th : Th) : Nat :=
  match call with
  | .commit m => min m th.pending.length
  | .rwait n | .peek n => n
  | c => amount c th

/-- not yet past the LAST `isDone` test of the call (mark 39, after the last look at the consumer cursor): every
program counter of `waitForWriteSpace` and the entry of `Write`; after it come only the byte copy and the cursor store -/
def beforeFinal : Pc → Bool
  | .w40 _ | .s30 _ | .s31 _ | .s32 _ _ | .s33 _ _ | .s34 _ _ | .s35 _ _ | .s36 _ _ | .s36w _ _ | .s37 _ _ | .s38 _ _ _
  | .s39 _ _ => true
  | _ => false

def waitCall (w : Bool) (n : Nat) : Call := if w then .rwait n else .peek n

/-- the number of buffered bytes the call waits for: `n`, resp. one byte -/
def need (w : Bool) (n : Nat) : Nat := if w then n else 1

def waitRes (w : Bool) (n : Nat) (r : Res) : Prop :=
  r.n ≤ n ∧ (w = true → r.n = n ∧ r.err = .ok) ∧ (0 < n → 0 < r.n) ∧ (r.err = .ok ∨ r.err = .insuf)

def pRet (a : St) (rest : List Call) (r : Res) : Prop := a.P.pc = .idle ∧ a.P.prog = rest ∧ a.P.res = some r

instance (a : St) (rest : List Call) (r : Res) : Decidable (pRet a rest r) := by unfold pRet; infer_instance

def pOver (rest : List Call) (a : St) : Prop := (a.P.prog = rest ∧ a.P.pc = .idle) ∨ a.P.prog.length < rest.length

def cRet (a : St) (rest : List Call) (r : Res) : Prop := a.C.pc = .idle ∧ a.C.prog = rest ∧ a.C.res = some r

instance (a : St) (rest : List Call) (r : Res) : Decidable (cRet a rest r) := by unfold cRet; infer_instance

def cOver (rest : List Call) (a : St) : Prop := (a.C.prog = rest ∧ a.C.pc = .idle) ∨ a.C.prog.length < rest.length

/-- the producer has not yet passed the last `isDone` test of this call: not started, or at a `beforeFinal` program counter -/
def notPastFinal (call : Call) (rest : List Call) (x : St) : Prop :=
  (x.P.pc = .idle ∧ x.P.prog = call :: rest) ∨ (x.P.cur = some call ∧ x.P.prog = rest ∧ beforeFinal x.P.pc = true)

instance (call : Call) (rest : List Call) (x : St) : Decidable (notPastFinal call rest x) := by
  unfold notPastFinal; infer_instance

/-- the linearisation step of `waitForWriteSpace(l)` answering `ok`: an own step `x → y` of thread `p` — its LAST `isDone`
test — before which the ring is open and `buf + l ≤ cap` holds, and which changes nothing -/
def LinW (cfg : Cfg) (l : Nat) (x y : St) : Prop :=
  x.sh.done = false ∧ x.sh.pseq + l ≤ x.sh.cseq + cfg.size ∧ y.sh = x.sh

/-- the linearisation step of a producer commit of `l` bytes: an own step `x → y` of thread `p` before which
`buf + l ≤ cap` holds and which adds `l` to the producer cursor and changes nothing else `absRing` sees -/
def LinP (cfg : Cfg) (l : Nat) (x y : St) : Prop :=
  x.sh.pseq + l ≤ x.sh.cseq + cfg.size ∧ y.sh.pseq = x.sh.pseq + l ∧ y.sh.cseq = x.sh.cseq ∧ y.sh.done = x.sh.done

/-- the linearisation step of a consumer wait answering end-of-stream: an own step `x → y` of thread `c` — the load of the
producer cursor AFTER `done` has been seen — before which `done` is set and fewer than `nd` bytes are buffered, and which
changes nothing -/
def LinE (nd : Nat) (x y : St) : Prop := x.sh.done = true ∧ x.sh.pseq - x.sh.cseq < nd ∧ y.sh = x.sh

/-- the linearisation step of a consumer commit of `l` bytes: an own step `x → y` of thread `c` before which
`l ≤ buf` holds and which adds `l` to the consumer cursor and changes nothing else `absRing` sees -/
def LinC (l : Nat) (x y : St) : Prop :=
  x.sh.cseq + l ≤ x.sh.pseq ∧ y.sh.cseq = x.sh.cseq + l ∧ y.sh.pseq = x.sh.pseq ∧ y.sh.done = x.sh.done

/-- the linearisation step of `Close`: an own step `x → y` that sets `done` and leaves the cursors -/
def LinX (x y : St) : Prop := y.sh.done = true ∧ y.sh.pseq = x.sh.pseq ∧ y.sh.cseq = x.sh.cseq

/-- what `ReadPeek` / `ReadWait` hand out when they have found their data (mark 88) -/
theorem peek_amount (w : Bool) (n cseq ppos pseq : Nat) (h2 : ppos ≤ pseq) (h3 : mustWait w n cseq ppos = false) :
    waitRes w n { n := if w = true then n else if ppos - cseq ≥ n then n else ppos - cseq,
                  err := if w = true then Err.ok else if ppos - cseq ≥ n then Err.ok else Err.insuf, off := cseq } ∧
    (if w = true then n else if ppos - cseq ≥ n then n else ppos - cseq) ≤ pseq - cseq := by
  cases w
  · have e3 : cseq < ppos := by
      simp only [mustWait, Bool.false_eq_true, ↓reduceIte, decide_eq_false_iff_not, Nat.not_le] at h3
      exact h3
    by_cases hge : ppos - cseq ≥ n
    · simp only [Bool.false_eq_true, ↓reduceIte, hge]
      exact ⟨⟨Nat.le_refl _, nofun, fun h => h, .inl rfl⟩, by omega⟩
    · simp only [Bool.false_eq_true, ↓reduceIte, hge]
      refine ⟨⟨?_, nofun, fun _ => ?_, .inr rfl⟩, ?_⟩
      · show ppos - cseq ≤ n; omega
      · show 0 < ppos - cseq; omega
      · omega
  · have e3 : cseq + n ≤ ppos := by
      simp only [mustWait, ↓reduceIte, decide_eq_false_iff_not, Nat.not_lt] at h3
      exact h3
    simp only [↓reduceIte]
    exact ⟨⟨Nat.le_refl _, fun _ => ⟨rfl, rfl⟩, fun h => h, .inl rfl⟩, by omega⟩

/-- the kinds of call that are followed: `Write`/`WriteWait`/`WriteCommit`; `ReadWait` (`true`) / `ReadPeek`; `ReadCommit`; `Close` -/
inductive Kind where
  | prod | wait (w : Bool) | commit | close

def kindOf : Call → Kind
  | .rwait _ => .wait true
  | .peek _ => .wait false
  | .commit _ => .commit
  | .close => .close
  | _ => .prod

def followed : Call → Bool
  | .write _ | .wwait _ | .wcommit _ | .rwait _ | .peek _ | .commit _ | .close => true
  | _ => false

/-- what a program counter says of the followed call it belongs to: the kind of call, the amount it carries (the wrap copy of
`ReadPeek`/`ReadWait` has forgotten it), the linearisation points behind it, whether the call has seen `done`, and whether
`waitForWriteSpace`'s size test lies behind it (not at the entry of `Write`) -/
structure Mark where
  kind : Kind
  arg : Option Nat
  passed : Nat := 0
  saw : Bool := false
  sized : Bool := true

def mark : Pc → Option Mark
  | .w40 n => some { kind := .prod, arg := some n, sized := false }
  | .s30 n | .s31 n | .s32 n _ | .s33 n _ | .s34 n _ | .s36 n _ | .s36w n _ | .s37 n _ | .s38 n _ _ | .s39 n _ =>
    some { kind := .prod, arg := some n }
  | .s35 n _ => some { kind := .prod, arg := some n, saw := true }
  | .w41c n _ _ | .w42 n _ | .c50 n _ => some { kind := .prod, arg := some n, passed := 1 }
  | .w43 n | .w44 n | .w45 n | .c51 n | .c52 n | .c53 n => some { kind := .prod, arg := some n, passed := 2 }
  | .p80 w n | .p81 w n _ | .p82 w n _ | .p83 w n _ | .p84 w n _ | .p86 w n _ | .p86w w n _ | .p87 w n _ | .p88 w n _ _ =>
    some { kind := .wait w, arg := some n }
  | .p84r w n _ => some { kind := .wait w, arg := some n, saw := true }
  | .p85 w n _ => some { kind := .wait w, arg := some n, passed := 1, saw := true }
  | .p89c w _ _ _ _ _ => some { kind := .wait w, arg := none }
  | .k100 n | .k101 n _ | .k102 n _ => some { kind := .commit, arg := some n }
  | .k103 n | .k104 n | .k105 n => some { kind := .commit, arg := some n, passed := 1 }
  | .x10 => some { kind := .close, arg := some 0 }
  | .x11 | .x12 | .x13 | .x14 | .x15 | .x16 => some { kind := .close, arg := some 0, passed := 1, saw := true }
  | _ => none

/-- the linearisation points the call in progress has passed -/
def passed (pc : Pc) : Nat := ((mark pc).map (·.passed)).getD 0

/-- the `k`-th linearisation step of a call of this kind for `l` bytes -/
def Lin (cfg : Cfg) (l : Nat) : Kind → Nat → St → St → Prop
  | .prod, 0 => LinW cfg l
  | .prod, 1 => LinP cfg l
  | .wait w, 0 => LinE (need w l)
  | .commit, 0 => LinC l
  | .close, 0 => LinX
  | _, _ => fun _ _ => False

/-- what the call has added to its thread's cursor when it has passed `k` linearisation points -/
def moved (l : Nat) : Kind → Nat → Nat
  | .prod, k => if 2 ≤ k then l else 0
  | .commit, k => if 1 ≤ k then l else 0
  | _, _ => 0

/-- what a return with `r` from stage `k` says (`x`: the state before the returning step; `cm`: the call commits) -/
def RetOK (cfg : Cfg) (cm : Bool) (l : Nat) (r : Res) (x : St) : Kind → Nat → Prop
  | .prod, 0 => (r.err = .eof ∧ x.sh.done = true) ∨ (r.err = .full ∧ cfg.size < l)
  | .prod, 1 => r.err = .ok ∧ cm = false
  | .prod, 2 => r.err = .ok ∧ r.n = l ∧ cm = true
  | .wait w, 0 => (r.err = .full ∧ cfg.size < l) ∨ (waitRes w l r ∧ r.n ≤ x.sh.pseq - x.sh.cseq ∧ l ≤ cfg.size)
  | .wait _, 1 => r.err = .eof ∧ x.sh.done = true ∧ l ≤ cfg.size
  | .commit, 0 => r.err = .full ∧ cfg.size < l
  | .commit, 1 => r.err = .ok ∧ r.n = l ∧ l ≤ cfg.size
  | .close, 1 => r.err = .ok
  | _, _ => False

/-- the cursor only thread `t` moves -/
def cursorOf : Tid → Sh → Nat
  | .p, sh => sh.pseq
  | .c, sh => sh.cseq
  | .k _, _ => 0

theorem cursorOf_same {s s' : St} (t : Tid) (ep : s'.sh.pseq = s.sh.pseq) (ec : s'.sh.cseq = s.sh.cseq) : cursorOf t s'.sh = cursorOf t s.sh := by
  cases t <;> simp only [cursorOf, ep, ec]

/-- program counter `pc` belongs to `call`, which asks for `l` bytes: `waitForWriteSpace(l)` is entered only with `l ≤ size`
(`fits`), only a committing call goes on past its last `isDone` test (`cm`), where the call has seen `done` it is set (`saw`),
and the result of a wrap copy was fixed when the lock was released (`copy`) -/
structure PcIn (cfg : Cfg) (call : Call) (l : Nat) (sh : Sh) (pc : Pc) (m : Mark) : Prop where
  is : mark pc = some m
  code : m.kind = kindOf call
  arg : ∀ n, m.arg = some n → n = l
  fits : m.sized = true → l ≤ cfg.size
  cm : 1 ≤ m.passed → m.kind = .prod → commits call = true
  saw : m.saw = true → sh.done = true
  copy : ∀ w cpos k err j acc, pc = .p89c w cpos k err j acc → waitRes w l { n := k, err := err, off := cpos }

structure CIn (cfg : Cfg) (call : Call) (l : Nat) (rest : List Call) (sh : Sh) (th : Th) : Prop where
  cur : th.cur = some call
  prog : th.prog = rest
  pc : ∃ m, PcIn cfg call l sh th.pc m

/-- a `PcIn` at a program counter whose row computes (`is` by `rfl`), naming what is not the default: by default `done` has not been
seen there and it is no wrap copy -/
theorem PcIn.of {cfg : Cfg} {call : Call} {l : Nat} {sh' : Sh} {q : Pc} {m' : Mark} (is : mark q = some m')
    (code : m'.kind = kindOf call) (arg : ∀ n, m'.arg = some n → n = l) (fits : m'.sized = true → l ≤ cfg.size)
    (cm : 1 ≤ m'.passed → m'.kind = .prod → commits call = true)
    (saw : m'.saw = true → sh'.done = true := by exact nofun)
    (copy : ∀ w cpos k err j acc, q = .p89c w cpos k err j acc → waitRes w l { n := k, err := err, off := cpos } := by
      exact fun _ _ _ _ _ _ h => Pc.noConfusion h) : PcIn cfg call l sh' q m' :=
  ⟨is, code, arg, fits, cm, saw, copy⟩

theorem CIn.not_idle {cfg : Cfg} {call : Call} {l : Nat} {rest : List Call} {sh : Sh} {th : Th}
    (h : CIn cfg call l rest sh th) : th.pc ≠ .idle := by
  intro e
  obtain ⟨m, hm⟩ := h.pc
  have := hm.is
  rw [e] at this
  cases this

/-- what an own step inside a call of kind `K` comes to: it passes no linearisation point, or the next one; then the call goes
on or returns -/
def OwnStep (cfg : Cfg) (K : Kind) (call : Call) (l : Nat) (rest : List Call) (s s' : St) (t : Tid) (pc : Pc) (th' : Th) : Prop :=
  ∃ k, (k = passed pc ∨ (k = passed pc + 1 ∧ Lin cfg l K (passed pc) s s')) ∧
    cursorOf t s'.sh + moved l K (passed pc) = cursorOf t s.sh + moved l K k ∧
    ((CIn cfg call l rest s'.sh th' ∧ passed th'.pc = k) ∨ ∃ r, Returns th' rest r ∧ RetOK cfg (commits call) l r s K k)

section
variable {cfg : Cfg} {K : Kind} {call : Call} {l : Nat} {rest : List Call} {s s' : St} {t : Tid} {pc : Pc} {th' : Th}

theorem OwnStep.tau (ep : s'.sh.pseq = s.sh.pseq) (ec : s'.sh.cseq = s.sh.cseq) (hin : CIn cfg call l rest s'.sh th')
    (hk : passed th'.pc = passed pc) : OwnStep cfg K call l rest s s' t pc th' :=
  ⟨_, .inl rfl, by rw [cursorOf_same t ep ec], .inl ⟨hin, hk⟩⟩

theorem OwnStep.ret (r : Res) (ep : s'.sh.pseq = s.sh.pseq) (ec : s'.sh.cseq = s.sh.cseq) (hr : Returns th' rest r)
    (hok : RetOK cfg (commits call) l r s K (passed pc)) : OwnStep cfg K call l rest s s' t pc th' :=
  ⟨_, .inl rfl, by rw [cursorOf_same t ep ec], .inr ⟨r, hr, hok⟩⟩

/-- a step to a program counter with the same mark, invisible through `absRing`: the call stays in the phase it is in -/
theorem OwnStep.same {th : Th} {m : Mark} {q : Pc} (hcur : th.cur = some call) (hprog : th.prog = rest)
    (h : PcIn cfg call l s.sh pc m) (hv : s'.sh.pseq = s.sh.pseq ∧ s'.sh.cseq = s.sh.cseq ∧ s'.sh.done = s.sh.done)
    (e : mark q = mark pc)
    (hq : ∀ w cpos k err j acc, q ≠ .p89c w cpos k err j acc := by exact fun _ _ _ _ _ _ h => Pc.noConfusion h) :
    OwnStep cfg K call l rest s s' t pc (th.clr.goto q) :=
  .tau hv.1 hv.2.1 ⟨hcur, hprog, m, e.trans h.is, h.code, h.arg, h.fits, h.cm, fun x => hv.2.2 ▸ h.saw x,
    fun _ _ _ _ _ _ x => (hq _ _ _ _ _ _ x).elim⟩ (congrArg (fun o => (o.map (·.passed)).getD 0) e)
end

/-- inside a followed call the model's helpers return to the caller of the ring (not into `ReadFrom`) -/
theorem helpers_followed {call : Call} (hf : followed call = true) (th : Th) (hc : th.cur = some call) :
    (∀ e, wfsErr th e = th.ret { err := e }) ∧ (∀ n, wcRet th n = th.ret { n := n }) ∧ closeRet th = th.ret {} := by
  unfold wfsErr wcRet closeRet
  cases call <;> first | (rw [hc]; exact ⟨fun _ => rfl, fun _ => rfl, rfl⟩) | cases hf

theorem call_own (cfg : Cfg) (base : Nat) (call : Call) (l : Nat) (rest : List Call) (s s' : St) (t : Tid) (th th' : Th)
    (hf : followed call = true) (h : RInv cfg base s) (hth : s.getTh t = some th) (hs : step cfg s t = some s')
    (hts : tstep cfg s.sh t th = some (s'.sh, th')) (hin : CIn cfg call l rest s.sh th) :
    OwnStep cfg (kindOf call) call l rest s s' t th.pc th' := by
  obtain ⟨hcur, hprog, m, hat⟩ := hin
  obtain ⟨hE, hW, hX⟩ := helpers_followed hf th.clr hcur
  -- the kind is read off the program counter, so that after `cases` on the step `Lin`, `moved` and `RetOK` compute in every arm
  rw [show kindOf call = ((mark th.pc).map (·.kind)).getD .prod by rw [hat.is]; exact hat.code.symm]
  have hv := vis_step cfg base s s' t th h hth hs
  obtain ⟨hok, hti⟩ := h.threads t th hth
  have hrole := hok.role
  have hP : t = .p → pcP cfg s.sh.core (th.goto th.pc) := by rintro rfl; exact pcP_at hti.pcinv
  have hC : t = .c → pcC cfg s.sh.core (th.goto th.pc) ∧ s.sh.cseq + th.pending.length ≤ s.sh.pseq := by
    rintro rfl; exact ⟨pcC_at hti.pcinv, hti.pend.2⟩
  have hcp : s.sh.cseq ≤ s.sh.pseq := h.glob.cp
  -- `s'` stays a variable (`vis_step` speaks of it); only its shared state becomes what the step's constructor says
  generalize hsh : s'.sh = sh' at hts
  have hst := tstep_step _ _ _ _ _ _ hts
  generalize th.pc = pc at hst hat hv hP hC hrole ⊢
  obtain ⟨hmk, hcode, harg, hfit, hcm, hsaw, hcopy⟩ := hat
  cases hst
  -- the steps that stay in the phase of the call they are in: load, lock, test, park, wake-up, byte copy, Broadcast
  case s30 | s31_wait | s31_room | s32 | s33_full | s33_room | s34 | s36 | s36w | s37_full | s37_room | s38
      | w41c_copy | w41c_end | w43 | w44 | c51 | c52
      | p80 | p81 | p82 | p83_wait | p83_data | p84 | p86 | p86w | p87_wait | p87_data
      | k100 | k101_ok | k103 | k104 | x11 | x12 | x13 | x14 | x15 =>
    exact .same hcur hprog ⟨hmk, hcode, harg, hfit, hcm, hsaw, hcopy⟩ hv rfl
  -- elsewhere the row of the program counter is looked at; the statements of `Len`, `Read`, `ReadFrom` and of the caller's own
  -- accesses have none: they belong to no followed call
  all_goals cases hmk
  -- `waitForWriteSpace(l)`, marks 30–39, run by `Write`, `WriteWait` and `WriteCommit`; linearisation point: its LAST `isDone`
  -- test (mark 39), passed
  case s30_done hd | s39_done hd =>
    obtain ⟨ep, ec, ed⟩ := hv
    rw [hE]
    exact .ret _ ep ec ⟨rfl, hprog, rfl⟩ (.inl ⟨rfl, hd⟩)
  case s34_done hd =>
    obtain ⟨ep, ec, ed⟩ := hv
    exact .tau ep ec ⟨hcur, hprog, _, .of rfl hcode harg hfit hcm (saw := fun _ => ed ▸ hd)⟩ rfl
  case s35 =>
    obtain ⟨ep, ec, ed⟩ := hv
    rw [hE]
    exact .ret _ ep ec ⟨rfl, hprog, rfl⟩ (.inl ⟨rfl, hsaw rfl⟩)
  case s39 n ppos hd =>
    -- room was found at the last look at the consumer cursor, which only moves forward
    obtain ⟨ep, ec, ed⟩ := hv
    obtain rfl := (harg _ rfl).symm
    have hlin : LinW cfg l s s' := by
      have hp := hP (prod_is_p t hrole)
      have e1 : ppos = s.sh.pseq := hp.1
      have e2 : ppos + l ≤ s.sh.cseq + cfg.size := hp.2.1
      exact ⟨by simpa using hd, by omega, hsh⟩
    have hown : cursorOf t s'.sh + moved l .prod 0 = cursorOf t s.sh + moved l .prod 1 := by rw [cursorOf_same t ep ec]; rfl
    have hc : th.clr.cur = some call := hcur
    -- back into `Write` (byte copy), out of `WriteWait`, back into `WriteCommit` (cursor store)
    cases call <;> try (first | (cases hf; done) | (cases hcode; done))
    all_goals simp only [wfsOk, hc]
    · exact ⟨1, .inr ⟨rfl, hlin⟩, hown,
        .inl ⟨⟨hcur, hprog, _, .of rfl hcode (fun _ e => Option.some.inj e.symm) hfit (fun _ _ => rfl)⟩, rfl⟩⟩
    · split <;> exact ⟨1, .inr ⟨rfl, hlin⟩, hown, .inr ⟨_, ⟨rfl, hprog, rfl⟩, rfl, rfl⟩⟩
    · exact ⟨1, .inr ⟨rfl, hlin⟩, hown,
        .inl ⟨⟨hcur, hprog, _, .of rfl hcode (fun _ e => Option.some.inj e.symm) hfit (fun _ _ => rfl)⟩, rfl⟩⟩
  -- `Write(l)`, marks 40–45: `isDone` and the size test, `waitForWriteSpace`, the byte copy; second linearisation point: the cursor
  -- store (mark 42, and with it mark 50 of `WriteCommit`); then the Broadcast
  case w40_done hd =>
    obtain ⟨ep, ec, ed⟩ := hv
    exact .ret _ ep ec ⟨rfl, hprog, rfl⟩ (.inl ⟨rfl, hd⟩)
  case w40 hd =>
    obtain ⟨ep, ec, ed⟩ := hv
    obtain rfl := (harg _ rfl).symm
    unfold enterWfs
    split
    · rename_i hbig
      rw [hE]
      exact .ret _ ep ec ⟨rfl, hprog, rfl⟩ (.inr ⟨rfl, hbig⟩)
    · rename_i hsm
      exact .tau ep ec ⟨hcur, hprog, _, .of rfl hcode harg (fun _ => Nat.le_of_not_gt hsm) hcm⟩ rfl
  case w42 n ppos | c50 n ppos =>
    obtain ⟨rfl, ep, ec, ed, hg⟩ := hv
    obtain rfl := (harg _ rfl).symm
    exact ⟨2, .inr ⟨rfl, hg, ep, ec, ed⟩, by show s'.sh.pseq + 0 = s.sh.pseq + l; omega,
      .inl ⟨⟨hcur, hprog, _, .of rfl hcode harg hfit (fun _ _ => hcm (Nat.le_refl 1) rfl)⟩, rfl⟩⟩
  case w45 =>
    obtain ⟨ep, ec, ed⟩ := hv
    obtain rfl := (harg _ rfl).symm
    exact .ret _ ep ec ⟨rfl, hprog, rfl⟩ ⟨rfl, rfl, hcm (Nat.le_succ 1) rfl⟩
  -- `WriteCommit(l)` after its `waitForWriteSpace` and cursor store, marks 51–53: the Broadcast
  case c53 =>
    obtain ⟨ep, ec, ed⟩ := hv
    obtain rfl := (harg _ rfl).symm
    rw [hW]
    exact .ret _ ep ec ⟨rfl, hprog, rfl⟩ ⟨rfl, rfl, hcm (Nat.le_succ 1) rfl⟩
  -- `ReadWait(l)` / `ReadPeek(l)`, marks 80–99 and 131–133; linearisation point (of the end-of-stream answer only): the load of
  -- the producer cursor AFTER `done` has been seen, finding too little
  case p84_done hd =>
    obtain ⟨ep, ec, ed⟩ := hv
    exact .tau ep ec ⟨hcur, hprog, _, .of rfl hcode harg hfit hcm (saw := fun _ => ed ▸ hd)⟩ rfl
  case p84r_data =>
    obtain ⟨ep, ec, ed⟩ := hv
    exact .tau ep ec ⟨hcur, hprog, _, .of rfl hcode harg hfit hcm⟩ rfl
  case p84r_eof w n cpos hm =>
    obtain ⟨ep, ec, ed⟩ := hv
    obtain rfl := (harg _ rfl).symm
    have hdn : s.sh.done = true := hsaw rfl
    have e1 : cpos = s.sh.cseq := (hC (cons_is_c t hrole)).1
    subst e1
    refine ⟨1, .inr ⟨rfl, hdn, ?_, hsh⟩, by rw [cursorOf_same t ep ec]; rfl,
      .inl ⟨⟨hcur, hprog, _, .of rfl hcode harg hfit (fun _ e => nomatch e) (saw := fun _ => ed ▸ hdn)⟩, rfl⟩⟩
    cases w <;> simp [mustWait, need] at hm ⊢ <;> omega
  case p85 =>
    obtain ⟨ep, ec, ed⟩ := hv
    exact .ret _ ep ec ⟨rfl, hprog, rfl⟩ ⟨rfl, hsaw rfl, hfit rfl⟩
  case p88_tmp cpos w n ppos _ | p88_alias cpos w n ppos _ =>
    -- unlock; hand out the view, or go to the wrap copy with the result fixed
    obtain ⟨ep, ec, ed⟩ := hv
    obtain rfl := (harg _ rfl).symm
    obtain ⟨e1, e2, e3⟩ := (hC (cons_is_c t hrole)).1
    have e1' : cpos = s.sh.cseq := e1
    subst e1'
    obtain ⟨hres, hle⟩ := peek_amount w l s.sh.cseq ppos s.sh.pseq e2 e3
    first
      | exact .tau ep ec ⟨hcur, hprog, _, .of rfl hcode nofun hfit hcm (copy := fun _ _ _ _ _ _ e => by cases e; exact hres)⟩ rfl
      | exact .ret _ ep ec ⟨rfl, hprog, rfl⟩ (.inr ⟨hres, hle, hfit rfl⟩)
  case p89c_copy =>
    obtain ⟨ep, ec, ed⟩ := hv
    exact .tau ep ec ⟨hcur, hprog, _, .of rfl hcode nofun hfit hcm (copy := fun _ _ _ _ _ _ e => by cases e; exact hcopy _ _ _ _ _ _ rfl)⟩ rfl
  case p89c_end =>
    obtain ⟨ep, ec, ed⟩ := hv
    obtain ⟨e1, e2, _⟩ := (hC (cons_is_c t hrole)).1
    have e1' : _ = s.sh.cseq := e1
    have e2' : _ + _ ≤ s.sh.pseq := e2
    exact .ret _ ep ec ⟨rfl, hprog, rfl⟩ (.inr ⟨hcopy _ _ _ _ _ _ rfl, by dsimp only; omega, hfit rfl⟩)
  -- `ReadCommit(l)`, marks 100–105; linearisation point: the cursor store (mark 102)
  case k101_insuf hn =>
    -- the bytes to commit were looked at, so they are there
    obtain ⟨hp, hpend⟩ := hC (cons_is_c t hrole)
    have e1 : _ = s.sh.cseq := hp.1
    have e2 : _ ≤ th.pending.length := hp.2
    omega
  case k102 n cpos =>
    obtain ⟨rfl, ec, ep, ed, hg⟩ := hv
    obtain rfl := (harg _ rfl).symm
    exact ⟨1, .inr ⟨rfl, hg, ec, ep, ed⟩, by show s'.sh.cseq + 0 = s.sh.cseq + l; omega,
      .inl ⟨⟨hcur, hprog, _, .of rfl hcode harg hfit (fun _ e => nomatch e)⟩, rfl⟩⟩
  case k105 =>
    obtain ⟨ep, ec, ed⟩ := hv
    obtain rfl := (harg _ rfl).symm
    exact .ret _ ep ec ⟨rfl, hprog, rfl⟩ ⟨rfl, rfl, hfit rfl⟩
  -- `Close()`, marks 10–16; linearisation point: its first statement, the `done` store
  case x10 =>
    obtain ⟨ep, ec, ed⟩ := hv
    exact ⟨1, .inr ⟨rfl, ed, ep, ec⟩, by rw [cursorOf_same t ep ec]; rfl,
      .inl ⟨⟨hcur, hprog, _, .of rfl hcode harg hfit (fun _ e => nomatch e) (saw := fun _ => ed)⟩, rfl⟩⟩
  case x16 =>
    obtain ⟨ep, ec, ed⟩ := hv
    rw [hX]
    exact .ret _ ep ec ⟨rfl, hprog, rfl⟩ rfl

theorem call_start (cfg : Cfg) (call : Call) (rest : List Call) (sh : Sh) (x : St) (th : Th) (hf : followed call = true)
    (hcur : th.cur = some call) (hprog : th.prog = rest) :
    (CIn cfg call (amt call th) rest sh (startCall cfg th call) ∧ passed (startCall cfg th call).pc = 0) ∨
    ∃ r, Returns (startCall cfg th call) rest r ∧ RetOK cfg (commits call) (amt call th) r x (kindOf call) 0 := by
  cases call <;> first | (cases hf; done) | skip
  case write n =>
    exact .inl ⟨⟨hcur, hprog, _, .of rfl rfl (fun _ e => Option.some.inj e.symm) nofun nofun⟩, rfl⟩
  case close =>
    exact .inl ⟨⟨hcur, hprog, _, .of rfl rfl (fun _ e => Option.some.inj e.symm) (fun _ => Nat.zero_le _) nofun⟩, rfl⟩
  -- the others begin with a size test
  all_goals
    simp only [startCall, enterWfs, wfsErr, hcur, amt, amount]
    split
    · rename_i hbig
      refine .inr ⟨_, ⟨rfl, hprog, rfl⟩, ?_⟩
      first | exact ⟨rfl, hbig⟩ | exact .inr ⟨rfl, hbig⟩ | exact .inl ⟨rfl, hbig⟩
    · rename_i hsm
      exact .inl ⟨⟨rfl, hprog, _, .of rfl rfl (fun _ e => Option.some.inj e.symm) (fun _ => Nat.le_of_not_gt hsm) nofun⟩, rfl⟩

theorem cursorOf_frame (cfg : Cfg) (base : Nat) {a a' : St} {u : Tid} (t : Tid) (h : RInv cfg base a)
    (hs : a' = a ∨ (step cfg a u = some a' ∧ u ≠ t)) : cursorOf t a'.sh = cursorOf t a.sh ∧ (a.sh.done = true → a'.sh.done = true) := by
  rcases hs with rfl | ⟨hst, hu⟩
  · exact ⟨rfl, id⟩
  · refine ⟨?_, step_done_mono cfg a a' u hst⟩
    cases t with
    | p => exact step_pseq cfg base a a' u h hst hu
    | c => exact step_cseq cfg base a a' u h hst hu
    | k i => rfl

/-- the linearisation steps a call has taken when it has passed `k` of them -/
structure Hist (cfg : Cfg) (t : Tid) (K : Kind) (l : Nat) (x0 : St) (sched : List Tid) (k : Nat) : Prop where
  one : 1 ≤ k → Took cfg t x0 sched (Lin cfg l K 0)
  two : 2 ≤ k → Took2 cfg t x0 sched (Lin cfg l K 0) (Lin cfg l K 1)

theorem Hist.zero (cfg : Cfg) (t : Tid) (K : Kind) (l : Nat) (x0 : St) (sched : List Tid) : Hist cfg t K l x0 sched 0 := ⟨nofun, nofun⟩

theorem Hist.snoc {cfg : Cfg} {t : Tid} {K : Kind} {l : Nat} {x0 : St} {sched : List Tid} {k : Nat} (u : Tid)
    (h : Hist cfg t K l x0 sched k) : Hist cfg t K l x0 (sched ++ [u]) k :=
  ⟨fun e => (h.one e).snoc u, fun e => (h.two e).snoc u⟩

/-- one more linearisation step, the last of the schedule -/
theorem Hist.lin {cfg : Cfg} {t : Tid} {K : Kind} {l : Nat} {x0 a' : St} {sched : List Tid} {k : Nat}
    (h : Hist cfg t K l x0 sched k) (hs : step cfg (run cfg x0 sched) t = some a') (hl : Lin cfg l K k (run cfg x0 sched) a') :
    Hist cfg t K l x0 (sched ++ [t]) (k + 1) := by
  match k, h, hl with
  | 0, h, hl => exact ⟨fun _ => Took.last hs hl, fun e => absurd e (by decide)⟩
  | 1, h, hl => exact ⟨fun _ => (h.one (Nat.le_refl _)).snoc t, fun _ => Took2.last (h.one (Nat.le_refl _)) hs hl⟩
  | k + 2, h, hl => cases K <;> exact hl.elim

/-- phase and history of a call, `sched` after the state `x0` in which it had passed no linearisation point -/
structure HIn (cfg : Cfg) (t : Tid) (call : Call) (l : Nat) (rest : List Call) (x0 : St) (sched : List Tid) (a : St) (th : Th) : Prop where
  ph : CIn cfg call l rest a.sh th
  eff : cursorOf t a.sh = cursorOf t x0.sh + moved l (kindOf call) (passed th.pc)
  hist : Hist cfg t (kindOf call) l x0 sched (passed th.pc)

/-- a call that has returned `r`: from which stage, what it has done to its cursor, and its linearisation steps -/
def HRes (cfg : Cfg) (t : Tid) (call : Call) (l : Nat) (x0 : St) (sched : List Tid) (a : St) (r : Res) : Prop :=
  ∃ k, cursorOf t a.sh = cursorOf t x0.sh + moved l (kindOf call) k ∧ Hist cfg t (kindOf call) l x0 sched k ∧
    Took cfg t x0 sched (fun x _ => RetOK cfg (commits call) l r x (kindOf call) k)

theorem moved_zero (l : Nat) (K : Kind) : moved l K 0 = 0 := by cases K <;> rfl

/-- a call that has passed no linearisation point can be followed afresh -/
theorem CIn.fresh {cfg : Cfg} {t : Tid} {call : Call} {l : Nat} {rest : List Call} {a : St} {th : Th}
    (h : CIn cfg call l rest a.sh th) (h0 : passed th.pc = 0) : HIn cfg t call l rest a [] a th :=
  ⟨h, by rw [h0, moved_zero]; rfl, by rw [h0]; exact .zero ..⟩

/-- **where a thread is after any schedule**, from a state `x0` in which it is about to make the call, or inside it (before the call
the thread's cursor is where it was in `x0`: this part of `N` speaks of the state reached, so it is `rfl` in `h0`) -/
theorem call_run (cfg : Cfg) (base : Nat) (t : Tid) (call : Call) (l : Nat) (rest : List Call) (hf : followed call = true)
    (x0 : St) (h : RInv cfg base x0)
    (h0 : Pos t call rest (fun th => amt call th = l ∧ cursorOf t x0.sh = cursorOf t x0.sh) (HIn cfg t call l rest x0 [] x0)
      (HRes cfg t call l x0 [] x0) x0) (sched : List Tid) :
    Pos t call rest (fun th => amt call th = l ∧ cursorOf t (run cfg x0 sched).sh = cursorOf t x0.sh)
      (HIn cfg t call l rest x0 sched (run cfg x0 sched)) (HRes cfg t call l x0 sched (run cfg x0 sched)) (run cfg x0 sched) := by
  induction sched using List.snoc_ind with
  | nil => exact h0
  | snoc sched u ih =>
    rw [run_snoc]
    have ha := rinv_run cfg base x0 sched h
    -- a step of another thread, or none: the thread, its cursor and `done` once set stay
    have other : ∀ a', a' = run cfg x0 sched ∨ (step cfg (run cfg x0 sched) u = some a' ∧ u ≠ t) →
        a'.getTh t = (run cfg x0 sched).getTh t →
        Pos t call rest (fun th => amt call th = l ∧ cursorOf t a'.sh = cursorOf t x0.sh) (HIn cfg t call l rest x0 (sched ++ [u]) a')
          (HRes cfg t call l x0 (sched ++ [u]) a') a' := by
      intro a' hs hg
      obtain ⟨eo, hd⟩ := cursorOf_frame cfg base t ha hs
      cases ih with
      | before th h0 h1 h2 hn => exact .before th (hg ▸ h0) h1 h2 ⟨hn.1, eo.trans hn.2⟩
      | inside th h0 hi =>
        obtain ⟨m, hm⟩ := hi.ph.pc
        exact .inside th (hg ▸ h0) ⟨⟨hi.ph.cur, hi.ph.prog, m, { hm with saw := fun e => hd (hm.saw e) }⟩, eo.trans hi.eff, hi.hist.snoc u⟩
      | ret th r h0 h1 hr =>
        obtain ⟨k, e, hh, hk⟩ := hr
        exact .ret th r (hg ▸ h0) h1 ⟨k, eo.trans e, hh.snoc u, hk.snoc u⟩
      | beyond th h0 h1 => exact .beyond th (hg ▸ h0) h1
    cases hst : step cfg (run cfg x0 sched) u with
    | none => exact other _ (.inl rfl) rfl
    | some a' =>
      rw [Option.getD_some]
      by_cases e : u = t
      · subst e
        obtain ⟨th, th', hth, hts, hth'⟩ := step_t cfg _ a' u hst
        cases ih with
        | before th1 h1 hpc hprog hn =>
          -- the first step of the call: `startCall`, which touches no shared state
          rw [hth] at h1; cases h1
          obtain ⟨esh, c, rest', e, rfl⟩ := tstep_idle cfg _ _ _ _ _ hts hpc
          rw [hprog] at e; cases e
          have eo : cursorOf u a'.sh = cursorOf u x0.sh := by rw [esh]; exact hn.2
          have hl' : amt call { th.clr with prog := rest, cur := some call } = l := by rw [← hn.1]; cases call <;> rfl
          rcases call_start cfg call rest a'.sh (run cfg x0 sched) { th.clr with prog := rest, cur := some call } hf rfl rfl with
            ⟨hin, hk⟩ | ⟨r, hr, hok⟩
          · rw [hl'] at hin
            exact .inside _ hth' ⟨hin, by rw [hk, moved_zero]; exact eo, by rw [hk]; exact .zero ..⟩
          · rw [hl'] at hok
            exact .ret _ r hth' hr ⟨0, by rw [moved_zero]; exact eo, .zero .., Took.last hst hok⟩
        | inside th1 h1 hi =>
          rw [hth] at h1; cases h1
          obtain ⟨k, hk, ho, hc⟩ := call_own cfg base call l rest _ a' u th th' hf ha hth hst hts hi.ph
          have eo : cursorOf u a'.sh = cursorOf u x0.sh + moved l (kindOf call) k := by have := hi.eff; omega
          have hh : Hist cfg u (kindOf call) l x0 (sched ++ [u]) k := by
            rcases hk with rfl | ⟨rfl, hlin⟩
            · exact hi.hist.snoc u
            · exact hi.hist.lin hst hlin
          rcases hc with ⟨hin, e⟩ | ⟨r, hr, hok⟩
          · exact .inside th' hth' ⟨hin, e ▸ eo, e ▸ hh⟩
          · exact .ret th' r hth' hr ⟨k, eo, hh, Took.last hst hok⟩
        | ret th1 r h1 hr _ =>
          -- an own step after the return starts the next call
          rw [hth] at h1; cases h1
          obtain ⟨_, c, rest', e, rfl⟩ := tstep_idle cfg _ _ _ _ _ hts hr.1
          refine .beyond _ hth' ?_
          rw [prog_startCall, ← hr.2.1, e]; exact Nat.lt_succ_self _
        | beyond th1 h1 hlt =>
          rw [hth] at h1; cases h1
          exact .beyond th' hth' (Nat.lt_of_le_of_lt (tstep_prog_le cfg _ _ _ _ _ hts) hlt)
      · exact other a' (.inr ⟨hst, e⟩) (step_other cfg _ a' u t hst e)

theorem call_ret (cfg : Cfg) (base : Nat) (t : Tid) (call : Call) (rest : List Call) (hf : followed call = true)
    (s : St) (sched : List Tid) (h : RInv cfg base s) (th : Th) (hth : s.getTh t = some th) (hidle : th.pc = .idle)
    (hprog : th.prog = call :: rest) (r : Res) (hret : tRet (run cfg s sched) t rest r) :
    HRes cfg t call (amt call th) s sched (run cfg s sched) r :=
  (call_run cfg base t call _ rest hf s h (.before th hth hidle hprog ⟨rfl, rfl⟩) sched).result (fun _ hi => hi.ph.not_idle) hret

theorem kindOf_waitCall (w : Bool) (n : Nat) : followed (waitCall w n) = true ∧ kindOf (waitCall w n) = .wait w ∧
    ∀ th, amt (waitCall w n) th = n := by
  cases w <;> exact ⟨rfl, rfl, fun _ => rfl⟩

theorem passed_beforeFinal (pc : Pc) (h : beforeFinal pc = true) : passed pc = 0 := by
  cases pc <;> first | rfl | cases h

/-- **`Close` makes every blocked or later producer call return end-of-stream (or `ErrBufferFull`), never `ok`** -/
theorem pcall_start_closed (cfg : Cfg) (base : Nat) (call : Call) (rest : List Call)
    (hk : (∃ n, call = .write n) ∨ (∃ n, call = .wwait n) ∨ ∃ m, call = .wcommit m)
    (s : St) (pre post : List Tid) (h : RInv cfg base s) (hidle : s.P.pc = .idle) (hprog : s.P.prog = call :: rest) (r : Res)
    (hret : pRet (run cfg s (pre ++ post)) rest r)
    (hd : (run cfg s pre).sh.done = true) (hnp : notPastFinal call rest (run cfg s pre)) : r.err ≠ .ok := by
  have hf : followed call = true ∧ kindOf call = .prod := by
    rcases hk with ⟨n, rfl⟩ | ⟨n, rfl⟩ | ⟨n, rfl⟩ <;> exact ⟨rfl, rfl⟩
  -- the position in which `done` finds the call is one from which it can be followed afresh
  have hpos := call_run cfg base .p call _ rest hf.1 s h (.before s.P rfl hidle hprog ⟨rfl, rfl⟩) pre
  have h0 : Pos .p call rest (fun th => amt call th = amt call s.P ∧ cursorOf .p (run cfg s pre).sh = cursorOf .p (run cfg s pre).sh)
      (HIn cfg .p call (amt call s.P) rest (run cfg s pre) [] (run cfg s pre))
      (HRes cfg .p call (amt call s.P) (run cfg s pre) [] (run cfg s pre)) (run cfg s pre) := by
    rcases hnp with ⟨e1, e2⟩ | ⟨_, e2, e3⟩
    · exact .before _ rfl e1 e2 ⟨(hpos.before_of (fun _ hi => hi.ph.not_idle) rfl e1 e2).1, rfl⟩
    · exact .inside _ rfl ((hpos.inside_of rfl e2 (fun e => by rw [e] at e3; cases e3)).ph.fresh (passed_beforeFinal _ e3))
  rw [run_append] at hret
  obtain ⟨k, _, hh, _, _, _, _, hr⟩ :=
    (call_run cfg base .p call _ rest hf.1 _ (rinv_run cfg base s pre h) h0 post).result (fun _ hi => hi.ph.not_idle) ⟨_, rfl, hret⟩
  rw [hf.2] at hh hr
  -- its last `isDone` test comes later, and `done` stays set
  have key : ¬ Took cfg .p (run cfg s pre) post (LinW cfg (amt call s.P)) := by
    rintro ⟨pre', _, _, _, hw, _⟩
    rw [run_done_mono cfg _ pre' hd] at hw
    cases hw
  intro hok
  match k, hr with
  | 0, .inl hr => rw [hok] at hr; cases hr.1
  | 0, .inr hr => rw [hok] at hr; cases hr.1
  | k + 1, _ => exact key (hh.one (Nat.succ_pos _))

theorem quiescent_p (cfg : Cfg) (base : Nat) (s : St) (h : Live cfg base s) (hq : ∀ t, step cfg s t = none) :
    (s.P.pc = .idle ∧ s.P.prog = []) ∨
    ∃ n ppos, s.P.pc = .s36w n ppos ∧ s.sh.done = false ∧ cfg.size < s.sh.pseq - s.sh.cseq + n ∧ wcOK s.P n ∧ noRfc s.P := by
  rcases quiescent_legit cfg base s h hq .p s.P rfl with a | ⟨hc, _⟩ | ⟨_, hpk, hns, hd⟩
  · exact .inl a
  · cases hc
  · obtain ⟨n, ppos, e⟩ := pParked_cases _ hpk
    have hp := h.safe.invP.pcinv
    have hcp : s.sh.cseq ≤ s.sh.pseq := h.safe.glob.cp
    unfold pcP at hp
    rw [e] at hp hns
    have e1 : ppos = s.sh.pseq := hp.1
    have hns' : ppos + n > s.sh.cseq + cfg.size := hns
    exact .inr ⟨n, ppos, e, hd, by omega, hp.2.1, hp.2.2⟩

theorem quiescent_c (cfg : Cfg) (base : Nat) (s : St) (h : Live cfg base s) (hq : ∀ t, step cfg s t = none) :
    (s.C.pc = .idle ∧ s.C.prog = []) ∨
    (∃ w n cpos, s.C.pc = .p86w w n cpos ∧ s.sh.done = false ∧ s.sh.pseq - s.sh.cseq < need w n) ∨
    (∃ n cpos, s.C.pc = .r77w n cpos ∧ s.sh.done = false ∧ s.sh.pseq - s.sh.cseq = 0) := by
  rcases quiescent_legit cfg base s h hq .c s.C rfl with a | ⟨_, hpk, hns, hd⟩ | ⟨hc, _⟩
  · exact .inl a
  · have hp := h.safe.invC.pcinv
    have hcp : s.sh.cseq ≤ s.sh.pseq := h.safe.glob.cp
    unfold pcC at hp
    rcases cParked_cases _ hpk with ⟨n, cpos, e⟩ | ⟨w, n, cpos, e⟩ <;> rw [e] at hp hns
    · have e1 : cpos = s.sh.cseq := hp
      have hns' : s.sh.pseq ≤ cpos := hns
      exact .inr (.inr ⟨n, cpos, e, hd, by omega⟩)
    · have e1 : cpos = s.sh.cseq := hp
      have hns' : mustWait w n cpos s.sh.pseq = true := hns
      refine .inr (.inl ⟨w, n, cpos, e, hd, ?_⟩)
      subst e1
      cases w <;> simp [mustWait, need] at hns' ⊢ <;> omega
  · cases hc

/-- `Close` never waits: in a state in which no thread can take a step nobody is inside `Close` -/
theorem quiescent_no_close (cfg : Cfg) (base : Nat) (s : St) (h : Live cfg base s) (hq : ∀ t, step cfg s t = none)
    (t : Tid) (th : Th) (hth : s.getTh t = some th) : closeRank th.pc = 0 := by
  rcases quiescent_legit cfg base s h hq t th hth with ⟨hi, _⟩ | ⟨_, hpk, _⟩ | ⟨_, hpk, _⟩
  · rw [hi]; rfl
  · rcases cParked_cases _ hpk with ⟨_, _, e⟩ | ⟨_, _, _, e⟩ <;> rw [e] <;> rfl
  · obtain ⟨_, _, e⟩ := pParked_cases _ hpk
    rw [e]; rfl

theorem quiescent_done (cfg : Cfg) (base : Nat) (a : St) (h : Live cfg base a) (hq : ∀ t, step cfg a t = none)
    (hd : a.sh.done = true) (u : Tid) (thu : Th) (hu : a.getTh u = some thu) : thu.pc = .idle ∧ thu.prog = [] := by
  rcases quiescent_legit cfg base a h hq u thu hu with x | ⟨_, _, _, b⟩ | ⟨_, _, _, b⟩
  · exact x
  · rw [hd] at b; cases b
  · rw [hd] at b; cases b

end Mqtt.Proofs.Ring
