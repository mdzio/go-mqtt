/-
Refinement step: the end of a connection - `close` (peer close, keep-alive expiry, protocol error: the will
is published) and DISCONNECT (no will).  First the state in which `stop` publishes the will (`stopBase`:
connection marked closed, the session's topics unsubscribed) against the reference broker's state after
`endConn` has removed the connection (`endSpec`), and the two bookkeeping steps that follow the will
(`setSess` of a session no live connection uses, `storeDel` of a clean session).
-/
import Mqtt.Proofs.BrokerRefineSub

namespace Mqtt.Proofs.BrokerRefine
open Mqtt.Iface.Broker Mqtt.Model.Broker
open Mqtt.Proofs.Topics (good)
open Mqtt.Spec.Match (validName)
open Mqtt.Proofs.Broker (HeldInv SessStep)
open Mqtt.Proofs.BrokerLife (stopBase markDead)

/-- the reference broker's state once connection `c` (record `k`) has ended, before its will -/
def endSpec (s : Spec.Broker.S) (c : Nat) (k : Spec.Broker.Conn) : Spec.Broker.S :=
  { s with held := s.held.filter (fun h => h.owner != c),
           conns := s.conns.filter (fun (x : Spec.Broker.Conn) => x.id != c),
           stored := if k.clean then s.stored.filter (fun p => p.1 != k.cid)
                     else (k.cid, Spec.Broker.heldOf s c, k.open2) :: s.stored.filter (fun p => p.1 != k.cid) }

theorem spec_endConn_eq (s : Spec.Broker.S) (c : Nat) (k : Spec.Broker.Conn) (g : Bool)
    (hk : Spec.Broker.getConn s c = some k) :
    Spec.Broker.endConn s c g =
      match k.will, g with
      | some w, false =>
        ((Spec.Broker.accept (endSpec s c k) { qos := w.qos, retain := w.retain, topic := w.topic, payload := w.payload }).1,
         .closed c :: (Spec.Broker.accept (endSpec s c k)
            { qos := w.qos, retain := w.retain, topic := w.topic, payload := w.payload }).2)
      | _, _ => (endSpec s c k, [.closed c]) := by
  unfold Spec.Broker.endConn
  simp only [hk]
  cases k.will <;> cases g <;> rfl

theorem getConn_endSpec (s : Spec.Broker.S) (c : Nat) (k : Spec.Broker.Conn) (c' : Nat) :
    Spec.Broker.getConn (endSpec s c k) c' = if c' = c then none else Spec.Broker.getConn s c' := by
  show (s.conns.filter (fun x => x.id != c)).find? (fun x => x.id == c') = _
  by_cases he : c' = c
  · rw [if_pos he, List.find?_eq_none]
    intro x hx
    simpa [he] using (List.mem_filter.mp hx).2
  · rw [if_neg he]
    exact List.find?_filter_key_ne (·.id) s.conns (Ne.symm he)

theorem lookup_endSpec (s : Spec.Broker.S) (c : Nat) (k : Spec.Broker.Conn) {x : Bytes} (hx : x ≠ k.cid) :
    (endSpec s c k).stored.lookup x = s.stored.lookup x := by
  unfold endSpec
  dsimp only
  split
  · exact List.lookup_filter_ne _ _ _ hx.symm
  · have : (x == k.cid) = false := by simpa using hx
    rw [List.lookup_cons, this]
    exact List.lookup_filter_ne _ _ _ hx.symm

theorem liveSess_stopBase (b : B) (c : Nat) (σ : Sess) (c' : Nat) :
    liveSess (stopBase b c σ) c' = if c' = c then none else liveSess b c' := by
  by_cases he : c' = c
  · rw [if_pos he, he]
    exact liveSess_dead (Mqtt.Proofs.BrokerLife.markDead_alive_self b c)
  · rw [if_neg he]
    unfold liveSess
    have h1 : (stopBase b c σ).getConn c' = b.getConn c' :=
      Mqtt.Proofs.BrokerLife.getConn_markDead_ne b c c' (Ne.symm he)
    rw [h1]
    rfl

theorem R.free_stopBase {b : B} {s : Spec.Broker.S} (h : R b s) {c : Nat} {σ : Sess} (hl : liveSess b c = some σ) :
    ∀ c' τ, liveSess (stopBase b c σ) c' = some τ → τ.cid ≠ σ.cid := by
  intro c' τ hτ
  rw [liveSess_stopBase] at hτ
  by_cases he : c' = c
  · rw [if_pos he] at hτ; cases hτ
  · rw [if_neg he] at hτ; exact h.others_free hl c' τ he hτ

theorem mconns_markDead {b : B} (h : (b.conns.map (·.id)).Nodup) (c : Nat) :
    ((markDead b c).conns.map (·.id)).Nodup := by
  have : (markDead b c).conns.map (·.id) = b.conns.map (·.id) := by
    simp only [markDead, List.map_map]
    apply List.map_congr_left
    intro x _
    simp only [Function.comp]
    split <;> rfl
  rw [this]; exact h

theorem held_stopBase {b : B} {s : Spec.Broker.S} (h : R b s) (c : Nat) (σ : Sess)
    (ht : TopicsRel σ.topics (Spec.Broker.heldOf s c)) :
    HeldInv (stopBase b c σ).topics.sroot (s.held.filter (fun h => h.owner != c)) := by
  have hgood : ∀ t ∈ σ.topics.map (·.1), good t = true := by
    intro t ht'
    obtain ⟨p, hp, rfl⟩ := List.mem_map.mp ht'
    have := ht.ok p hp
    simp only [subOk, Bool.and_eq_true] at this
    exact this.1.1
  have := h.held.unsubFold h.inv.wf c (σ.topics.map (·.1)) hgood
  rw [← Mqtt.Proofs.Broker.unsubAll_eq_fold] at this
  -- every subscription the connection holds is in the session's topic list
  have hfil : s.held.filter (fun x => !(x.owner == c && (σ.topics.map (·.1)).contains x.filter)) =
      s.held.filter (fun x => x.owner != c) := by
    refine List.filter_congr fun x hx => ?_
    by_cases hxc : x.owner = c
    · have hm : (x.filter, x.qos) ∈ Spec.Broker.heldOf s c :=
        List.mem_map.mpr ⟨x, List.mem_filter.mpr ⟨hx, by simp [hxc]⟩, rfl⟩
      rw [List.contains_iff_mem.mpr (List.mem_map.mpr ⟨_, ht.perm.mem_iff.mpr hm, rfl⟩)]
      simp [hxc]
    · have : (x.owner == c) = false := by simpa using hxc
      simp [this, hxc]
  rwa [hfil] at this

/-- connection end, before the will: under the client identifier the reference broker files the
subscriptions and open QoS 2 exchanges of a persistent session, the model keeps the session object -/
theorem R_stopBase {b : B} {s : Spec.Broker.S} (h : R b s) {c : Nat} {cn : Conn} {σ : Sess} {k : Spec.Broker.Conn}
    (hc : b.getConn c = some cn) (ha : cn.alive = true) (hs : b.getSess cn.sess = some σ)
    (hrel : LiveRel b s c σ k) : R (stopBase b c σ) (endSpec s c k) := by
  have hl := liveSess_eq hc ha hs
  refine R_at h (h.moves (Mqtt.Proofs.Broker.stopBase_moves b c σ)) c σ.cid none
    (hls := liveSess_stopBase b c σ)
    (hsg := fun _ _ => rfl)
    (hrr := Mqtt.Proofs.Broker.unsubAll_rroot c σ.topics b.topics)
    (hheld := held_stopBase h c σ hrel.topics)
    (hat := .filterOwner s.held c)
    (hownc := fun _ x hx => by simpa using (List.mem_filter.mp hx).2)
    (hrets := rfl)
    (hmnd := mconns_markDead h.mconns c)
    (hnd := h.sconns.sublist ((List.filter_sublist).map _))
    (hgc := fun c' he => by rw [getConn_endSpec, if_neg he])
    (hnone := fun _ => by rw [getConn_endSpec, if_pos rfl])
    (hsome := fun _ => nofun)
    (hold := fun τ ht => by rw [hl] at ht; cases ht; rfl)
    (hfree := h.others_free hl)
    (hres := fun x _ _ => resumable_congr rfl rfl x)
    (hlk := fun x hx hxe => lookup_endSpec s c k (fun e => hxe ((hrel.cid.eq (.inr (e ▸ hx))).trans e.symm).symm))
    (hX := ?_)
  intro hx _
  have hkc : k.cid = σ.cid := (hrel.cid.eq (.inl hx)).symm
  refine storedRel_of_filed (b := stopBase b c σ) (σ := σ) hrel.store (liveSess_ref (b := b) hl) ?_ ?_
  · intro hcl
    simp only [endSpec, ← hrel.clean, hcl, ↓reduceIte]
    rw [hkc]; exact List.lookup_filter_self _ _
  · intro hcl
    refine ⟨Spec.Broker.heldOf s c, k.open2, ?_, hrel.topics, hrel.open2, hrel.q2ok⟩
    simp only [endSpec, ← hrel.clean, hcl, Bool.false_eq_true, ↓reduceIte, List.lookup_cons, hkc, BEq.rfl]

theorem invs_setSess {b : B} {s : Spec.Broker.S} (h : R b s) {σ0 σ' : Sess} (hσ : b.getSess σ'.ref = some σ0)
    (hcid : σ'.cid = σ0.cid) (hq : σ'.pub2in = σ0.pub2in) (hw : σ'.willFlag = true → σ'.will.isSome = true) :
    Invs (b.setSess σ') :=
  ⟨Mqtt.Proofs.Broker.Inv_setSess b σ' h.inv, Mqtt.Proofs.BrokerLife.linv_setSess h.linv hσ rfl hcid hw,
   Mqtt.Proofs.BrokerQos.BInv.setSess h.qinv hσ (hq ▸ h.queue hσ)⟩

/-- replacing will / will flag of a session object the store points to and whose identifier no live connection uses -/
theorem R_setSess_filed {b : B} {s : Spec.Broker.S} (h : R b s) (σ0 σ' : Sess) (hσ : b.getSess σ'.ref = some σ0)
    (hst : b.storeGet σ0.cid = some σ0.ref)
    (hcid : σ'.cid = σ0.cid) (hclean : σ'.clean = σ0.clean) (htop : σ'.topics = σ0.topics)
    (hq : σ'.pub2in = σ0.pub2in) (hw : σ'.willFlag = true → σ'.will.isSome = true)
    (hfree : ∀ c τ, liveSess b c = some τ → τ.cid ≠ σ0.cid) : R (b.setSess σ') s := by
  have hf : Filed b (b.setSess σ') σ' := .of_setSess rfl rfl rfl hσ hcid hst
  have href := Mqtt.Proofs.BrokerLife.getSess_ref hσ
  refine R_filed h (invs_setSess h hσ hcid hq hw) hf (htop := rfl) (hheld := rfl) (hrets := rfl) (hconns := rfl)
    (hfree := hcid ▸ hfree) (hlookup := fun _ _ _ => rfl) (hX := ?_)
  -- the reference broker has stored for `σ0` what it has to have stored for `σ'`
  intro hX
  have h0 := h.stored σ0.cid (hcid ▸ hX) hfree
  have hr0 := resumable_of_filed hst (href ▸ hσ)
  refine hf.storedRel (fun hcl => hcid ▸ h0.none (by rw [hr0, if_pos (hclean ▸ hcl)])) (fun hcl => ?_)
  rw [hcid, htop, hq]
  exact h0.some σ0 (by rw [hr0, if_neg (by rw [← hclean, hcl]; exact Bool.noConfusion)])

/-- replacing will / will flag of a session object that no live connection uses, filed or not -/
theorem R_setSess_dead {b : B} {s : Spec.Broker.S} (h : R b s) (σ0 σ' : Sess) (hσ : b.getSess σ'.ref = some σ0)
    (hcid : σ'.cid = σ0.cid) (hclean : σ'.clean = σ0.clean) (htop : σ'.topics = σ0.topics)
    (hq : σ'.pub2in = σ0.pub2in) (hw : σ'.willFlag = true → σ'.will.isSome = true)
    (hdead : ∀ c τ, liveSess b c = some τ → τ.ref ≠ σ'.ref) : R (b.setSess σ') s := by
  have href := Mqtt.Proofs.BrokerLife.getSess_ref hσ
  by_cases hst : b.storeGet σ0.cid = some σ0.ref
  · refine R_setSess_filed h σ0 σ' hσ hst hcid hclean htop hq hw fun c τ hτ e => ?_
    obtain ⟨k, _, hk⟩ := h.live c τ hτ
    have := hk.store
    rw [e, hst] at this
    exact hdead c τ hτ ((Option.some.inj this).symm.trans href)
  · -- no store entry points to the object: both views are as before
    have hg := getSess_update (b := b) (b' := b.setSess σ') (σ' := σ') rfl
    refine R_frame h (invs_setSess h hσ hcid hq hw) (hc := rfl) (hls := fun c => ?_) (hconns := rfl)
      (hheld := h.held) (hgood := h.heldGood) (hown := h.owners) (hheldOf := fun _ _ => rfl)
      (hrets := h.rets) (hretsOk := h.retsOk) (hids := h.retIds) (hsg := fun _ _ _ => rfl)
      (hstored := fun x hx hf => (h.stored x hx hf).congr ?_ rfl)
    · rw [liveSess_of_getSess (b := b) (b' := b.setSess σ') rfl hg h.linv]
      cases hl : liveSess b c with
      | none => rfl
      | some τ => rw [Option.map_some, if_neg (hdead c τ hl)]
    · unfold resumable
      rw [show (b.setSess σ').storeGet x = b.storeGet x from rfl]
      cases hgx : b.storeGet x with
      | none => rfl
      | some r =>
        rw [Option.bind_some, Option.bind_some, hg, if_neg]
        intro hr
        obtain ⟨t, ht, htc⟩ := h.linv.store (x, r) (List.mem_of_lookup hgx)
        rw [hr, hσ] at ht
        cases ht
        exact hst (htc ▸ href ▸ hr ▸ hgx)

theorem R_storeDel {b : B} {s : Spec.Broker.S} (h : R b s) (x : Bytes) (hres : resumable b x = none)
    (hfree : ∀ c τ, liveSess b c = some τ → τ.cid ≠ x) : R (b.storeDel x) s := by
  refine R_storedAt h (h.moves (.one (.forget b x))) x (htop := rfl) (hc := rfl) (hls := fun _ => rfl)
    (hheld := rfl) (hrets := rfl) (hconns := rfl) (hcidfree := hfree)
    (hstoreget := fun y hy => Mqtt.Proofs.BrokerLife.storeGet_storeDel_ne b x y hy.symm)
    (hresum := ?_) (hlookup := fun _ _ _ => rfl) (hX := ?_)
  · intro y _ hy
    unfold resumable
    rw [Mqtt.Proofs.BrokerLife.storeGet_storeDel_ne b x y hy.symm]
    rfl
  · intro hx
    have : resumable (b.storeDel x) x = none := by
      unfold resumable
      rw [Mqtt.Proofs.BrokerLife.storeGet_storeDel_self]; rfl
    exact ⟨fun τ hτ => (by rw [this] at hτ; cases hτ), fun _ => (h.stored x hx hfree).none hres⟩

theorem willOk_iff (w : Will) (h : willOk w = true) : good w.topic = true ∧ validName w.topic = true ∧ w.qos ≤ 2 := by
  simp only [willOk, Bool.and_eq_true, decide_eq_true_eq] at h
  exact ⟨h.1.1, h.1.2, h.2⟩

theorem R_dropClean {b : B} {s : Spec.Broker.S} (h : R b s) {σ : Sess} (hst : b.storeGet σ.cid = some σ.ref)
    (hσ : b.getSess σ.ref = some σ) (hfree : ∀ c τ, liveSess b c = some τ → τ.cid ≠ σ.cid) :
    R (if σ.clean then b.storeDel σ.cid else b) s := by
  split
  · rename_i hcl
    refine R_storeDel h σ.cid ?_ hfree
    cases hr : resumable b σ.cid with
    | none => rfl
    | some τ =>
      obtain ⟨r, hg, hs, hcl'⟩ := resumable_some_iff.mp hr
      rw [hst] at hg; cases hg
      rw [hσ] at hs; cases hs
      rw [hcl] at hcl'; cases hcl'
  · exact h

/-- what `stop` does after the will: the session object of the connection that ended is replaced (will
object, or will flag), and dropped from the store unless persistent -/
theorem R_stopTail {b : B} {s : Spec.Broker.S} (h : R b s) {σ σ' : Sess} (hσ : b.getSess σ.ref = some σ)
    (hst : b.storeGet σ.cid = some σ.ref) (hfree : ∀ c τ, liveSess b c = some τ → τ.cid ≠ σ.cid)
    (hss : SessStep σ σ') (hclean : σ'.clean = σ.clean) (htop : σ'.topics = σ.topics) (hq : σ'.pub2in = σ.pub2in) :
    R (if σ.clean then (b.setSess σ').storeDel σ.cid else b.setSess σ') s ∧
    ∀ c, liveSess (if σ.clean then (b.setSess σ').storeDel σ.cid else b.setSess σ') c = liveSess b c := by
  obtain ⟨href, hcid, hw⟩ := hss.life
  have hls := (Filed.of_setSess (b := b) (b' := b.setSess σ') rfl rfl rfl (href ▸ hσ) hcid hst).liveSess_free h.linv
    (hcid ▸ hfree)
  have R1 := R_setSess_filed h σ σ' (href ▸ hσ) hst hcid hclean htop hq (hw (h.linv.wills _ σ hσ)) hfree
  have R2 := R_dropClean (σ := σ') R1 (by rw [hcid, href]; exact hst) (Mqtt.Proofs.BrokerLife.getSess_setSess b σ')
    (fun c τ hτ => by rw [hcid]; exact hfree c τ (by rw [← hls]; exact hτ))
  rw [hclean, hcid] at R2
  refine ⟨R2, fun c => ?_⟩
  split
  · exact hls c
  · exact hls c

/-- the end of a live connection other than by DISCONNECT: both sides close the connection and then
publish the will; the session objects of the other live connections are untouched -/
theorem stop_refines {b : B} {s : Spec.Broker.S} (h : R b s) (c : Nat) (hal : b.alive c = true) :
    R (stop b c).1 (Spec.Broker.endConn s c false).1 ∧
    (∀ c', liveSess (stop b c).1 c' = if c' = c then none else liveSess b c') ∧
    ∃ fs fo, (Spec.Broker.endConn s c false).2 = .closed c :: fs ∧ (stop b c).2 = .closed c :: fo ∧ Fan fs fo := by
  obtain ⟨cn, σ, k, hc, ha, hs, hk, hrel⟩ := h.liveConn hal
  have hl := liveSess_eq hc ha hs
  have hσ := liveSess_ref hl
  rw [Mqtt.Proofs.BrokerLife.stop_live b c cn σ hc ha hs, spec_endConn_eq s c k false hk]
  have R0 := R_stopBase h hc ha hs hrel
  have hls0 := liveSess_stopBase b c σ
  have hfree0 := h.free_stopBase hl
  by_cases hwf : σ.willFlag = true
  case neg =>
    have hkw : k.will = none := by
      cases hw : k.will with
      | none => rfl
      | some w => rw [hrel.willFlag, hw] at hwf; exact absurd rfl hwf
    rw [if_neg hwf]
    simp only [hkw]
    refine ⟨R_dropClean R0 hrel.store hσ hfree0, fun c' => ?_, [], [], rfl, rfl, Fan.nil⟩
    rw [← hls0]
    split <;> rfl
  case pos =>
    obtain ⟨w, hkw⟩ : ∃ w, k.will = some w := by
      cases hw : k.will with
      | none => rw [hrel.willFlag, hw] at hwf; cases hwf
      | some w => exact ⟨w, rfl⟩
    have hσw : σ.will = some (willMsg w) := by rw [hrel.will, hkw]; rfl
    obtain ⟨wg, wn, wq⟩ := willOk_iff w (hrel.willOk w hkw)
    rw [if_pos hwf]
    simp only [hσw, hkw]
    obtain ⟨fc, fs, fst, _⟩ := Mqtt.Proofs.BrokerQos.onPublish_frame (stopBase b c σ) (willMsg w)
    obtain ⟨R1, fan, _⟩ := R_onPublish R0 (willMsg w) wg wn wq (.inr (.inl rfl))
    have hls1 := liveSess_congr fc fs
    obtain ⟨R2, hls2⟩ := R_stopTail R1 (σ := σ)
      (σ' := { σ with will := some (onPublish (stopBase b c σ) (willMsg w)).2.1 })
      (by rw [Mqtt.Proofs.Broker.getSess_congr _ _ fs]; exact hσ)
      (by rw [storeGet_congr fst]; exact hrel.store)
      (fun c' τ hτ => hfree0 c' τ (by rw [← hls1]; exact hτ)) (.willSent σ _) rfl rfl rfl
    exact ⟨R2, fun c' => by rw [hls2, hls1, hls0], _, _, rfl, rfl, fan⟩

/-- the end of connection `c` other than by DISCONNECT, whether `c` is live or not: what `close`, the
take-over and any other forced end of a connection rest on -/
theorem stop_endConn_refines {b : B} {s : Spec.Broker.S} (h : R b s) (c : Nat) :
    R (stop b c).1 (Spec.Broker.endConn s c false).1 ∧
    Spec.Broker.Accepts (Spec.Broker.endConn s c false).2 (stop b c).2 := by
  cases hal : b.alive c with
  | false =>
    rw [Mqtt.Proofs.Broker.stop_idle b c hal]
    have : Spec.Broker.endConn s c false = (s, []) := by
      unfold Spec.Broker.endConn; rw [h.specConn_none hal]
    rw [this]
    exact ⟨h, accepts_nil⟩
  | true =>
    obtain ⟨r1, _, fs, fo, e1, e2, fan⟩ := stop_refines h c hal
    rw [e1, e2]
    exact ⟨r1, by simpa using accepts_shape (.cons (.closed c) .nil) fan .nil⟩

theorem step_close {b : B} {s : Spec.Broker.S} (h : R b s) (c : Nat) : Refines b s (.close c) :=
  stop_endConn_refines h c

/-- DISCONNECT on a live connection: the will flag is cleared, then the connection ends as by `stop` -/
theorem step_disconnect {b : B} {s : Spec.Broker.S} (h : R b s) (c : Nat) (hal : b.alive c = true) :
    Refines b s (.packet c .disconnect) := by
  unfold Refines
  obtain ⟨cn, σ, k, hc, ha, hs, hk, hrel⟩ := h.liveConn hal
  have hl := liveSess_eq hc ha hs
  have hσ : (stopBase b c σ).getSess σ.ref = some σ := liveSess_ref (b := b) hl
  have hstep : step b (.packet c .disconnect) = stop (b.setSess { σ with willFlag := false }) c :=
    Mqtt.Proofs.BrokerLife.packet_disconnect_eq b c cn σ hc ha hs
  have hs0 : (b.setSess { σ with willFlag := false }).getSess cn.sess = some { σ with willFlag := false } := by
    rw [← Mqtt.Proofs.BrokerLife.getSess_ref hs]; exact Mqtt.Proofs.BrokerLife.getSess_setSess b { σ with willFlag := false }
  have hsp : Spec.Broker.step1 s (.packet c .disconnect) = (endSpec s c k, [.closed c]) := by
    simp only [Spec.Broker.step1, hk]
    rw [spec_endConn_eq s c k true hk]
    cases k.will <;> rfl
  rw [hstep, hsp, Mqtt.Proofs.BrokerLife.stop_live _ c cn _ (by exact hc) ha hs0]
  simp only [Bool.false_eq_true, ↓reduceIte]
  -- `markDead` and `setSess` commute
  have hbase : stopBase (b.setSess { σ with willFlag := false }) c { σ with willFlag := false } =
      (stopBase b c σ).setSess { σ with willFlag := false } := rfl
  rw [hbase]
  refine ⟨(R_stopTail (R_stopBase h hc ha hs hrel) (σ := σ) (σ' := { σ with willFlag := false })
    hσ hrel.store (h.free_stopBase hl) (.graceful σ) rfl rfl rfl).1, accepts_lits (.cons (.closed c) .nil)⟩

end Mqtt.Proofs.BrokerRefine
