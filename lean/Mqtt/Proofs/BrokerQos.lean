/-
C02 and C17 on the broker model: handing a message on (`deliverConn`, `fanout`, `onPublish`,
`releaseAll`) leaves connections, sessions and subscriptions alone (`Frame`: `onPublish_frame`, `releaseAll_frame`), and every output is
a PUBLISH or a callback invocation with the topic and payload of the message (`Carries`): both read
off the fan-out tower's account of the machinery (`Broker.fanout_like`, `retainStep_frame`, `onPublish_like`).
Then the session references, the inbound QoS 2 queue of a session object and the binding of a connection; at
the end the QoS packets on a live connection, read off `served` with the acknowledgement written.
-/
import Mqtt.Proofs.BrokerLife
import Mqtt.Proofs.BrokerFanoutRetained

namespace Mqtt.Proofs.BrokerQos
open Mqtt.Iface.Broker Mqtt.Model.Broker
open Mqtt.Proofs.Broker (Fwd)

def isHandOver : Out → Bool
  | .send _ (.publish _) => true
  | .call _ _ => true
  | _ => false

/-- an output that hands a message on: a PUBLISH written to a subscriber
connection, or an in-process callback invocation -/
def HandOver (o : Out) : Prop :=
  (∃ d w, o = .send d (.publish w)) ∨ (∃ cb p, o = .call cb p)

theorem handOver_of {o : Out} (h : isHandOver o = true) : HandOver o := by
  unfold isHandOver at h
  split at h
  · exact .inl ⟨_, _, rfl⟩
  · exact .inr ⟨_, _, rfl⟩
  · cases h

def Carries (t pl : Bytes) : Out → Prop
  | .send _ (.publish w) => w.topic = t ∧ w.payload = pl
  | .call _ p => p.topic = t ∧ p.payload = pl
  | _ => False

theorem Carries.isHandOver {t pl : Bytes} {o : Out} (h : Carries t pl o) : isHandOver o = true := by
  unfold Carries at h
  split at h
  · rfl
  · rfl
  · exact h.elim

/-- what a hand-over leaves alone: connection table, session objects, session
store, reference counter and the subscription tree.  (Only the retained tree
and the packet-identifier counter may differ.) -/
structure Frame (b b' : B) : Prop where
  conns   : b'.conns = b.conns
  sess    : b'.sess = b.sess
  store   : b'.store = b.store
  nextRef : b'.nextRef = b.nextRef
  sroot   : b'.topics.sroot = b.topics.sroot

theorem Frame.refl (b : B) : Frame b b := ⟨rfl, rfl, rfl, rfl, rfl⟩

theorem Frame.trans {a b c : B} (h1 : Frame a b) (h2 : Frame b c) : Frame a c :=
  ⟨h2.conns.trans h1.conns, h2.sess.trans h1.sess, h2.store.trans h1.store,
   h2.nextRef.trans h1.nextRef, h2.sroot.trans h1.sroot⟩

theorem Frame.getSess {b b' : B} (h : Frame b b') (r : Nat) : b'.getSess r = b.getSess r := by
  unfold B.getSess; rw [h.sess]

theorem Frame.getConn {b b' : B} (h : Frame b b') (c : Nat) : b'.getConn c = b.getConn c := by
  unfold B.getConn; rw [h.conns]

theorem frame_ctr {b b' : B} (h : b' = { b with ctr := b'.ctr }) : Frame b b' := by
  rw [h]; exact ⟨rfl, rfl, rfl, rfl, rfl⟩

theorem _root_.Mqtt.Proofs.Broker.Fwd.carries {p : Pub} {o : Out} (h : Fwd p o) : Carries p.topic p.payload o := by
  rcases h with ⟨d, w, rfl, _, _, l⟩ | ⟨cb, w, rfl, _, _, l⟩ <;> exact ⟨l.topic, l.payload⟩

theorem fanoutLive_fst (b : B) (m : Msg) (subs : List (Nat × Nat)) :
    (fanoutLive b m subs).1 = (fanout b (if m.p.retain then m.setRetain false else m) subs).1 := rfl

theorem onPublish_frame (b : B) (m : Msg) : Frame b (onPublish b m).1 := by
  obtain ⟨f1, f2, f3, f4, f5⟩ := Broker.retainStep_frame b m
  have hr : Frame b (retainStep b m).1 := ⟨f2, f3, f4, f5, f1⟩
  rw [Broker.onPublish_eq]
  split
  · exact hr
  · exact hr.trans (frame_ctr (Broker.fanout_like _ _ _).1)

theorem onPublish_carries (b : B) (m : Msg) : ∀ o ∈ (onPublish b m).2.2.1, Carries m.p.topic m.p.payload o :=
  fun o ho => (Broker.onPublish_like b m o ho).carries

theorem onPublish_handOvers (b : B) (m : Msg) : ∀ o ∈ (onPublish b m).2.2.1, isHandOver o = true :=
  fun o ho => (onPublish_carries b m o ho).isHandOver

theorem releaseAll_frame (b : B) (l : List QEntry) : Frame b (releaseAll b l).1 := by
  induction l generalizing b with
  | nil => exact .refl b
  | cons e rest ih => exact (onPublish_frame b ⟨e.msg, false⟩).trans (ih _)

theorem releaseAll_handOvers (b : B) (l : List QEntry) : ∀ o ∈ (releaseAll b l).2, isHandOver o = true :=
  Broker.releaseAll_out _ onPublish_handOvers l b

/-- session references, in creation order -/
def refs (b : B) : List Nat := b.sess.map (·.ref)

theorem any_ref_iff (b : B) (r : Nat) : (b.sess.any fun x => x.ref == r) = true ↔ r ∈ refs b := by
  simp only [refs, List.any_eq_true, List.mem_map, beq_iff_eq]

theorem getSess_isSome_iff (b : B) (r : Nat) : (b.getSess r).isSome = true ↔ r ∈ refs b := by
  unfold B.getSess
  rw [List.find?_isSome, ← List.any_eq_true, any_ref_iff]

theorem refs_setSess_mem (b : B) (s : Sess) (h : s.ref ∈ refs b) : refs (b.setSess s) = refs b := by
  unfold refs B.setSess
  rw [if_pos ((any_ref_iff b s.ref).mpr h), List.map_map]
  apply List.map_congr_left
  intro x _
  show (if x.ref == s.ref then s else x).ref = x.ref
  split
  · rename_i hx; exact (eq_of_beq hx).symm
  · rfl

theorem refs_setSess_new (b : B) (s : Sess) (h : s.ref ∉ refs b) : refs (b.setSess s) = refs b ++ [s.ref] := by
  unfold refs B.setSess
  rw [if_neg (mt (any_ref_iff b s.ref).mp h), List.map_append]
  rfl

def pub2inOf (b : B) (r : Nat) : List QEntry :=
  match b.getSess r with
  | some s => s.pub2in
  | none => []

/-- the inbound QoS 2 queue of the connection's session after one packet -/
def newQ : Packet → List QEntry → List QEntry
  | .publish p, q => if p.qos == 2 then q2Wait q p else q
  | .pubrel id, q => (q2Acked (q2Ack q id)).1
  | _, q => q

/-- connection `c` is live and bound to session object `r` -/
def bound (b : B) (c r : Nat) : Bool :=
  match b.getConn c with
  | some cn => cn.alive && cn.sess == r
  | none => false

def sessOf (b : B) (c : Nat) : Option Sess := (b.getConn c).bind (fun cn => b.getSess cn.sess)

theorem bound_eq {b : B} {c : Nat} {cn : Conn} (hc : b.getConn c = some cn) (r : Nat) :
    bound b c r = (cn.alive && cn.sess == r) := by
  unfold bound; rw [hc]

theorem bound_alive {b : B} {c r : Nat} (h : bound b c r = true) : b.alive c = true := by
  cases hc : b.getConn c with
  | none => unfold bound at h; rw [hc] at h; cases h
  | some cn => rw [bound_eq hc] at h; exact Mqtt.Proofs.Broker.alive_of_getConn b c cn hc ((Bool.and_eq_true _ _).mp h).1

section packet
open Mqtt.Proofs.BrokerLife (packet_live served)
variable {b : B} {c : Nat} {cn : Conn} {s : Sess}
  (hc : b.getConn c = some cn) (ha : cn.alive = true) (hs : b.getSess cn.sess = some s)
include hc ha hs

theorem packet_publish2 (p : Pub) (hq : p.qos = 2) :
    packet b c (.publish p) =
      (b.setSess { s with pub2in := q2Wait s.pub2in p }, [.send c (.pubrec p.pktid)]) := by
  rw [packet_live hc ha hs]
  simp [served, hq, send_alive (Mqtt.Proofs.Broker.alive_of_getConn b c cn hc ha)]

theorem packet_publish1 (p : Pub) (hq : p.qos = 1) :
    packet b c (.publish p) =
      ((onPublish b ⟨p, false⟩).1, .send c (.puback p.pktid) :: (onPublish b ⟨p, false⟩).2.2.1) := by
  rw [packet_live hc ha hs]
  simp [served, hq, send_alive (Mqtt.Proofs.Broker.alive_of_getConn b c cn hc ha)]

theorem packet_publish0 (p : Pub) (hq : p.qos = 0) :
    packet b c (.publish p) = ((onPublish b ⟨p, false⟩).1, (onPublish b ⟨p, false⟩).2.2.1) := by
  rw [packet_live hc ha hs]
  simp [served, hq]

theorem packet_pubrel (id : Nat) :
    packet b c (.pubrel id) =
      ((releaseAll (b.setSess { s with pub2in := (q2Acked (q2Ack s.pub2in id)).1 })
          (q2Acked (q2Ack s.pub2in id)).2).1,
       (releaseAll (b.setSess { s with pub2in := (q2Acked (q2Ack s.pub2in id)).1 })
          (q2Acked (q2Ack s.pub2in id)).2).2 ++ [.send c (.pubcomp id)]) := by
  have hal : (releaseAll (b.setSess { s with pub2in := (q2Acked (q2Ack s.pub2in id)).1 })
      (q2Acked (q2Ack s.pub2in id)).2).1.alive c = true := by
    rw [Mqtt.Proofs.Broker.alive_congr _ _ (releaseAll_frame _ _).conns,
      Mqtt.Proofs.Broker.alive_congr _ _ (Mqtt.Proofs.Broker.setSess_conns _ _)]
    exact Mqtt.Proofs.Broker.alive_of_getConn b c cn hc ha
  rw [packet_live hc ha hs]
  simp only [served]
  rw [send_alive hal]

theorem packet_pubrec (id : Nat) :
    packet b c (.pubrec id) = (b, [.send c (.pubrel id)]) := by
  rw [packet_live hc ha hs]
  exact congrArg (Prod.mk b) (send_alive (Mqtt.Proofs.Broker.alive_of_getConn b c cn hc ha) _)

end packet

end Mqtt.Proofs.BrokerQos
