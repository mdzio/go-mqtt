/-
Core F — the incoming ring and a receiver that waits for one free byte and reads into the free space
(`WF c`: `Cfg.blockWait = false`).

* `inFit_run`      — the incoming ring never holds more than its size (if it did not at the start): only
                     the receiver's commit raises `inR.buf`, and what it commits was read into free space
* `Arr`, `TStep.arr`, `packet_arrives`
                   — a packet in pieces: while the processor waits for the rest of a packet, the bytes
                     still on the wire, those in the ring and those the receiver is about to commit add
                     up to the same number (nothing is lost on the way) unless the ring is closed; once
                     the processor has the packet it does not come back to wait for it
-/
import Mqtt.Proofs.LifecycleEnd

namespace Mqtt.Proofs.Lifecycle
open Mqtt.Model.Lifecycle

/-- bytes the receiver has taken off the wire and not yet committed to the ring -/
def RPc.pend : RPc → Nat
  | .commit n => n
  | _ => 0

theorem readLen_le_wire {c : Cfg} {sh : Sh} (k : Nat) (h : sh.wire ≠ 0) : readLen c sh k ≤ sh.wire :=
  Nat.max_le.mpr ⟨Nat.pos_of_ne_zero h, Nat.le_trans (Nat.min_le_right ..) (Nat.min_le_right ..)⟩

/-- what a receiver step does to the wire and the incoming ring: bytes move from the wire into the
receiver's hands and from there into the ring; they are dropped only when the ring is closed -/
theorem RStep.bytes {c : Cfg} {sh sh' : Sh} {k : Nat} {pc pc' : RPc} (h : RStep c sh k pc sh' pc')
    (hcm : ∀ n, pc = .commit n → sh.inR.buf + n ≤ c.cap) :
    (sh.inR.done = true → sh'.inR.done = true) ∧
    ((sh'.wire + sh'.inR.buf + RPc.pend pc' = sh.wire + sh.inR.buf + RPc.pend pc ∧
        (sh'.inR.buf = sh.inR.buf ∨ sh'.inR.buf = sh.inR.buf + RPc.pend pc)) ∨
      (sh'.inR.done = true ∧ sh'.inR.buf = sh.inR.buf)) := by
  cases h with
  | read hs ht hw =>
    refine ⟨id, .inl ⟨?_, .inl rfl⟩⟩
    show sh.wire - readLen c sh k + sh.inR.buf + readLen c sh k = sh.wire + sh.inR.buf
    rw [Nat.add_right_comm, Nat.sub_add_cancel (readLen_le_wire k hw)]
  | commit n => exact ⟨id, .inl ⟨(Nat.add_assoc ..).symm, .inr rfl⟩⟩
  | commitFail n hd =>
    -- the commit failed: the ring is closed (a request larger than the ring cannot occur)
    exact ⟨id, .inr ⟨hd.resolve_right (Nat.not_lt.mpr (Nat.le_trans (Nat.le_add_left ..) (hcm n rfl))), rfl⟩⟩
  | close => exact ⟨fun _ => rfl, .inr ⟨rfl, rfl⟩⟩
  | _ => exact ⟨id, .inl ⟨rfl, .inl rfl⟩⟩

theorem inFit_step (c : Cfg) (hw : WF c) (s s' : St) (l : Label) (hi : InvA c s) (h : step c s l = some s')
    (hf : s.sh.inR.buf ≤ c.cap) : s'.sh.inR.buf ≤ c.cap := by
  cases l with
  | env e => replace h := estep_sound hw h; cases h <;> exact hf
  | th t k =>
    replace h := tstep_sound hw h
    cases h with
    | @recv _ pc pc' sh' hpc h =>
      have hc := fun n hn => hi.rcommit n (hpc.trans hn)
      rcases (h.bytes hc).2 with ⟨_, hb | hb⟩ | ⟨_, hb⟩
      · exact hb ▸ hf
      · rw [show _ = _ from hb]
        cases pc with
        | commit n => exact hc n rfl
        | _ => exact hf
      · exact hb ▸ hf
    | send hpc h => exact h.keeps.2.inR ▸ hf
    | proc hpc h => exact Nat.le_trans h.frameA.1.inBuf hf
    | k hpc h => exact h.frame.inBuf ▸ hf
    | w hpc h => exact h.keeps.2.inR ▸ hf

theorem inFit_run (c : Cfg) (hw : WF c) (s : St) (sched : List Label) (hi : Inv c s)
    (hf : s.sh.inR.buf ≤ c.cap) : (run c s sched).sh.inR.buf ≤ c.cap :=
  (run_induction (L := fun _ => True) (P := fun s => Inv c s ∧ s.sh.inR.buf ≤ c.cap)
    (fun s l s' _ ⟨hi, hf⟩ h => ⟨inv_step c hw s s' l hi h, inFit_step c hw s s' l hi.a h hf⟩)
    (fun _ _ => trivial) ⟨hi, hf⟩).2

/-- the processor has got the head packet (it is past `peekMessage`) or has left its loop (not to be confused with
`PPc.past`: has called `Done()`, and `PPc.pastLoop`: has left the loop) -/
def PPc.passed : PPc → Bool
  | .size => false | .msg => false | .check => false | _ => true

theorem PStep.arr {c : Cfg} {sh sh' : Sh} {pc pc' : PPc} (h : PStep c sh pc sh' pc') :
    (sh'.stream = sh.stream ∨ ∃ p, sh.stream = p :: sh'.stream) ∧
    (pc = .msg → PPc.passed pc' = true) ∧
    (PPc.passed pc = true → sh.stream ≠ [] → PPc.passed pc' = true ∨ ∃ p, sh.stream = p :: sh'.stream) := by
  cases h with
  | stop k k' sh' h => exact ⟨.inl h.frame.stream, nofun, fun _ _ => .inl rfl⟩
  | commit p tl hst => exact ⟨.inr ⟨p, hst⟩, nofun, fun _ _ => .inr ⟨p, hst⟩⟩
  | commitNil hst => exact ⟨.inl rfl, nofun, fun _ hne => absurd hst hne⟩
  | msg => exact ⟨.inl rfl, fun _ => rfl, nofun⟩
  | msgDisc => exact ⟨.inl rfl, fun _ => rfl, nofun⟩
  | msgEnd => exact ⟨.inl rfl, fun _ => rfl, nofun⟩
  | size => exact ⟨.inl rfl, nofun, nofun⟩
  | sizeEnd => exact ⟨.inl rfl, nofun, nofun⟩
  | check => exact ⟨.inl rfl, nofun, nofun⟩
  | checkDone => exact ⟨.inl rfl, nofun, nofun⟩
  | _ => exact ⟨.inl rfl, nofun, fun _ _ => .inl rfl⟩

/-- the packet stream `st0` (head packet of `total` bytes) in pieces: as long as the stream is still
`st0`, the processor either waits for the packet at `.msg` — and then the bytes on the wire, in the
ring and in the receiver's hands still add up to the packet unless the ring is closed — or has got
it; the stream only shrinks, so it never becomes `st0` again -/
def Arr (st0 : List Pkt) (total : Nat) (s : St) : Prop :=
  s.sh.stream.length ≤ st0.length ∧
  (s.sh.stream = st0 →
    (s.proc = .msg ∧ (s.sh.inR.done = true ∨ total ≤ s.sh.wire + s.sh.inR.buf + RPc.pend s.recv)) ∨
    PPc.passed s.proc = true)

theorem TStep.arr {c : Cfg} (st0 : List Pkt) (hne : st0 ≠ []) (total : Nat) {s s' : St} {t : Tid} {k : Nat}
    (hi : InvA c s) (h : TStep c s t k s') (ha : Arr st0 total s) : Arr st0 total s' := by
  obtain ⟨hlen, hst⟩ := ha
  -- steps that leave processor and stream alone and do not lose bytes
  have other : s'.proc = s.proc → s'.sh.stream = s.sh.stream → (s.sh.inR.done = true → s'.sh.inR.done = true) →
      (s'.sh.inR.done = true ∨
        s'.sh.wire + s'.sh.inR.buf + RPc.pend s'.recv = s.sh.wire + s.sh.inR.buf + RPc.pend s.recv) → Arr st0 total s' := by
    intro h0 h1 h2 h3
    refine ⟨h1 ▸ hlen, fun e => ?_⟩
    rw [h0]
    rcases hst (h1 ▸ e) with ⟨hp, hb⟩ | hp
    · refine .inl ⟨hp, ?_⟩
      rcases hb with hb | hb
      · exact .inl (h2 hb)
      · rcases h3 with h3 | h3
        · exact .inl h3
        · exact .inr (h3 ▸ hb)
    · exact .inr hp
  cases h with
  | recv hpc h =>
    obtain ⟨h2, hb⟩ := h.bytes (fun n hn => hi.rcommit n (hpc.trans hn))
    exact other rfl h.keeps.stream h2 (by rw [hpc]; rcases hb with ⟨hb, _⟩ | ⟨hb, _⟩; exact .inr hb; exact .inl hb)
  | send hpc h =>
    obtain ⟨hs, hin⟩ := h.keeps
    exact other rfl hs.stream (by rw [hin.inR]; exact id) (by rw [hin.inR, hin.wire]; exact .inr rfl)
  | k hpc h =>
    have hf := h.frame
    exact other rfl hf.stream hf.inDone (by rw [hf.wire, hf.inBuf]; exact .inr rfl)
  | w hpc h =>
    obtain ⟨hs, hin⟩ := h.keeps
    exact other rfl hs.stream (by rw [hin.inR]; exact id) (by rw [hin.inR, hin.wire]; exact .inr rfl)
  | @proc _ pc pc' sh' hpc h =>
    obtain ⟨h1, h2, h3⟩ := h.arr
    constructor
    · show sh'.stream.length ≤ st0.length
      rcases h1 with h1 | ⟨p, h1⟩
      · exact h1 ▸ hlen
      · rw [h1] at hlen; exact Nat.le_of_succ_le hlen
    · intro (h0 : sh'.stream = st0)
      refine .inr ?_
      show PPc.passed pc' = true
      rcases h1 with h1 | ⟨p, h1⟩
      · have hs0 : s.sh.stream = st0 := h1 ▸ h0
        rcases hst hs0 with ⟨hp, _⟩ | hp
        · exact h2 (hpc.symm.trans hp)
        · rcases h3 (hpc ▸ hp) (hs0 ▸ hne) with h3 | ⟨p, h3⟩
          · exact h3
          · have := congrArg List.length (h3.symm.trans h1.symm); simp at this
      · rw [h1, h0] at hlen; simp at hlen; omega

theorem recv_parked {c : Cfg} {s : St} (hi : Inv c s) (hen : TBlocked c s .recv)
    (hpl : RPc.pastLoop s.recv = false) :
    (s.recv = .read ∧ s.sh.sock = .open ∧ s.sh.timeout = false ∧ s.sh.wire = 0 ∧
      (estep c s .kaExpire).isSome = true ∧ (estep c s .peerClose).isSome = true) ∨
    (s.recv = .space ∧ s.sh.inR.done = false ∧ c.cap ≤ s.sh.inR.buf) := by
  rcases recv_blocked hi.a hen with h | ⟨hr, hso, hto, hwi⟩ | hr
  · exact .inr h
  · exact .inl ⟨hr, hso, hto, hwi, read_pending c s hr hso⟩
  · rw [hr] at hpl; cases hpl

theorem packet_arrives {c : Cfg} (hw : WF c) {s : St} (hi : Inv c s) (hpc : s.proc = .msg) (p : Pkt) (tl : List Pkt)
    (hst : s.sh.stream = p :: tl) (hcap : p.total ≤ c.cap) (hsum : p.total ≤ s.sh.wire + s.sh.inR.buf + RPc.pend s.recv) :
    let q := drain c (rank c s) s
    quiescent c q = true ∧ (q.sh.stream = s.sh.stream → q.proc ≠ .msg ∧ PPc.passed q.proc = true) := by
  intro q
  obtain ⟨hq, hiq, ha, -⟩ := fair_end hw hi (P := Arr (p :: tl) p.total)
    (fun _ _ _ _ hi ha h => h.arr _ (List.cons_ne_nil _ _) _ hi.a ha) ⟨Nat.le_of_eq (congrArg _ hst), fun _ => .inl ⟨hpc, .inr hsum⟩⟩
  have hqq := blocked_of_quiescent hw hq
  refine ⟨hq, fun hsame => ?_⟩
  have hqs : q.sh.stream = p :: tl := hsame.trans hst
  rcases ha.2 hqs with ⟨hm, hb⟩ | hp
  · -- still waiting: impossible in a state in which nothing can run
    exfalso
    -- of the places where the processor can be parked `.msg` is the one it is at
    obtain ⟨p', tl', hst', hbuf, hnd⟩ : ∃ p' tl', q.sh.stream = p' :: tl' ∧ q.sh.inR.buf < p'.total ∧ q.sh.inR.done = false := by
      cases hqq .proc with | proc hpc' hb => ?_
      rw [hm] at hpc'; subst hpc'
      cases hb with | msg p' tl' hst' hbuf _ hnd => exact ⟨p', tl', hst', hbuf, hnd⟩
    rw [hqs] at hst'; cases hst'
    rcases hb with hb | hb
    · rw [hb] at hnd; cases hnd
    · obtain ⟨hr, _, _, hwi⟩ := recv_reading hiq.a (hqq .recv) hnd hcap hbuf
      rw [hr, hwi] at hb; exact absurd hb (Nat.not_le.mpr (by simpa [RPc.pend] using hbuf))
  · exact ⟨fun hm => (by rw [hm] at hp; cases hp), hp⟩

end Mqtt.Proofs.Lifecycle
