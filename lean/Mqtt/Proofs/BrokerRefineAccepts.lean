/-
Tools for establishing `Accepts` (Spec/BrokerAccepts.lean): the outputs of every
broker event have the shape

    literal items ++ fan-out ++ literal items

on both sides - `Lits` relates literal items (`send`/`closed`/`sendOrClose`
against the same packet or close), `Fan` relates a list of `deliver`/`retained`
items to a list of PUBLISH outputs that hands every addressee exactly the
copies demanded for it.  `accepts_shape` turns the three parts into `Accepts`.  That one shape is the limit
of the tooling: `Accepts` is not closed under `++` (a pool of `deliver` items must be maximal), so an event
that ends several connections in one step is treated as a run of events (`Server.Close`, Properties/C09.lean).
-/
import Mqtt.Spec.BrokerAccepts

namespace Mqtt.Proofs.BrokerRefine
open Mqtt.Iface.Broker Mqtt.Spec.Broker

theorem specGroup_append (g : Nat) (a b : List SOut) : specGroup g (a ++ b) = specGroup g a ++ specGroup g b := by
  simp [specGroup]

theorem modelGroup_append (g : Nat) (a b : List Out) : modelGroup g (a ++ b) = modelGroup g a ++ modelGroup g b := by
  simp [modelGroup]

theorem modelGroup_nil (g : Nat) : modelGroup g [] = [] := rfl

theorem specGroup_cons_self {g : Nat} {x : SOut} (xs : List SOut) (ho : x.owner = some g) (he : isEmptyRetained x = false) :
    specGroup g (x :: xs) = x :: specGroup g xs := by
  simp [specGroup, ho, he]

theorem specGroup_cons_ne {g : Nat} {x : SOut} (xs : List SOut) (ho : x.owner ≠ some g) :
    specGroup g (x :: xs) = specGroup g xs := by
  simp [specGroup, ho]

theorem specGroup_cons_empty {g : Nat} {x : SOut} (xs : List SOut) (he : isEmptyRetained x = true) :
    specGroup g (x :: xs) = specGroup g xs := by
  simp [specGroup, he]

theorem modelGroup_cons_self {g : Nat} {y : Out} (ys : List Out) (ho : outOwner y = some g) :
    modelGroup g (y :: ys) = y :: modelGroup g ys := by
  simp [modelGroup, ho]

theorem modelGroup_cons_ne {g : Nat} {y : Out} (ys : List Out) (ho : outOwner y ≠ some g) :
    modelGroup g (y :: ys) = modelGroup g ys := by
  simp [modelGroup, ho]

theorem mem_specGroup {g : Nat} {so : List SOut} {x : SOut} (h : x ∈ specGroup g so) :
    x ∈ so ∧ x.owner = some g ∧ isEmptyRetained x = false := by
  simp only [specGroup, List.mem_filter, Bool.and_eq_true, beq_iff_eq, Bool.not_eq_true'] at h
  exact ⟨h.1, h.2.1, h.2.2⟩

theorem mem_modelGroup {g : Nat} {o : List Out} {y : Out} (h : y ∈ modelGroup g o) :
    y ∈ o ∧ outOwner y = some g := by
  simp only [modelGroup, List.mem_filter, beq_iff_eq] at h
  exact h

/-- a literal item and the output that answers it: the same non-PUBLISH packet (demanded outright or as
`sendOrClose`), or the same close -/
inductive Lit : SOut → Out → Prop
  | send (c : Nat) (p : Packet) : (pubOf (.send c p)).isSome = false → Lit (.send c p) (.send c p)
  | closed (c : Nat) : Lit (.closed c) (.closed c)
  | sent (c : Nat) (p : Packet) : (pubOf (.send c p)).isSome = false → Lit (.sendOrClose c p) (.send c p)

inductive Lits : List SOut → List Out → Prop
  | nil : Lits [] []
  | cons {x : SOut} {y : Out} {xs : List SOut} {ys : List Out} : Lit x y → Lits xs ys → Lits (x :: xs) (y :: ys)

theorem Lit.owner {x : SOut} {y : Out} (h : Lit x y) : x.owner = outOwner y := by
  cases h <;> rfl

theorem Lit.notPool {x : SOut} {y : Out} (h : Lit x y) : isPoolItem x = false := by
  cases h <;> rfl

theorem Lit.notEmptyRetained {x : SOut} {y : Out} (h : Lit x y) : isEmptyRetained x = false := by
  cases h <;> rfl

theorem Lit.notPub {x : SOut} {y : Out} (h : Lit x y) : (pubOf y).isSome = false := by
  cases h with
  | send c p hp => exact hp
  | closed c => rfl
  | sent c p hp => exact hp

theorem Lit.notApiErr {x : SOut} {y : Out} (h : Lit x y) :
    isApiErr x = false ∧ (y == Out.apiErr) = false := by
  cases h <;> exact ⟨rfl, by simp⟩

theorem Lits.group (g : Nat) {xs : List SOut} {ys : List Out} (h : Lits xs ys) :
    Lits (specGroup g xs) (modelGroup g ys) := by
  induction h with
  | nil => exact .nil
  | @cons x y xs ys hxy _ ih =>
    by_cases hg : outOwner y = some g
    · rw [specGroup_cons_self xs (hxy.owner.trans hg) hxy.notEmptyRetained, modelGroup_cons_self ys hg]
      exact .cons hxy ih
    · rw [specGroup_cons_ne xs (hxy.owner ▸ hg), modelGroup_cons_ne ys hg]
      exact ih

theorem Lits.matchGroup (cb : Bool) {xs : List SOut} {ys : List Out} (h : Lits xs ys) {ss : List SOut} {os : List Out}
    (hm : MatchGroup cb ss os) : MatchGroup cb (xs ++ ss) (ys ++ os) := by
  induction h with
  | nil => exact hm
  | @cons x y xs ys hxy _ ih =>
    cases hxy with
    | send c p _ => exact .send c p ih
    | closed c => exact .closed c ih
    | sent c p _ => exact .sendOrClose_sent c p ih

theorem Lits.head_notPool {xs : List SOut} {ys : List Out} (h : Lits xs ys) :
    ∀ x, xs.head? = some x → isPoolItem x = false := by
  intro x hx
  cases h with
  | nil => cases hx
  | cons hxy _ => cases hx; exact hxy.notPool

theorem Lits.head_notPub {xs : List SOut} {ys : List Out} (h : Lits xs ys) :
    ∀ y, ys.head? = some y → (pubOf y).isSome = false := by
  intro y hy
  cases h with
  | nil => cases hy
  | cons hxy _ => cases hy; exact hxy.notPub

theorem Lits.noApiErr {xs : List SOut} {ys : List Out} (h : Lits xs ys) :
    xs.any isApiErr = false ∧ ys.any (fun y => y == Out.apiErr) = false := by
  induction h with
  | nil => exact ⟨rfl, rfl⟩
  | cons hxy _ ih =>
    obtain ⟨a, b⟩ := hxy.notApiErr
    simp only [List.any_cons, a, b, ih.1, ih.2, Bool.or_self]
    exact ⟨trivial, trivial⟩

/-- the copies a pool item stands for, DUP and identifier wildcarded -/
def itemCopies : SOut → List Pub
  | .deliver _ cs => cs.map wild
  | .retained _ ms => ms.map wild
  | _ => []

def copiesOf (pool : List SOut) : List Pub := (pool.map itemCopies).flatten

/-- a PUBLISH output as the model produces them: to a connection with an
identifier exactly when its QoS is not 0, or an invocation of an in-process callback -/
def okOut : Out → Bool
  | .send _ (.publish w) => idOk w
  | .call cb _ => decide (cbBase ≤ cb)
  | _ => false

theorem okOut_pub {y : Out} (h : okOut y = true) : (pubOf y).isSome = true := by
  unfold okOut at h
  split at h
  · rfl
  · rfl
  · cases h

theorem okOut_notApiErr {y : Out} (h : okOut y = true) : (y == Out.apiErr) = false := by
  cases y <;> first | rfl | (simp [okOut] at h)

/-- `fo` hands every addressee exactly the copies the pool items `fs` demand for it -/
structure Fan (fs : List SOut) (fo : List Out) : Prop where
  items : ∀ x ∈ fs, isPoolItem x = true
  nonempty : ∀ o cs, SOut.deliver o cs ∈ fs → cs ≠ []
  outs : ∀ y ∈ fo, okOut y = true
  perm : ∀ g, (((modelGroup g fo).filterMap pubOf).map wild).Perm (copiesOf (specGroup g fs))

theorem Fan.nil : Fan [] [] :=
  ⟨by simp, by simp, by simp, fun g => by simp [modelGroup, specGroup, copiesOf]⟩

theorem copiesOf_append (a b : List SOut) : copiesOf (a ++ b) = copiesOf a ++ copiesOf b := by
  simp [copiesOf]

theorem Fan.append {a b : List SOut} {a' b' : List Out} (h1 : Fan a a') (h2 : Fan b b') : Fan (a ++ b) (a' ++ b') :=
  ⟨fun x hx => (List.mem_append.mp hx).elim (h1.items x) (h2.items x),
   fun o cs hx => (List.mem_append.mp hx).elim (h1.nonempty o cs) (h2.nonempty o cs),
   fun y hy => (List.mem_append.mp hy).elim (h1.outs y) (h2.outs y),
   fun g => by
    rw [modelGroup_append, specGroup_append, copiesOf_append, List.filterMap_append, List.map_append]
    exact (h1.perm g).append (h2.perm g)⟩

theorem run_nil_of_copies_nil {run : List Out} (hr : ∀ y ∈ run, (pubOf y).isSome = true)
    (hp : ((run.filterMap pubOf).map wild).Perm []) : run = [] := by
  cases run with
  | nil => rfl
  | cons y ys =>
    have hy := hr y (List.mem_cons_self ..)
    cases hpy : pubOf y with
    | none => rw [hpy] at hy; cases hy
    | some w =>
      rw [List.filterMap_cons, hpy] at hp
      exact absurd hp.length_eq (by simp)

theorem gots_of_pool (pool : List SOut) (hp : ∀ x ∈ pool, isPoolItem x = true)
    (hn : ∀ o cs, SOut.deliver o cs ∈ pool → cs ≠ []) : Gots pool (pool.map itemCopies) := by
  induction pool with
  | nil => exact .nil
  | cons x xs ih =>
    refine .cons ?_ (ih (fun y hy => hp y (List.mem_cons_of_mem _ hy))
      (fun o cs h => hn o cs (List.mem_cons_of_mem _ h)))
    have hx := hp x (List.mem_cons_self ..)
    cases x with
    | deliver o cs =>
      have hne := hn o cs (List.mem_cons_self ..)
      refine ⟨?_, [], ?_⟩
      · simp only [itemCopies, ne_eq, List.map_eq_nil_iff]; exact hne
      · simp only [itemCopies, List.append_nil]; exact List.Perm.refl _
    | retained o ms => exact List.Perm.refl _
    | _ => simp [isPoolItem] at hx

theorem Fan.poolMatch {fs : List SOut} {fo : List Out} (h : Fan fs fo) (g : Nat) :
    PoolMatch (decide (cbBase ≤ g)) (specGroup g fs) ((modelGroup g fo).filterMap pubOf) := by
  refine ⟨?_, (specGroup g fs).map itemCopies, ?_, h.perm g⟩
  · -- what a connection is sent carries an identifier exactly when its QoS is not 0
    intro hcb w hw
    obtain ⟨y, hy, hyw⟩ := List.mem_filterMap.mp hw
    obtain ⟨hyo, hown⟩ := mem_modelGroup hy
    have hok := h.outs y hyo
    cases y with
    | send c p =>
      cases p with
      | publish w' => cases hyw; exact hok
      | _ => cases hyw
    | call cb p =>
      cases hown
      rw [show okOut (.call g p) = decide (cbBase ≤ g) from rfl, hcb] at hok
      cases hok
    | closed c => cases hyw
    | apiErr => cases hyw
  · exact gots_of_pool _ (fun x hx => h.items x (mem_specGroup hx).1)
      (fun o cs hx => h.nonempty o cs (mem_specGroup hx).1)

theorem Fan.noApiErr {fs : List SOut} {fo : List Out} (h : Fan fs fo) :
    fs.any isApiErr = false ∧ fo.any (fun y => y == Out.apiErr) = false := by
  refine ⟨?_, ?_⟩
  · rw [List.any_eq_false]
    intro x hx
    have := h.items x hx
    cases x <;> simp_all [isPoolItem, isApiErr]
  · rw [List.any_eq_false]
    intro y hy
    simp [okOut_notApiErr (h.outs y hy)]

theorem accepts_shape {preS postS fs : List SOut} {preO postO fo : List Out}
    (h1 : Lits preS preO) (hf : Fan fs fo) (h2 : Lits postS postO) :
    Accepts (preS ++ fs ++ postS) (preO ++ fo ++ postO) := by
  right
  constructor
  · obtain ⟨a1, b1⟩ := h1.noApiErr
    obtain ⟨a2, b2⟩ := h2.noApiErr
    obtain ⟨a3, b3⟩ := hf.noApiErr
    simp only [List.any_append, a1, a2, a3, b1, b2, b3, Bool.or_self]
  · intro g
    rw [List.append_assoc, List.append_assoc, specGroup_append, specGroup_append, modelGroup_append, modelGroup_append]
    apply (h1.group g).matchGroup
    have hpost : MatchGroup (decide (cbBase ≤ g)) (specGroup g postS) (modelGroup g postO) := by
      have := (h2.group g).matchGroup (decide (cbBase ≤ g)) MatchGroup.nil
      simpa using this
    refine MatchGroup.pool (specGroup g fs) (modelGroup g fo) ?_ (h2.group g).head_notPool ?_ (h2.group g).head_notPub
      (hf.poolMatch g) hpost
    · intro x hx; exact hf.items x (mem_specGroup hx).1
    · intro y hy; exact okOut_pub (hf.outs y (mem_modelGroup hy).1)

theorem accepts_lits {xs : List SOut} {ys : List Out} (h : Lits xs ys) : Accepts xs ys := by
  have := accepts_shape h Fan.nil Lits.nil
  simpa using this

theorem accepts_fan {fs : List SOut} {fo : List Out} (h : Fan fs fo) : Accepts fs fo := by
  have := accepts_shape Lits.nil h Lits.nil
  simpa using this

theorem accepts_unspecified (o : List Out) : Accepts [.unspecified] o := Or.inl rfl

theorem accepts_nil : Accepts [] [] := accepts_lits Lits.nil

theorem accepts_apiErr : Accepts [.apiErr] [.apiErr] := by
  right
  refine ⟨rfl, fun g => ?_⟩
  exact MatchGroup.nil

theorem accepts_refused_plain (c : Nat) (codes : List (Option Nat)) (h : none ∈ codes) :
    Accepts [.refused c codes] [.closed c] := by
  refine .inr ⟨rfl, fun g => ?_⟩
  by_cases hg : c = g
  · subst hg
    rw [specGroup_cons_self [] rfl rfl, modelGroup_cons_self [] rfl]
    exact .refused_plain c codes [] h
  · have hne : some c ≠ some g := fun e => hg (Option.some.inj e)
    rw [specGroup_cons_ne (x := .refused c codes) [] hne, modelGroup_cons_ne (y := .closed c) [] hne]
    exact .nil

theorem accepts_refused_code (c : Nat) (codes : List (Option Nat)) (k : Nat) (h : some k ∈ codes) :
    Accepts [.refused c codes] [.send c (.connack false k), .closed c] := by
  refine .inr ⟨rfl, fun g => ?_⟩
  by_cases hg : c = g
  · subst hg
    rw [specGroup_cons_self [] rfl rfl, modelGroup_cons_self _ rfl, modelGroup_cons_self [] rfl]
    exact .refused_code c codes k [] h
  · have hne : some c ≠ some g := fun e => hg (Option.some.inj e)
    rw [specGroup_cons_ne (x := .refused c codes) [] hne, modelGroup_cons_ne (y := .send c _) _ hne,
      modelGroup_cons_ne (y := .closed c) [] hne]
    exact .nil

theorem gots_flatten_nil {pool : List SOut} {gots : List (List Pub)} (h : Gots pool gots) (hf : gots.flatten = []) :
    ∀ o cs, SOut.deliver o cs ∉ pool := by
  induction h with
  | nil => intro o cs hm; cases hm
  | @cons x got xs gots hx _ ih =>
    simp only [List.flatten_cons, List.append_eq_nil_iff] at hf
    intro o cs hm
    rcases List.mem_cons.mp hm with rfl | hm
    · exact hx.1 hf.1
    · exact ih hf.2 o cs hm

/-- the three inversions of `MatchGroup`, by one induction: nothing is demanded - nothing happens; nothing
happens - no delivery was demanded; a demanded packet is the next item -/
theorem matchGroup_inv {cb : Bool} {ss : List SOut} {os : List Out} (h : MatchGroup cb ss os) :
    (ss = [] → os = []) ∧ (os = [] → ∀ o cs, SOut.deliver o cs ∉ ss) ∧
    (∀ c p ss', ss = .send c p :: ss' → ∃ os', os = .send c p :: os' ∧ MatchGroup cb ss' os') := by
  induction h with
  | nil => exact ⟨fun _ => rfl, fun _ _ _ hm => (by cases hm), fun _ _ _ e => (by cases e)⟩
  | send c p hm _ => exact ⟨fun e => (by cases e), fun e => (by cases e), fun _ _ _ e => by cases e; exact ⟨_, rfl, hm⟩⟩
  | closed | sendOrClose_sent | sendOrClose_closed | refused_plain | refused_code =>
    exact ⟨fun e => (by cases e), fun e => (by cases e), fun _ _ _ e => (by cases e)⟩
  | @pool pool run ss os hp _ hr _ hpm _ ih =>
    -- an empty pool is matched by an empty run, and then the constructor adds nothing
    have hnil : pool = [] → run = [] := fun e => by
      obtain ⟨_, _, hg, hp⟩ := e ▸ hpm
      cases hg
      exact run_nil_of_copies_nil hr hp
    refine ⟨fun e => ?_, fun e o cs hm => ?_, fun c p ss' e => ?_⟩
    · obtain ⟨e1, e2⟩ := List.append_eq_nil_iff.mp e
      rw [hnil e1, ih.1 e2]; rfl
    · obtain ⟨e1, e2⟩ := List.append_eq_nil_iff.mp e
      subst e1
      obtain ⟨_, gots, hg, hperm⟩ := hpm
      rcases List.mem_append.mp hm with hm | hm
      · exact gots_flatten_nil hg hperm.symm.eq_nil o cs hm
      · exact ih.2.1 e2 o cs hm
    · cases pool with
      | cons x xs => cases e; cases hp _ (List.mem_cons_self ..)
      | nil => rw [hnil rfl]; exact ih.2.2 c p ss' e

/-- `Accepts` is not vacuous: a demanded delivery that does not happen is rejected ... -/
theorem accepts_missing_delivery_rejected (o : Nat) (p : Pub) : ¬ Accepts [.deliver o [p]] [] := by
  rintro (h | ⟨_, h⟩)
  · simp [isUnspecified] at h
  · refine (matchGroup_inv (h o)).2.1 rfl o [p] ?_
    rw [specGroup_cons_self [] rfl rfl]
    exact List.mem_cons_self ..

/-- ... and so is a PUBLISH nobody demanded -/
theorem accepts_surplus_publish_rejected (c : Nat) (p : Pub) : ¬ Accepts [] [.send c (.publish p)] := by
  rintro (h | ⟨_, h⟩)
  · simp at h
  · have := (matchGroup_inv (h c)).1 rfl
    rw [modelGroup_cons_self [] rfl] at this
    cases this

/-- ... and a packet sent where another was demanded -/
theorem accepts_send_inv {c : Nat} {p q : Packet} (hq : ∀ w, q ≠ Packet.publish w)
    (h : Accepts [.send c p] [.send c q]) : p = q := by
  rcases h with h | ⟨_, h⟩
  · simp [isUnspecified] at h
  · have hg := h c
    rw [specGroup_cons_self [] rfl rfl, modelGroup_cons_self [] rfl] at hg
    obtain ⟨_, e, _⟩ := (matchGroup_inv hg).2.2 c p [] rfl
    cases e; rfl

end Mqtt.Proofs.BrokerRefine
