/-
Core B, subscription trie: abstraction `abs`, well-formedness `WF`, the walk `walk`, and the
characterisation of `smatchL` (`smatch_char`).
-/
import Mqtt.Proofs.Topics
import Mqtt.Spec.Match

namespace Mqtt.Proofs.Topics
open Mqtt.Model.Topics

abbrev Entry := List Level × Nat × Nat

mutual
  /-- every (path from this node, subscriber, qos) held in the trie -/
  def abs : SNode → List Entry
    | .mk subs kids => subs.map (fun p => (([] : List Level), p.1, p.2)) ++ absKids kids
  def absKids : List (Level × SNode) → List Entry
    | [] => []
    | (k, n) :: rest => (abs n).map (fun e => (k :: e.1, e.2)) ++ absKids rest
end

theorem absKids_eq_flatMap (kids : List (Level × SNode)) : absKids kids = kids.flatMap (below abs) := by
  induction kids with
  | nil => rfl
  | cons p rest ih => rw [absKids, ih]; rfl

theorem abs_mk (subs : List (Nat × Nat)) (kids : List (Level × SNode)) :
    abs (.mk subs kids) = nodeEntries abs subs kids := by
  rw [abs, absKids_eq_flatMap]; rfl

theorem abs_empty : abs SNode.empty = [] := rfl

mutual
  /-- child keys unique (a Go map) and one entry per subscriber, at every node -/
  def WF : SNode → Prop
    | .mk subs kids => (subs.map (·.1)).Nodup ∧ (kids.map (·.1)).Nodup ∧ WFKids kids
  def WFKids : List (Level × SNode) → Prop
    | [] => True
    | (_, n) :: rest => WF n ∧ WFKids rest
end

theorem WFKids_iff (kids : List (Level × SNode)) : WFKids kids ↔ ∀ p ∈ kids, WF p.2 := by
  induction kids with
  | nil => exact ⟨fun _ _ h => (nomatch h), fun _ => trivial⟩
  | cons p rest ih => rw [WFKids, ih, List.forall_mem_cons]

/-- `WF` at a node, one level unfolded -/
structure WFAt (subs : List (Nat × Nat)) (kids : List (Level × SNode)) : Prop where
  own : (subs.map (·.1)).Nodup
  keys : (kids.map (·.1)).Nodup
  below : ∀ p ∈ kids, WF p.2

theorem WF_mk (subs : List (Nat × Nat)) (kids : List (Level × SNode)) : WF (.mk subs kids) ↔ WFAt subs kids := by
  rw [WF, WFKids_iff]
  exact ⟨fun ⟨a, b, c⟩ => ⟨a, b, c⟩, fun h => ⟨h.own, h.keys, h.below⟩⟩

theorem WF_empty : WF SNode.empty := (WF_mk [] []).mpr ⟨.nil, .nil, fun _ h => nomatch h⟩

/-- `walk path name`: does the trie walk of `smatch` along the name's levels
collect the subscribers stored under `path`?  It is `Spec.Match.matchLevels` written with the
model's `MWC` / `SWC` (`walk_eq_matchLevels`). -/
def walk : List Level → List Level → Bool
  | [], [] => true
  | [], _ :: _ => false
  | f :: fs, [] => f == MWC && fs.isEmpty
  | f :: fs, n :: ns => if f == MWC then fs.isEmpty else (f == SWC || f == n) && walk fs ns

theorem walk_eq_matchLevels (fs ns : List Level) : walk fs ns = Mqtt.Spec.Match.matchLevels fs ns := by
  induction fs generalizing ns with
  | nil => cases ns <;> rfl
  | cons f fs ih =>
    cases ns with
    | nil => rfl
    | cons n ns => rw [walk, Mqtt.Spec.Match.matchLevels, ih]; rfl

/-- how a PUBLISH at QoS `q` shows a stored (subscriber, granted QoS) -/
def atQos (q : Nat) (x : Nat × Nat) : Nat × Nat := (x.1, min q x.2)

theorem grant_eq_min (q mq : Nat) : (if q > mq then mq else q) = min q mq := by
  rw [Nat.min_def]
  by_cases h : q ≤ mq
  · rw [if_neg (Nat.not_lt.mpr h), if_pos h]
  · rw [if_pos (Nat.lt_of_not_le h), if_neg h]

theorem matchQos_eq (q : Nat) (subs : List (Nat × Nat)) : matchQos q subs = subs.map (atQos q) :=
  List.map_congr_left fun p _ => congrArg (p.1, ·) (grant_eq_min q p.2)

theorem pick_here (q : Nat) (n : SNode) : pick List.isEmpty (atQos q) (abs n) = matchQos q n.subs := by
  obtain ⟨subs, kids⟩ := n
  rw [abs_mk, pick_isEmpty, matchQos_eq]; rfl

/-- (the right-hand side is `pick (walk · ns) (atQos q) (abs n)` spelled out) -/
theorem smatch_char (n : SNode) (ns : List Level) (q : Nat) (hwf : WF n) :
    ∃ r, n.smatchL ns true q = some r ∧
      r.Perm ((abs n).filterMap (fun e => if walk e.1 ns then some (e.2.1, min q e.2.2) else none)) := by
  show ∃ r, _ ∧ List.Perm r (pick (walk · ns) (atQos q) (abs n))
  induction ns generalizing n with
  | nil =>
    obtain ⟨subs, kids⟩ := n
    refine ⟨_, by rw [SNode.smatchL]; rfl, ?_⟩
    -- the name is exhausted: the node's own subscribers and those at the child `#`
    rw [abs_mk]
    refine .trans ?_ (pick_perm _ _ (nodeEntries_perm abs subs kids MWC ((WF_mk _ _).mp hwf).keys)).symm
    rw [pick_append, pick_append, pick_own, pick_push, matchQos_eq]
    have hw : (fun p => walk (MWC :: p) []) = List.isEmpty := rfl
    have ho : pick (walk · []) (atQos q) ((kidDel kids MWC).flatMap (below abs)) = [] :=
      pick_false _ _ fun e he => by
        obtain ⟨p, hp, hpe⟩ := List.mem_flatMap.mp he
        obtain ⟨e', _, rfl⟩ := List.mem_map.mp hpe
        show (p.1 == MWC && _) = false
        rw [beq_eq_false_iff_ne.mpr ((mem_kidDel kids MWC p).mp hp).2, Bool.false_and]
    rw [hw, ho, List.append_nil, under]
    cases kidGet kids MWC with
    | none => exact .refl _
    | some c => exact .of_eq (congrArg _ (pick_here q c).symm)
  | cons l ls ih =>
    obtain ⟨subs, kids⟩ := n
    rw [abs_mk, pick_nodeEntries, SNode.smatchL]
    refine optConcat_map_perm kids _ _ fun p hp => ?_
    -- one child: `#` gives its own subscribers, `+` or the level itself is walked into
    show ∃ x, _ ∧ List.Perm x (pick (fun path => if p.1 == MWC then path.isEmpty
      else (p.1 == SWC || p.1 == l) && walk path ls) (atQos q) (abs p.2))
    cases p.1 == MWC with
    | true => exact ⟨_, rfl, .of_eq (pick_here q p.2).symm⟩
    | false =>
      cases p.1 == SWC || p.1 == l with
      | true => exact ih p.2 (((WF_mk _ _).mp hwf).below p hp)
      | false => exact ⟨_, rfl, .of_eq (pick_false _ _ fun _ _ => rfl).symm⟩

theorem smatchL_false_nil (q : Nat) (n : SNode) : SNode.smatchL [] false q n = none := by
  cases n; rfl

end Mqtt.Proofs.Topics
