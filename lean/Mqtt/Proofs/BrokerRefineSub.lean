/-
Refinement step: SUBSCRIBE, UNSUBSCRIBE and the in-process `Server.Subscribe` / `Server.Unsubscribe`.
First the lemmas: retained deliveries as a fan-out, the answer to a SUBSCRIBE (`retainedOuts`), and
`Session.topics` after the per-filter loop of `processSubscribe` against what the connection holds.
-/
import Mqtt.Proofs.BrokerRefineUpdate

namespace Mqtt.Proofs.BrokerRefine
open Mqtt.Iface.Broker Mqtt.Model.Broker
open Mqtt.Model.Topics (MemTopics RMsg)
open Mqtt.Proofs.Topics (absR good)
open Mqtt.Spec.Match (validFilter)
open Mqtt.Proofs.Broker (RetInv accepts modelCode retainedOf retainedPub specSubHeld subTopics)
open Mqtt.Spec.Broker (SOut Held addHeld subCode wild idOk pubOf outOwner modelGroup specGroup)

theorem copiesOf_retained (o : Nat) (items : List (List Pub)) :
    copiesOf (specGroup o (items.map (fun l => SOut.retained o l))) = (items.map (fun l => l.map wild)).flatten := by
  induction items with
  | nil => rfl
  | cons l rest ih =>
    cases l with
    | nil => rw [List.map_cons, specGroup_cons_empty _ rfl, ih]; rfl
    | cons x xs =>
      rw [List.map_cons, specGroup_cons_self _ rfl rfl]
      simp only [copiesOf, List.map_cons, List.flatten_cons] at ih ⊢
      rw [ih]; rfl

theorem fan_retained (o : Nat) (items : List (List Pub)) (fo : List Out)
    (hown : ∀ y ∈ fo, outOwner y = some o) (hok : ∀ y ∈ fo, okOut y = true)
    (hp : ((fo.filterMap pubOf).map wild).Perm ((items.map (fun l => l.map wild)).flatten)) :
    Fan (items.map (fun l => SOut.retained o l)) fo := by
  refine ⟨?_, ?_, hok, ?_⟩
  · intro x hx
    obtain ⟨l, _, rfl⟩ := List.mem_map.mp hx
    rfl
  · intro o' cs hx
    obtain ⟨l, _, h⟩ := List.mem_map.mp hx
    cases h
  · intro g
    by_cases hg : g = o
    · subst hg
      have h1 : modelGroup g fo = fo := by
        unfold modelGroup
        rw [List.filter_eq_self]
        intro y hy; simp [hown y hy]
      rw [h1, copiesOf_retained]
      exact hp
    · have h1 : modelGroup g fo = [] := by
        unfold modelGroup
        rw [List.filter_eq_nil_iff]
        intro y hy
        rw [hown y hy]
        simp only [beq_iff_eq, Option.some.injEq]
        exact fun e => hg e.symm
      have h2 : specGroup g (items.map (fun l => SOut.retained o l)) = [] := by
        unfold specGroup
        rw [List.filter_eq_nil_iff]
        intro x hx
        obtain ⟨l, _, rfl⟩ := List.mem_map.mp hx
        simp only [Spec.Broker.SOut.owner, Bool.and_eq_true, beq_iff_eq, Option.some.injEq, not_and]
        intro e; exact absurd e.symm hg
      rw [h1, h2]
      exact List.Perm.refl _

theorem map_wild_retainedFor (s : Spec.Broker.S) (f : Bytes) (g : Nat) :
    (Spec.Broker.retainedFor s f g).map wild = Spec.Broker.retainedFor s f g := by
  unfold Spec.Broker.retainedFor
  rw [List.map_map]
  apply List.map_congr_left
  intro r _
  rfl

theorem retainedFor_congr (s s' : Spec.Broker.S) (h : s'.rets = s.rets) (f : Bytes) (g : Nat) :
    Spec.Broker.retainedFor s' f g = Spec.Broker.retainedFor s f g := by
  unfold Spec.Broker.retainedFor; rw [h]

theorem retained_wild (mt : MemTopics) (s : Spec.Broker.S) (h : RetInv mt.rroot s.rets) (t : Bytes) (g : Nat)
    (hg : good t = true) (hv : validFilter t = true) :
    ((retainedOf mt t).map (fun r => wild (retainedPub r g))).Perm (Spec.Broker.retainedFor s t g) := by
  have := Mqtt.Proofs.Broker.retained_spec mt s.rets h t g hg hv
  exact this

theorem idOk_retainedPub (r : RMsg) (g : Nat) (h : r.qos = 0 ∨ r.pktid ≠ 0) : idOk (retainedPub r g) = true := by
  unfold idOk retainedPub
  simp only
  by_cases hm : min r.qos g = 0
  · simp [hm]
  · have hq : r.qos ≠ 0 := by intro h0; rw [h0] at hm; simp at hm
    have hp : r.pktid ≠ 0 := by rcases h with h | h; exact absurd h hq; exact h
    simp [hm, hp]

theorem subscribeLoop_sess (c : Nat) (topics : List (Bytes × Nat)) :
    ∀ (b : B) (s : Sess) (codes : List Nat) (rms : List Msg),
      (subscribeLoop b c s topics codes rms).2.1 = { s with topics := subTopics topics s.topics } := by
  intro b s codes rms
  rw [Mqtt.Proofs.Broker.subscribeLoop_eq]

theorem accepts_iff_good (t : Bytes) (q : Nat) (hg : good t = true) :
    accepts t q = true ↔ validFilter t = true ∧ q ≤ 2 := by
  rw [Mqtt.Proofs.Broker.accepts_good t q hg]
  simp

theorem topicsRel_subscribe (c : Nat) (topics : List (Bytes × Nat)) (hg : ∀ tq ∈ topics, good tq.1 = true) :
    ∀ (ts : List (Bytes × Nat)) (held : List Held), TopicsRel ts (heldOfL held c) →
      TopicsRel (subTopics topics ts) (heldOfL (specSubHeld c topics held) c) := by
  induction topics with
  | nil => intro ts held h; exact h
  | cons tq rest ih =>
    intro ts held h
    obtain ⟨t, q⟩ := tq
    have hgt : good t = true := hg (t, q) (by simp)
    simp only [subTopics, specSubHeld, List.foldl_cons]
    obtain ⟨c1, c2⟩ := Mqtt.Proofs.Broker.subCode_granted t q
    rw [Mqtt.Proofs.Broker.accepts_good t q hgt, c1]
    cases hcond : (validFilter t && decide (q ≤ 2)) with
    | false =>
      simp only [Bool.false_eq_true, ↓reduceIte]
      exact ih (fun x hx => hg x (List.mem_cons_of_mem _ hx)) ts held h
    | true =>
      simp only [↓reduceIte]
      apply ih (fun x hx => hg x (List.mem_cons_of_mem _ hx))
      have hq2 : q ≤ 2 := by simp only [Bool.and_eq_true, decide_eq_true_eq] at hcond; exact hcond.2
      have hvt : validFilter t = true := by simp only [Bool.and_eq_true] at hcond; exact hcond.1
      have hgq : subCode t q = q := by
        rw [c2 hcond]; unfold Mqtt.Generated.maxQosAllowed; omega
      rw [heldOfL_addHeld_self, hgq]
      refine ⟨?_, ?_, ?_⟩
      · refine (List.perm_cons_append_cons (t, q) (l₁ := (heldOfL held c).filter (fun p => p.1 != t)) (l₂ := []) ?_)
        simpa using h.perm.filter (fun p => p.1 != t)
      · simp only [List.map_cons, List.nodup_cons]
        refine ⟨?_, (h.nodup.sublist ((List.filter_sublist).map _))⟩
        intro hm
        obtain ⟨p, hp, hpt⟩ := List.mem_map.mp hm
        have := (List.mem_filter.mp hp).2
        simp [hpt] at this
      · intro p hp
        rcases List.mem_cons.mp hp with rfl | hp
        · simp [subOk, hgt, hvt, hq2]
        · exact h.ok p (List.mem_filter.mp hp).1

theorem topicsRel_unsubscribe (topics : List Bytes) (ts subs : List (Bytes × Nat)) (h : TopicsRel ts subs) :
    TopicsRel (ts.filter (fun p => !topics.contains p.1)) (subs.filter (fun p => !topics.contains p.1)) :=
  ⟨h.perm.filter _, h.nodup.sublist ((List.filter_sublist).map _), fun p hp => h.ok p (List.mem_filter.mp hp).1⟩

theorem HeldAt.specSubHeld (c : Nat) (topics : List (Bytes × Nat)) (hg : ∀ tq ∈ topics, good tq.1 = true) :
    ∀ held, HeldAt c held (specSubHeld c topics held) := by
  induction topics with
  | nil => exact refl c
  | cons tq rest ih =>
    intro held
    refine trans ?_ (ih (fun x hx => hg x (List.mem_cons_of_mem _ hx)) _)
    dsimp only
    split
    · exact addHeld held c _ (hg tq (List.mem_cons_self ..))
    · exact refl c held

/-- the PUBLISHes that follow the SUBACK: per accepted filter, in request order, what `Retained(filter)` returned -/
def retainedOuts (mt : MemTopics) (c : Nat) (ts : List (Bytes × Nat)) : List Out :=
  ts.flatMap (fun tq =>
    if accepts tq.1 tq.2 then
      (retainedOf mt tq.1).map (fun r => Out.send c (.publish (retainedPub r (min tq.2 Mqtt.Generated.maxQosAllowed))))
    else [])

theorem subscribe_out {b : B} {s : Spec.Broker.S} (h : R b s) (c : Nat) (hl : b.alive c = true) (id : Nat)
    (ts : List (Bytes × Nat)) (hg : ∀ tq ∈ ts, good tq.1 = true) :
    (step b (.packet c (.subscribe id ts))).2 =
      .send c (.suback id (ts.map (fun t => subCode t.1 t.2))) :: retainedOuts b.topics c ts := by
  have hcodes : ts.map (fun tq => modelCode tq.1 tq.2) = ts.map (fun t => subCode t.1 t.2) :=
    List.map_congr_left (fun tq htq => Mqtt.Proofs.Broker.modelCode_good tq.1 tq.2 (hg tq htq))
  show (packet b c (.subscribe id ts)).2 = _
  rw [Mqtt.Proofs.Broker.packet_subscribe_out b h.inv c id ts hl h.retTop, hcodes]
  rfl

theorem mem_retainedOuts {b : B} {s : Spec.Broker.S} (h : R b s) {c : Nat} {ts : List (Bytes × Nat)} {y : Out}
    (hy : y ∈ retainedOuts b.topics c ts) :
    ∃ e ∈ absR b.topics.rroot, ∃ g, y = .send c (.publish (retainedPub e.2 g)) := by
  obtain ⟨tq, _, hy⟩ := List.mem_flatMap.mp hy
  split at hy
  · rename_i hacc
    obtain ⟨r, hr, rfl⟩ := List.mem_map.mp hy
    obtain ⟨e, he, rfl⟩ := Mqtt.Proofs.Broker.retainedOf_mem b.topics tq.1 h.inv.rwf
      (Mqtt.Proofs.Broker.accepts_levels _ _ hacc) r hr
    exact ⟨e, he, _, rfl⟩
  · cases hy

theorem filterMap_pubOf_map {α} (l : List α) (G : α → Out) (F : α → Pub) (h : ∀ r, pubOf (G r) = some (F r)) :
    (l.map G).filterMap pubOf = l.map F := by
  induction l with
  | nil => rfl
  | cons x xs ih => simp only [List.map_cons, List.filterMap_cons, h, ih]

theorem subscribe_retained_perm (mt : MemTopics) (s : Spec.Broker.S) (hr : RetInv mt.rroot s.rets) (c : Nat)
    (topics : List (Bytes × Nat)) (hg : ∀ tq ∈ topics, good tq.1 = true) :
    (((retainedOuts mt c topics).filterMap pubOf).map wild).Perm
      ((((topics.zip (topics.map (fun t => subCode t.1 t.2))).filter (fun p => p.2 != 0x80)).map
        (fun p => (Spec.Broker.retainedFor s p.1.1 p.2).map wild)).flatten) := by
  unfold retainedOuts
  induction topics with
  | nil => exact List.Perm.refl _
  | cons tq rest ih =>
    obtain ⟨t, q⟩ := tq
    have hgt : good t = true := hg (t, q) (by simp)
    have ih' := ih (fun x hx => hg x (List.mem_cons_of_mem _ hx))
    obtain ⟨c1, c2⟩ := Mqtt.Proofs.Broker.subCode_granted t q
    simp only [List.flatMap_cons, List.filterMap_append, List.map_append, List.map_cons, List.zip_cons_cons,
      List.filter_cons]
    rw [c1, Mqtt.Proofs.Broker.accepts_good t q hgt]
    cases hcond : (validFilter t && decide (q ≤ 2)) with
    | false =>
      simp only [Bool.false_eq_true, ↓reduceIte, List.filterMap_nil, List.map_nil, List.nil_append]
      exact ih'
    | true =>
      simp only [↓reduceIte, List.map_cons, List.flatten_cons]
      refine List.Perm.append ?_ ih'
      have hvt : validFilter t = true := by simp only [Bool.and_eq_true] at hcond; exact hcond.1
      rw [filterMap_pubOf_map _ _ _ (fun _ => rfl), List.map_map, map_wild_retainedFor, c2 hcond]
      exact retained_wild mt s hr t _ hgt hvt

theorem step_srvSub {b : B} {s : Spec.Broker.S} (h : R b s) (cb : Nat) (f : Bytes) (q : Nat)
    (hcb : cbBase ≤ cb) (hg : good f = true) :
    Refines b s (.srvSub cb f q) := by
  unfold Refines
  have hi := h.step_invs (.srvSub cb f q)
  have hstep : step b (.srvSub cb f q) = srvSub b cb f q := rfl
  rw [hstep] at hi ⊢
  obtain ⟨hout, hst⟩ := Mqtt.Proofs.Broker.srvSub_char b cb f q
  have hheld := Mqtt.Proofs.Broker.srvSub_held b h.inv cb f q hg s.held h.held
  have hrr : (srvSub b cb f q).1.topics.rroot = b.topics.rroot := by
    rw [hst]; exact Mqtt.Proofs.Topics.subscribe_rroot _ _ _ _ _
  -- both sides reject the same requests
  have hrej : (!validFilter f || decide (q > 2)) = !accepts f q := by
    rw [Mqtt.Proofs.Broker.accepts_good f q hg]
    by_cases hq : q ≤ 2
    · have : ¬ q > 2 := by omega
      cases validFilter f <;> simp [hq, this]
    · have : q > 2 := by omega
      cases validFilter f <;> simp [hq, this]
  rw [hrej] at hheld
  simp only [Spec.Broker.step1, hrej]
  rw [hout]
  cases ha : accepts f q with
  | false =>
    simp only [ha, Bool.not_false, ↓reduceIte] at hheld ⊢
    exact ⟨R_heldAt h hi (by rw [hst]) (by rw [hst]) (by rw [hst]) hrr hheld hcb (.refl cb s.held) rfl rfl rfl,
      accepts_apiErr⟩
  | true =>
    simp only [ha, Bool.not_true, Bool.false_eq_true, ↓reduceIte] at hheld ⊢
    have hv : validFilter f = true := by
      rw [Mqtt.Proofs.Broker.accepts_good f q hg, Bool.and_eq_true] at ha
      exact ha.1
    refine ⟨R_heldAt (s' := { s with held := addHeld s.held cb f (min q Spec.Broker.maxQos) }) h hi
      (by rw [hst]) (by rw [hst]) (by rw [hst]) hrr hheld hcb (.addHeld s.held cb _ hg) rfl rfl rfl, accepts_fan ?_⟩
    refine fan_retained cb [_] _ ?_ ?_ ?_
    · intro y hy
      obtain ⟨r, _, rfl⟩ := List.mem_map.mp hy
      rfl
    · intro y hy
      obtain ⟨r, _, rfl⟩ := List.mem_map.mp hy
      have := Mqtt.Proofs.Broker.cbBase_eq
      simp only [okOut, decide_eq_true_eq]; omega
    · rw [filterMap_pubOf_map _ _ _ (fun _ => rfl), List.map_map]
      simp only [List.map_cons, List.map_nil, List.flatten_cons, List.flatten_nil, List.append_nil]
      rw [map_wild_retainedFor]
      exact retained_wild b.topics s h.rets f (min q Spec.Broker.maxQos) hg hv

theorem step_srvUnsub {b : B} {s : Spec.Broker.S} (h : R b s) (cb : Nat) (f : Bytes)
    (hcb : cbBase ≤ cb) (hg : good f = true) :
    Refines b s (.srvUnsub cb f) := by
  unfold Refines
  have hi := h.step_invs (.srvUnsub cb f)
  have hstep : step b (.srvUnsub cb f) = srvUnsub b cb f := rfl
  rw [hstep] at hi ⊢
  have hheld := Mqtt.Proofs.Broker.srvUnsub_held b h.inv cb f hg s.held h.held
  have hsp : Spec.Broker.step1 s (.srvUnsub cb f) =
      ({ s with held := s.held.filter (fun h => !(h.owner == cb && h.filter == f)) }, [.unspecified]) := rfl
  rw [hsp]
  exact ⟨R_heldAt (s' := { s with held := s.held.filter (fun h => !(h.owner == cb && h.filter == f)) }) h hi
    rfl rfl rfl (Mqtt.Proofs.Topics.unsubscribe_rroot _ _ _) hheld hcb (.filter s.held cb (· == f)) rfl rfl rfl,
    accepts_unspecified _⟩

theorem step_subscribe {b : B} {s : Spec.Broker.S} (h : R b s) (c : Nat) (hl : b.alive c = true) (id : Nat)
    (topics : List (Bytes × Nat)) (hg : ∀ tq ∈ topics, good tq.1 = true) :
    Refines b s (.packet c (.subscribe id topics)) := by
  unfold Refines
  obtain ⟨cn, σ, k, hc, ha, hs, hk, hrel⟩ := h.liveConn hl
  have hi := h.step_invs (.packet c (.subscribe id topics))
  have hsp : Spec.Broker.step1 s (.packet c (.subscribe id topics)) =
      ({ s with held := specSubHeld c topics s.held },
       .sendOrClose c (.suback id (topics.map (fun t => subCode t.1 t.2))) ::
         ((topics.zip (topics.map (fun t => subCode t.1 t.2))).filter (fun p => p.2 != 0x80)).map
           (fun p => SOut.retained c (Spec.Broker.retainedFor { s with held := specSubHeld c topics s.held } p.1.1 p.2))) := by
    simp only [Spec.Broker.step1, hk, Mqtt.Proofs.Broker.specSubHeld_eq]
  rw [hsp, subscribe_out h c hl id topics hg]
  constructor
  · -- the model's state: the session's topic list and the trie change, nothing else
    have hstep : step b (.packet c (.subscribe id topics)) = packet b c (.subscribe id topics) := rfl
    rw [hstep] at hi ⊢
    have hheld := Mqtt.Proofs.Broker.packet_subscribe_held b h.inv c id hl s.held h.held topics hg
    obtain ⟨ctr, hb'⟩ := Mqtt.Proofs.Broker.packet_subscribe_state id topics hc ha hs
    rw [hb'] at hi hheld ⊢
    exact R_update (σ' := { σ with topics := subTopics topics σ.topics }) (k' := k) h (liveSess_eq hc ha hs)
      hi (hc := rfl) (hst := rfl) (hs := rfl) (href := rfl) (hcid := rfl)
      (hrr := Mqtt.Proofs.Broker.resubscribe_rroot c topics b.topics) (hheld := hheld)
      (hat := .specSubHeld c topics hg s.held) (hrets := rfl) (hstored := rfl) (hnd := h.sconns)
      (hgc := spec_getConn_same hk)
      (hrel := { hrel with topics := topicsRel_subscribe c topics hg σ.topics s.held hrel.topics })
  · -- the outputs: SUBACK, then the retained messages as a fan-out to `c`
    have hfan := fan_retained c
      (((topics.zip (topics.map (fun t => subCode t.1 t.2))).filter (fun p => p.2 != 0x80)).map
        (fun p => Spec.Broker.retainedFor { s with held := specSubHeld c topics s.held } p.1.1 p.2))
      (retainedOuts b.topics c topics) ?_ ?_ ?_
    · rw [List.map_map] at hfan
      simpa [Function.comp_def] using
        accepts_shape (.cons (.sent c (.suback id (topics.map (fun t => subCode t.1 t.2))) rfl) .nil) hfan .nil
    · intro y hy
      obtain ⟨e, _, g, rfl⟩ := mem_retainedOuts h hy
      rfl
    · intro y hy
      obtain ⟨e, he, g, rfl⟩ := mem_retainedOuts h hy
      exact idOk_retainedPub _ _ (h.retIds e he)
    · rw [List.map_map]
      exact subscribe_retained_perm b.topics s h.rets c topics hg

theorem step_unsubscribe {b : B} {s : Spec.Broker.S} (h : R b s) (c : Nat) (hl : b.alive c = true) (id : Nat)
    (topics : List Bytes) (hg : ∀ t ∈ topics, good t = true) :
    Refines b s (.packet c (.unsubscribe id topics)) := by
  unfold Refines
  obtain ⟨cn, σ, k, hc, ha, hs, hk, hrel⟩ := h.liveConn hl
  have hi := h.step_invs (.packet c (.unsubscribe id topics))
  have hstep : step b (.packet c (.unsubscribe id topics)) = packet b c (.unsubscribe id topics) := rfl
  rw [hstep] at hi ⊢
  have hsp : Spec.Broker.step1 s (.packet c (.unsubscribe id topics)) =
      ({ s with held := s.held.filter (fun h => !(h.owner == c && topics.contains h.filter)) },
       [.send c (.unsuback id)]) := by
    simp only [Spec.Broker.step1, hk]
  have hpk := Mqtt.Proofs.Broker.packet_unsubscribe b c cn σ id topics hc ha hs
  have hsend : send b c (.unsuback id) = [.send c (.unsuback id)] := Mqtt.Proofs.BrokerQos.send_alive hl _
  have hheld := Mqtt.Proofs.Broker.packet_unsubscribe_held b h.inv c id hl s.held h.held topics hg
  rw [hsp]
  rw [hpk] at hi hheld ⊢
  simp only [hsend]
  refine ⟨?_, accepts_lits (.cons (.send c _ rfl) .nil)⟩
  refine R_update (σ' := { σ with topics := σ.topics.filter (fun p => !topics.contains p.1) }) (k' := k)
    (s' := { s with held := s.held.filter (fun h => !(h.owner == c && topics.contains h.filter)) })
    h (liveSess_eq hc ha hs) hi (hc := rfl) (hst := rfl) (hs := rfl) (href := rfl) (hcid := rfl)
    (hrr := Mqtt.Proofs.Broker.unsubFold_rroot c topics b.topics) (hheld := hheld) (hat := .filter s.held c (topics.contains ·)) (hrets := rfl) (hstored := rfl)
    (hnd := h.sconns) (hgc := spec_getConn_same hk) (hrel := ?_)
  have e : Spec.Broker.heldOf { s with held := s.held.filter (fun h => !(h.owner == c && topics.contains h.filter)) } c =
      (Spec.Broker.heldOf s c).filter (fun p => !topics.contains p.1) :=
    (heldOfL_filter s.held _ c c (fun t => topics.contains t) (fun _ => rfl)).trans (if_pos rfl)
  exact { hrel with topics := by rw [e]; exact topicsRel_unsubscribe topics σ.topics _ hrel.topics }

end Mqtt.Proofs.BrokerRefine
