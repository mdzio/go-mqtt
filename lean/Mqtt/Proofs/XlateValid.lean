/-
Tie between the REGENERATED translations of the validators of package `message`
(and `topics.checkTopic`) — `Mqtt.Generated.Xlate`, produced from /repo's Go source
by extract/cmd/xlate on every check — and their hand-written model counterparts
in `Model/Codec.lean` and `Model/Topics.lean`.

The translation compares bytes, the models compare their numbers (`Xlate.u8_beq`, `UInt8.lt_iff_toNat_lt`); after that
`Type.Valid`, `Type.DefaultFlags`, `ConnackCode.Valid` and `SupportedVersions` are the same expressions as their models, over
constants that `Generated/Facts.lean` regenerates (`connackMaxCode` is `Mqtt.Generated.connackMaxCode`); `ValidQos` is compared
with the QoS constants of `Model/Codec.lean`, `ValidTopic` goes through `indexByte_spec`, `checkTopic` by cases on the first byte.
-/
import Mqtt.Proofs.XlateBasic
import Mqtt.Model.Codec
import Mqtt.Model.Topics

namespace Mqtt.Proofs.XlateValid

open Mqtt.Generated
open Mqtt.Generated.Xlate
open Mqtt.Proofs.Xlate

theorem ValidQos_is_source (q : UInt8) : Message.ValidQos q = Mqtt.Model.Codec.validQos q.toNat := by
  unfold Message.ValidQos Mqtt.Model.Codec.validQos
  rw [u8_beq, u8_beq, u8_beq]
  rfl

/-- `bytes.IndexByte` answers -1 exactly when the byte does not occur (and never less) -/
theorem indexByte_spec (t : List UInt8) (c : UInt8) :
    (Go.indexByte t c == (-1 : Int)) = !t.contains c ∧ -1 ≤ Go.indexByte t c := by
  induction t with
  | nil => exact ⟨rfl, Int.le_refl _⟩
  | cons b rest ih =>
    rw [Go.indexByte, List.contains_cons, BEq.comm (a := c)]
    cases (b == c)
    · obtain ⟨ih1, ih2⟩ := ih
      rw [if_neg Bool.false_ne_true, Bool.false_or, ← ih1]
      show ((if Go.indexByte rest c < 0 then -1 else Go.indexByte rest c + 1) == (-1 : Int)) = _ ∧
        -1 ≤ (if Go.indexByte rest c < 0 then -1 else Go.indexByte rest c + 1)
      split
      · rw [show Go.indexByte rest c = -1 by omega]; exact ⟨rfl, Int.le_refl _⟩
      · exact ⟨(beq_eq_false_iff_ne.mpr (by omega)).trans (beq_eq_false_iff_ne.mpr (by omega)).symm, by omega⟩
    · exact ⟨rfl, show (-1 : Int) ≤ 0 by decide⟩

theorem ValidTopic_is_source (t : List UInt8) : Message.ValidTopic t = Mqtt.Model.Codec.validTopic t := by
  unfold Message.ValidTopic Mqtt.Model.Codec.validTopic
  rw [(indexByte_spec _ _).1, (indexByte_spec _ _).1]

/-- the protocol names: `SupportedVersions` is regenerated twice, here as the map literal, in `Facts` as
`supportedVersions`; the second is the first with the keys as numbers -/
theorem SupportedVersions_is_source (v : UInt8) :
    Go.mapGet Message.SupportedVersions v = Mqtt.Model.Codec.versionName v.toNat :=
  lookup_u8 _ v

theorem ValidVersion_is_source (v : UInt8) :
    Message.ValidVersion v = (Mqtt.Model.Codec.versionName v.toNat).isSome :=
  congrArg Option.isSome (SupportedVersions_is_source v)

theorem Type_Valid_is_source (t : UInt8) : Message.Type_.Valid t = Mqtt.Model.Codec.validType t.toNat := by
  unfold Message.Type_.Valid Mqtt.Model.Codec.validType
  simp only [gt_iff_lt, UInt8.lt_iff_toNat_lt]
  rfl

/-- `Type.DefaultFlags` ↔ the model's `defaultFlagsOf` (the `defaultFlags` table of `Facts`): the 16 entries
of the table one by one; above them every comparison of the `switch` fails and the table has no entry -/
theorem Type_DefaultFlags_is_source (t : UInt8) :
    (Message.Type_.DefaultFlags t).toNat = Mqtt.Model.Codec.defaultFlagsOf t.toNat := by
  by_cases h : t.toNat < 16
  · have h16 : ∀ n : Fin 16,
        (Message.Type_.DefaultFlags (UInt8.ofNat n.val)).toNat = Mqtt.Model.Codec.defaultFlagsOf n.val := by
      decide
    have e : t = UInt8.ofNat t.toNat := (UInt8.ofNat_toNat).symm
    rw [e, UInt8.toNat_ofNat', Nat.mod_eq_of_lt (by omega)]
    exact h16 ⟨t.toNat, h⟩
  · have hk : ∀ k : UInt8, k.toNat < 16 → (t == k) = false := fun k hk => by
      rw [u8_beq, beq_eq_false_iff_ne]; omega
    unfold Message.Type_.DefaultFlags Mqtt.Model.Codec.defaultFlagsOf
    simp (disch := decide) only [hk, Bool.false_eq_true, ↓reduceIte]
    rw [List.getD_eq_getElem?_getD, List.getElem?_eq_none (Nat.le_of_not_lt h)]
    rfl

/-- `ConnackCode.Valid` ↔ the bound the model's CONNACK decoder and encoder use -/
theorem ConnackCode_Valid_is_source (c : UInt8) :
    Message.ConnackCode.Valid c = decide (c.toNat ≤ connackMaxCode) := by
  unfold Message.ConnackCode.Valid
  simp only [UInt8.le_iff_toNat_le]
  rfl

/-- `ValidConnackError`: exactly the five refusal codes, boxed as `error` -/
theorem ValidConnackError_iff (e : Err) :
    Message.ValidConnackError e = true ↔ ∃ n, 1 ≤ n ∧ n ≤ 5 ∧ e = .val "message.ConnackCode" n := by
  unfold Message.ValidConnackError
  simp only [Bool.or_eq_true, beq_iff_eq]
  constructor
  · rintro ((((h | h) | h) | h) | h)
    · exact ⟨1, by decide, by decide, h⟩
    · exact ⟨2, by decide, by decide, h⟩
    · exact ⟨3, by decide, by decide, h⟩
    · exact ⟨4, by decide, by decide, h⟩
    · exact ⟨5, by decide, by decide, h⟩
  · rintro ⟨n, h1, h5, rfl⟩
    have : n = 1 ∨ n = 2 ∨ n = 3 ∨ n = 4 ∨ n = 5 := by omega
    rcases this with h | h | h | h | h <;> subst h
    · exact .inl (.inl (.inl (.inl rfl)))
    · exact .inl (.inl (.inl (.inr rfl)))
    · exact .inl (.inl (.inr rfl))
    · exact .inl (.inr rfl)
    · exact .inr rfl

/-- `topics.checkTopic` ↔ the topic store model's `checkTopic` (an error made by
`fmt.Errorf` exactly when the topic is empty or begins with '$'); never a panic:
the index `topic[0]` comes after the `len(topic) == 0` test -/
theorem checkTopic_is_source (t : List UInt8) :
    Topics.checkTopic t = .ok (if Mqtt.Model.Topics.checkTopic t then Err.dyn else Err.nil) := by
  cases t with
  | nil => rfl
  | cons b rest =>
    show (if (b == (36 : UInt8)) = true then Res.ok Err.dyn else Res.ok Err.nil) =
      .ok (if (some b == some (36 : UInt8)) = true then Err.dyn else Err.nil)
    rw [show (some b == some (36 : UInt8)) = (b == 36) from rfl]
    cases (b == (36 : UInt8)) <;> rfl

end Mqtt.Proofs.XlateValid
