/-
Core B: the contract of `MemTopics`.  What each of the five entry points does to a well-formed
store, for EVERY byte string, on the entries of the two tries (`abs`, `absR`).  Callers of the store
argue from these, not from `sinsertL` … `rmatchL` or the definition of `entryLevels`.

The three calls that change a trie (`subscribe`, `unsubscribe`, `retain`) each have a `…_contract`
of one shape (`Contract`: well-formedness kept, the entries afterwards, the answer) and, without any
hypothesis, the root they leave alone (`subscribe_rroot`, `unsubscribe_rroot`, `retain_sroot`).  The
two queries (`subscribers`, `retained`) have a `…_contract` that gives the answer of a call whose walk
succeeds.  What the entries do not determine is not in a contract: `unsubscribe t none` and `retain`
with an empty payload report whether the path is a NODE of the trie; a query whose walk fails midway
fails only if some branch of the trie is walked that far (the Go code calls `nextTopicLevel` lazily).
A topic that `checkTopic` turns away fails at every entry point: `checkTopic_rejected`.
-/
import Mqtt.Proofs.TopicsStore
import Mqtt.Proofs.TopicsRetained
import Mqtt.Proofs.TopicsLevels

namespace Mqtt.Proofs.Topics
open Mqtt.Model.Topics

/-- the parts of the contract of a call that changes a trie: well-formedness is kept, the entries
afterwards (up to the order of map iteration), what the call reports -/
structure Contract (wf entries answer : Prop) : Prop where
  wf : wf
  entries : entries
  answer : answer

/-! `Subscribe` stores the filter iff `validQos q && (entryLevels t).2`: the QoS byte is 0, 1 or 2 and the
walk of the entry point (topic not empty, not beginning with '$', every level well-formed) ends
without error.  (`Proofs.Broker.accepts t q` is this by definition, and `Proofs.Broker.subscribe_eq` is
`subscribe_eq` below with the condition folded to `accepts`.) -/

theorem subscribe_eq (mt : MemTopics) (mq : Nat) (t : List UInt8) (q c : Nat) :
    mt.subscribe mq t q c =
      ({ mt with sroot := if validQos q then mt.sroot.sinsertL (entryLevels t).1 (entryLevels t).2 c (min q mq)
                          else mt.sroot },
       if validQos q && (entryLevels t).2 then some (min q mq) else none) := by
  rw [subscribe_entry, grant_eq_min]
  cases validQos q <;> rfl

theorem subscribe_snd (mt : MemTopics) (mq : Nat) (t : List UInt8) (q c : Nat) :
    (mt.subscribe mq t q c).2 = if validQos q && (entryLevels t).2 then some (min q mq) else none := by
  rw [subscribe_eq]

theorem subscribe_rroot (mt : MemTopics) (mq : Nat) (t : List UInt8) (q c : Nat) :
    (mt.subscribe mq t q c).1.rroot = mt.rroot := by
  rw [subscribe_eq]

theorem subscribe_contract (mt : MemTopics) (mq : Nat) (t : List UInt8) (q c : Nat) (h : WF mt.sroot) :
    Contract (WF (mt.subscribe mq t q c).1.sroot)
      ((abs (mt.subscribe mq t q c).1.sroot).Perm
        (if validQos q && (entryLevels t).2 then
          (abs mt.sroot).filter (fun e => !hit (entryLevels t).1 (some c) e) ++ [((entryLevels t).1, c, min q mq)]
         else abs mt.sroot))
      ((mt.subscribe mq t q c).2 = if validQos q && (entryLevels t).2 then some (min q mq) else none) := by
  refine ⟨?_, ?_, subscribe_snd mt mq t q c⟩ <;> rw [subscribe_eq] <;> cases validQos q
  · exact h
  · exact sinsertL_WF _ _ _ _ _ h
  · exact .refl _
  · cases hl : (entryLevels t).2 with
    | false => exact sinsertL_abs_false _ _ _ _ h
    | true => exact sinsertL_abs _ _ _ _ h

theorem subscribe_WF (mt : MemTopics) (mq : Nat) (t : List UInt8) (q c : Nat) (h : WF mt.sroot) :
    WF (mt.subscribe mq t q c).1.sroot :=
  (subscribe_contract mt mq t q c h).wf

theorem unsubscribe_rroot (mt : MemTopics) (t : List UInt8) (sub : Option Nat) :
    (mt.unsubscribe t sub).1.rroot = mt.rroot := by
  rw [unsubscribe_entry]

/-- (`sub = none`: every entry of the path) -/
theorem unsubscribe_contract (mt : MemTopics) (t : List UInt8) (sub : Option Nat) (h : WF mt.sroot) :
    Contract (WF (mt.unsubscribe t sub).1.sroot)
      ((abs (mt.unsubscribe t sub).1.sroot).Perm
        (if (entryLevels t).2 then (abs mt.sroot).filter (fun e => !hit (entryLevels t).1 sub e) else abs mt.sroot))
      (∀ s, sub = some s →
        (mt.unsubscribe t sub).2 = ((entryLevels t).2 && (abs mt.sroot).any (hit (entryLevels t).1 (some s)))) := by
  rw [unsubscribe_entry]
  refine ⟨sremoveL_WF _ _ _ _ h, ?_, ?_⟩
  · cases hl : (entryLevels t).2 with
    | false => rw [sremoveL_false _ _ _ h]; exact .refl _
    | true => exact sremoveL_abs _ _ _ h
  · rintro s rfl
    cases hl : (entryLevels t).2 with
    | false => exact sremoveL_false_snd _ _ _
    | true => exact sremoveL_snd _ _ _ h

theorem unsubscribe_WF (mt : MemTopics) (t : List UInt8) (sub : Option Nat) (h : WF mt.sroot) :
    WF (mt.unsubscribe t sub).1.sroot :=
  (unsubscribe_contract mt t sub h).wf

/-- (in the specification's relation: `walk` is `matchLevels` on all level lists, `walk_eq_matchLevels`) -/
theorem subscribers_contract (mt : MemTopics) (t : List UInt8) (q : Nat) (h : WF mt.sroot)
    (ha : (validQos q && (entryLevels t).2) = true) :
    ∃ r, mt.subscribers t q = some r ∧
      r.Perm ((abs mt.sroot).filterMap fun e =>
        if Mqtt.Spec.Match.matchLevels e.1 (entryLevels t).1 then some (e.2.1, min q e.2.2) else none) := by
  obtain ⟨hq, hl⟩ := Bool.and_eq_true_iff.mp ha
  obtain ⟨r, hr, hp⟩ := smatch_char mt.sroot (entryLevels t).1 q h
  refine ⟨r, ?_, ?_⟩
  · rw [subscribers_entry, hq, hl]; exact hr
  · simp only [walk_eq_matchLevels] at hp; exact hp

theorem retain_sroot (mt : MemTopics) (m : RMsg) : (mt.retain m).1.sroot = mt.sroot := by
  rw [retain_entry]
  split <;> rfl

theorem retain_contract (mt : MemTopics) (m : RMsg) (h : RWF mt.rroot) :
    Contract (RWF (mt.retain m).1.rroot)
      ((absR (mt.retain m).1.rroot).Perm
        (if (entryLevels m.topic).2 then
          (absR mt.rroot).filter (fun e => !(e.1 == (entryLevels m.topic).1)) ++
            (if m.payload.isEmpty then [] else [((entryLevels m.topic).1, m)])
         else absR mt.rroot))
      (m.payload.isEmpty = false → (mt.retain m).2 = (entryLevels m.topic).2) := by
  rw [retain_entry]
  cases m.payload.isEmpty with
  | true =>
    refine ⟨rremoveL_RWF _ _ _ h, ?_, fun c => nomatch c⟩
    cases hl : (entryLevels m.topic).2 with
    | false => rw [rremoveL_false _ _ h]; exact .refl _
    | true => exact (rremoveL_absR _ _ h).trans (.of_eq (List.append_nil _).symm)
  | false =>
    refine ⟨rinsertL_RWF _ _ _ _ h, ?_, fun _ => rfl⟩
    cases hl : (entryLevels m.topic).2 with
    | false => exact rinsertL_absR_false _ _ _ h
    | true => exact rinsertL_absR _ _ _ h

theorem retain_all (mt : MemTopics) (m : RMsg) (h : RWF mt.rroot) {P : REntry → Prop}
    (hP : ∀ e ∈ absR mt.rroot, P e)
    (hm : m.payload.isEmpty = false → (entryLevels m.topic).2 = true → P ((entryLevels m.topic).1, m)) :
    ∀ e ∈ absR (mt.retain m).1.rroot, P e := by
  intro e he
  have he := (retain_contract mt m h).entries.mem_iff.mp he
  split at he
  · rename_i hl
    rcases List.mem_append.mp he with hx | hx
    · exact hP e (List.mem_filter.mp hx).1
    · cases hpe : m.payload.isEmpty with
      | true => rw [hpe] at hx; cases hx
      | false => rw [hpe] at hx; exact List.mem_singleton.mp hx ▸ hm hpe hl
  · exact hP e he

/-- (the right-hand side is `pick (rwalk (entryLevels t).1) id (absR mt.rroot)` spelled out) -/
theorem retained_contract (mt : MemTopics) (t : List UInt8) (h : RWF mt.rroot) (hl : (entryLevels t).2 = true) :
    ∃ l, mt.retained t = some l ∧
      l.Perm ((absR mt.rroot).filterMap fun e => if rwalk (entryLevels t).1 e.1 then some e.2 else none) := by
  obtain ⟨r, hr, hp⟩ := rmatch_char mt.rroot (entryLevels t).1 h
  exact ⟨r, by rw [retained_entry, hl]; exact hr, hp⟩

/-- for valid filters (`#` only in the last position) `rwalk` is the section 4.7 relation; for an invalid
list it is not (`rmatch` stops at the first `#`), which is why `retained_contract` speaks of `rwalk` -/
theorem rwalk_eq_matchLevels (fs : List Level) (hv : Mqtt.Spec.Match.validFilterLevels fs = true) :
    ∀ p, rwalk fs p = Mqtt.Spec.Match.matchLevels fs p := by
  induction fs with
  | nil => intro p; cases p <;> rfl
  | cons f fs ih =>
    intro p
    -- a `#` is the last level of a valid filter; the rest of a valid filter is valid
    have hlast : f = MWC → fs = [] := by
      rintro rfl
      cases fs with
      | nil => rfl
      | cons x xs => rw [validFilterLevels_cons, show lvalidMid MWC = false by decide] at hv; cases hv
    have hvs : Mqtt.Spec.Match.validFilterLevels fs = true := by
      cases fs with
      | nil => rfl
      | cons x xs => rw [validFilterLevels_cons, Bool.and_eq_true] at hv; exact hv.2
    by_cases hf : f = MWC
    · rw [hf, hlast hf]; cases p <;> rfl
    · have hf' : (f == MWC) = false := beq_eq_false_iff_ne.mpr hf
      cases p with
      | nil =>
        show (f == MWC) = (f == MWC && fs.isEmpty)
        rw [hf', Bool.false_and]
      | cons k p =>
        show (if f == MWC then true else (f == SWC || f == k) && rwalk fs p) =
          if f == MWC then fs.isEmpty else (f == SWC || f == k) && Mqtt.Spec.Match.matchLevels fs p
        rw [hf', if_neg Bool.false_ne_true, if_neg Bool.false_ne_true, ih hvs p]

end Mqtt.Proofs.Topics
