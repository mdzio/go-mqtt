/-
Core F — `Init`, the states a connection starts in (where every run of `Properties/C16.lean` starts), and
two of the four invariants of the life-cycle model, each with its initial case and its step (`TStep.invA`,
`TStep.invW`; `InvK` is in `LifecycleStop`, `InvR` in `LifecycleRecv`, their conjunction `Inv` in `LifecycleProgress`).

* `InvA` — wait-group accounting, the deferred ring closes, the receiver reads only into free space (at `.read`
           the incoming ring is not full, at `.commit n` the `n` bytes fit), the sender's window
* `InvW` — `wmu` is held exactly by the thread inside `writeMessage`'s critical section (`invW_iff`)
-/
import Mqtt.Proofs.Lifecycle

namespace Mqtt.Proofs.Lifecycle
open Mqtt.Model.Lifecycle

/-- what `wgStopped` must show: the goroutines that have not called `Done()` (the processor calls it before its deferred `stop()`) -/
def cnt (s : St) : Nat :=
  (if s.recv = .exited then 0 else 1) + (if s.send = .exited then 0 else 1) + (if PPc.past s.proc then 0 else 1)

/-- the receiver is past `ReadFrom`'s deferred `in.Close()` -/
def RPc.closedRing : RPc → Bool
  | .connClose => true | .wgDone => true | .exited => true | _ => false

/-- the sender is past `WriteTo`'s deferred `out.Close()` -/
def SPc.closedRing : SPc → Bool
  | .wgDone => true | .exited => true | _ => false

structure InvA (c : Cfg) (s : St) : Prop where
  wg : s.sh.wg = cnt s
  rdone : RPc.closedRing s.recv = true → s.sh.inR.done = true
  sdone : SPc.closedRing s.send = true → s.sh.outR.done = true
  rread : s.recv = .read → s.sh.inR.buf < c.cap                  -- a socket read is issued only into free space
  rcommit : ∀ n, s.recv = .commit n → s.sh.inR.buf + n ≤ c.cap   -- what was read fits: `WriteCommit` never waits
  swin : SWin s

/-- a state a connection starts in: the three goroutines at the top of their loops, any ring
contents, any traffic still to come, nobody has called stop -/
structure Init (c : Cfg) (s : St) : Prop where
  recv : s.recv = .space
  send : s.send = .peek
  proc : s.proc = .size
  wg : s.sh.wg = 3
  closed : s.sh.closed = false
  winner : s.sh.winner = none
  effects : s.sh.effects = []
  ringsNil : s.sh.ringsNil = false
  wmu : s.sh.wmu = none
  ks : ∀ k, k ∈ s.ks → k = .idle
  ws : ∀ w, w ∈ s.ws → w.pc = .check
  inOpen : s.sh.inR.done = false
  outOpen : s.sh.outR.done = false
  noTimeout : s.sh.timeout = false      -- no socket read is pending yet, so no read deadline has fired

theorem cnt_eq_zero {s : St} (h : cnt s = 0) : s.recv = .exited ∧ s.send = .exited ∧ PPc.past s.proc = true := by
  have one : ∀ {p : Prop} [Decidable p], (if p then 0 else 1) = 0 → p := fun {p} _ h => by
    split at h
    · assumption
    · cases h
  have h1 := Nat.add_eq_zero_iff.mp h
  have h2 := Nat.add_eq_zero_iff.mp h1.1
  exact ⟨one h2.1, one h2.2, one h1.2⟩

theorem InvA.wg_ne_zero {c : Cfg} {s : St} (hi : InvA c s) (hp : PPc.past s.proc = false) : s.sh.wg ≠ 0 := fun h0 => by
  rw [(cnt_eq_zero (hi.wg ▸ h0)).2.2] at hp; cases hp

theorem init_fresh (c : Cfg) (sh : Sh) (hwg : sh.wg = 3) (hc : sh.closed = false) (hwin : sh.winner = none)
    (he : sh.effects = []) (hn : sh.ringsNil = false) (hm : sh.wmu = none) (hi : sh.inR.done = false)
    (ho : sh.outR.done = false) (ht : sh.timeout = false) : Init c { sh := sh } :=
  ⟨rfl, rfl, rfl, hwg, hc, hwin, he, hn, hm, nofun, nofun, hi, ho, ht⟩

theorem invA_init (c : Cfg) (s : St) (h : Init c s) : InvA c s := by
  refine ⟨?_, ?_, ?_, ?_, ?_, ?_⟩
  · simp [cnt, h.recv, h.send, h.proc, h.wg, PPc.past]
  · simp [h.recv, RPc.closedRing]
  · simp [h.send, SPc.closedRing]
  · simp [h.recv]
  · simp [h.recv]
  · intro m; simp [h.send]

theorem readLen_fits {c : Cfg} {sh : Sh} (k : Nat) (hb : sh.inR.buf < c.cap) : sh.inR.buf + readLen c sh k ≤ c.cap := by
  have h1 : readLen c sh k ≤ c.cap - sh.inR.buf :=
    Nat.max_le.mpr ⟨Nat.sub_pos_of_lt hb, Nat.le_trans (Nat.min_le_right ..)
      (Nat.le_trans (Nat.min_le_left ..) (Nat.min_le_right ..))⟩
  exact Nat.add_comm .. ▸ Nat.add_le_of_le_sub (Nat.le_of_lt hb) h1

theorem InvA.frame {c : Cfg} {s s' : St} (hi : InvA c s) (hf : FrameA s.sh s'.sh) (hr : s'.recv = s.recv)
    (hs : s'.send = s.send) (hwg : s'.sh.wg = cnt s') : InvA c s' :=
  ⟨hwg, fun h => hf.inDone (hi.rdone (hr ▸ h)), fun h => hf.outDone (hi.sdone (hs ▸ h)),
    fun h => Nat.lt_of_le_of_lt hf.inBuf (hi.rread (hr ▸ h)),
    fun n h => Nat.le_trans (Nat.add_le_add_right hf.inBuf n) (hi.rcommit n (hr ▸ h)),
    fun m h => ⟨(hi.swin m (hs ▸ h)).1, Nat.le_trans (hi.swin m (hs ▸ h)).2 hf.outBuf⟩⟩

theorem TStep.invA {c : Cfg} (hw : WF c) {s s' : St} {t : Tid} {k : Nat} (hi : InvA c s) (h : TStep c s t k s') :
    InvA c s' := by
  have hwg := hi.wg
  cases h with
  | @recv _ pc pc' sh' hpc h =>
    have hwg' : sh'.wg = cnt { s with sh := sh', recv := pc' } := by
      obtain ⟨h0, ⟨h1, h2⟩ | ⟨h1, h2⟩⟩ := h.wg <;> simp only [cnt, hpc, h0, h1, h2, if_true, if_false] at hwg ⊢
      · rw [hwg, Nat.add_assoc, Nat.add_sub_cancel_left, Nat.zero_add]
      · exact hwg
    cases h with
    | space hd hb => exact ⟨hwg', nofun, hi.sdone, fun _ => hb, nofun, hi.swin⟩
    | read hs ht hw' =>
      exact ⟨hwg', nofun, hi.sdone, nofun, fun n hn => by cases hn; exact readLen_fits (sh := s.sh) k (hi.rread hpc), hi.swin⟩
    | close => exact ⟨hwg', fun _ => rfl, hi.sdone, nofun, nofun, hi.swin⟩
    | connClose => exact ⟨hwg', fun _ => hi.rdone (by rw [hpc]; rfl), hi.sdone, nofun, nofun, hi.swin⟩
    | wgDone => exact ⟨hwg', fun _ => hi.rdone (by rw [hpc]; rfl), hi.sdone, nofun, nofun, hi.swin⟩
    | _ => exact ⟨hwg', nofun, hi.sdone, nofun, nofun, hi.swin⟩
  | @send _ pc pc' sh' hpc h =>
    have hwg' : sh'.wg = cnt { s with sh := sh', send := pc' } := by
      obtain ⟨h0, ⟨h1, h2⟩ | ⟨h1, h2⟩⟩ := h.wg <;> simp only [cnt, hpc, h0, h1, h2, if_true, if_false] at hwg ⊢
      · rw [hwg, Nat.add_right_comm, Nat.add_sub_cancel, Nat.add_zero]
      · exact hwg
    cases h with
    | peek hd hb =>
      refine ⟨hwg', hi.rdone, nofun, hi.rread, hi.rcommit, fun m hm => ?_⟩
      rcases hm with hm | hm <;> cases hm
      exact ⟨Nat.le_min.mpr ⟨hb, hw.wblock⟩, Nat.min_le_left ..⟩
    | write m hs hp =>
      refine ⟨hwg', hi.rdone, nofun, hi.rread, hi.rcommit, fun m' hm => ?_⟩
      rcases hm with hm | hm <;> cases hm
      exact hi.swin m (.inl hpc)
    | close => exact ⟨hwg', hi.rdone, fun _ => rfl, hi.rread, hi.rcommit, nofun⟩
    | wgDone => exact ⟨hwg', hi.rdone, fun _ => hi.sdone (by rw [hpc]; rfl), hi.rread, hi.rcommit, nofun⟩
    | _ => exact ⟨hwg', hi.rdone, nofun, hi.rread, hi.rcommit, nofun⟩
  | proc hpc h =>
    obtain ⟨hf, hg⟩ := h.frameA
    refine hi.frame hf rfl rfl ?_
    rcases hg with ⟨rfl, hg, hp⟩ | ⟨hg, hp⟩
    · simp [cnt, hpc, PPc.past] at hwg; simp [cnt, hp, hg]; omega
    · simp only [cnt, hpc] at hwg; simp only [cnt, hp, hg]; exact hwg
  | k hpc h => exact hi.frame h.frame.frameA rfl rfl (by simpa only [cnt, h.frame.wg] using hwg)
  | w hpc h => exact hi.frame h.frameA.1 rfl rfl (by simpa only [cnt, h.frameA.2.1] using hwg)

theorem EStep.invA {c : Cfg} {s s' : St} {e : Env} (hi : InvA c s) (h : EStep c s e s') : InvA c s' := by
  cases h with
  | preClose => exact ⟨hi.wg, hi.rdone, fun _ => rfl, hi.rread, hi.rcommit, hi.swin⟩
  | _ => exact ⟨hi.wg, hi.rdone, hi.sdone, hi.rread, hi.rcommit, hi.swin⟩

def PPc.holdsWmu : PPc → Bool
  | .ownWait _ _ => true
  | .ownCommit _ _ => true
  | _ => false

def WPc.holdsWmu : WPc → Bool
  | .wait => true
  | .commit => true
  | _ => false

structure InvW (s : St) : Prop where
  proc : s.sh.wmu = some .proc ↔ PPc.holdsWmu s.proc = true
  w : ∀ i, s.sh.wmu = some (.w i) ↔ ∃ w, s.ws[i]? = some w ∧ WPc.holdsWmu w.pc = true
  other : ∀ t, s.sh.wmu = some t → t = .proc ∨ ∃ i, t = .w i

def holds (s : St) : Tid → Bool
  | .proc => PPc.holdsWmu s.proc
  | .w i => match s.ws[i]? with
    | some w => WPc.holdsWmu w.pc
    | none => false
  | _ => false

theorem invW_iff (s : St) : InvW s ↔ ∀ t, s.sh.wmu = some t ↔ holds s t = true := by
  have hw : ∀ i, holds s (.w i) = true ↔ ∃ w, s.ws[i]? = some w ∧ WPc.holdsWmu w.pc = true := by
    intro i; simp only [holds]; cases s.ws[i]? <;> simp
  constructor
  · intro hi t
    cases t with
    | proc => exact hi.proc
    | w i => rw [hw]; exact hi.w i
    | _ => exact ⟨fun h => (by rcases hi.other _ h with h | ⟨i, h⟩ <;> cases h), nofun⟩
  · intro h
    refine ⟨h .proc, fun i => by rw [← hw]; exact h (.w i), fun t ht => ?_⟩
    have := (h t).mp ht
    cases t <;> first | exact .inl rfl | exact .inr ⟨_, rfl⟩ | cases this

theorem invW_init (c : Cfg) (s : St) (h : Init c s) : InvW s := by
  rw [invW_iff]
  intro t
  rw [h.wmu]
  refine ⟨nofun, fun ht => ?_⟩
  cases t with
  | proc => rw [holds, h.proc] at ht; cases ht
  | w i =>
    simp only [holds] at ht
    split at ht
    next w hw => rw [h.ws w (List.mem_iff_getElem?.mpr ⟨i, hw⟩)] at ht; cases ht
    next => cases ht
  | _ => cases ht

theorem InvW.move {s s' : St} (hi : InvW s) (t : Tid) (hoth : ∀ t', t' ≠ t → holds s' t' = holds s t')
    (h : (holds s t = false ∧ holds s' t = true ∧ s.sh.wmu = none ∧ s'.sh.wmu = some t) ∨
      (holds s t = true ∧ holds s' t = false ∧ s'.sh.wmu = none) ∨
      (holds s' t = holds s t ∧ s'.sh.wmu = s.sh.wmu)) : InvW s' := by
  rw [invW_iff] at hi ⊢
  intro t'
  by_cases ht : t' = t
  · subst ht
    rcases h with ⟨_, h2, _, h4⟩ | ⟨_, h2, h3⟩ | ⟨h1, h2⟩
    · simp [h2, h4]
    · simp [h2, h3]
    · rw [h1, h2]; exact hi t'
  · rw [hoth t' ht, ← hi t']
    rcases h with ⟨_, _, h3, h4⟩ | ⟨h1, _, h3⟩ | ⟨_, h2⟩
    · simp [h3, h4, Ne.symm ht]
    · simp [h3, (hi t).mpr h1, Ne.symm ht]
    · rw [h2]

theorem PStep.wmu {c : Cfg} {sh sh' : Sh} {pc pc' : PPc} (h : PStep c sh pc sh' pc') :
    (PPc.holdsWmu pc = false ∧ PPc.holdsWmu pc' = true ∧ sh.wmu = none ∧ sh'.wmu = some .proc) ∨
    (PPc.holdsWmu pc = true ∧ PPc.holdsWmu pc' = false ∧ sh'.wmu = none) ∨
    (PPc.holdsWmu pc' = PPc.holdsWmu pc ∧ sh'.wmu = sh.wmu) := by
  cases h with
  | stop k k' sh' h => exact .inr (.inr ⟨rfl, h.frame.wmu⟩)
  | own l rest h => exact .inl ⟨rfl, rfl, h, rfl⟩
  | ownWaitFail => exact .inr (.inl ⟨rfl, rfl, rfl⟩)
  | ownCommit => exact .inr (.inl ⟨rfl, rfl, rfl⟩)
  | ownCommitFail => exact .inr (.inl ⟨rfl, rfl, rfl⟩)
  | _ => exact .inr (.inr ⟨rfl, rfl⟩)

theorem WStep.wmu {c : Cfg} {sh sh' : Sh} {me : Tid} {w w' : WTh} (h : WStep c sh me w sh' w') :
    (WPc.holdsWmu w.pc = false ∧ WPc.holdsWmu w'.pc = true ∧ sh.wmu = none ∧ sh'.wmu = some me) ∨
    (WPc.holdsWmu w.pc = true ∧ WPc.holdsWmu w'.pc = false ∧ sh'.wmu = none) ∨
    (WPc.holdsWmu w'.pc = WPc.holdsWmu w.pc ∧ sh'.wmu = sh.wmu) := by
  cases h with
  | lock l h => exact .inl ⟨rfl, rfl, h, rfl⟩
  | check => exact .inr (.inr ⟨rfl, rfl⟩)
  | checkNil => exact .inr (.inr ⟨rfl, rfl⟩)
  | wait => exact .inr (.inr ⟨rfl, rfl⟩)
  | _ => exact .inr (.inl ⟨rfl, rfl, rfl⟩)

theorem holds_ws_set (s : St) (sh' : Sh) (i : Nat) (w w' : WTh) (hw : s.ws[i]? = some w) :
    (∀ t, t ≠ .w i → holds { s with sh := sh', ws := s.ws.set i w' } t = holds s t) ∧
    holds s (.w i) = WPc.holdsWmu w.pc ∧ holds { s with sh := sh', ws := s.ws.set i w' } (.w i) = WPc.holdsWmu w'.pc := by
  have hlt : i < s.ws.length := (List.getElem?_eq_some_iff.mp hw).1
  refine ⟨fun t ht => ?_, by simp only [holds, hw], by simp only [holds, List.getElem?_set_self hlt]⟩
  cases t with
  | w j => simp only [holds, List.getElem?_set_ne (fun e => ht (congrArg Tid.w e.symm))]
  | _ => rfl

theorem TStep.invW {c : Cfg} {s s' : St} {t : Tid} {k : Nat} (hi : InvW s) (h : TStep c s t k s') : InvW s' := by
  cases h with
  | recv hpc h => exact hi.move .recv (fun t' _ => by cases t' <;> rfl) (.inr (.inr ⟨rfl, h.wmu⟩))
  | send hpc h => exact hi.move .send (fun t' _ => by cases t' <;> rfl) (.inr (.inr ⟨rfl, h.wmu⟩))
  | @k _ i _ _ _ hpc h => exact hi.move (.k i) (fun t' _ => by cases t' <;> rfl) (.inr (.inr ⟨rfl, h.frame.wmu⟩))
  | proc hpc h =>
    subst hpc
    exact hi.move .proc (fun t' ht => by cases t' <;> first | rfl | exact absurd rfl ht) h.wmu
  | w hpc h =>
    obtain ⟨h1, h2, h3⟩ := holds_ws_set s _ _ _ _ hpc
    exact hi.move _ h1 (by rw [h2, h3]; exact h.wmu)

theorem EStep.invW {c : Cfg} {s s' : St} {e : Env} (hi : InvW s) (h : EStep c s e s') : InvW s' := by
  cases h with
  | _ => exact ⟨hi.proc, hi.w, hi.other⟩

end Mqtt.Proofs.Lifecycle
