/-
What the two accounts of `service.writeMessage` (`Proofs/WriteLock.lean`: unbounded buffer;
`Proofs/WriteWrap*.lean`: finite ring) share, stated over the thread record and its projections:
one record replaced, the lock discipline, the termination weight, the log of finished deliveries.
-/
import Mqtt.Proofs.Basics

namespace Mqtt.Proofs.WriteThreads
open List (forall_set)

theorem lt_of_getElem? {α} {l : List α} {i : Nat} {a : α} (h : l[i]? = some a) : i < l.length :=
  (List.getElem?_eq_some_iff.mp h).1

/-! `hidle`: a thread that does not hold `wmu` is idle.  `ht`: the thread `t` that moves holds it, or
nobody does. -/

section lock
variable {τ : Type} {idle : τ → Prop} {holder : Option Nat} {ths : List τ} {t : Nat} {th th' : τ}

theorem idle_of_ne (hidle : ∀ u thu, ths[u]? = some thu → holder ≠ some u → idle thu)
    (ht : holder = none ∨ holder = some t) {u : Nat} {thu : τ} (hu : ths[u]? = some thu) (hne : u ≠ t) :
    idle thu := by
  apply hidle u thu hu
  rcases ht with ht | ht <;> rw [ht]
  · nofun
  · exact fun c => hne (Option.some.inj c).symm

theorem mutex (hidle : ∀ u thu, ths[u]? = some thu → holder ≠ some u → idle thu)
    (hth : ths[t]? = some th) (hbusy : ¬ idle th) :
    holder = some t ∧ ∀ u thu, ths[u]? = some thu → u ≠ t → idle thu :=
  have hh : holder = some t := Decidable.byContradiction fun c => hbusy (hidle t th hth c)
  ⟨hh, fun _ _ hu hne => idle_of_ne hidle (.inr hh) hu hne⟩

theorem busy_unique (hidle : ∀ u thu, ths[u]? = some thu → holder ≠ some u → idle thu)
    {u : Nat} {thu : τ} (hth : ths[t]? = some th) (hu : ths[u]? = some thu) (hb : ¬ idle th) (hbu : ¬ idle thu) :
    t = u :=
  Decidable.byContradiction fun c => hbu ((mutex hidle hth hb).2 u thu hu (Ne.symm c))

theorem forall_set_of_idle {P : Nat → τ → Prop}
    (hidle : ∀ u thu, ths[u]? = some thu → holder ≠ some u → idle thu)
    (ht : holder = none ∨ holder = some t) (hP : ∀ u thu, idle thu → P u thu) (hx : P t th') :
    ∀ u thu, (ths.set t th')[u]? = some thu → P u thu :=
  forall_set hx fun u thu hu hne => hP u thu (idle_of_ne hidle ht hu hne)

theorem held_set {Q : τ → Prop} {holder' : Option Nat} (hth : ths[t]? = some th)
    (hh : ∀ u, holder' = some u → u = t ∧ Q th') :
    ∀ u, holder' = some u → ∃ thu, (ths.set t th')[u]? = some thu ∧ Q thu := by
  intro u hu
  obtain ⟨rfl, hq⟩ := hh u hu
  exact ⟨th', List.getElem?_set_self (lt_of_getElem? hth), hq⟩

end lock

theorem sum_map_init {α} (f : α → Nat) (mk : List (List UInt8) → α) (c : Nat)
    (h : ∀ l, f (mk l) = c * l.length) (todos : List (List (List UInt8))) :
    ((todos.map mk).map f).sum = c * (todos.map List.length).sum := by
  induction todos with
  | nil => rfl
  | cons l ls ih => simp only [List.map_cons, List.sum_cons, ih, h, Nat.mul_add]

/-! The weight `f th = c · |todo th| − rk th` of a thread, `rk` counting the steps taken for the
packet in hand, fewer than `c`. -/

section weight
variable {τ : Type} {f : τ → Nat} {c : Nat} {todo : τ → List (List UInt8)} {rk : τ → Nat}

theorem rk_lt (hb : ∀ th, rk th < c) {th : τ} (hne : todo th ≠ []) : rk th < c * (todo th).length := by
  obtain ⟨m, rest, h⟩ := List.exists_cons_of_ne_nil hne
  rw [h, List.length_cons, Nat.mul_succ]
  exact Nat.lt_of_lt_of_le (hb th) (Nat.le_add_left _ _)

theorem weight_next (hf : ∀ th, f th = c * (todo th).length - rk th) (hb : ∀ th, rk th < c) {th th' : τ}
    (hne : todo th ≠ []) (h' : todo th' = todo th) (hr : rk th' = rk th + 1) : f th' + 1 = f th := by
  rw [hf, hf, h', hr, Nat.sub_add_eq, Nat.sub_add_cancel (Nat.le_sub_of_add_le' (rk_lt hb hne))]

theorem todo_nil_of_sum_zero (hf : ∀ th, f th = c * (todo th).length - rk th) (hb : ∀ th, rk th < c)
    {l : List τ} (h : (l.map f).sum = 0) : ∀ th ∈ l, todo th = [] := by
  intro th hm
  have h0 := List.sum_eq_zero_iff_forall_eq_nat.mp h _ (List.mem_map_of_mem hm)
  rw [hf] at h0
  exact Decidable.byContradiction fun hne =>
    Nat.not_le.mpr (rk_lt hb hne) (Nat.sub_eq_zero_iff_le.mp h0)

end weight

/-- `WriteLock.fromThread` and `Model.WriteWrap.sent` are this by definition (`key`: the thread of a
log entry, `val`: its packet) -/
def sentBy {ε} (key : ε → Nat) (val : ε → List UInt8) (log : List ε) (t : Nat) : List (List UInt8) :=
  (log.filter (fun e => key e == t)).map val

/-- what thread `t` has delivered, in order, followed by what it still has to deliver, is the list
it was given: no packet is lost, duplicated or invented, and each thread's packets keep their order -/
structure Prov {ε τ} (todos : List (List (List UInt8))) (key : ε → Nat) (val : ε → List UInt8)
    (todo : τ → List (List UInt8)) (log : List ε) (ths : List τ) : Prop where
  len  : ths.length = todos.length
  logt : ∀ e ∈ log, key e < todos.length
  get  : ∀ t th, ths[t]? = some th → todos[t]? = some (sentBy key val log t ++ todo th)

namespace Prov
variable {ε τ : Type} {todos : List (List (List UInt8))} {key : ε → Nat} {val : ε → List UInt8}
  {todo : τ → List (List UInt8)} {log : List ε} {ths : List τ}

theorem init (mk : List (List UInt8) → τ) (h : ∀ l, todo (mk l) = l) :
    Prov todos key val todo [] (todos.map mk) where
  len := List.length_map _
  logt := fun _ he => nomatch he
  get := by
    intro t th hth
    rw [List.getElem?_map] at hth
    cases ht : todos[t]? with
    | none => rw [ht] at hth; cases hth
    | some l => rw [ht] at hth; cases hth; simp [h, sentBy]

theorem keep (hP : Prov todos key val todo log ths) {t : Nat} {th th' : τ} (hth : ths[t]? = some th)
    (h : todo th' = todo th) : Prov todos key val todo log (ths.set t th') where
  len := by rw [List.length_set, hP.len]
  logt := hP.logt
  get := forall_set (h ▸ hP.get t th hth) (fun u a hu _ => hP.get u a hu)

theorem finish (hP : Prov todos key val todo log ths) {t : Nat} {th th' : τ} {e : ε}
    (hth : ths[t]? = some th) (hk : key e = t) (h : todo th = val e :: todo th') :
    Prov todos key val todo (log ++ [e]) (ths.set t th') where
  len := by rw [List.length_set, hP.len]
  logt := by
    intro x hx
    rcases List.mem_append.mp hx with hx | hx
    · exact hP.logt x hx
    · cases List.mem_singleton.mp hx
      rw [hk, ← hP.len]; exact lt_of_getElem? hth
  get := by
    apply forall_set
    · rw [hP.get t th hth, h]; simp [sentBy, List.filter_append, hk]
    · intro u a hu hne
      rw [hP.get u a hu]; simp [sentBy, List.filter_append, hk, Ne.symm hne]

theorem complete (hP : Prov todos key val todo log ths) (hall : ∀ th ∈ ths, todo th = [])
    {t : Nat} {l : List (List UInt8)} (hl : todos[t]? = some l) :
    sentBy key val log t = l := by
  have ht : t < ths.length := hP.len ▸ lt_of_getElem? hl
  have := hP.get t _ (List.getElem?_eq_getElem ht)
  rw [hall _ (List.getElem_mem ht), List.append_nil, hl] at this
  exact (Option.some.inj this).symm

theorem given (hP : Prov todos key val todo log ths) {e : ε} (he : e ∈ log) :
    ∃ l ∈ todos, val e ∈ l := by
  have ht : key e < ths.length := hP.len ▸ hP.logt e he
  refine ⟨_, List.mem_of_getElem? (hP.get _ _ (List.getElem?_eq_getElem ht)), ?_⟩
  exact List.mem_append_left _ (List.mem_map_of_mem (List.mem_filter.mpr ⟨he, beq_self_eq_true _⟩))

end Prov

end Mqtt.Proofs.WriteThreads
