/-
What an event does to the broker state, whatever the event: a chain of primitive moves (`Prim`, `Moves`).
A move replaces an existing session object by one related to it in one of six ways (`SessStep`), files a new
session object, drops a store entry, marks a connection closed, registers a connection whose session
resolves, makes one call into the topic store, or sets the packet-identifier counter.  `step_moves` walks
through the events once; it needs no invariant, because the side conditions of the moves are the lookups
the code itself makes.  A state predicate kept by every primitive move is kept by every event
(`Moves.keeps`): the representation invariants are proved that way, one case per move.  The moves forget what
those invariants do not look at: `SessStep.topics` allows any new topic list, `sub` / `unsub` / `retain` any
filter and message, `ctr` any value.  An invariant that ties a session's topic list to the request or to the trie
needs the finer account of the SUBSCRIBE and UNSUBSCRIBE cases (`served_subscribe`, `packet_unsubscribe`).  `Moves`
carries predicates of ONE state, not relations between the state before and after an event (`BrokerQos.Frame`, `Ended`, `Served`).
-/
import Mqtt.Proofs.BrokerFanoutRetained
import Mqtt.Proofs.BrokerLifeStop

namespace Mqtt.Proofs.Broker
open Mqtt.Iface.Broker Mqtt.Model.Broker
open Mqtt.Model.Topics (RMsg)
open Mqtt.Proofs.BrokerLife (markDead addConn updSess newSess accepted resumed served)

/-- what an event can do to a session object (reference and client identifier stay) -/
inductive SessStep : Sess → Sess → Prop
  | wait (s : Sess) (p : Pub) : SessStep s { s with pub2in := q2Wait s.pub2in p }
  | release (s : Sess) (id : Nat) : SessStep s { s with pub2in := (q2Acked (q2Ack s.pub2in id)).1 }
  | topics (s : Sess) (ts : List (Bytes × Nat)) : SessStep s { s with topics := ts }
  | graceful (s : Sess) : SessStep s { s with willFlag := false }
  | willSent (s : Sess) (w : Msg) : SessStep s { s with will := some w }
  | resume (s : Sess) (req : Connect) : SessStep s (updSess s req)

/-- one primitive change of the broker state -/
inductive Prim : B → B → Prop
  | sess {b : B} {s s' : Sess} : b.getSess s.ref = some s → SessStep s s' → Prim b (b.setSess s')
  | fresh (b : B) (s : Sess) : s.ref = b.nextRef → s.pub2in = [] → (s.willFlag = true → s.will.isSome = true) →
      Prim b ((({ b with nextRef := b.nextRef + 1 } : B).setSess s).storeSet s.cid s.ref)
  | forget (b : B) (cid : Bytes) : Prim b (b.storeDel cid)
  | dead (b : B) (c : Nat) : Prim b (markDead b c)
  | conn (b : B) (c : Nat) {r : Nat} {s : Sess} : b.getSess r = some s → Prim b (addConn b c r)
  | sub (b : B) (t : Bytes) (q c : Nat) :
      Prim b { b with topics := (b.topics.subscribe Mqtt.Generated.maxQosAllowed t q c).1 }
  | unsub (b : B) (t : Bytes) (c : Nat) : Prim b { b with topics := (b.topics.unsubscribe t (some c)).1 }
  | retain (b : B) (r : RMsg) : r.retain = true → Prim b { b with topics := (b.topics.retain r).1 }
  | ctr (b : B) (n : Nat) : Prim b { b with ctr := n }

inductive Moves : B → B → Prop
  | refl (b : B) : Moves b b
  | snoc {a b c : B} : Moves a b → Prim b c → Moves a c

theorem Moves.one {a b : B} (h : Prim a b) : Moves a b := .snoc (.refl a) h

theorem Moves.trans {a b c : B} (h1 : Moves a b) (h2 : Moves b c) : Moves a c := by
  induction h2 with
  | refl => exact h1
  | snoc _ hp ih => exact .snoc ih hp

theorem Moves.keeps {P : B → Prop} (hp : ∀ b b', P b → Prim b b' → P b') {a b : B} (h : Moves a b) (ha : P a) :
    P b := by
  induction h with
  | refl => exact ha
  | snoc _ hprim ih => exact hp _ _ ih hprim

theorem unsubAll_moves (c : Nat) (l : List (Bytes × Nat)) :
    ∀ b : B, Moves b { b with topics := unsubAll b.topics c l } := by
  induction l with
  | nil => exact fun b => .refl b
  | cons tq rest ih => exact fun b => (Moves.one (.unsub b tq.1 c)).trans (ih _)

theorem unsubFold_moves (c : Nat) (l : List Bytes) :
    ∀ b : B, Moves b { b with topics := l.foldl (fun ts t => (ts.unsubscribe t (some c)).1) b.topics } := by
  induction l with
  | nil => exact fun b => .refl b
  | cons t rest ih => exact fun b => (Moves.one (.unsub b t c)).trans (ih _)

theorem resubscribe_moves (c : Nat) (l : List (Bytes × Nat)) :
    ∀ b : B, Moves b { b with topics := resubscribe b.topics c l } := by
  induction l with
  | nil => exact fun b => .refl b
  | cons tq rest ih => exact fun b => (Moves.one (.sub b tq.1 tq.2 c)).trans (ih _)

theorem stopBase_moves (b : B) (c : Nat) (s : Sess) : Moves b (BrokerLife.stopBase b c s) :=
  (Moves.one (.dead b c)).trans (unsubAll_moves c s.topics _)

theorem onPublish_moves (b : B) (m : Msg) : Moves b (onPublish b m).1 := by
  have h1 : Moves b (retainStep b m).1 := by
    rcases retainStep_cases b m with ⟨_, e⟩ | ⟨p, m', ctr, s⟩
    · rw [e]; exact .refl b
    · rw [s.eq]; exact .snoc (.one (.retain b (toRMsg p) (by rw [s.fields]; exact s.retain))) (.ctr _ ctr)
  rw [onPublish_eq]
  split
  · exact h1
  · exact (fanout_like _ _ _).1 ▸ .snoc h1 (.ctr _ _)

theorem releaseAll_moves (l : List QEntry) : ∀ b : B, Moves b (releaseAll b l).1 := by
  induction l with
  | nil => exact fun b => .refl b
  | cons e rest ih => exact fun b => (onPublish_moves b _).trans (ih _)

theorem stop_moves (b : B) (c : Nat) : Moves b (stop b c).1 := by
  rcases stop_cases b c with ⟨_, e⟩ | e | ⟨cn, s, hc, ha, hs⟩
  · rw [e]; exact .refl b
  · rw [e]; exact .one (.dead b c)
  · have hdel : ∀ x : B, Moves b x → Moves b (if s.clean then x.storeDel s.cid else x) := by
      intro x hx; split
      · exact .snoc hx (.forget x _)
      · exact hx
    rw [BrokerLife.stop_live b c cn s hc ha hs]
    split
    · split
      · exact stopBase_moves b c s
      · rename_i w hw
        refine hdel _ (.snoc ((stopBase_moves b c s).trans (onPublish_moves _ w)) (.sess ?_ (.willSent s _)))
        rw [(BrokerQos.onPublish_frame _ w).getSess, BrokerLife.getSess_ref hs]
        exact hs
    · exact hdel _ (stopBase_moves b c s)

theorem accepted_moves (b : B) (c : Nat) (req : Connect) : Moves b (accepted b c req).1 := by
  unfold accepted
  cases hres : resumed b c req with
  | some s =>
    exact (Moves.snoc (.one (.sess (BrokerLife.resumed_some hres).2.2.1 (.resume s req)))
      (.conn _ c (BrokerLife.getSess_setSess b (updSess s req)))).trans (resubscribe_moves c s.topics _)
  | none =>
    exact .snoc (.one (.fresh b (newSess b c req) rfl rfl (BrokerLife.initWill_wills req _ rfl rfl)))
      (.conn _ c (BrokerLife.getSess_setSess { b with nextRef := b.nextRef + 1 } (newSess b c req)))

theorem first_moves (b : B) (c : Nat) (f : First) (a : Bool) : Moves b (first b c f a).1 :=
  BrokerLife.first_state (Moves b) (.refl b) c f a fun req _ _ => accepted_moves b c req

theorem packet_moves (b : B) (c : Nat) (p : Packet) : Moves b (packet b c p).1 := by
  rcases packet_cases b c p with e | ⟨cn, s, hc, ha, hs, e⟩ <;> rw [e]
  · exact .refl b
  have hs' : b.getSess s.ref = some s := BrokerLife.getSess_ref hs ▸ hs
  cases p with
  | publish pub =>
    simp only [served]
    cases pub.qos == 2
    · cases pub.qos == 1 <;> exact onPublish_moves b _
    · exact .one (.sess hs' (.wait s pub))
  | pubrel id => exact (Moves.one (.sess hs' (.release s id))).trans (releaseAll_moves _ _)
  | subscribe id topics =>
    obtain ⟨ctr, e⟩ := served_subscribe b c s id topics
    exact e ▸ ((resubscribe_moves c topics b).snoc (.sess hs' (.topics s _))).snoc (.ctr _ ctr)
  | unsubscribe id topics => exact .snoc (unsubFold_moves c topics b) (.sess hs' (.topics s _))
  | disconnect => exact (Moves.one (.sess hs' (.graceful s))).trans (stop_moves _ c)
  | _ => exact .refl b

theorem step_moves (b : B) (e : Ev) : Moves b (step b e).1 := by
  cases e with
  | first c f a =>
    exact Mqtt.Proofs.Connect.connect_state (Moves b) (fun x c h => h.trans (stop_moves x c))
      (fun x c f a h => h.trans (first_moves x c f a)) b c f a (.refl b)
  | packet c p => exact packet_moves b c p
  | close c => exact stop_moves b c
  | srvPub p => rw [BrokerLife.step_srvPub]; exact onPublish_moves b _
  | srvSub cb f q => rw [BrokerLife.step_srvSub]; exact .one (.sub b f q cb)
  | srvUnsub cb f => show Moves b (srvUnsub b cb f).1; rw [srvUnsub_fst]; exact .one (.unsub b f cb)

end Mqtt.Proofs.Broker
