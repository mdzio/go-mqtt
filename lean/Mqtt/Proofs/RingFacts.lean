/-
Core D — tie between the regenerated facts of service/buffer.go and the model (`ring_lock_facts`, `facts_ring_block`),
and between the model's table `lockFacts` and its step function (`lockFacts_steps`).
-/
import Mqtt.Generated.Facts
import Mqtt.Model.Ring

namespace Mqtt.Proofs.Ring
open Mqtt.Model.Ring Mqtt.Generated

/-- The lock structure regenerated from the source (marks, Lock/Unlock/Wait/Broadcast
with their condition variable, calls, returns, in source order per method) is the one
the model was written against.  Removing an `Unlock`, moving a `Broadcast`, adding a
`return` inside a lock region or changing a mark breaks this equation. -/
theorem ring_lock_facts : bufferLocks = lockFacts := by decide +kernel

/-- …and the model's step function performs, at the program counter of every mark but 120 and 121 (`WriteTo`'s, for which the
model has no program counters), exactly the lock operation `lockFacts` lists after that mark (none where it lists none). -/
theorem lockFacts_steps :
    markPcs.map (fun pc => (pc.yid, lockOpCode pc))
      = (((lockFacts.map (·.2)).flatten |> markOps).filter (fun p => p.1 != 120 && p.1 != 121)).map (fun p => (some p.1, p.2)) := by
  decide +kernel

/-- the ring cannot be smaller than two read blocks; the block sizes are what the
generators and the free-running pipe assume; the model's read block (`Cfg.rblock`, the most
`ReadFrom` offers its reader in one `Read`) is the source's -/
theorem facts_ring_block :
    defaultReadBlockSize = 8192 ∧ defaultWriteBlockSize = 8192 ∧ defaultBufferSize = 2 ^ 18 ∧
    2 * defaultReadBlockSize = 2 ^ 14 ∧
    ({ k := 14, src := fun _ => 0 } : Cfg).rblock = defaultReadBlockSize := by decide

end Mqtt.Proofs.Ring
