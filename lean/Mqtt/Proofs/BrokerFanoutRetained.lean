/-
The retain step of `onPublish` against the retained trie: by `retainStep_cases` (BrokerFanoutOut.lean) it is
one call of `Retain`, whose contract gives the entries afterwards (`retainStep_absR`); `retainStep_refines`
carries the specification's retained store along.
-/
import Mqtt.Proofs.BrokerFanoutOut

namespace Mqtt.Proofs.Broker
open Mqtt.Iface.Broker Mqtt.Model.Broker
open Mqtt.Model.Topics (RMsg RNode Level)
open Mqtt.Proofs.Topics (RWF absR good REntry retain_contract)
open Mqtt.Spec.Match (split validName)

/-- what the specification keeps of a stored message -/
def retOf (e : REntry) : List Level × Mqtt.Spec.Broker.Ret := (e.1, ⟨e.2.topic, e.2.qos, e.2.payload⟩)

/-- the retained trie holds exactly the messages `rets`, each under the path of
its topic and with RETAIN = 1 -/
structure RetInv (root : RNode) (rets : List Mqtt.Spec.Broker.Ret) : Prop where
  wf : RWF root
  perm : ((absR root).map retOf).Perm (rets.map (fun r => (split r.topic, r)))
  flag : ∀ e ∈ absR root, e.2.retain = true

theorem RetInv_empty : RetInv RNode.empty [] :=
  ⟨Mqtt.Proofs.Topics.RWF_empty, by simp [Mqtt.Proofs.Topics.absR_empty], by simp [Mqtt.Proofs.Topics.absR_empty]⟩

theorem RetInv_perm_filter {es : List REntry} {rets : List Mqtt.Spec.Broker.Ret} (t : Bytes)
    (h : (es.map retOf).Perm (rets.map (fun r => (split r.topic, r)))) :
    ((es.filter (fun e => !(e.1 == split t))).map retOf).Perm
      ((rets.filter (fun r => r.topic != t)).map (fun r => (split r.topic, r))) := by
  have := h.filter (fun x => !(x.1 == split t))
  rw [List.filter_map, List.filter_map] at this
  simpa only [Function.comp_def, retOf, Mqtt.Proofs.Topics.split_beq, bne] using this

/-- on the trie's entries: what was stored under the topic's path goes; a non-empty payload puts one
message there -/
theorem retainStep_absR (b : B) (m : Msg) (hwf : RWF b.topics.rroot) (hg : good m.p.topic = true)
    (hn : validName m.p.topic = true) (hr : m.p.retain = true) :
    RWF (retainStep b m).1.topics.rroot ∧ ∃ st : List REntry,
      (absR (retainStep b m).1.topics.rroot).Perm
        ((absR b.topics.rroot).filter (fun e => !(e.1 == split m.p.topic)) ++ st) ∧
      (m.p.payload = [] → st = []) ∧
      (m.p.payload ≠ [] → ∃ r : RMsg, st = [(split m.p.topic, r)] ∧ r.topic = m.p.topic ∧ r.qos = m.p.qos ∧
        r.payload = m.p.payload ∧ r.retain = true) := by
  obtain ⟨e1, e2⟩ := Mqtt.Proofs.Topics.entryLevels_valid m.p.topic hg
    (Mqtt.Proofs.Topics.validName_validFilter _ hn)
  rcases retainStep_cases b m with ⟨h0, _⟩ | ⟨p, m', ctr, s⟩
  · rw [hr] at h0; cases h0
  · -- one call of `Retain` with the message's topic, QoS and payload
    have et : (toRMsg p).topic = m.p.topic := by rw [s.fields]; rfl
    have ep : (toRMsg p).payload = m.p.payload := by rw [s.fields]; rfl
    obtain ⟨hw, hperm, _⟩ := retain_contract b.topics (toRMsg p) hwf
    rw [et, ep, e1, e2, if_pos rfl] at hperm
    rw [s.eq]
    refine ⟨hw, _, hperm, fun hp => by rw [hp]; rfl, fun hp => ?_⟩
    rw [if_neg (by rw [List.isEmpty_eq_false_iff.mpr hp]; exact Bool.false_ne_true)]
    exact ⟨toRMsg p, rfl, et, by rw [s.fields]; rfl, ep, by rw [s.fields]; exact hr⟩

theorem retainStep_others (b : B) (m : Msg) (hwf : RWF b.topics.rroot) (hg : good m.p.topic = true)
    (hn : validName m.p.topic = true) :
    ((absR (retainStep b m).1.topics.rroot).filter (fun e => !(e.1 == split m.p.topic))).Perm
      ((absR b.topics.rroot).filter (fun e => !(e.1 == split m.p.topic))) := by
  cases hr : m.p.retain with
  | false => rw [retainStep_noretain b m hr]
  | true =>
    -- what the step stores sits under the topic's own path
    obtain ⟨_, st, hperm, hst0, hst1⟩ := retainStep_absR b m hwf hg hn hr
    have hst : st.filter (fun e => !(e.1 == split m.p.topic)) = [] := by
      by_cases hp : m.p.payload = []
      · rw [hst0 hp]; rfl
      · obtain ⟨r, rfl, _⟩ := hst1 hp
        rw [List.filter_cons_of_neg (by rw [beq_self_eq_true]; exact Bool.false_ne_true)]; rfl
    have := hperm.filter (fun e => !(e.1 == split m.p.topic))
    rwa [List.filter_append, List.filter_filter, hst, List.append_nil, funext (fun _ => Bool.and_self _)] at this

theorem retainStep_refines (b : B) (m : Msg) (rets : List Mqtt.Spec.Broker.Ret)
    (h : RetInv b.topics.rroot rets) (hg : good m.p.topic = true) (hn : validName m.p.topic = true) :
    RetInv (retainStep b m).1.topics.rroot (Mqtt.Spec.Broker.retainStep { rets := rets } m.p).rets := by
  cases hr : m.p.retain with
  | false =>
    rw [retainStep_noretain b m hr]
    simp only [Mqtt.Spec.Broker.retainStep, hr, Bool.not_false, ↓reduceIte]
    exact h
  | true =>
    obtain ⟨hw, st, hperm, hst0, hst1⟩ := retainStep_absR b m h.wf hg hn hr
    have hpe : m.p.payload.isEmpty = decide (m.p.payload = []) := by cases m.p.payload <;> rfl
    simp only [Mqtt.Spec.Broker.retainStep, hr, hpe, Bool.not_true, Bool.false_eq_true, ↓reduceIte]
    by_cases hp : m.p.payload = []
    · rw [hst0 hp, List.append_nil] at hperm
      rw [decide_eq_true hp, if_pos rfl]
      exact ⟨hw, (hperm.map retOf).trans (RetInv_perm_filter _ h.perm),
        fun e he => h.flag e (List.mem_filter.mp (hperm.mem_iff.mp he)).1⟩
    · obtain ⟨r, rfl, r1, r2, r3, r4⟩ := hst1 hp
      rw [decide_eq_false hp, if_neg Bool.false_ne_true]
      refine ⟨hw, ?_, fun e he => ?_⟩
      · refine (hperm.map retOf).trans ?_
        rw [List.map_append, List.map_append]
        refine List.Perm.append (RetInv_perm_filter _ h.perm) ?_
        simp [retOf, r1, r2, r3]
      · rcases List.mem_append.mp (hperm.mem_iff.mp he) with hx | hx
        · exact h.flag e (List.mem_filter.mp hx).1
        · rw [List.mem_singleton.mp hx]; exact r4

end Mqtt.Proofs.Broker
