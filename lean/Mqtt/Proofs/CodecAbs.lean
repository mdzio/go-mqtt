/-
Core A (codec): the packet a message object stands for (`absMsg`), the byte strings its body is made of, what `Wire.WF`
says per packet type (`wf_*`) and the bounds on a well-formed packet (`packet_tf`, `packet_body_le`).  Both the readers on
wire input (CodecWire) and `Encode` (CodecEncode) are stated against it.
-/
import Mqtt.Proofs.CodecBasic


namespace Mqtt.Proofs.Codec

open Mqtt.Model.Codec Mqtt.Iface.Codec Mqtt.Generated
open Mqtt.Spec

/-- the identifier a `packetID` slice holds, 0 unless it has exactly two bytes -/
def u16of (bs : Bytes) : UInt16 :=
  match bs with
  | [a, b] => UInt16.ofNat (beU16 a b)
  | _ => 0

/-- the CONNECT arm of `absMsg` as a function of the field block -/
def absConnect (c : ConnectF) : Wire.Connect :=
  { level := c.version, clean := c.cleanSession, keepAlive := UInt16.ofNat c.keepAlive, clientId := c.clientID,
    will := if c.willFlag then some ⟨c.willTopic, c.willMessage, UInt8.ofNat c.willQos, c.willRetain⟩ else none,
    username := if c.usernameFlag then some c.username else none,
    password := if c.passwordFlag then some c.password else none }

/-- the packet a message object stands for (its fields as an MQTT packet) -/
def absMsg : Msg → Wire.Packet
  | .connect _ c =>
    .connect {
      level := c.version, clean := c.cleanSession, keepAlive := UInt16.ofNat c.keepAlive, clientId := c.clientID,
      will := if c.willFlag then some ⟨c.willTopic, c.willMessage, UInt8.ofNat c.willQos, c.willRetain⟩ else none,
      username := if c.usernameFlag then some c.username else none,
      password := if c.passwordFlag then some c.password else none }
  | .connack _ sp rc => .connack sp rc
  | .publish h topic payload =>
    .publish (pubDup h) (UInt8.ofNat (pubQoS h)) (pubRetain h) topic (if pubQoS h = 0 then 0 else u16of h.pid) payload
  | .ack h =>
    if h.type = 4 then .puback (u16of h.pid)
    else if h.type = 5 then .pubrec (u16of h.pid)
    else if h.type = 6 then .pubrel (u16of h.pid)
    else if h.type = 7 then .pubcomp (u16of h.pid)
    else .unsuback (u16of h.pid)
  | .subscribe h ts qs => .subscribe (u16of h.pid) (ts.zip qs)
  | .suback h codes => .suback (u16of h.pid) codes
  | .unsubscribe h ts => .unsubscribe (u16of h.pid) ts
  | .bare h => if h.type = 12 then .pingreq else if h.type = 13 then .pingresp else .disconnect

theorem beU16_ofNat {n : Nat} (h : n < 65536) : beU16 (UInt8.ofNat (n / 256)) (UInt8.ofNat (n % 256)) = n := by
  unfold beU16; rw [u8_ofNat_toNat (by omega), u8_ofNat_toNat (by omega)]; omega

theorem u16of_u16 (id : UInt16) : u16of (Wire.u16 id) = id := by
  show UInt16.ofNat (beU16 _ _) = id
  rw [beU16_ofNat id.toNat_lt]
  simp

theorem u16_u16of (a b : UInt8) : Wire.u16 (u16of [a, b]) = [a, b] := by
  have ha := a.toNat_lt
  have hb := b.toNat_lt
  have e : (UInt16.ofNat (a.toNat * 256 + b.toNat)).toNat = a.toNat * 256 + b.toNat := by simp; omega
  show [UInt8.ofNat ((UInt16.ofNat (a.toNat * 256 + b.toNat)).toNat / 256),
    UInt8.ofNat ((UInt16.ofNat (a.toNat * 256 + b.toNat)).toNat % 256)] = _
  rw [e, show (a.toNat * 256 + b.toNat) / 256 = a.toNat by omega, show (a.toNat * 256 + b.toNat) % 256 = b.toNat by omega]
  simp

def encFilters (fs : List (Bytes × UInt8)) : Bytes := fs.flatMap (fun f => Wire.str f.1 ++ [f.2])

theorem encFilters_cons (f : Bytes × UInt8) (fs : List (Bytes × UInt8)) :
    encFilters (f :: fs) = Wire.str f.1 ++ (f.2 :: encFilters fs) := by
  simp [encFilters, List.flatMap_cons]

def encTopics (fs : List Bytes) : Bytes := fs.flatMap Wire.str

theorem encTopics_cons (f : Bytes) (fs : List Bytes) : encTopics (f :: fs) = Wire.str f ++ encTopics fs := by
  simp [encTopics, List.flatMap_cons]

def willBytes : Option Wire.Will → Bytes
  | some w => Wire.str w.topic ++ Wire.str w.message
  | none => []

theorem connect_body_eq (c : Wire.Connect) :
    (Wire.Packet.connect c).body =
      Wire.str (Wire.protoName c.level) ++ (c.level :: UInt8.ofNat c.flags :: (Wire.u16 c.keepAlive ++
        (Wire.str c.clientId ++ (willBytes c.will ++ (Wire.optStr c.username ++ (Wire.optStr c.password ++ [])))))) := by
  obtain ⟨level, clean, ka, cid, will, un, pw⟩ := c
  cases will <;> simp [Wire.Packet.body, willBytes]

theorem validTopic_of_topicNameOk (t : Bytes) (h : Wire.topicNameOk t = true) : validTopic t = true := by
  unfold Wire.topicNameOk at h
  unfold validTopic
  simp only [Bool.and_eq_true, Bool.not_eq_true', decide_eq_true_eq] at h ⊢
  refine ⟨⟨?_, h.1.2⟩, h.2⟩
  cases t with
  | nil => simp at h
  | cons a r => simp

/-- the fields of the flags nibble of PUBLISH (table 2.2), read back from their sum: checked on every combination -/
theorem pubFlags_fields : ∀ (dup ret : Bool) (q : Fin 3),
    let F := Wire.b2n dup * 8 + q.val * 2 + Wire.b2n ret
    F < 16 ∧ F / 2 % 4 = q.val ∧ (F / 8 % 2 = 1 ↔ dup = true) ∧ (F % 2 = 1 ↔ ret = true) := by
  decide

theorem wf_publish {dup ret : Bool} {qos : UInt8} {topic payload : Bytes} {id : UInt16}
    (h : Wire.WF (.publish dup qos ret topic id payload)) :
    qos.toNat ≤ 2 ∧ topic.length ≤ 65535 ∧ Wire.topicNameOk topic = true ∧ (if qos = 0 then id = 0 else id ≠ 0) ∧
      2 + topic.length + (if qos = 0 then 0 else 2) + payload.length ≤ 268435455 := by
  unfold Wire.WF Wire.wf at h
  simp only [Bool.and_eq_true, decide_eq_true_eq, Wire.strOk, Wire.maxRemaining] at h
  obtain ⟨⟨⟨⟨hq, hts⟩, htn⟩, hid⟩, hl⟩ := h
  refine ⟨hq, hts, htn, ?_, of_decide_eq_true hl⟩
  by_cases h0 : qos = 0
  · rw [if_pos h0] at hid ⊢; exact of_decide_eq_true hid
  · rw [if_neg h0] at hid ⊢; exact of_decide_eq_true hid

theorem wf_connack {sp : Bool} {rc : UInt8} (h : Wire.WF (.connack sp rc)) : rc.toNat ≤ 5 :=
  of_decide_eq_true h

theorem wf_suback {id : UInt16} {codes : List UInt8} (h : Wire.WF (.suback id codes)) :
    (codes.all fun c => c = 0 || c = 1 || c = 2 || c = 0x80) = true ∧ 2 + codes.length ≤ 268435455 := by
  unfold Wire.WF Wire.wf at h
  simp only [Bool.and_eq_true, decide_eq_true_eq, Wire.maxRemaining] at h
  refine ⟨?_, of_decide_eq_true h.2⟩
  rw [List.all_eq_true]
  intro c hc
  simpa [Wire.returnCodeOk] using List.all_eq_true.mp h.1.2 c hc

theorem wf_subscribe {id : UInt16} {fs : List (Bytes × UInt8)} (h : Wire.WF (.subscribe id fs)) :
    fs ≠ [] ∧ (∀ f ∈ fs, f.1.length ≤ 65535) ∧ (Wire.Packet.subscribe id fs).body.length ≤ 268435455 := by
  unfold Wire.WF Wire.wf at h
  simp only [Bool.and_eq_true, decide_eq_true_eq, Wire.strOk, Wire.maxRemaining] at h
  obtain ⟨⟨⟨_, hne⟩, hall⟩, hl⟩ := h
  refine ⟨fun e => by rw [e] at hne; simp at hne, fun f hf => ?_, of_decide_eq_true hl⟩
  have := List.all_eq_true.mp hall f hf
  simp only [Bool.and_eq_true, decide_eq_true_eq] at this
  exact this.1

theorem wf_unsubscribe {id : UInt16} {fs : List Bytes} (h : Wire.WF (.unsubscribe id fs)) :
    fs ≠ [] ∧ (∀ f ∈ fs, f.length ≤ 65535) ∧ (Wire.Packet.unsubscribe id fs).body.length ≤ 268435455 := by
  unfold Wire.WF Wire.wf at h
  simp only [Bool.and_eq_true, decide_eq_true_eq, Wire.maxRemaining] at h
  obtain ⟨⟨⟨_, hne⟩, hall⟩, hl⟩ := h
  exact ⟨fun e => by rw [e] at hne; simp at hne,
    fun f hf => by simpa [Wire.strOk] using List.all_eq_true.mp hall f hf, of_decide_eq_true hl⟩

theorem wf_connect {c : Wire.Connect} (h : Wire.WF (.connect c)) :
    (c.level = 3 ∨ c.level = 4) ∧ Wire.clientIdOk c.clientId c.clean = true ∧
    (∀ w, c.will = some w → w.topic.length ≤ 65535 ∧ w.message.length ≤ 65535 ∧ w.qos.toNat ≤ 2) ∧
    (∀ u, c.username = some u → u.length ≤ 65535) ∧ (∀ p, c.password = some p → p.length ≤ 65535) := by
  unfold Wire.WF Wire.wf at h
  simp only [Bool.and_eq_true, Bool.or_eq_true, decide_eq_true_eq] at h
  obtain ⟨⟨⟨⟨hlev, hcid⟩, hwill⟩, hun⟩, hpw⟩ := h
  refine ⟨hlev, hcid, fun w hw => ?_, fun u hu => ?_, fun p hp => ?_⟩
  · rw [hw] at hwill
    simp only [Bool.and_eq_true, decide_eq_true_eq, Wire.strOk] at hwill
    exact ⟨hwill.1.1, hwill.1.2, hwill.2⟩
  · rw [hu] at hun; simpa [Wire.strOk] using hun
  · rw [hp] at hpw
    simp only [Bool.and_eq_true, decide_eq_true_eq, Wire.strOk] at hpw
    exact hpw.1

theorem validClientID_of_ok (cid : Bytes) (clean : Bool) (h : Wire.clientIdOk cid clean = true) :
    cid.length ≤ 32 ∧ (cid.length > 0 → validClientID cid = true) ∧ ¬ (cid.length = 0 ∧ clean = false) := by
  unfold Wire.clientIdOk at h
  simp only [Bool.and_eq_true, decide_eq_true_eq, Bool.or_eq_true, Bool.not_eq_true'] at h
  obtain ⟨⟨h1, h2⟩, h3⟩ := h
  refine ⟨h1, ?_, ?_⟩
  · intro _
    unfold validClientID
    simp only [Bool.and_eq_true, facts_clientIDMaxLen]
    refine ⟨decide_eq_true h1, ?_⟩
    rw [List.all_eq_true] at h2 ⊢
    intro b hb
    have := h2 b hb
    unfold Wire.printable at this
    simp only [Bool.and_eq_true, decide_eq_true_eq] at this ⊢
    exact ⟨this.1, this.2⟩
  · intro ⟨e1, e2⟩
    rcases h3 with h3 | h3
    · cases cid with
      | nil => simp at h3
      | cons a r => simp at e1
    · rw [h3] at e2; cases e2

theorem connect_body_le (c : Wire.Connect) (hwf : Wire.WF (.connect c)) :
    (Wire.Packet.connect c).body.length ≤ 268435455 := by
  obtain ⟨hlev, hcid, hwill, hun, hpw⟩ := wf_connect hwf
  obtain ⟨hc1, _, _⟩ := validClientID_of_ok _ _ hcid
  rw [connect_body_eq]
  have hnl : (Wire.protoName c.level).length ≤ 6 := by
    rcases hlev with h | h <;> rw [h] <;> decide
  have hw : (willBytes c.will).length ≤ 131074 := by
    cases hw : c.will with
    | none => decide
    | some w =>
      have := hwill w hw
      show (Wire.str w.topic ++ Wire.str w.message).length ≤ _
      rw [List.length_append, str_length, str_length]; omega
  have hu : (Wire.optStr c.username).length ≤ 65537 := by
    cases hw : c.username with
    | none => decide
    | some w => have := hun w hw; show (Wire.str w).length ≤ _; rw [str_length]; omega
  have hp : (Wire.optStr c.password).length ≤ 65537 := by
    cases hw : c.password with
    | none => decide
    | some w => have := hpw w hw; show (Wire.str w).length ≤ _; rw [str_length]; omega
  simp only [List.length_append, List.length_cons, str_length, List.length_nil]
  have : (Wire.u16 c.keepAlive).length = 2 := rfl
  omega

theorem packet_type_le (p : Wire.Packet) : 1 ≤ p.type ∧ p.type ≤ 14 := by
  cases p <;> simp [Wire.Packet.type]

theorem packet_flags_lt (p : Wire.Packet) (hwf : Wire.WF p) : p.flags < 16 := by
  cases p with
  | publish dup qos ret topic id payload => exact (pubFlags_fields dup ret ⟨_, Nat.lt_succ_of_le (wf_publish hwf).1⟩).1
  | _ => simp only [Wire.Packet.flags]; omega

theorem packet_tf (p : Wire.Packet) (hwf : Wire.WF p) :
    (UInt8.ofNat (p.type * 16 + p.flags)).toNat = p.type * 16 + p.flags ∧
    (UInt8.ofNat (p.type * 16 + p.flags)).toNat / 16 = p.type ∧
    (UInt8.ofNat (p.type * 16 + p.flags)).toNat % 16 = p.flags := by
  have := (packet_type_le p).2
  have := packet_flags_lt p hwf
  rw [u8_ofNat_toNat (by omega)]
  omega

theorem packet_body_le (p : Wire.Packet) (hwf : Wire.WF p) : p.body.length ≤ 268435455 := by
  cases p with
  | connect c => exact connect_body_le c hwf
  | publish dup qos ret topic id payload =>
    obtain ⟨_, _, _, _, hl⟩ := wf_publish hwf
    show (Wire.str topic ++ (if qos = 0 then [] else Wire.u16 id) ++ payload).length ≤ _
    rw [List.length_append, List.length_append, str_length]
    by_cases h0 : qos = 0
    · rw [if_pos h0] at hl ⊢; exact hl
    · rw [if_neg h0] at hl ⊢; exact hl
  | subscribe id fs => exact (wf_subscribe hwf).2.2
  | suback id codes => have := (wf_suback hwf).2; show (Wire.u16 id ++ codes).length ≤ _; rw [List.length_append]; exact this
  | unsubscribe id fs => exact (wf_unsubscribe hwf).2.2
  | _ => simp [Wire.Packet.body, Wire.u16]

end Mqtt.Proofs.Codec
