/-
Tie between the regenerated translation of `sessions/ackqueue.go` and the model
`Model/AckQueue.lean`: the map abstraction, the small accessors, `removeHead`, `grow` (their statements:
`RemoveHeadSpec`, `GrowSpec` in `XlateAckqBase.lean`) and `newAckqueue`; `insert`, `Wait`, `Ack`, `Acked` are in
`XlateAckqOps.lean`.

The translation has `int64` fields where the model has naturals.  The ties are proved for `Rep aq q` ("`aq` represents
`q`": each `int64` field is the cast of `q`'s) with `q` a variable; the proofs rewrite with its fields first, so that the
bound checks of the translation become facts about naturals, which `Inv q` decides.  The statements over `absQ`/`GWf`
are the instances `q := absQ aq`: enter by `Rep.of_wf hw`, leave by `r.abs` and `r.wf`.
-/
import Mqtt.Proofs.XlateAckqBase
import Mqtt.Proofs.XlatePow2
import Mqtt.Proofs.XlateBasic

namespace Mqtt.Proofs.XlateAckq

open Mqtt.Generated.Xlate
open Mqtt.Model.AckQueue
open Mqtt.Proofs.AckQueue (Inv growFront growFront_map grow_eq_growFront)
open Mqtt.Proofs.XlatePow2
open Mqtt.Proofs.Xlate (u16_beq u16_bne beq_toNat toNat_add_one)

/-- a translated `map[uint16]int64` as the model's association list -/
def absMap (m : List (UInt16 × Int)) : List (Nat × Nat) := m.map (fun p => (p.1.toNat, p.2.toNat))

theorem absQ_emap (aq : Sessions.Ackqueue) : (absQ aq).emap = absMap aq.emap := rfl

theorem absMap_nil : absMap [] = [] := rfl

theorem absMap_cons (k : UInt16) (v : Int) (m : List (UInt16 × Int)) :
    absMap ((k, v) :: m) = (k.toNat, v.toNat) :: absMap m := rfl

theorem absMap_get (m : List (UInt16 × Int)) (k : UInt16) :
    emapGet (absMap m) k.toNat = (Go.mapGet m k).map Int.toNat := by
  induction m with
  | nil => rfl
  | cons p m ih =>
    unfold emapGet Go.mapGet at *
    rw [absMap_cons, List.lookup_cons, List.lookup_cons, ← u16_beq]
    cases (k == p.1)
    · exact ih
    · rfl

theorem absMap_del (m : List (UInt16 × Int)) (k : UInt16) :
    absMap (Go.mapDel m k) = emapDel (absMap m) k.toNat := by
  induction m with
  | nil => rfl
  | cons p m ih =>
    unfold emapDel Go.mapDel at *
    rw [absMap_cons, List.filter_cons, List.filter_cons, ← u16_bne]
    cases (p.1 != k)
    · exact ih
    · exact congrArg (_ :: ·) ih

theorem absMap_set (m : List (UInt16 × Int)) (k : UInt16) (v : Int) :
    absMap (Go.mapSet m k v) = emapSet (absMap m) k.toNat v.toNat :=
  congrArg (_ :: ·) (absMap_del m k)

/-- by definition the `emap` field of `GWf` (`hw.emap` is passed where `MapNonneg` is asked for) -/
def MapNonneg (m : List (UInt16 × Int)) : Prop := ∀ p ∈ m, 0 ≤ p.2

theorem GWf.mapNonneg {aq : Sessions.Ackqueue} (h : GWf aq) : MapNonneg aq.emap := h.emap

theorem mapNonneg_nil : MapNonneg [] := fun _ hp => nomatch hp

theorem mapDel_nonneg {m : List (UInt16 × Int)} (h : MapNonneg m) (k : UInt16) :
    MapNonneg (Go.mapDel m k) :=
  fun p hp => h p (List.mem_filter.mp hp).1

theorem mapSet_nonneg {m : List (UInt16 × Int)} (h : MapNonneg m) (k : UInt16) {v : Int}
    (hv : 0 ≤ v) : MapNonneg (Go.mapSet m k v) := by
  intro p hp
  rcases List.mem_cons.mp hp with rfl | hp
  · exact hv
  · exact mapDel_nonneg h k p hp

theorem mapGet_nonneg {m : List (UInt16 × Int)} (h : MapNonneg m) {k : UInt16} {i : Int}
    (hg : Go.mapGet m k = some i) : 0 ≤ i :=
  h (k, i) (List.mem_of_lookup hg)

theorem absMap_get_some {m : List (UInt16 × Int)} {k : UInt16} {i : Int}
    (hg : Go.mapGet m k = some i) : emapGet (absMap m) k.toNat = some i.toNat := by
  rw [absMap_get, hg]; rfl

theorem absMap_get_none {m : List (UInt16 × Int)} {k : UInt16}
    (hg : Go.mapGet m k = none) : emapGet (absMap m) k.toNat = none := by
  rw [absMap_get, hg]; rfl

theorem absMsg_zero' :
    absMsg (⟨(0 : UInt8), (0 : UInt8), (0 : UInt16), ([] : List UInt8), ([] : List UInt8), (0 : Nat)⟩ : Sessions.AckMsg)
      = AckMsg.zero := rfl

theorem map_getD_absMsg (l : List Sessions.AckMsg) (i : Nat) :
    (l.map absMsg).getD i AckMsg.zero = absMsg (l.getD i Sessions.AckMsg.zero) := by
  rw [List.getD_eq_getElem?_getD, List.getD_eq_getElem?_getD, List.getElem?_map]
  cases l[i]? <;> rfl

/-- `GWf` does not look at `pings`, `ring`, `ackdone` -/
theorem GWf.same {aq aq' : Sessions.Ackqueue} (hw : GWf aq) (h1 : aq'.size = aq.size := by rfl)
    (h2 : aq'.mask = aq.mask := by rfl) (h3 : aq'.count = aq.count := by rfl) (h4 : aq'.head = aq.head := by rfl)
    (h5 : aq'.tail = aq.tail := by rfl) (h6 : aq'.emap = aq.emap := by rfl) : GWf aq' :=
  ⟨h1 ▸ hw.size, h2 ▸ hw.mask, h3 ▸ hw.count, h4 ▸ hw.head, h5 ▸ hw.tail, h6 ▸ hw.emap⟩

/-- `aq` represents the model queue `q`: every `int64` field is the cast of `q`'s natural, the slices are `q`'s through
`absMsg`, the map is `q`'s through `absMap` and holds no negative index.  This is `GWf aq ∧ absQ aq = q` (`Rep.of_wf`,
`Rep.wf`, `Rep.abs`), field by field, so that an assignment `aq.x = e` of the Go code is met by `{ r with x := … }`, and
with `q` a variable, so that `Inv q` is arithmetic on naturals and two ties compose without transport. -/
structure Rep (aq : Sessions.Ackqueue) (q : Q) : Prop where
  size   : aq.size = q.size
  mask   : aq.mask = q.mask
  count  : aq.count = q.count
  head   : aq.head = q.head
  tail   : aq.tail = q.tail
  pings  : aq.pings.map absMsg = q.pings
  ring   : aq.ring.map absMsg = q.ring
  emap   : absMap aq.emap = q.emap
  nonneg : MapNonneg aq.emap

variable {aq : Sessions.Ackqueue} {q : Q}

theorem Rep.of_wf (hw : GWf aq) : Rep aq (absQ aq) :=
  ⟨(Int.toNat_of_nonneg hw.size).symm, (Int.toNat_of_nonneg hw.mask).symm, (Int.toNat_of_nonneg hw.count).symm,
   (Int.toNat_of_nonneg hw.head).symm, (Int.toNat_of_nonneg hw.tail).symm, rfl, rfl, rfl, hw.emap⟩

theorem Rep.wf (r : Rep aq q) : GWf aq :=
  ⟨r.size ▸ Int.natCast_nonneg _, r.mask ▸ Int.natCast_nonneg _, r.count ▸ Int.natCast_nonneg _,
   r.head ▸ Int.natCast_nonneg _, r.tail ▸ Int.natCast_nonneg _, r.nonneg⟩

theorem Rep.abs (r : Rep aq q) : absQ aq = q := by
  cases q
  obtain ⟨hs, hm, hc, hh, ht, rfl, rfl, rfl, _⟩ := r
  dsimp only at hs hm hc hh ht
  rw [absQ, hs, hm, hc, hh, ht]
  rfl

theorem Rep.get (r : Rep aq q) (i : Nat) : q.get i = absMsg (aq.ring.getD i Sessions.AckMsg.zero) := by
  rw [Q.get, ← r.ring]; exact map_getD_absMsg aq.ring i

theorem Rep.len (r : Rep aq q) (hi : Inv q) : aq.ring.length = q.size :=
  (List.length_map absMsg).symm.trans (r.ring ▸ hi.len)

theorem Rep.full (r : Rep aq q) : Sessions.Ackqueue.full aq = q.full :=
  (beq_toNat r.wf.count r.wf.size).trans (by rw [r.count, r.size]; rfl)

theorem Rep.empty (r : Rep aq q) : Sessions.Ackqueue.empty aq = q.empty :=
  (beq_toNat r.wf.count (Int.le_refl 0)).trans (by rw [r.count]; rfl)

theorem Rep.index (r : Rep aq q) (hi : Inv q) (hs : q.size ≤ 2 ^ 62) (n : Int) (hn : 0 ≤ n ∧ n < 2 ^ 63) :
    Sessions.Ackqueue.index aq n = ((q.index n.toNat : Nat) : Int) := by
  obtain ⟨n, rfl⟩ := Int.eq_ofNat_of_zero_le hn.1
  have := hi.mask
  rw [Sessions.Ackqueue.index, r.mask, andInt_natCast n _ (by omega) (by omega)]
  rfl

/-- `increment(n)` is `index(n + 1)` by definition, on both sides -/
theorem Rep.increment (r : Rep aq q) (hi : Inv q) (hs : q.size ≤ 2 ^ 62) (n : Int) (hn : 0 ≤ n ∧ n < 2 ^ 63 - 1) :
    Sessions.Ackqueue.increment aq n = ((q.increment n.toNat : Nat) : Int) :=
  (r.index hi hs (n + 1) (by omega)).trans (by rw [toNat_add_one hn.1]; rfl)

theorem Rep.in_range (r : Rep aq q) (hi : Inv q) {n : Nat} (hn : n < q.size) :
    (decide (0 ≤ (n : Int)) && decide ((n : Int).toNat < aq.ring.length)) = true := by
  rw [r.len hi, decide_eq_true (Int.natCast_nonneg n), decide_eq_true (show (n : Int).toNat < q.size from hn)]; rfl

theorem removeHead_rep (r : Rep aq q) (hi : Inv q) (hs : q.size ≤ 2 ^ 62) :
    ∃ aq', Sessions.Ackqueue.removeHead aq = .ok (aq', if q.empty then Err.var "errQueueEmpty" else Err.nil) ∧
      Rep aq' q.removeHead ∧ aq'.ackdone = aq.ackdone := by
  unfold Sessions.Ackqueue.removeHead
  rw [r.empty, Q.removeHead, r.head, r.count]
  cases he : q.empty
  · have hb := r.in_range hi hi.head
    rw [if_neg Bool.false_ne_true, if_pos hb, if_neg Bool.false_ne_true]
    extract_lets it aq1 aq2 aq3 aq4 itm
    rw [if_pos hb, if_neg Bool.false_ne_true]
    have hc : q.count ≠ 0 := beq_eq_false_iff_ne.mp he
    exact ⟨aq4, rfl,
      { r with
        ring := (List.map_set ..).trans (r.ring ▸ rfl)
        head := r.increment hi hs q.head ⟨Int.natCast_nonneg _, by have := hi.head; omega⟩
        count := show (q.count : Int) - 1 = ((q.count - 1 : Nat) : Int) by omega
        emap := (absMap_del ..).trans (r.emap ▸ congrArg (emapDel _ ·) (congrArg AckMsg.pktid (r.get q.head).symm))
        nonneg := mapDel_nonneg r.nonneg _ }, rfl⟩
  · exact ⟨aq, rfl, r, rfl⟩

theorem removeHead_is_source : RemoveHeadSpec := fun aq hw hi hs =>
  have ⟨aq', h, r, d⟩ := removeHead_rep (.of_wf hw) hi (by show aq.size.toNat ≤ _; omega)
  ⟨aq', h, r.abs, r.wf, d⟩

/-- the map after the iterations `i, …, i+n-1` of `for i < aq.tail` in `grow` -/
def growFold (ring : List Sessions.AckMsg) (m0 : List (UInt16 × Int)) (i n : Nat) : List (UInt16 × Int) :=
  (List.range' i n).foldl
    (fun m j => Go.mapSet m (ring.getD j Sessions.AckMsg.zero).Pktid ((j : Nat) : Int)) m0

theorem growFold_zero (ring : List Sessions.AckMsg) (m0 : List (UInt16 × Int)) (i : Nat) :
    growFold ring m0 i 0 = m0 := rfl

theorem growFold_succ (ring : List Sessions.AckMsg) (m0 : List (UInt16 × Int)) (i n : Nat) :
    growFold ring m0 i (n + 1) =
      growFold ring (Go.mapSet m0 (ring.getD i Sessions.AckMsg.zero).Pktid ((i : Nat) : Int)) (i + 1) n := rfl

theorem grow_loop1 (n : Nat) : ∀ (fuel : Nat) (aq : Sessions.Ackqueue) (i : Nat),
    aq.tail = ((i + n : Nat) : Int) → i + n ≤ aq.ring.length → n + 1 ≤ fuel →
    Sessions.Ackqueue.grow.loop1 fuel aq i = .ok { aq with emap := growFold aq.ring aq.emap i n } := by
  induction n with
  | zero =>
    intro fuel aq i ht hl hf
    obtain ⟨f, rfl⟩ : ∃ f, fuel = f + 1 := ⟨fuel - 1, by omega⟩
    rw [Sessions.Ackqueue.grow.loop1, if_neg (by rw [decide_eq_true_eq, ht]; omega)]
    rfl
  | succ n ih =>
    intro fuel aq i ht hl hf
    obtain ⟨f, rfl⟩ : ∃ f, fuel = f + 1 := ⟨fuel - 1, by omega⟩
    rw [Sessions.Ackqueue.grow.loop1, if_pos (by rw [decide_eq_true_eq, ht]; omega),
      if_pos (by rw [decide_eq_true_eq]; omega)]
    exact ih f _ (i + 1) (ht.trans (congrArg Nat.cast (by omega))) (show i + 1 + n ≤ aq.ring.length by omega)
      (by omega)

theorem absMap_growFold (ring : List Sessions.AckMsg) (n : Nat) : ∀ (m0 : List (UInt16 × Int)) (i : Nat),
    absMap (growFold ring m0 i n) =
      (List.range' i n).foldl
        (fun m j => emapSet m ((ring.map absMsg).getD j AckMsg.zero).pktid j) (absMap m0) := by
  induction n with
  | zero => intro m0 i; rfl
  | succ n ih =>
    intro m0 i
    rw [growFold_succ, ih, absMap_set, List.range'_succ, List.foldl_cons, map_getD_absMsg]
    rfl

theorem growFold_nonneg (ring : List Sessions.AckMsg) (n : Nat) : ∀ (m0 : List (UInt16 × Int)) (i : Nat),
    MapNonneg m0 → MapNonneg (growFold ring m0 i n) := by
  induction n with
  | zero => intro m0 i h; exact h
  | succ n ih => intro m0 i h; exact ih _ _ (mapSet_nonneg h _ (Int.natCast_nonneg i))

/-- `copy(dst, F)` into `N` zero values -/
theorem copy_one {α : Type} (F : List α) (N : Nat) (z : α) (h : F.length ≤ N) :
    F.take (List.replicate N z).length ++ (List.replicate N z).drop F.length
      = F ++ List.replicate (N - F.length) z := by
  rw [List.length_replicate, List.take_of_length_le h, List.drop_replicate]

/-- `copy(dst[a:], B)` where `dst` is `A` (of length `a`) followed by zero values -/
theorem copy_two {α : Type} (A B : List α) (N a : Nat) (z : α) (ha : A.length = a)
    (h : a + B.length ≤ N) :
    (A ++ List.replicate (N - a) z).take a ++
        (B.take ((A ++ List.replicate (N - a) z).length - a) ++
          (A ++ List.replicate (N - a) z).drop (a + B.length))
      = (A ++ B) ++ List.replicate (N - (A ++ B).length) z := by
  subst ha
  rw [List.take_left, List.length_append, List.length_replicate,
    List.take_of_length_le (by omega), List.drop_append, List.drop_of_length_le (by omega),
    List.drop_replicate, List.length_append, List.append_assoc, List.nil_append]
  congr 3; omega

/-- `grow` up to the point where the ring has been copied -/
theorem grow_copies (r : Rep aq q) (hi : Inv q) (hs : q.size ≤ 2 ^ 61) :
    Sessions.Ackqueue.grow aq = Sessions.Ackqueue.grow.join1 aq ((q.size * 2 : Nat) : Int) ((q.size * 2 : Nat) - 1)
      (growFront aq.ring q.head q.tail ++
        List.replicate (q.size * 2 - (growFront aq.ring q.head q.tail).length) Sessions.AckMsg.zero) := by
  have hH := hi.head
  have hT := Mqtt.Proofs.AckQueue.tail_lt hi
  have hlen := r.len hi
  unfold Sessions.Ackqueue.grow growFront
  rw [r.size, r.head, r.tail]
  simp -zeta only [Int.toNat_natCast, Int.toNat_sub]
  extract_lets newsize newmask newring nr1 nr2 nr3
  have hns : newsize = ((q.size * 2 : Nat) : Int) := (Int.natCast_mul q.size 2).symm
  have hnr : newring = List.replicate (q.size * 2) Sessions.AckMsg.zero :=
    congrArg (fun n : Int => List.replicate n.toNat Sessions.AckMsg.zero) hns
  rw [if_neg (by rw [decide_eq_true_eq]; omega), if_pos (by rw [decide_eq_true_eq]; omega)]
  by_cases hth : q.tail > q.head
  · have e1 : nr1 = (aq.ring.drop q.head).take (q.tail - q.head) ++
        List.replicate (q.size * 2 - ((aq.ring.drop q.head).take (q.tail - q.head)).length) Sessions.AckMsg.zero :=
      (congrArg (fun r => List.take r.length _ ++ List.drop _ r) hnr).trans
      (copy_one _ _ _ (by rw [List.length_take, List.length_drop]; omega))
    rw [if_pos (by rw [decide_eq_true_eq]; omega), if_pos (by simp only [xlate]; omega),
      if_pos hth, e1, hns]
    rfl
  · have hA : (aq.ring.drop q.head).length = q.size - q.head := by rw [List.length_drop, hlen]
    have e2 : nr2 = aq.ring.drop q.head ++
        List.replicate (q.size * 2 - (aq.ring.drop q.head).length) Sessions.AckMsg.zero :=
      (congrArg (fun r => List.take r.length _ ++ List.drop _ r) hnr).trans
      (copy_one _ _ _ (by omega))
    have e3 : nr3 = (aq.ring.drop q.head ++ aq.ring.take q.tail) ++
        List.replicate (q.size * 2 - (aq.ring.drop q.head ++ aq.ring.take q.tail).length) Sessions.AckMsg.zero :=
      (congrArg (fun r => List.take _ r ++ (List.take (r.length - _) _ ++ List.drop _ r)) (hA ▸ e2)).trans
        (copy_two _ _ _ _ _ hA (by rw [List.length_take]; omega))
    rw [if_neg (by rw [decide_eq_true_eq]; omega), if_pos (by simp only [xlate]; omega),
      if_pos (by simp only [Bool.and_eq_true, decide_eq_true_eq, e2, List.length_append, List.length_replicate, hA]; omega),
      if_neg hth, e3, hns]
    rfl

theorem grow_rep (r : Rep aq q) (hi : Inv q) (hs : q.size ≤ 2 ^ 61) :
    ∃ aq', Sessions.Ackqueue.grow aq = .ok aq' ∧ Rep aq' q.grow ∧ aq'.ackdone = aq.ackdone := by
  have hC := hi.cnt
  have hpos := hi.size_pos
  rw [grow_copies r hi hs, grow_eq_growFront, ← r.ring, ← growFront_map]
  unfold Sessions.Ackqueue.grow.join1
  extract_lets aq1 aq2 aq3 aq4 aq5 aq6 i
  have hlen : q.count ≤ aq6.ring.length := by
    show _ ≤ List.length (_ ++ _)
    rw [List.length_append, List.length_replicate]; omega
  rw [grow_loop1 q.count _ aq6 0 (r.count.trans (congrArg Nat.cast (Nat.zero_add _).symm)) (by rw [Nat.zero_add]; exact hlen)
    (by show q.count + 1 ≤ (aq.count - ((0 : Nat) : Int)).toNat + 2; rw [r.count]; omega)]
  have hring : aq6.ring.map absMsg = _ := (List.map_append ..).trans (congrArg (_ ++ ·) (List.map_replicate ..))
  exact ⟨_, rfl,
    { size := rfl
      mask := show ((q.size * 2 : Nat) : Int) - 1 = ((q.size * 2 - 1 : Nat) : Int) by omega
      count := r.count, head := rfl, tail := r.count, pings := r.pings
      ring := hring.trans (by rw [List.length_map]; rfl)
      emap := (absMap_growFold ..).trans (by rw [hring, List.length_map]; rfl)
      nonneg := growFold_nonneg _ _ _ _ mapNonneg_nil }, rfl⟩

theorem grow_is_source : GrowSpec := fun aq hw hi hs =>
  have ⟨aq', h, r, d⟩ := grow_rep (.of_wf hw) hi (by show aq.size.toNat ≤ _; omega)
  ⟨aq', h, r.abs, r.wf, d⟩

theorem newAckqueue_size (n : Int) (hn : 0 < n ∧ n ≤ 2 ^ 62) :
    ∃ m : Nat, 0 < m ∧ (if (!(Sessions.powerOfTwo64 n)) then Sessions.roundUpPowerOfTwo64 n else n) = (m : Int) ∧
      (if Mqtt.Model.AckQueue.powerOfTwo64 (BitVec.ofNat 64 n.toNat) then BitVec.ofNat 64 n.toNat
        else Mqtt.Model.AckQueue.roundUpPowerOfTwo64 (BitVec.ofNat 64 n.toNat)).toNat = m := by
  obtain ⟨N, rfl⟩ := Int.eq_ofNat_of_zero_le (Int.le_of_lt hn.1)
  rw [Int.toNat_natCast, ← BitVec.ofInt_natCast, ← powerOfTwo64_is_source _ (by omega), BitVec.ofInt_natCast]
  cases Sessions.powerOfTwo64 (N : Int)
  · obtain ⟨k, h1, h2, hg, hm⟩ := roundUp_pos N (by omega)
    exact ⟨2 ^ k, Nat.two_pow_pos k, hg, by
      rw [if_neg Bool.false_ne_true, hm, BitVec.toNat_ofNat]; exact Nat.mod_eq_of_lt (by omega)⟩
  · exact ⟨N, by omega, rfl, by rw [if_pos rfl, BitVec.toNat_ofNat]; exact Nat.mod_eq_of_lt (by omega)⟩

theorem newAckqueue_rep (n : Int) (hn : 0 < n ∧ n ≤ 2 ^ 62) :
    ∃ aq, Sessions.newAckqueue n = .ok aq ∧ Rep aq (Mqtt.Model.AckQueue.newAckqueue n.toNat) := by
  obtain ⟨m, h0, hg, hm⟩ := newAckqueue_size n hn
  unfold Sessions.newAckqueue Mqtt.Model.AckQueue.newAckqueue
  extract_lets m1 m2 b1 b2 b3 b4
  have e2 : b1 = (m : Int) := hg
  have e3 : b4 = m := hm
  rw [e2, e3, if_pos (decide_eq_true (Int.natCast_nonneg m))]
  exact ⟨_, rfl, ⟨rfl, show (m : Int) - 1 = ((m - 1 : Nat) : Int) by omega, rfl, rfl, rfl, rfl, List.map_replicate ..,
    rfl, mapNonneg_nil⟩⟩

/-- outside the precondition (`n ≤ 0`, e.g. the zero `int`): both constructors build the empty
ring of size 0; the model's `mask` is `0 - 1 = 0` on `Nat`, the code's is `-1`, so the
translated value is not `GWf` (and `Inv` fails: 0 is not a power of two). -/
theorem newAckqueue_zero :
    Sessions.newAckqueue 0 = .ok ⟨0, -1, 0, 0, 0, [], [], [], []⟩ ∧
      absQ ⟨0, -1, 0, 0, 0, [], [], [], []⟩ = Mqtt.Model.AckQueue.newAckqueue 0 ∧
      ¬ GWf ⟨0, -1, 0, 0, 0, [], [], [], []⟩ :=
  ⟨by decide, by decide, fun h => absurd h.mask (by decide)⟩

theorem newAckqueue_nonpos (n : Int) (h : -2 ^ 63 < n ∧ n ≤ 0) :
    Sessions.newAckqueue n = .ok ⟨0, -1, 0, 0, 0, [], [], [], []⟩ ∧
      Mqtt.Model.AckQueue.newAckqueue n.toNat = Mqtt.Model.AckQueue.newAckqueue 0 := by
  constructor
  · unfold Sessions.newAckqueue
    dsimp only
    rw [powerOfTwo64_nonpos n h, (roundUp_nonpos n h).1]
    rfl
  · rw [Int.toNat_eq_zero.mpr h.2]

end Mqtt.Proofs.XlateAckq
