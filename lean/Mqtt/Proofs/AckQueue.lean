/-
The code-shaped ack queue (`Model/AckQueue`) refines the FIFO specification (`Spec/Fifo`).  The live
entries of the ring are `window q`, entry `j` in slot `slot q j`; the invariant `Inv` says that the index
map is exactly the position of each identifier in the window.  The refinement is stated per operation (`wait_refines`,
`ack_refines`, `acked_refines`, which also keep `PingsOk`); the step and run forms, with the invariant `FullInv` of a
history, stand in `Properties/C13.lean`.
-/
import Mqtt.Model.AckQueue
import Mqtt.Proofs.Basics
import Mqtt.Proofs.Fifo

namespace Mqtt.Proofs.AckQueue

open Mqtt.Generated Mqtt.Model.AckQueue Mqtt.Iface.AckQ
open Mqtt.Spec

theorem lookup_cons_ite (a b k : Nat) (m : List (Nat × Nat)) :
    List.lookup k ((a, b) :: m) = if k = a then some b else List.lookup k m := by
  rw [List.lookup_cons]
  by_cases h : k = a
  · rw [if_pos h, beq_iff_eq.mpr h]
  · rw [if_neg h, beq_eq_false_iff_ne.mpr h]

theorem emapGet_del (m : List (Nat × Nat)) (k k' : Nat) :
    emapGet (emapDel m k) k' = if k' = k then none else emapGet m k' := by
  unfold emapGet emapDel
  rw [List.lookup_filter_key m (· != k)]
  by_cases h : k' = k <;> simp [h]

theorem emapGet_set (m : List (Nat × Nat)) (k v k' : Nat) :
    emapGet (emapSet m k v) k' = if k' = k then some v else emapGet m k' := by
  have h := emapGet_del m k k'
  unfold emapGet emapSet at *
  rw [lookup_cons_ite, h]
  split <;> rfl

def slot (q : Q) (j : Nat) : Nat := (q.head + j) % q.size

def window (q : Q) : List AckMsg := (List.range q.count).map (fun j => q.get (slot q j))

structure Inv (q : Q) : Prop where
  pow    : ∃ k, q.size = 2 ^ k
  mask   : q.mask = q.size - 1
  len    : q.ring.length = q.size
  cnt    : q.count ≤ q.size
  head   : q.head < q.size
  tail   : q.tail = (q.head + q.count) % q.size
  sound  : ∀ id i, emapGet q.emap id = some i →
             ∃ j, j < q.count ∧ i = slot q j ∧ (q.get i).pktid = id
  compl  : ∀ j, j < q.count → emapGet q.emap (q.get (slot q j)).pktid = some (slot q j)

theorem Inv.size_pos {q : Q} (h : Inv q) : 0 < q.size := by
  obtain ⟨k, hk⟩ := h.pow; rw [hk]; exact Nat.two_pow_pos k

theorem Inv.index {q : Q} (h : Inv q) (n : Nat) : q.index n = n % q.size := by
  obtain ⟨k, hk⟩ := h.pow
  unfold Q.index; rw [h.mask, hk]; exact Nat.and_two_pow_sub_one_eq_mod n k

theorem slot_lt {q : Q} (h : Inv q) (j : Nat) : slot q j < q.size :=
  Nat.mod_lt _ h.size_pos

theorem slot_zero {q : Q} (h : Inv q) : slot q 0 = q.head := Nat.mod_eq_of_lt h.head

theorem slot_inj {q : Q} {a b : Nat} (ha : a < q.size) (hb : b < q.size)
    (e : slot q a = slot q b) : a = b :=
  Decidable.byContradiction fun hne =>
    Nat.mod_ne_of_ne (fun h => hne (Nat.add_left_cancel h)) (by omega) (by omega) e

theorem slot_ne {q : Q} {a b : Nat} (ha : a < q.size) (hb : b < q.size) (hab : a ≠ b) :
    slot q a ≠ slot q b := fun e => hab (slot_inj ha hb e)

theorem tail_lt {q : Q} (h : Inv q) : q.tail < q.size := by
  rw [h.tail]; exact Nat.mod_lt _ h.size_pos

theorem tail_eq_slot {q : Q} (h : Inv q) : q.tail = slot q q.count := h.tail

theorem Inv.distinct {q : Q} (h : Inv q) {a b : Nat} (ha : a < q.count) (hb : b < q.count)
    (e : (q.get (slot q a)).pktid = (q.get (slot q b)).pktid) : a = b := by
  have h1 := h.compl a ha
  rw [e, h.compl b hb] at h1
  exact (slot_inj (Nat.lt_of_lt_of_le hb h.cnt) (Nat.lt_of_lt_of_le ha h.cnt) (Option.some.inj h1)).symm

theorem at_set (q : Q) (i k : Nat) (a : AckMsg) (hi : i < q.ring.length) :
    ({ q with ring := q.ring.set i a } : Q).get k = if k = i then a else q.get k := by
  unfold Q.get
  rw [List.getD_eq_getElem?_getD, List.getD_eq_getElem?_getD, List.getElem?_set]
  by_cases hk : i = k
  · subst hk; simp [hi]
  · rw [if_neg hk, if_neg (Ne.symm hk)]

theorem window_length (q : Q) : (window q).length = q.count := by simp [window]

theorem window_getElem? (q : Q) (j : Nat) (hj : j < q.count) :
    (window q)[j]? = some (q.get (slot q j)) := by
  unfold window; rw [List.getElem?_map, List.getElem?_range hj]; rfl

theorem window_congr (q q' : Q) (hc : q'.count = q.count)
    (hs : ∀ j, j < q.count → q'.get (slot q' j) = q.get (slot q j)) :
    window q' = window q := by
  unfold window; rw [hc]
  exact List.map_congr_left fun j hj => hs j (List.mem_range.mp hj)

def toEntry (a : AckMsg) : Fifo.Entry := ⟨a.mtype, a.state, a.pktid, a.msgbuf, a.ackbuf, a.tag⟩

def abs (q : Q) : Fifo.S := ⟨(window q).map toEntry, q.pings.map toEntry⟩

/-! ### the regenerated tables are the protocol's

These are the side conditions that tie `Generated.Facts` (re-read from the Go
source on every run) to the protocol constants of the specification; when the
source changes a table, they stop checking. -/

theorem facts_terminal (t : Nat) : ackedReleaseStates.contains t = Fifo.terminal t := by
  simp only [ackedReleaseStates, Fifo.terminal, Fifo.PUBACK, Fifo.PUBREL, Fifo.PUBCOMP,
    Fifo.SUBACK, Fifo.UNSUBACK, List.contains_cons, List.contains_nil, Bool.or_false, Bool.or_assoc]

theorem facts_idack (t : Nat) : ackIdTypes.contains t = Fifo.isIdAck t := by
  simp only [ackIdTypes, Fifo.isIdAck, Fifo.PUBACK, Fifo.PUBREC, Fifo.PUBREL, Fifo.PUBCOMP,
    Fifo.SUBACK, Fifo.UNSUBACK, List.contains_cons, List.contains_nil, Bool.or_false, Bool.or_assoc]

theorem facts_types : tPUBLISH = Fifo.PUBLISH ∧ tSUBSCRIBE = Fifo.SUBSCRIBE ∧
    tUNSUBSCRIBE = Fifo.UNSUBSCRIBE ∧ tPINGREQ = Fifo.PINGREQ ∧ tPINGRESP = Fifo.PINGRESP ∧
    ackPingType = Fifo.PINGRESP := by decide

abbrev terminal := Fifo.terminal

theorem newAckqueue_default : newAckqueue defaultQueueSize =
    { size := 16, mask := 15, count := 0, head := 0, tail := 0, pings := [],
      ring := List.replicate 16 AckMsg.zero, emap := [] } := by
  decide

theorem inv_init : Inv init := by
  unfold init; rw [newAckqueue_default]
  exact ⟨⟨4, rfl⟩, rfl, rfl, by decide, by decide, rfl, fun _ _ h => (by cases h), fun _ hj => (by cases hj)⟩

theorem abs_init : abs init = Fifo.empty := by
  unfold init; rw [newAckqueue_default]; rfl

theorem any_id_iff {q : Q} (h : Inv q) (id : Nat) :
    ((abs q).q.any (fun x => x.id == id)) = (emapGet q.emap id).isSome := by
  rw [Bool.eq_iff_iff]
  simp only [abs, window, List.map_map, List.any_map, List.any_eq_true, List.mem_range,
    Function.comp_apply, toEntry, beq_iff_eq, Option.isSome_iff_exists]
  constructor
  · rintro ⟨j, hj, e⟩
    exact ⟨_, e ▸ h.compl j hj⟩
  · rintro ⟨i, hi⟩
    obtain ⟨j, hj, rfl, e⟩ := h.sound id i hi
    exact ⟨j, hj, e⟩

def push (q : Q) (am : AckMsg) : Q :=
  { q with ring := q.ring.set q.tail am,
           emap := emapSet q.emap am.pktid q.tail,
           tail := q.increment q.tail,
           count := q.count + 1 }

theorem push_at {q : Q} (h : Inv q) (am : AckMsg) (k : Nat) :
    (push q am).get k = if k = q.tail then am else q.get k :=
  at_set q q.tail k am (by rw [h.len]; exact tail_lt h)

theorem slot_ne_tail {q : Q} (h : Inv q) (hc : q.count < q.size) {j : Nat} (hj : j < q.count) :
    slot q j ≠ q.tail := by
  rw [tail_eq_slot h]; exact slot_ne (Nat.lt_trans hj hc) hc (Nat.ne_of_lt hj)

theorem push_window {q : Q} (h : Inv q) (hc : q.count < q.size) (am : AckMsg) :
    window (push q am) = window q ++ [am] := by
  show List.map _ (List.range (q.count + 1)) = _
  rw [List.range_succ, List.map_append]
  congr 1
  · refine List.map_congr_left fun j hj => ?_
    show (push q am).get (slot q j) = _
    rw [push_at h, if_neg (slot_ne_tail h hc (List.mem_range.mp hj))]
  · show [(push q am).get (slot q q.count)] = _
    rw [push_at h, if_pos (tail_eq_slot h).symm]

theorem push_inv {q : Q} (h : Inv q) (hc : q.count < q.size) (am : AckMsg)
    (hnew : emapGet q.emap am.pktid = none) : Inv (push q am) := by
  refine ⟨h.pow, h.mask, (List.length_set ..).trans h.len, hc, h.head, ?_, ?_, ?_⟩
  · show q.increment q.tail = (q.head + (q.count + 1)) % q.size
    unfold Q.increment; rw [h.index, h.tail, Nat.mod_add_mod, Nat.add_assoc]
  · intro id i hget
    change emapGet (emapSet q.emap am.pktid q.tail) id = some i at hget
    show ∃ j, j < q.count + 1 ∧ i = slot q j ∧ ((push q am).get i).pktid = id
    rw [emapGet_set] at hget
    rw [push_at h]
    split at hget
    · cases hget
      exact ⟨q.count, Nat.lt_succ_self _, tail_eq_slot h, by rw [if_pos rfl]; exact (‹id = _›).symm⟩
    · obtain ⟨j, hj, rfl, e⟩ := h.sound id i hget
      exact ⟨j, Nat.lt_succ_of_lt hj, rfl, by rw [if_neg (slot_ne_tail h hc hj)]; exact e⟩
  · intro j hj
    show emapGet (emapSet q.emap am.pktid q.tail) ((push q am).get (slot q j)).pktid = some (slot q j)
    rw [emapGet_set, push_at h]
    rcases Nat.lt_succ_iff_lt_or_eq.mp hj with hj' | rfl
    · have hne : (q.get (slot q j)).pktid ≠ am.pktid := by
        intro e; rw [← e, h.compl j hj'] at hnew; cases hnew
      rw [if_neg (slot_ne_tail h hc hj'), if_neg hne]
      exact h.compl j hj'
    · rw [if_pos (tail_eq_slot h).symm, if_pos rfl, tail_eq_slot h]

theorem foldl_emap_sound (f : Nat → Nat) (n : Nat) (id i : Nat) :
    emapGet ((List.range n).foldl (fun m i => emapSet m (f i) i) []) id = some i →
      i < n ∧ f i = id := by
  induction n with
  | zero => intro e; cases e
  | succ n ih =>
    rw [List.range_succ, List.foldl_append, List.foldl_cons, List.foldl_nil, emapGet_set]
    split
    · intro e; cases e; exact ⟨Nat.lt_succ_self _, (‹id = _›).symm⟩
    · intro e; exact ⟨Nat.lt_succ_of_lt (ih e).1, (ih e).2⟩

theorem foldl_emap_compl (f : Nat → Nat) (n : Nat)
    (hinj : ∀ a b, a < n → b < n → f a = f b → a = b) (j : Nat) (hj : j < n) :
    emapGet ((List.range n).foldl (fun m i => emapSet m (f i) i) []) (f j) = some j := by
  induction n with
  | zero => cases hj
  | succ n ih =>
    rw [List.range_succ, List.foldl_append, List.foldl_cons, List.foldl_nil, emapGet_set]
    rcases Nat.lt_succ_iff_lt_or_eq.mp hj with hj' | rfl
    · rw [if_neg fun e => Nat.ne_of_lt hj' (hinj j n hj (Nat.lt_succ_self _) e)]
      exact ih (fun a b ha hb => hinj a b (Nat.lt_succ_of_lt ha) (Nat.lt_succ_of_lt hb)) hj'
    · rw [if_pos rfl]

/-- the live window moved to the front, as `Q.grow` (and the Go code) computes it -/
def growFront {α : Type} (R : List α) (h t : Nat) : List α :=
  if t > h then (R.drop h).take (t - h) else R.drop h ++ R.take t

theorem growFront_map {α β : Type} (f : α → β) (R : List α) (h t : Nat) :
    (growFront R h t).map f = growFront (R.map f) h t := by
  unfold growFront
  split
  · rw [List.map_take, List.map_drop]
  · rw [List.map_append, List.map_take, List.map_drop]

/-- for EVERY `q`: the tie of the Go `grow` (`XlateAckq.grow_rep`) speaks of queues that are not full as well, of which
`grow_eq` below is false -/
theorem grow_eq_growFront (q : Q) :
    q.grow =
      { q with size := q.size * 2, mask := q.size * 2 - 1,
               ring := growFront q.ring q.head q.tail ++ List.replicate (q.size * 2 - (growFront q.ring q.head q.tail).length) AckMsg.zero,
               head := 0, tail := q.count,
               emap := (List.range' 0 q.count).foldl (fun m i => emapSet m ((growFront q.ring q.head q.tail ++ List.replicate (q.size * 2 - (growFront q.ring q.head q.tail).length) AckMsg.zero).getD i AckMsg.zero).pktid i) [] } := by
  unfold Q.grow growFront
  simp only [List.range_eq_range']

/-- the front part of the new ring built by `grow` is the live window: a full ring read from `head`
round to `head` -/
theorem grow_front {q : Q} (h : Inv q) (hfull : q.count = q.size) :
    (if q.tail > q.head then (q.ring.drop q.head).take (q.tail - q.head)
     else q.ring.drop q.head ++ q.ring.take q.tail) = window q := by
  have hle := Nat.le_of_lt h.head
  have htail : q.tail = q.head := by
    rw [h.tail, hfull, Nat.add_mod_right]; exact Nat.mod_eq_of_lt h.head
  rw [if_neg (by rw [htail]; exact Nat.lt_irrefl _), htail]
  refine List.ext_getElem ?_ fun i h1 h2 => ?_
  · rw [List.length_append, List.length_drop, List.length_take, window_length, h.len, Nat.min_eq_left hle,
      Nat.sub_add_cancel hle, hfull]
  · have hi : i < q.size := by rw [window_length, hfull] at h2; exact h2
    have hw : (window q)[i] = q.ring.getD ((q.head + i) % q.size) AckMsg.zero := by
      have := window_getElem? q i (hfull ▸ hi)
      rw [List.getElem?_eq_getElem h2] at this
      exact Option.some.inj this
    rw [hw, List.getElem_append, List.getD_eq_getElem?_getD]
    split
    · -- the part of the ring from `head` to its end
      rename_i hlt
      rw [List.length_drop, h.len] at hlt
      have hb := Nat.add_lt_of_lt_sub' hlt
      rw [List.getElem_drop, Nat.mod_eq_of_lt hb, List.getElem?_eq_getElem (h.len ▸ hb)]; rfl
    · -- the part before `head`, reached by wrapping round
      rename_i hge
      rw [List.length_drop, h.len] at hge
      have hb : q.size ≤ q.head + i :=
        Nat.le_trans (Nat.sub_le_iff_le_add.mp (Nat.le_of_not_lt hge)) (Nat.le_of_eq (Nat.add_comm _ _))
      have hlt : q.head + i - q.size < q.size := (Nat.sub_lt_iff_lt_add hb).mpr (Nat.add_lt_add h.head hi)
      rw [List.getElem_take, Nat.mod_eq_sub_mod hb, Nat.mod_eq_of_lt hlt, List.getElem?_eq_getElem (h.len ▸ hlt)]
      simp only [List.length_drop, h.len, Option.getD_some, Nat.sub_sub_right _ hle, Nat.add_comm]

theorem grow_eq {q : Q} (h : Inv q) (hfull : q.count = q.size) :
    q.grow = { q with
      size := q.size * 2, mask := q.size * 2 - 1,
      ring := window q ++ List.replicate (q.size * 2 - q.count) AckMsg.zero,
      head := 0, tail := q.count,
      emap := (List.range q.count).foldl
        (fun m i => emapSet m (((window q ++ List.replicate (q.size * 2 - q.count) AckMsg.zero).getD i
          AckMsg.zero).pktid) i) [] } := by
  unfold Q.grow
  simp only [grow_front h hfull, window_length]

theorem grow_at {q : Q} (h : Inv q) (hfull : q.count = q.size) (j : Nat) (hj : j < q.count) :
    q.grow.get j = q.get (slot q j) := by
  rw [grow_eq h hfull]
  unfold Q.get
  rw [List.getD_eq_getElem?_getD, List.getElem?_append_left (by rw [window_length]; exact hj),
    window_getElem? q j hj]; rfl

theorem grow_slot {q : Q} (hfull : q.count = q.size) (j : Nat) (hj : j < q.count) :
    slot q.grow j = j := by
  show (0 + j) % (q.size * 2) = j
  rw [Nat.zero_add]; exact Nat.mod_eq_of_lt (Nat.lt_of_lt_of_le (hfull ▸ hj) (Nat.le_mul_of_pos_right _ (by decide)))

theorem grow_count (q : Q) : q.grow.count = q.count := rfl

theorem grow_window {q : Q} (h : Inv q) (hfull : q.count = q.size) : window q.grow = window q :=
  window_congr _ _ (grow_count q) fun j hj => by rw [grow_slot hfull j hj, grow_at h hfull j hj]

theorem grow_abs {q : Q} (h : Inv q) (hfull : q.count = q.size) : abs q.grow = abs q := by
  unfold abs; rw [grow_window h hfull]; rfl

theorem grow_inv {q : Q} (h : Inv q) (hfull : q.count = q.size) : Inv q.grow := by
  have hpos := h.size_pos
  have hat := grow_at h hfull
  have hsl := grow_slot hfull
  have hcnt := grow_count q
  have hshape : (∃ k, q.grow.size = 2 ^ k) ∧ q.grow.mask = q.grow.size - 1 ∧
      q.grow.ring.length = q.grow.size ∧ q.grow.size = q.size * 2 ∧ q.grow.head = 0 ∧
      q.grow.tail = q.count ∧
      q.grow.emap = (List.range q.count).foldl (fun m i => emapSet m (q.grow.get i).pktid i) [] := by
    rw [grow_eq h hfull]
    refine ⟨?_, rfl, ?_, rfl, rfl, rfl, rfl⟩
    · obtain ⟨k, hk⟩ := h.pow; exact ⟨k + 1, by show q.size * 2 = _; rw [hk, Nat.pow_succ]⟩
    · show (window q ++ List.replicate (q.size * 2 - q.count) AckMsg.zero).length = q.size * 2
      rw [List.length_append, window_length, List.length_replicate,
        Nat.add_sub_cancel' (Nat.le_trans h.cnt (Nat.le_mul_of_pos_right _ (by decide)))]
  obtain ⟨hp, hm, hl, hs, hh, ht, he⟩ := hshape
  have hinj : ∀ a b, a < q.count → b < q.count →
      (q.grow.get a).pktid = (q.grow.get b).pktid → a = b := by
    intro a b ha hb e
    rw [hat a ha, hat b hb] at e
    exact h.distinct ha hb e
  have hlt : q.count < q.size * 2 := by
    rw [hfull]; exact (Nat.lt_mul_iff_one_lt_right hpos).mpr (by decide)
  refine ⟨hp, hm, hl, by rw [hcnt, hs]; exact Nat.le_of_lt hlt, by rw [hh, hs]; exact Nat.mul_pos hpos (by decide), ?_, ?_, ?_⟩
  · rw [ht, hh, hcnt, hs, Nat.zero_add]; exact (Nat.mod_eq_of_lt hlt).symm
  · intro id i hget
    rw [he] at hget
    have := foldl_emap_sound (fun i => (q.grow.get i).pktid) q.count id i hget
    exact ⟨i, by rw [hcnt]; exact this.1, (hsl i this.1).symm, this.2⟩
  · intro j hj
    rw [hcnt] at hj
    rw [hsl j hj, he]
    exact foldl_emap_compl (fun i => (q.grow.get i).pktid) q.count hinj j hj

theorem grow_if_full {q : Q} (h : Inv q) :
    Inv (if q.full then q.grow else q) ∧ abs (if q.full then q.grow else q) = abs q ∧
    (if q.full then q.grow else q).count < (if q.full then q.grow else q).size ∧
    (if q.full then q.grow else q).pings = q.pings := by
  unfold Q.full
  split
  · rename_i hf
    have hfull : q.count = q.size := by simpa using hf
    refine ⟨grow_inv h hfull, grow_abs h hfull, ?_, rfl⟩
    rw [grow_count, grow_eq h hfull]
    show q.count < q.size * 2
    rw [hfull]; exact (Nat.lt_mul_iff_one_lt_right h.size_pos).mpr (by decide)
  · rename_i hf
    have hne : q.count ≠ q.size := by simpa using hf
    exact ⟨h, rfl, Nat.lt_of_le_of_ne h.cnt hne, rfl⟩

/-- `regOpt`: nothing is registered when `Encode` failed -/
theorem insert_refines {q : Q} (h : Inv q) (mtype pktid : Nat) (enc : Option (List UInt8)) (tag : Nat) :
    Inv (q.insert mtype pktid enc tag) ∧
    abs (q.insert mtype pktid enc tag) = Fifo.regOpt (abs q) mtype pktid enc tag ∧
    (q.insert mtype pktid enc tag).pings = q.pings := by
  obtain ⟨h1, habs, hlt, hpg⟩ := grow_if_full h
  unfold Q.insert
  generalize (if q.full then q.grow else q) = q1 at h1 habs hlt hpg
  rw [← habs]
  have hany := any_id_iff h1 pktid
  dsimp only
  cases hget : emapGet q1.emap pktid with
  | some i =>
    rw [hget] at hany
    refine ⟨h1, ?_, hpg⟩
    cases enc with
    | none => rfl
    | some bytes => exact (if_pos hany).symm
  | none =>
    rw [hget] at hany
    cases enc with
    | none => exact ⟨h1, rfl, hpg⟩
    | some bytes =>
      refine ⟨push_inv h1 hlt ⟨mtype, 0, pktid, bytes, [], tag⟩ hget, ?_, hpg⟩
      refine Eq.trans ?_ (if_neg (by rw [hany]; decide)).symm
      show abs (push q1 ⟨mtype, 0, pktid, bytes, [], tag⟩) = _
      unfold abs
      rw [push_window h1 hlt, List.map_append]; rfl

theorem ackId_refines {q : Q} (h : Inv q) (t id i : Nat) (bytes : List UInt8)
    (hget : emapGet q.emap id = some i) :
    let q' : Q := { q with ring := q.ring.set i { q.get i with state := t, ackbuf := bytes } }
    Inv q' ∧ abs q' = Fifo.ackId (abs q) t id bytes := by
  obtain ⟨j, hj, rfl, hid⟩ := h.sound id i hget
  intro q'
  have hat : ∀ k, q'.get k = if k = slot q j then { q.get (slot q j) with state := t, ackbuf := bytes }
      else q.get k := fun k => at_set q _ k _ (by rw [h.len]; exact slot_lt h j)
  -- the entry keeps its identifier, so the index map stays right
  have hpk : ∀ k, (q'.get k).pktid = (q.get k).pktid := by
    intro k; rw [hat]; split
    · rename_i e; rw [e]
    · rfl
  refine ⟨⟨h.pow, h.mask, (List.length_set ..).trans h.len, h.cnt, h.head, h.tail, ?_, ?_⟩, ?_⟩
  · intro id' i' hg
    obtain ⟨j', hj', rfl, e⟩ := h.sound id' i' hg
    exact ⟨j', hj', rfl, (hpk _).trans e⟩
  · intro j' hj'
    show emapGet q.emap (q'.get (slot q j')).pktid = some (slot q j')
    rw [hpk]; exact h.compl j' hj'
  · show Fifo.S.mk ((window q').map toEntry) _ = Fifo.S.mk (((window q).map toEntry).map _) _
    congr 1
    unfold window
    rw [List.map_map, List.map_map, List.map_map]
    refine List.map_congr_left fun k hk => ?_
    have hk := List.mem_range.mp hk
    show toEntry (q'.get (slot q k)) = _
    simp only [Function.comp_apply]
    rw [hat]
    by_cases hjk : k = j
    · subst hjk
      rw [if_pos rfl]
      have : ((toEntry (q.get (slot q k))).id == id) = true := by simpa [toEntry] using hid
      rw [if_pos this]; rfl
    · have hne : ((toEntry (q.get (slot q k))).id == id) = false := by
        have : (q.get (slot q k)).pktid ≠ id := fun e => hjk (h.distinct hk hj (e.trans hid.symm))
        simpa [toEntry] using this
      rw [if_neg (slot_ne (Nat.lt_of_lt_of_le hk h.cnt) (Nat.lt_of_lt_of_le hj h.cnt) hjk), hne]; rfl

theorem ackId_unknown {q : Q} (h : Inv q) (t id : Nat) (bytes : List UInt8)
    (hget : emapGet q.emap id = none) : Fifo.ackId (abs q) t id bytes = abs q := by
  have hany := any_id_iff h id
  rw [hget] at hany
  simp only [Option.isSome_none, List.any_eq_false, beq_iff_eq] at hany
  unfold Fifo.ackId
  congr 1
  exact List.map_ite_eq_self fun e he hi => absurd hi (by simpa using hany e he)

theorem removeHead_eq {q : Q} (hne : 0 < q.count) :
    q.removeHead = { q with
      ring := q.ring.set q.head AckMsg.zero
      head := q.increment q.head
      count := q.count - 1
      emap := emapDel q.emap (q.get q.head).pktid } := by
  unfold Q.removeHead Q.empty
  rw [if_neg (by simpa using Nat.ne_of_gt hne)]

theorem removeHead_pings (q : Q) : q.removeHead.pings = q.pings := by
  unfold Q.removeHead; split <;> rfl

theorem removeHead_count {q : Q} (hne : 0 < q.count) : q.removeHead.count = q.count - 1 := by
  rw [removeHead_eq hne]

/-- the oldest entry leaves: the others keep their slots, and are now counted from the next one -/
theorem removeHead_refines {q : Q} (h : Inv q) (hne : 0 < q.count) :
    Inv q.removeHead ∧ window q = q.get q.head :: window q.removeHead := by
  have hcnt := h.cnt
  have hinc : q.increment q.head = (q.head + 1) % q.size := h.index _
  have hsl : ∀ j, slot q.removeHead j = slot q (j + 1) := by
    intro j; rw [removeHead_eq hne]
    show (q.increment q.head + j) % q.size = (q.head + (j + 1)) % q.size
    rw [hinc, Nat.mod_add_mod, Nat.add_assoc, Nat.add_comm 1]
  have hat : ∀ j, j + 1 < q.count → q.removeHead.get (slot q (j + 1)) = q.get (slot q (j + 1)) := by
    intro j hj; rw [removeHead_eq hne]
    have := slot_ne (Nat.lt_of_lt_of_le hj hcnt) (Nat.lt_of_lt_of_le hne hcnt) (Nat.succ_ne_zero j)
    rw [slot_zero h] at this
    show ({ q with ring := q.ring.set q.head AckMsg.zero } : Q).get _ = _
    rw [at_set q q.head _ _ (by rw [h.len]; exact h.head), if_neg this]
  have hem : ∀ id, emapGet q.removeHead.emap id =
      if id = (q.get q.head).pktid then none else emapGet q.emap id := by
    intro id; rw [removeHead_eq hne]; exact emapGet_del _ _ _
  have hc := removeHead_count hne
  refine ⟨⟨?_, ?_, ?_, ?_, ?_, ?_, ?_, ?_⟩, ?_⟩
  · rw [removeHead_eq hne]; exact h.pow
  · rw [removeHead_eq hne]; exact h.mask
  · rw [removeHead_eq hne]; exact (List.length_set ..).trans h.len
  · rw [removeHead_eq hne]; exact Nat.le_trans (Nat.sub_le _ _) hcnt
  · rw [removeHead_eq hne]; show q.increment q.head < q.size; rw [hinc]; exact Nat.mod_lt _ h.size_pos
  · rw [removeHead_eq hne]; show q.tail = (q.increment q.head + (q.count - 1)) % q.size
    rw [hinc, h.tail, Nat.mod_add_mod, Nat.add_assoc, Nat.add_sub_cancel' hne]
  · intro id i hget
    rw [hem] at hget
    split at hget
    · cases hget
    · rename_i hid
      obtain ⟨j, hj, rfl, e⟩ := h.sound id i hget
      cases j with
      | zero => rw [slot_zero h] at e; exact absurd e.symm hid
      | succ j => exact ⟨j, by rw [hc]; exact Nat.lt_sub_of_add_lt hj, (hsl j).symm, by rw [hat j hj]; exact e⟩
  · intro j hj
    rw [hc] at hj
    have hj' : j + 1 < q.count := Nat.add_lt_of_lt_sub hj
    rw [hsl, hat j hj', hem, if_neg, h.compl (j + 1) hj']
    intro e
    rw [← slot_zero h] at e
    exact Nat.succ_ne_zero j (h.distinct hj' hne e)
  · unfold window
    rw [hc]
    conv => lhs; rw [← Nat.sub_add_cancel hne, List.range_succ_eq_map]
    rw [List.map_cons, List.map_map, slot_zero h]
    congr 1
    refine List.map_congr_left fun j hj => ?_
    have hj := List.mem_range.mp hj
    show q.get (slot q (j + 1)) = _
    rw [hsl, hat j (Nat.add_lt_of_lt_sub hj)]

theorem drain_refines (fuel : Nat) {q : Q} (h : Inv q) (hf : q.count ≤ fuel) (acc : List AckMsg) :
    Inv (Q.drain fuel q acc).1 ∧
    (Q.drain fuel q acc).1.pings = q.pings ∧
    window (Q.drain fuel q acc).1 = (window q).dropWhile (fun a => terminal a.state) ∧
    (Q.drain fuel q acc).2 = acc ++ (window q).takeWhile (fun a => terminal a.state) := by
  induction fuel generalizing q acc with
  | zero =>
    have hw : window q = [] := by unfold window; rw [Nat.le_zero.mp hf]; rfl
    show Inv q ∧ q.pings = q.pings ∧ window q = _ ∧ acc = _
    rw [hw]; exact ⟨h, rfl, rfl, (List.append_nil _).symm⟩
  | succ fuel ih =>
    unfold Q.drain Q.empty
    split
    · rename_i he
      have hw : window q = [] := by unfold window; rw [beq_iff_eq.mp he]; rfl
      show Inv q ∧ q.pings = q.pings ∧ window q = _ ∧ acc = _
      rw [hw]; exact ⟨h, rfl, rfl, (List.append_nil _).symm⟩
    · rename_i he
      have hpos : 0 < q.count := Nat.pos_of_ne_zero (by simpa using he)
      obtain ⟨hi, hw⟩ := removeHead_refines h hpos
      dsimp only
      rw [facts_terminal, hw, List.dropWhile_cons, List.takeWhile_cons]
      show _ ∧ _ ∧ _ = (if terminal _ = true then _ else _) ∧ _ = _ ++ (if terminal _ = true then _ else _)
      split
      · obtain ⟨a, b, c, d⟩ := ih hi (by rw [removeHead_count hpos]; exact Nat.sub_le_of_le_add hf) (acc ++ [q.get q.head])
        exact ⟨a, b.trans (removeHead_pings q), c, by rw [d, List.append_assoc]; rfl⟩
      · exact ⟨h, rfl, hw, (List.append_nil _).symm⟩

def PingsOk (q : Q) : Prop := ∀ a ∈ q.pings, a.mtype = tPINGREQ

theorem Inv.with_pings {q : Q} (h : Inv q) (l : List AckMsg) : Inv { q with pings := l } :=
  ⟨h.pow, h.mask, h.len, h.cnt, h.head, h.tail, h.sound, h.compl⟩

theorem markPing_refines (bytes : List UInt8) (l : List AckMsg) :
    (markPing bytes l).map toEntry = Fifo.answerPing bytes (l.map toEntry) := by
  induction l with
  | nil => rfl
  | cons a l ih =>
    rw [markPing, List.map_cons, Fifo.answerPing]
    show List.map toEntry (if (!(a.state == tPINGRESP)) = true then _ else _) =
      if (a.state == tPINGRESP) = true then _ else _
    cases a.state == tPINGRESP
    · rfl
    · exact congrArg (toEntry a :: ·) ih

theorem markPing_mtype (bytes : List UInt8) (l : List AckMsg) (h : ∀ a ∈ l, a.mtype = tPINGREQ) :
    ∀ a ∈ markPing bytes l, a.mtype = tPINGREQ := by
  induction l with
  | nil => intro a ha; cases ha
  | cons b l ih =>
    have hb := h b List.mem_cons_self
    have hl := fun x hx => h x (List.mem_cons_of_mem _ hx)
    intro a ha
    rw [markPing] at ha
    split at ha <;> rcases List.mem_cons.mp ha with rfl | ha'
    · exact hb
    · exact hl a ha'
    · exact hb
    · exact ih hl a ha'

theorem acked_refines {q : Q} (h : Inv q) (hp : PingsOk q) :
    Inv q.acked.1 ∧ PingsOk q.acked.1 ∧
    abs q.acked.1 = ⟨(abs q).q.dropWhile (fun e => terminal e.state),
                      (abs q).pings.dropWhile (fun e => e.state == Fifo.PINGRESP)⟩ ∧
    q.acked.2.map toEntry =
      (abs q).pings.takeWhile (fun e => e.state == Fifo.PINGRESP) ++
        (abs q).q.takeWhile (fun e => terminal e.state) := by
  obtain ⟨a, b, c, d⟩ := drain_refines q.count
    (h.with_pings (q.pings.dropWhile (fun a => a.state == tPINGRESP))) (Nat.le_refl _)
    (q.pings.takeWhile (fun a => a.state == tPINGRESP))
  have hw : window { q with pings := q.pings.dropWhile (fun a => a.state == tPINGRESP) } = window q := rfl
  unfold Q.acked
  refine ⟨a, ?_, ?_, ?_⟩
  · intro x hx
    rw [b] at hx
    exact hp x ((List.dropWhile_sublist _).subset hx)
  · unfold abs; rw [c, b, hw, List.dropWhile_map, List.dropWhile_map]; rfl
  · rw [d, hw, List.map_append]
    unfold abs; rw [List.takeWhile_map, List.takeWhile_map]; rfl

theorem wait_refines {q : Q} (h : Inv q) (hp : PingsOk q) (m : WaitMsg) (tag : Nat) :
    Inv (q.wait m tag).1 ∧ PingsOk (q.wait m tag).1 ∧
    abs (q.wait m tag).1 = (Fifo.step (abs q) (.wait m tag)).1 ∧
    Fifo.SOut.ok (q.wait m tag).2 = (Fifo.step (abs q) (.wait m tag)).2 := by
  -- `hm` is where a regenerated type number meets the protocol's (`facts_types`)
  have hins : ∀ {mtype m : Nat} (_ : mtype = m) id enc, Inv (q.insert mtype id enc tag) ∧
      PingsOk (q.insert mtype id enc tag) ∧ abs (q.insert mtype id enc tag) = Fifo.regOpt (abs q) m id enc tag ∧
      Fifo.SOut.ok true = .ok true := by
    intro mtype m hm id enc
    subst hm
    obtain ⟨a, b, c⟩ := insert_refines h mtype id enc tag
    exact ⟨a, fun x hx => hp x (c ▸ hx), b, rfl⟩
  cases m with
  | publish qos id enc =>
    simp only [Q.wait, Fifo.step]
    split
    · exact ⟨h, hp, rfl, rfl⟩
    · exact hins facts_types.1 id enc
  | subscribe id enc => exact hins facts_types.2.1 id enc
  | unsubscribe id enc => exact hins facts_types.2.2.1 id enc
  | pingreq enc =>
    refine ⟨h.with_pings _, fun a ha => ?_, ?_, rfl⟩
    · rcases List.mem_append.mp ha with ha | ha
      · exact hp a ha
      · rw [List.mem_singleton.mp ha]
    · show Fifo.S.mk _ ((q.pings ++ [_]).map toEntry) = Fifo.S.mk _ (q.pings.map toEntry ++ [_])
      rw [List.map_append]; rfl
  | other => exact ⟨h, hp, rfl, rfl⟩

theorem ack_refines {q : Q} (h : Inv q) (hp : PingsOk q) (t id : Nat) (bytes : List UInt8) :
    Inv (q.ack t id bytes).1 ∧ PingsOk (q.ack t id bytes).1 ∧
    abs (q.ack t id bytes).1 = (Fifo.step (abs q) (.ack t id bytes)).1 ∧
    Fifo.SOut.ok (q.ack t id bytes).2 = (Fifo.step (abs q) (.ack t id bytes)).2 := by
  simp only [Q.ack, Fifo.step, facts_idack]
  split
  · cases hget : emapGet q.emap id with
    | none => exact ⟨h, hp, (ackId_unknown h t id bytes hget).symm, rfl⟩
    | some i => exact ⟨(ackId_refines h t id i bytes hget).1, hp, (ackId_refines h t id i bytes hget).2, rfl⟩
  · rw [facts_types.2.2.2.2.2]
    split
    · exact ⟨h.with_pings _, markPing_mtype bytes q.pings hp,
        congrArg (Fifo.S.mk _) (markPing_refines bytes q.pings), rfl⟩
    · exact ⟨h, hp, rfl, rfl⟩

end Mqtt.Proofs.AckQueue
