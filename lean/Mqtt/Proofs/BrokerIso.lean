/-
Core E/F, isolation of connections (behind C05): an event of connection `A` — first packet,
any packet, the end of the connection — that takes no other connection over (`noTakeOver`; MQTT-3.1.4-2) leaves every other connection's table
entry and session object alone (`step_getConn_other`, `step_alive_other`; `step_getSess_other`, for a session object
that `A` does not share: `sharesSession`), and what it
emits is addressed to `A` itself or is the fan-out of a message (`step_iso`, `run_iso`; `fwdOk`: a PUBLISH with
RETAIN = 0 to a connection, or an in-process callback).
-/
import Mqtt.Proofs.BrokerLifeWillKept
import Mqtt.Proofs.BrokerFanoutOut

namespace Mqtt.Proofs.BrokerIso
open Mqtt.Iface.Broker Mqtt.Model.Broker
open Mqtt.Proofs.BrokerLife (Inv resumed sessRefOf takenOver getSess_ref first_cases takeOver_eq step_conn_kept served_tables
  stop_getSess_ne first_getSess_other)
open Mqtt.Proofs.Broker (fwdOk onPublish_out packet_cases stop_out packet_out)

/-- events of connection `A`: its first packet, a packet on it, its end -/
def onConn (A : Nat) : Ev → Bool
  | .first c _ _ => c == A
  | .packet c _ => c == A
  | .close c => c == A
  | _ => false

/-- an output addressed to connection `A` itself: a packet written to it, or its close -/
def ownOut (A : Nat) : Out → Bool
  | .send c _ => c == A
  | .closed c => c == A
  | _ => false

/-- what an event of `A` may emit -/
def isoOut (A : Nat) (o : Out) : Bool := ownOut A o || fwdOk o

theorem onConn_cases {A : Nat} {e : Ev} (h : onConn A e = true) :
    (∃ f a, e = .first A f a) ∨ (∃ p, e = .packet A p) ∨ e = .close A := by
  cases e with
  | first c f a => simp only [onConn, beq_iff_eq] at h; subst h; exact .inl ⟨f, a, rfl⟩
  | packet c p => simp only [onConn, beq_iff_eq] at h; subst h; exact .inr (.inl ⟨p, rfl⟩)
  | close c => simp only [onConn, beq_iff_eq] at h; subst h; exact .inr (.inr rfl)
  | srvPub p => simp [onConn] at h
  | srvSub cb f q => simp [onConn] at h
  | srvUnsub cb f => simp [onConn] at h

/-! ### take-over

The one way in which an event of `A` legitimately ends another connection: a first packet that
is an acceptable CONNECT carrying the client identifier of a live connection disconnects that
connection (MQTT-3.1.4-2, `takenOver`).  The isolation statements are about events that take
nobody over. -/

/-- the event takes nobody over -/
def noTakeOver (b : B) : Ev → Prop
  | .first _ f a => takenOver b f a = []
  | _ => True

/-- ... all along a run -/
def noTakeOverRun : B → List Ev → Prop
  | _, [] => True
  | b, e :: es => noTakeOver b e ∧ noTakeOverRun (step b e).1 es

theorem step_first_noTakeOver (b : B) (c : Nat) (f : First) (a : Bool) (h : noTakeOver b (.first c f a)) :
    step b (.first c f a) = first b c f a := by
  have h0 : takenOver b f a = [] := h
  rw [Mqtt.Proofs.Connect.step_first_eq, Mqtt.Proofs.Connect.connect_eq, takeOver_eq, h0]
  simp [Mqtt.Proofs.Connect.stopAll_nil]

theorem noTakeOverRun_of_notFirst (evs : List Ev) (h : ∀ e ∈ evs, ∀ c f a, e ≠ .first c f a) :
    ∀ b, noTakeOverRun b evs := by
  induction evs with
  | nil => intro b; trivial
  | cons e es ih =>
    intro b
    refine ⟨?_, ih (fun e' he' => h e' (List.mem_cons_of_mem _ he')) _⟩
    cases e with
    | first c f a => exact absurd rfl (h _ (List.mem_cons_self ..) c f a)
    | _ => trivial

theorem step_getConn_other (b : B) (A B' : Nat) (e : Ev) (he : onConn A e = true) (hne : B' ≠ A)
    (hto : noTakeOver b e) : (step b e).1.getConn B' = b.getConn B' := by
  apply step_conn_kept
  rcases onConn_cases he with ⟨f, a, rfl⟩ | ⟨p, rfl⟩ | rfl
  · rintro (h | h)
    · exact hne h.symm
    · rw [show takenOver b f a = [] from hto] at h; cases h
  · cases p with
    | disconnect => exact fun h => hne h.symm
    | _ => exact fun h => h
  · exact fun h => hne h.symm

theorem step_alive_other (b : B) (A B' : Nat) (e : Ev) (he : onConn A e = true) (hne : B' ≠ A)
    (hto : noTakeOver b e) : (step b e).1.alive B' = b.alive B' := by
  unfold B.alive
  rw [step_getConn_other b A B' e he hne hto]

theorem own_iso {A : Nat} {o : Out} (h : ownOut A o = true) : isoOut A o = true := by
  unfold isoOut; rw [h]; rfl

theorem fwd_iso (A : Nat) (o : Out) (h : fwdOk o = true) : isoOut A o = true := by
  unfold isoOut; rw [h]; exact Bool.or_true _

theorem stop_iso (b : B) (c : Nat) : ∀ o ∈ (stop b c).2, isoOut c o = true :=
  stop_out (isoOut c · = true) (hpub := fun b m o ho => fwd_iso c o (onPublish_out b m o ho)) b c
    (hclosed := own_iso (beq_self_eq_true c))

theorem first_own (b : B) (c : Nat) (f : First) (a : Bool) : ∀ o ∈ (first b c f a).2, ownOut c o = true := by
  intro o ho
  rcases first_cases c f a with ⟨_, _, h1, rfl | ⟨k, _, rfl⟩⟩ | ⟨req, _, _, h1⟩ <;> rw [h1] at ho
  · cases List.mem_singleton.mp ho; exact beq_self_eq_true c
  · rcases List.mem_cons.mp ho with rfl | ho
    · exact beq_self_eq_true c
    · cases List.mem_singleton.mp ho; exact beq_self_eq_true c
  · cases List.mem_singleton.mp ho; exact beq_self_eq_true c

theorem packet_iso (b : B) (c : Nat) (p : Packet) : ∀ o ∈ (packet b c p).2, isoOut c o = true :=
  packet_out (isoOut c · = true) b c p (hpub := fun _ b m o ho => fwd_iso c o (onPublish_out b m o ho))
    (hclosed := own_iso (beq_self_eq_true c)) (hsend := fun _ _ => own_iso (beq_self_eq_true c))
    (hret := fun _ _ => own_iso (beq_self_eq_true c))

theorem packet_quiet_own (b : B) (c : Nat) (p : Packet) (hq : quietEv (.packet c p) = true) :
    ∀ o ∈ (packet b c p).2, ownOut c o = true :=
  packet_out (ownOut c · = true) b c p (hpub := fun h => absurd (hq.symm.trans h) (by decide))
    (hclosed := beq_self_eq_true c) (hsend := fun _ _ => beq_self_eq_true c) (hret := fun _ _ => beq_self_eq_true c)

theorem step_iso (b : B) (A : Nat) (e : Ev) (he : onConn A e = true) (hto : noTakeOver b e) :
    ∀ o ∈ (step b e).2, isoOut A o = true := by
  rcases onConn_cases he with ⟨f, a, rfl⟩ | ⟨p, rfl⟩ | rfl
  · rw [step_first_noTakeOver b A f a hto]; exact fun o ho => own_iso (first_own b A f a o ho)
  · exact packet_iso b A p
  · exact stop_iso b A

theorem step_quiet_own (b : B) (A : Nat) (e : Ev) (he : onConn A e = true) (hq : quietEv e = true)
    (hto : noTakeOver b e) : ∀ o ∈ (step b e).2, ownOut A o = true := by
  intro o ho
  rcases onConn_cases he with ⟨f, a, rfl⟩ | ⟨p, rfl⟩ | rfl
  · rw [step_first_noTakeOver b A f a hto] at ho
    exact first_own b A f a o ho
  · exact packet_quiet_own b A p hq o ho
  · cases hq

theorem packet_getSess_ne (b : B) (c : Nat) (p : Packet) (r : Nat)
    (h : ∀ cn, b.getConn c = some cn → cn.sess ≠ r) : (packet b c p).1.getSess r = b.getSess r := by
  rcases packet_cases b c p with h0 | ⟨cn, s, hc, ha, hs, h1⟩
  · rw [h0]
  · obtain ⟨_, hp⟩ := served_tables hc ha hs p
    rw [h1, hp.getSess, if_neg]
    exact fun e => h cn hc ((getSess_ref hs).symm.trans e.symm)

/-- session object `r` is served to connection `A` before the event, or is the one an accepted
CONNECT of `A` resumes (same client identifier) -/
def sharesSession (b : B) (A r : Nat) (e : Ev) : Prop :=
  sessRefOf b A = some r ∨
  ∃ req a, e = .first A (.connect req) a ∧ (resumed b A req).map (·.ref) = some r

theorem step_getSess_other {b : B} (hi : Inv b) (A : Nat) (e : Ev) (he : onConn A e = true) (r : Nat) (s : Sess)
    (hs : b.getSess r = some s) (hsh : ¬ sharesSession b A r e) (hto : noTakeOver b e) :
    (step b e).1.getSess r = some s := by
  have hA : ∀ cn, b.getConn A = some cn → cn.sess ≠ r := by
    intro cn hc e1
    exact hsh (.inl (by rw [sessRefOf, hc, ← e1]; rfl))
  rcases onConn_cases he with ⟨f, a, rfl⟩ | ⟨p, rfl⟩ | rfl
  · rw [step_first_noTakeOver b A f a hto]
    refine first_getSess_other hi A f a r s hs ?_
    cases f with
    | connect req => exact fun h => hsh (.inr ⟨req, a, rfl, h.2⟩)
    | other t => exact fun h => h
    | garbage => exact fun h => h
  · exact (packet_getSess_ne b A p r hA).trans hs
  · exact (stop_getSess_ne b A r hA).trans hs

theorem run_iso (A : Nat) (evs : List Ev) : ∀ (b : B), (∀ e ∈ evs, onConn A e = true) → noTakeOverRun b evs →
    (∀ B', B' ≠ A → (run b evs).1.getConn B' = b.getConn B') ∧
    (∀ os ∈ (run b evs).2, ∀ o ∈ os, isoOut A o = true) := by
  induction evs with
  | nil => intro b _ _; exact ⟨fun _ _ => rfl, by intro os h; cases h⟩
  | cons e es ih =>
    intro b h hto
    have he := h e (by simp)
    obtain ⟨h1, h2⟩ := ih (step b e).1 (fun e' he' => h e' (by simp [he'])) hto.2
    simp only [run]
    constructor
    · intro B' hne
      rw [h1 B' hne, step_getConn_other b A B' e he hne hto.1]
    · intro os hos
      simp only [List.mem_cons] at hos
      rcases hos with rfl | hos
      · exact step_iso b A e he hto.1
      · exact h2 os hos

theorem isoOut_other {A B' : Nat} (hne : B' ≠ A) {o : Out} (h : isoOut A o = true) :
    o ≠ .closed B' ∧ ∀ p, o = .send B' p → ∃ w, p = .publish w ∧ w.retain = false := by
  constructor
  · intro e
    subst e
    simp only [isoOut, ownOut, fwdOk, Bool.or_false, beq_iff_eq] at h
    exact hne h
  · intro p e
    subst e
    simp only [isoOut, ownOut, Bool.or_eq_true, beq_iff_eq] at h
    rcases h with h | h
    · exact absurd h hne
    · cases p with
      | publish w =>
        simp only [fwdOk, Bool.and_eq_true, Bool.not_eq_true', decide_eq_true_eq] at h
        exact ⟨w, rfl, h.1⟩
      | _ => simp [fwdOk] at h

theorem iso_others {A B' : Nat} (hne : B' ≠ A) {os : List Out} (h : ∀ o ∈ os, isoOut A o = true) :
    Out.closed B' ∉ os ∧ ∀ p, Out.send B' p ∈ os → ∃ w, p = .publish w ∧ w.retain = false :=
  ⟨fun hm => (isoOut_other hne (h _ hm)).1 rfl, fun p hm => (isoOut_other hne (h _ hm)).2 p rfl⟩

end Mqtt.Proofs.BrokerIso
