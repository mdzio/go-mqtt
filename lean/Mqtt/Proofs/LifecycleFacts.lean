/-
Core F — ties between the shape of the Go source (regenerated into `Generated/Facts.lean` by
`extract/facts_life.go`) and the life-cycle model.  Where the model has the order of statements (`stop()`, the deferred functions,
the processor loop, the receiver after a failed read, `writeMessage`) the model side of the equation is
read off the model's own step functions on probe states, so an edit of the model that changes the order
changes these lists too.  Four facts have no model side and are compared with the literal list the model
was written against: `lifeRecoverFirst`, `lifeRecvCalls`, `lifeSendCalls` (calls in the goroutine's body:
1 = `in.ReadFrom`, 2 = `out.WriteTo`, 3 = `conn.Close`) and `lifeServerClose` (1 = `out.Close()` on every
connection, 2 = `stop()` on every connection).  The Go side is regenerated on every check.  All but one conjunct by `decide +kernel`.
-/
import Mqtt.Model.Lifecycle
import Mqtt.Generated.Facts

namespace Mqtt.Proofs.Lifecycle
open Mqtt.Model.Lifecycle

def probeCfg : Cfg := { cap := 64, rblock := 8, wblock := 8 }

/-- run a stopper alone from `pc` on `sh` for at most `n` steps and list the operations it performs, by their
effect on the shared state (the list ends where the stopper waits or returns) -/
def stopTrace (c : Cfg) : Nat → Sh → KPc → List Nat
  | 0, _, _ => []
  | n + 1, sh, pc =>
    match pc with
    | .run i =>
      match kstep c sh (.k 0) pc with
      | none => []
      | some (sh', pc') =>
        let code :=
          if sh'.closed != sh.closed then 1
          else if sh'.doneCh != sh.doneCh then 2
          else if sh'.sock != sh.sock then 3
          else if sh'.inR.done != sh.inR.done then 4
          else if sh'.outR.done != sh.outR.done then 5
          else if sh'.effects == sh.effects ++ [.unsub] then 7
          else if sh'.effects == sh.effects ++ [.will] then 8
          else if sh'.effects == sh.effects ++ [.sessDel] then 9
          else if sh'.ringsNil != sh.ringsNil then 10
          else if c.stopProg[i]? == some .wgWait then 6
          else 0
        (if code == 0 then [] else [code]) ++ stopTrace c n sh' pc'
    | _ => []

/-- a connection whose goroutines have exited, with a will and a clean session -/
def probeStopSh : Sh := { wg := 0, willFlag := true, clean := true }

/-- `stop()` performs, in this order: CAS, close(done), conn.Close, in.Close, out.Close,
wgStopped.Wait, unsubscribe, will, session removal — and the source has the same order -/
theorem facts_stop_order :
    Mqtt.Generated.lifeStopSeq = stopProgram.map StopOp.code ∧
    stopTrace probeCfg 20 probeStopSh (.run 0) = Mqtt.Generated.lifeStopSeq := by decide +kernel

/-- a second `stop()` returns at the CAS; the will is published only under the will flag, the
session deleted only under the clean-session flag -/
theorem facts_stop_guards :
    Mqtt.Generated.lifeStopCasReturns = true ∧ Mqtt.Generated.lifeStopWillGuarded = true ∧
    Mqtt.Generated.lifeStopCleanGuarded = true ∧
    stopTrace probeCfg 20 { probeStopSh with closed := true } (.run 0) = [] ∧
    stopTrace probeCfg 20 { probeStopSh with willFlag := false, clean := false } (.run 0) = [1, 2, 3, 4, 5, 6, 7] ∧
    stopTrace probeCfg 20 { probeStopSh with wg := 1 } (.run 0) = [1, 2, 3, 4, 5] := by decide +kernel

/-- processor, receiver, sender and stop start with a deferred recover -/
theorem facts_recover : Mqtt.Generated.lifeRecoverFirst = [true, true, true, true] := by decide +kernel

/-- what the model's goroutines do on leaving their loop: 1 = wgStopped.Done(), 2 = stop() -/
def procDeferModel : List Nat :=
  match pstep probeCfg { wg := 3 } .wgDone with
  | some (sh', .stop (.run 0)) => if sh'.wg == 2 then [1, 2] else [2]
  | _ => []

def recvDeferModel : List Nat :=
  match rstep probeCfg { wg := 3 } 1 .wgDone with
  | some (sh', .exited) => if sh'.wg == 2 then [1] else []
  | _ => []

def sendDeferModel : List Nat :=
  match sstep probeCfg { wg := 3 } .wgDone with
  | some (sh', .exited) => if sh'.wg == 2 then [1] else []
  | _ => []

/-- the processor's deferred function calls wgStopped.Done and THEN stop (the other order would
make stop wait for its own caller); receiver and sender only call Done -/
theorem facts_defers :
    Mqtt.Generated.lifeProcDefer = procDeferModel ∧ Mqtt.Generated.lifeRecvDefer = recvDeferModel ∧
    Mqtt.Generated.lifeSendDefer = sendDeferModel := by decide +kernel

def PPc.loopCode : PPc → List Nat
  | .size => [1] | .msg => [2] | .acts _ => [3] | .commit => [4] | .check => [5, 6] | _ => []

/-- program counters the processor visits for one complete packet -/
def procLoopVisit (c : Cfg) : Nat → Sh → PPc → List Nat
  | 0, _, _ => []
  | n + 1, sh, pc =>
    PPc.loopCode pc ++
    (match pstep c sh pc with
     | some (sh', pc') => procLoopVisit c n sh' pc'
     | none => [])

/-- the processor's loop: peekMessageSize, peekMessage, processIncoming, in.ReadCommit, then the
`isDone() && in.Len() == 0` test; the receiver loops over in.ReadFrom (and calls conn.Close: 3), the
sender over out.WriteTo (both with their deferred ring Close: `bufferLocks`, C15) -/
theorem facts_loops :
    procLoopVisit probeCfg 5 { inR := { buf := 4 }, stream := [⟨2, 4, .normal []⟩] } .size = Mqtt.Generated.lifeProcLoop ∧
    Mqtt.Generated.lifeRecvCalls = [1, 3] ∧ Mqtt.Generated.lifeSendCalls = [2] := by decide +kernel

def RPc.exitCode : RPc → List Nat
  | .connClose => [3] | .wgDone => [4] | _ => []

/-- what the model's receiver does from `pc` on: 3 = `conn.Close()`, 4 = return (deferred Done) -/
def recvExitVisit (c : Cfg) : Nat → Sh → RPc → List Nat
  | 0, _, _ => []
  | n + 1, sh, pc =>
    RPc.exitCode pc ++
    (match rstep c sh 1 pc with
     | some (sh', pc') => recvExitVisit c n sh' pc'
     | none => [])

/-- the socket after the model's receiver has run from `pc` to its end -/
def recvExitSock (c : Cfg) : Nat → Sh → RPc → Sock
  | 0, sh, _ => sh.sock
  | n + 1, sh, pc =>
    match rstep c sh 1 pc with
    | some (sh', pc') => recvExitSock c n sh' pc'
    | none => sh.sock

/-- **the receiver after a failed read** (b77088f): `if err != nil { …; conn.Close(); return }` —
the source has that shape, and the model's receiver, started inside a socket read that fails (the
peer has closed; the read deadline has fired), visits `conn.Close()` and then returns, leaving the
socket closed; the receiver before the repair (`recvCloses := false`) returned at once -/
theorem facts_receiver :
    Mqtt.Generated.lifeRecvOnError = [3, 4] ∧
    recvExitVisit probeCfg 8 { sock := .peerClosed } .read = Mqtt.Generated.lifeRecvOnError ∧
    recvExitVisit probeCfg 8 { timeout := true } .read = Mqtt.Generated.lifeRecvOnError ∧
    recvExitSock probeCfg 8 { timeout := true } .read = .closed ∧
    recvExitVisit { probeCfg with recvCloses := false } 8 { timeout := true } .read = [4] ∧
    recvExitSock { probeCfg with recvCloses := false } 8 { timeout := true } .read = .open := by decide +kernel

def WPc.code : WPc → List Nat
  | .check => [1] | .lock => [2, 3] | .wait => [4] | .commit => [5, 6] | _ => []

def writerVisit (c : Cfg) : Nat → Sh → WTh → List Nat
  | 0, _, _ => []
  | n + 1, sh, w =>
    WPc.code w.pc ++
    (match wstep c sh (.w 0) w with
     | some (sh', w') => writerVisit c n sh' w'
     | none => [])

/-- writeMessage: nil test, wmu.Lock with a deferred Unlock (the model releases `wmu` at every
return), WriteWait, then Write or WriteCommit -/
theorem facts_write_message :
    writerVisit probeCfg 6 {} ⟨.check, 3⟩ = Mqtt.Generated.lifeWriteMessage ∧
    (∀ sh w, wstep probeCfg {} (.w 0) ⟨.commit, 3⟩ = some (sh, w) → sh.wmu = none) := by
  refine ⟨by decide +kernel, ?_⟩
  intro sh w h
  simp [wstep, RingA.commitP, RingA.waitSpace, probeCfg] at h
  rw [← h.1]

/-- Server.Close: every outgoing ring is closed (1) before the first stop() (2) -/
theorem facts_server_close : Mqtt.Generated.lifeServerClose = [1, 2] := by decide +kernel

end Mqtt.Proofs.Lifecycle
