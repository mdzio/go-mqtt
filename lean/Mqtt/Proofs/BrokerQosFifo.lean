/-
The broker model's inbound QoS 2 list and the FIFO specification of an ack queue (`Spec/Fifo.lean`)
that `Properties/C13` proves the ring-based `Ackqueue` refines.  The broker uses `Pub2in` in one way
only: `Wait` with a QoS 2 PUBLISH (no completion callback), `Ack` with a PUBREL, `Acked`; under
`proj` these are `Fifo.register`, `Fifo.ackId` and `Fifo.collect`.
-/
import Mqtt.Proofs.BrokerQosInv
import Mqtt.Proofs.Fifo

namespace Mqtt.Proofs.BrokerQos
open Mqtt.Iface.Broker Mqtt.Model.Broker Mqtt.Iface.AckQ
open Mqtt.Generated (tPUBREL)
open Mqtt.Spec
open Mqtt.Proofs.Fifo (register_map ackId_map collect_map fifo_run_sim)

/-- The FIFO entry a list entry stands for.  `enc` is the encoder the real queue
stores the PUBLISH with, `ackb` the bytes of a PUBREL with a given identifier;
the tag is 0 (`Wait(msg, nil)`). -/
def proj (enc : Pub → List UInt8) (ackb : Nat → List UInt8) (e : QEntry) : Fifo.Entry :=
  ⟨Fifo.PUBLISH, e.state, e.id, enc e.msg, if e.state == Fifo.PUBREL then ackb e.id else [], 0⟩

/-- the three uses of `Pub2in` -/
inductive QOp where
  | wait (p : Pub)        -- `Pub2in.Wait(msg, nil)`, msg a QoS 2 PUBLISH
  | ack (id : Nat)        -- `Pub2in.Ack(pubrel)`
  | acked                 -- `Pub2in.Acked()`
deriving Repr

/-- the same call on the ack-queue interface of Core C -/
def toOp (enc : Pub → List UInt8) (ackb : Nat → List UInt8) : QOp → Op
  | .wait p => .wait (.publish 2 p.pktid (some (enc p))) 0
  | .ack id => .ack Fifo.PUBREL id (ackb id)
  | .acked => .acked

/-- new queue and released entries -/
def qstep (q : List QEntry) : QOp → List QEntry × List QEntry
  | .wait p => (q2Wait q p, [])
  | .ack id => (q2Ack q id, [])
  | .acked => q2Acked q

def qrun (q : List QEntry) : List QOp → List QEntry × List (List QEntry)
  | [] => (q, [])
  | op :: ops =>
    let (q1, r) := qstep q op
    let (q2, rs) := qrun q1 ops
    (q2, r :: rs)

/-- what the FIFO specification answers -/
def qout (enc : Pub → List UInt8) (ackb : Nat → List UInt8) (rel : List QEntry) : QOp → Fifo.SOut
  | .acked => .released (rel.map (proj enc ackb))
  | _ => .ok true

/-- entry states are "waiting" or "PUBREL seen" -/
def States (q : List QEntry) : Prop := ∀ e ∈ q, e.state = 0 ∨ e.state = tPUBREL

theorem states_qstep {q : List QEntry} (h : States q) (op : QOp) : States (qstep q op).1 := by
  cases op with
  | wait p => exact states_wait h p
  | ack id => exact states_ack h id
  | acked => exact fun e he => h e ((q2Acked_rest_sublist q).subset he)

section sim
variable (enc : Pub → List UInt8) (ackb : Nat → List UInt8)

theorem sim_register (q : List QEntry) (pg : List Fifo.Entry) (p : Pub) :
    Fifo.register ⟨q.map (proj enc ackb), pg⟩ ⟨Fifo.PUBLISH, 0, p.pktid, enc p, [], 0⟩ =
      ⟨(q2Wait q p).map (proj enc ackb), pg⟩ :=
  register_map (proj enc ackb) (·.id) (fun _ => rfl) q pg ⟨p.pktid, 0, p⟩

theorem sim_ackId (q : List QEntry) (pg : List Fifo.Entry) (id : Nat) :
    Fifo.ackId ⟨q.map (proj enc ackb), pg⟩ Fifo.PUBREL id (ackb id) =
      ⟨(q2Ack q id).map (proj enc ackb), pg⟩ :=
  ackId_map (proj enc ackb) (·.id) (fun _ => rfl) _ _ id _ (fun e he => by cases he; rfl) q pg

theorem terminal_state {e : QEntry} (h : e.state = 0 ∨ e.state = tPUBREL) :
    Fifo.terminal e.state = (e.state == tPUBREL) := by
  rcases h with h | h <;> rw [h] <;> decide

/-- on entries that wait or have seen their PUBREL, "terminal" means PUBREL -/
theorem sim_collect (q : List QEntry) (hq : States q) (pg : List Fifo.Entry) :
    Fifo.collect ⟨q.map (proj enc ackb), pg⟩ =
      (⟨(q2Acked q).1.map (proj enc ackb), pg⟩, (q2Acked q).2.map (proj enc ackb)) :=
  collect_map (proj enc ackb) _ q (fun e he => terminal_state (hq e he)) pg

theorem sim_step (q : List QEntry) (hq : States q) (op : QOp) :
    Fifo.step ⟨q.map (proj enc ackb), []⟩ (toOp enc ackb op) =
      (⟨(qstep q op).1.map (proj enc ackb), []⟩, qout enc ackb (qstep q op).2 op) := by
  cases op with
  | wait p =>
    simp only [toOp, Fifo.step, Fifo.regOpt, qstep, qout]
    rw [sim_register]
    rfl
  | ack id =>
    have h6 : Fifo.isIdAck Fifo.PUBREL = true := by decide
    simp only [toOp, Fifo.step, h6, ↓reduceIte, qstep, qout]
    rw [sim_ackId]
  | acked =>
    simp only [toOp, Fifo.step, qstep, qout, Fifo.collectPings, List.dropWhile_nil, List.takeWhile_nil,
      List.nil_append]
    rw [sim_collect enc ackb q hq]

theorem sim_run (q : List QEntry) (hq : States q) (ops : List QOp) :
    (Fifo.run ⟨q.map (proj enc ackb), []⟩ (ops.map (toOp enc ackb))).1 =
      ⟨(qrun q ops).1.map (proj enc ackb), []⟩ ∧
    (Fifo.run ⟨q.map (proj enc ackb), []⟩ (ops.map (toOp enc ackb))).2 =
      (List.zip (qrun q ops).2 ops).map (fun x => qout enc ackb x.1 x.2) ∧
    States (qrun q ops).1 :=
  fifo_run_sim qstep qrun (fun _ => rfl) (fun _ _ _ => rfl) (fun q => ⟨q.map (proj enc ackb), []⟩) (toOp enc ackb)
    (qout enc ackb) States (fun _ => true) (fun q op h _ => ⟨states_qstep h op, sim_step enc ackb q h op⟩) q hq ops
    (List.all_eq_true.mpr fun _ _ => rfl)

end sim

end Mqtt.Proofs.BrokerQos
