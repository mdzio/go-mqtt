/-
Core A (codec): what every `Decode` establishes.  Each reader gets one specification
(`Total`: an error or a success with a postcondition, never a panic), first over a plain
buffer (`FieldAt`), then per message type over the input, relative to the header `header.decode`
returned (`Dec`: the count is the end of the packet, the message holds that header clean, the
identifier slice points at the two identifier bytes where the packet has them - offset and length,
not content -, every returned field lies inside the packet, the object keeps the shape it had);
`DecOK` is what is left of it when the header is forgotten.  `Dec` is about layout and aliasing: the
values of the fields that are not slices are described for wire input only (`CodecWireV`).
`Shape`, `HasId`, `bpre` stand here because `Dec` speaks of them.
`decodeNew_dec` has the full postcondition; `decodeNew_total` is its corollary with `DecOK`, `C04.decode_total` is `≠ .panic`.
SUBSCRIBE, UNSUBSCRIBE and CONNECT are specified for the fresh object only (`[]`, `{}`), although `Decode` appends to
what the object holds: the old topics would have no view in `Dec.views`.
-/
import Mqtt.Proofs.CodecBasic


namespace Mqtt.Proofs.Codec

open Mqtt.Model.Codec Mqtt.Iface.Codec Mqtt.Generated
open Mqtt.Spec

/-- the byte-slice fields a decoded message exposes, in the order of `Decoded.views` -/
def fieldVals : Msg → List Bytes
  | .connect _ c => [c.clientID, c.willTopic, c.willMessage, c.username, c.password]
  | .publish _ topic payload => [topic, payload]
  | .subscribe _ ts _ => ts
  | .suback _ codes => [codes]
  | .unsubscribe _ ts => ts
  | _ => []

/-- a view describes its field: the field is exactly those bytes of the input, and they lie in the first `n`.
An empty view is exempt from the bound: the model reports the absent optional fields of CONNECT as `(0, 0)`. -/
def ViewOk (src : Bytes) (n : Nat) (v : View) (f : Bytes) : Prop :=
  f = (src.drop v.1).take v.2 ∧ f.length = v.2 ∧ (v.2 = 0 ∨ v.1 + v.2 ≤ n)

inductive ViewsOk (src : Bytes) (n : Nat) : List View → List Bytes → Prop where
  | nil : ViewsOk src n [] []
  | cons {v : View} {f : Bytes} {vs : List View} {fs : List Bytes} :
      ViewOk src n v f → ViewsOk src n vs fs → ViewsOk src n (v :: vs) (f :: fs)

/-- what a caller of `Decode` can rely on without knowing the header -/
structure DecOK (src : Bytes) (d : Decoded) : Prop where
  n_le : d.n ≤ src.length
  dbuf : d.msg.hdr.dbuf = src.take d.n
  clean : d.msg.hdr.dirty = false
  views : ViewsOk src d.n d.views (fieldVals d.msg)

/-- what every message object obtained through the API has: the type nibble and the flag bits of its
struct type, bit 0 of the CONNECT flags clear, a keep-alive of 16 bits, as many QoS bytes as topics, and in
DISCONNECT / PING a stored remaining length of 0 (their `Len` and `Encode` use the stored one) -/
def Shape : Msg → Prop
  | .connect h c => h.type = 1 ∧ h.flags = 0 ∧ c.connectFlags.toNat % 2 = 0 ∧ c.keepAlive < 65536
  | .connack h _ _ => h.type = 2 ∧ h.flags = 0
  | .publish h _ _ => h.type = 3
  | .ack h => (h.type = 4 ∨ h.type = 5 ∨ h.type = 6 ∨ h.type = 7 ∨ h.type = 11) ∧ h.flags = defaultFlagsOf h.type
  | .subscribe h ts qs => h.type = 8 ∧ h.flags = 2 ∧ ts.length = qs.length
  | .suback h _ => h.type = 9 ∧ h.flags = 0
  | .unsubscribe h _ => h.type = 10 ∧ h.flags = 2
  | .bare h => (h.type = 12 ∨ h.type = 13 ∨ h.type = 14) ∧ h.flags = 0 ∧ h.remlen = 0

/-- the packet carries an identifier on the wire -/
def HasId : Msg → Prop
  | .publish h _ _ => pubQoS h ≠ 0
  | .ack _ | .subscribe _ _ _ | .suback _ _ | .unsubscribe _ _ => True
  | _ => False

/-- the bytes of the body in front of the packet identifier (`CodecReach.bpost`: those behind it) -/
def bpre : Msg → Bytes
  | .publish _ t _ => Wire.str t
  | _ => []

theorem drop_drop' (src : Bytes) (a b : Nat) : (src.drop a).drop b = src.drop (a + b) := by
  rw [List.drop_drop]

theorem ViewsOk.snoc {src : Bytes} {n : Nat} {vs : List View} {fs : List Bytes} {v : View} {f : Bytes}
    (h : ViewsOk src n vs fs) (hv : ViewOk src n v f) : ViewsOk src n (vs ++ [v]) (fs ++ [f]) := by
  induction h with
  | nil => exact ViewsOk.cons hv ViewsOk.nil
  | cons h1 _ ih => exact ViewsOk.cons h1 ih

theorem viewOk_empty (src : Bytes) (n : Nat) : ViewOk src n (0, 0) [] := by
  refine ⟨?_, rfl, Or.inl rfl⟩
  simp

def FieldAt (s : Bytes) (a : Nat) (f : Bytes) : Prop :=
  f = (s.drop a).take f.length ∧ a + f.length ≤ s.length

theorem FieldAt.view {src : Bytes} {N base a : Nat} {f : Bytes} (h : FieldAt ((src.take N).drop base) a f)
    (hN : N ≤ src.length) : ViewOk src N (base + a, f.length) f := by
  obtain ⟨hf, hl⟩ := h
  rw [List.length_drop, List.length_take, Nat.min_eq_left hN] at hl
  rw [List.drop_drop, List.drop_take, List.take_take, Nat.min_eq_left (by omega)] at hf
  exact ⟨hf, rfl, by simp only []; omega⟩

theorem FieldAt.view0 {src : Bytes} {N a : Nat} {f : Bytes} (h : FieldAt (src.take N) a f)
    (hN : N ≤ src.length) : ViewOk src N (a, f.length) f := by
  have := FieldAt.view (base := 0) (src := src) h hN
  rwa [Nat.zero_add] at this

theorem Total.slice {β : Type} {s : Bytes} {lo hi : Nat} {f : Bytes → Outcome β} {Q : β → Prop} (h1 : lo ≤ hi)
    (h2 : hi ≤ s.length) (hf : ∀ v, v.length = hi - lo → FieldAt s lo v → Total (f v) Q) : Total ((slice s lo hi).bind f) Q := by
  have hl : ((s.drop lo).take (hi - lo)).length = hi - lo := by rw [List.length_take, List.length_drop]; omega
  rw [slice_ok h1 h2]
  exact hf _ hl ⟨by rw [hl], by rw [hl]; omega⟩

theorem readLP_total (buf : Bytes) :
    Total (readLPBytes buf) (fun r => r.2 = 2 + r.1.length ∧ FieldAt buf 2 r.1) := by
  rcases buf with _ | ⟨a, _ | ⟨b, rest⟩⟩
  · exact .err
  · exact .err
  · unfold readLPBytes
    refine Total.guard fun hlen => ?_
    rw [slice_ok (by omega) (by omega), bind_ok]
    have hl : ((List.drop 2 (a :: b :: rest)).take (2 + beU16 a b - 2)).length = beU16 a b := by
      rw [List.length_take, List.length_drop]; omega
    exact .ok ⟨by rw [hl], by rw [hl, Nat.add_sub_cancel_left], by rw [hl]; omega⟩

theorem Total.lpAt {β : Type} {s : Bytes} {t : Nat} {f : Bytes × Nat → Outcome β} {Q : β → Prop} (ht : t ≤ s.length)
    (hf : ∀ lp, lp.2 = 2 + lp.1.length → FieldAt s (t + 2) lp.1 → Total (f lp) Q) :
    Total ((sliceFrom s t).bind fun buf => (readLPBytes buf).bind f) Q := by
  rw [sliceFrom_ok ht, bind_ok]
  refine (readLP_total _).bind fun lp _ ⟨h1, h2, h3⟩ => ?_
  rw [List.length_drop] at h3
  rw [List.drop_drop] at h2
  exact hf lp h1 ⟨h2, by omega⟩

theorem readField_total (s : Bytes) (t : Nat) (ht : t ≤ s.length) :
    Total (readField s t) (fun r =>
      r.2.2 = t + (2 + r.1.length) ∧ r.2.1 = (t + 2, r.1.length) ∧ FieldAt s (t + 2) r.1) :=
  Total.lpAt ht fun lp h1 h2 => .ok ⟨by rw [h1], rfl, h2⟩

theorem subStep_total (s : Bytes) (total : Nat) (ht : total ≤ s.length) :
    Total (subStep s total) (fun r =>
      r.2.2 = 2 + r.1.length ∧ total + r.2.2 + 1 ≤ s.length ∧ FieldAt s (total + 2) r.1) := by
  refine Total.lpAt ht fun lp h1 h2 => ?_
  have := h2.2
  simp only []
  rw [sliceFrom_ok (by omega), bind_ok, List.length_drop]
  refine Total.guard fun hq => ?_
  rw [index_ok (by omega), bind_ok]
  exact .ok ⟨h1, by simp only []; omega, h2⟩

theorem unsubStep_total (s : Bytes) (total : Nat) (ht : total ≤ s.length) :
    Total (unsubStep s total) (fun r => r.2 = r.1.length ∧ FieldAt s (total + 2) r.1) :=
  Total.lpAt ht fun lp h1 h2 => .ok ⟨by simp only []; omega, h2⟩

/-- an optional field of CONNECT and its view: an absent one keeps its value `f0` and gets the view `(0, 0)`, a present
one is at its place in `s`, the view shifted by `base` -/
def OptField (s : Bytes) (base : Nat) (v : View) (f f0 : Bytes) : Prop :=
  (v = (0, 0) ∧ f = f0) ∨ ∃ a, v = (base + a, f.length) ∧ FieldAt s a f

theorem OptField.view {src : Bytes} {N base : Nat} {v : View} {f f0 : Bytes}
    (h : OptField ((src.take N).drop base) base v f f0) (h0 : f0 = []) (hN : N ≤ src.length) : ViewOk src N v f := by
  rcases h with ⟨rfl, rfl⟩ | ⟨a, rfl, h⟩
  · rw [h0]; exact viewOk_empty _ _
  · exact h.view hN

theorem beU16_lt (a b : UInt8) : beU16 a b < 65536 := by
  unfold beU16
  have := a.toNat_lt
  have := b.toNat_lt
  omega

theorem connectFixed_total (c : ConnectF) (s : Bytes) :
    Total (connectFixed c s) (fun r =>
      r.2 ≤ s.length ∧ r.1.connectFlags.toNat % 2 = 0 ∧ r.1.keepAlive < 65536 ∧ r.1.willTopic = c.willTopic ∧
      r.1.willMessage = c.willMessage ∧ r.1.username = c.username ∧ r.1.password = c.password) := by
  unfold connectFixed
  refine (readField_total s 0 (Nat.zero_le _)).bind fun f _ ⟨f1, _, _, f3⟩ => ?_
  simp only []
  rw [sliceFrom_ok (by omega), bind_ok, List.length_drop]
  refine Total.guard fun hv2 => ?_
  rw [index_ok (by omega), bind_ok]
  refine Total.guard fun _ => ?_
  rw [index_ok (by omega), bind_ok]
  refine Total.guard fun hev => ?_
  refine Total.guard fun _ => ?_
  refine Total.guard fun _ => ?_
  rw [sliceFrom_ok (by omega), bind_ok, List.length_drop]
  refine Total.guard fun hka => ?_
  rw [slice_ok (by omega) (by omega), bind_ok]
  exact .ok ⟨by simp only []; omega, Decidable.not_not.mp hev, beU16_lt _ _, rfl, rfl, rfl, rfl⟩

theorem connectClientID_total (c : ConnectF) (s : Bytes) (total base : Nat) (ht : total ≤ s.length) :
    Total (connectClientID c s total base) (fun r =>
      total ≤ r.2.2 ∧ r.2.2 ≤ s.length ∧ r.1 = { c with clientID := r.1.clientID } ∧
      r.2.1 = (base + (total + 2), r.1.clientID.length) ∧ FieldAt s (total + 2) r.1.clientID) := by
  unfold connectClientID
  refine (readField_total s total ht).bind fun f _ ⟨f1, f2, f3⟩ => ?_
  refine Total.guard fun _ => ?_
  refine Total.guard fun _ => ?_
  exact .ok ⟨by simp only []; omega, by have := f3.2; simp only []; omega, rfl, by rw [f2], f3⟩

theorem connectWill_total (c : ConnectF) (s : Bytes) (total base : Nat) (ht : total ≤ s.length) :
    Total (connectWill c s total base) (fun r =>
      total ≤ r.2.2.2 ∧ r.2.2.2 ≤ s.length ∧ r.1 = { c with willTopic := r.1.willTopic, willMessage := r.1.willMessage } ∧
      OptField s base r.2.1 r.1.willTopic c.willTopic ∧ OptField s base r.2.2.1 r.1.willMessage c.willMessage) := by
  unfold connectWill
  by_cases hf : c.willFlag = true
  · rw [if_pos hf]
    refine (readField_total s total ht).bind fun f _ ⟨f1, f2, f3⟩ => ?_
    have := f3.2
    refine (readField_total s f.2.2 (by omega)).bind fun g _ ⟨g1, g2, g3⟩ => ?_
    have := g3.2
    exact .ok ⟨by simp only []; omega, by simp only []; omega, rfl, .inr ⟨_, by rw [f2], f3⟩, .inr ⟨_, by rw [g2], g3⟩⟩
  · rw [if_neg hf]
    exact .ok ⟨Nat.le_refl _, ht, rfl, .inl ⟨rfl, rfl⟩, .inl ⟨rfl, rfl⟩⟩

/-- `connectUser` and `connectPass` are this one reader (`connectUser_eq`, `connectPass_eq`) -/
def optRead (flag : Bool) (set : Bytes → ConnectF) (c : ConnectF) (src : Bytes) (total base : Nat) :
    Outcome (ConnectF × View × Nat) :=
  (sliceFrom src total).bind fun rest =>
  if flag && rest.length > 0 then
    (readField src total).bind fun f => .ok (set f.1, (base + f.2.1.1, f.2.1.2), f.2.2)
  else .ok (c, (0, 0), total)

theorem connectUser_eq (c : ConnectF) : connectUser c = optRead c.usernameFlag (fun x => { c with username := x }) c := rfl
theorem connectPass_eq (c : ConnectF) : connectPass c = optRead c.passwordFlag (fun x => { c with password := x }) c := rfl

/-- `f0`: the value the field has in `c` (an absent field keeps it) -/
theorem optRead_total (flag : Bool) (set : Bytes → ConnectF) (c : ConnectF) (s : Bytes) (total base : Nat) (f0 : Bytes)
    (h0 : c = set f0) (ht : total ≤ s.length) :
    Total (optRead flag set c s total base) (fun r =>
      total ≤ r.2.2 ∧ r.2.2 ≤ s.length ∧ ∃ f, r.1 = set f ∧ OptField s base r.2.1 f f0) := by
  unfold optRead
  rw [sliceFrom_ok ht, bind_ok]
  split
  · refine (readField_total s total ht).bind fun f _ ⟨f1, f2, f3⟩ => ?_
    have := f3.2
    exact .ok ⟨by simp only []; omega, by simp only []; omega, _, rfl, .inr ⟨_, by rw [f2], f3⟩⟩
  · exact .ok ⟨Nat.le_refl _, ht, f0, h0, .inl ⟨rfl, rfl⟩⟩

/-- the frame five decoders share: `src[0:]`, `header.decode`, `src[:hn+remlen]`; `refine Total.frame fun r hd hh hl => ?_`
finds `k` in the unfolded model text, `let`s included -/
theorem Total.frame {h : Hdr} {src : Bytes} {k : Hdr × Nat → Bytes → Outcome Decoded} {Q : Decoded → Prop}
    (hk : ∀ r, h.decode src = .ok r → HdrDecoded h src r.1 r.2 →
      (src.take (r.2 + r.1.remlen)).length = r.2 + r.1.remlen → Total (k r (src.take (r.2 + r.1.remlen))) Q) :
    Total ((sliceFrom src 0).bind fun s0 => (h.decode s0).bind fun r => (sliceTo src (r.2 + r.1.remlen)).bind (k r)) Q := by
  rw [sliceFrom_ok (Nat.zero_le _), bind_ok]
  refine (hdr_decode_total h src).bind fun r hd hh => ?_
  rw [sliceTo_ok hh.fits, bind_ok]
  exact hk r hd hh (List.length_take_of_le hh.fits)

/-- what a `Decode` into the object `m` establishes, stated relative to `r`, the header and header length `header.decode`
returned, and at the end of the packet `r.2 + r.1.remlen` (so no decoder has to move its facts to `d.n`).  `hdr` holds by
`rfl` in every decoder: each puts the decoded header back, clean, with at most the identifier slice replaced.  `shape` needs
no type number: `header.decode` keeps the type of the object it is called on and admits only that type's default flags -/
structure Dec (m : Msg) (src : Bytes) (r : Hdr × Nat) (d : Decoded) : Prop where
  n : d.n = r.2 + r.1.remlen
  hdr : d.msg.hdr = { r.1 with pid := d.msg.hdr.pid, pidOff := d.msg.hdr.pidOff, dirty := false }
  pid : (HasId d.msg → d.msg.hdr.pid.length = 2 ∧ d.msg.hdr.pidOff = some (r.2 + (bpre d.msg).length)) ∧
        (¬ HasId d.msg → d.msg.hdr.pid = r.1.pid)
  views : ViewsOk src (r.2 + r.1.remlen) d.views (fieldVals d.msg)
  shape : Shape m → Shape d.msg

/-- `Dec` for the header `header.decode` returns on `src`: the postcondition of all eight decoders -/
def Decd (m : Msg) (src : Bytes) (d : Decoded) : Prop := ∃ r, m.hdr.decode src = .ok r ∧ Dec m src r d

theorem Dec.ok {m : Msg} {src : Bytes} {r : Hdr × Nat} {d : Decoded} (hd : m.hdr.decode src = .ok r) (h : Dec m src r d) :
    DecOK src d := by
  have hh := hdr_decode_of_ok hd
  refine ⟨by rw [h.n]; exact hh.fits, ?_, by rw [h.hdr], h.n ▸ h.views⟩
  rw [h.hdr, h.n]; exact hh.dbuf

theorem decodeSuback_total (h : Hdr) (cs0 : Bytes) (src : Bytes) :
    Total (decodeSuback h src) (Decd (.suback h cs0) src) := by
  unfold decodeSuback
  refine Total.frame fun r hd hh hl => ?_
  have hfit := hh.fits
  simp only []
  refine Total.guard fun h2 => ?_
  refine Total.slice (by omega) (by omega) fun pid e2 _ => ?_
  refine Total.slice (by omega) (by omega) fun cs c2 c3 => ?_
  have hN : r.2 + 2 + cs.length = r.2 + r.1.remlen := by omega
  split
  · exact .ok ⟨r, hd, hN, rfl, ⟨fun _ => ⟨(by omega : pid.length = 2), rfl⟩, fun hid => absurd trivial hid⟩,
      .cons (c3.view0 hfit) .nil, fun hs => hh.type_flags hs.1 (by decide)⟩
  · exact .err

theorem decodeBare_total (h : Hdr) (src : Bytes) :
    Total (decodeBare h src) (Decd (.bare h) src) := by
  unfold decodeBare
  refine (hdr_decode_total h src).bind fun r hd hh => ?_
  refine Total.guard fun h0 => ?_
  have h0 : r.1.remlen = 0 := Decidable.not_not.mp h0
  refine .ok ⟨r, hd, by rw [h0]; rfl, rfl, ⟨fun hid => absurd hid id, fun _ => rfl⟩, .nil, fun ⟨s1, _, _⟩ => ⟨hh.type ▸ s1, ?_, h0⟩⟩
  rcases s1 with t | t | t <;> exact (hh.type_flags t (by decide)).2

theorem decodeAck_total (h : Hdr) (src : Bytes) :
    Total (decodeAck h src) (Decd (.ack h) src) := by
  unfold decodeAck
  rw [sliceFrom_ok (Nat.zero_le _), bind_ok]
  refine (hdr_decode_total h src).bind fun r hd hh => ?_
  refine Total.guard fun h2 => ?_
  have h2 : r.1.remlen = 2 := Decidable.not_not.mp h2
  have := hh.fits
  refine Total.slice (by omega) (by omega) fun pid e2 _ => ?_
  exact .ok ⟨r, hd, by rw [h2], rfl, ⟨fun _ => ⟨(by omega : pid.length = 2), rfl⟩, fun hid => absurd trivial hid⟩, .nil,
    fun ⟨s1, _⟩ => ⟨hh.type ▸ s1, hh.flagsOk (by rw [hh.type]; simp only [tPUBLISH]; omega)⟩⟩

theorem decodeConnack_total (h : Hdr) (sp0 : Bool) (rc0 : UInt8) (src : Bytes) :
    Total (decodeConnack h src) (Decd (.connack h sp0 rc0) src) := by
  unfold decodeConnack
  refine (hdr_decode_total h src).bind fun r hd hh => ?_
  refine Total.guard fun h2 => ?_
  have h2 : r.1.remlen = 2 := Decidable.not_not.mp h2
  have := hh.fits
  rw [index_ok (by omega), bind_ok]
  refine Total.guard fun _ => ?_
  simp only []
  rw [index_ok (by omega), bind_ok]
  refine Total.guard fun _ => ?_
  exact .ok ⟨r, hd, by rw [h2], rfl, ⟨fun hid => absurd hid id, fun _ => rfl⟩, .nil, fun hs => hh.type_flags hs.1 (by decide)⟩

/-- the `if pubQoS h ≠ 0 …` block of `decodePublish`, which the model does not name -/
theorem pubId_total (h : Hdr) (s : Bytes) (total : Nat) (ht : total ≤ s.length) :
    Total (if pubQoS h ≠ 0 then
              (sliceFrom s total).bind fun rest =>
                if rest.length < 2 then .err else
                (slice s total (total + 2)).bind fun pid => .ok ({ h with pid := pid, pidOff := some total }, total + 2)
            else .ok (h, total))
      (fun hp => hp.2 ≤ s.length ∧ total ≤ hp.2 ∧ hp.1 = { h with pid := hp.1.pid, pidOff := hp.1.pidOff } ∧
        (pubQoS h ≠ 0 → hp.1.pid.length = 2 ∧ hp.1.pidOff = some total) ∧ (pubQoS h = 0 → hp.1.pid = h.pid)) := by
  by_cases hq : pubQoS h ≠ 0
  · rw [if_pos hq, sliceFrom_ok ht, bind_ok, List.length_drop]
    refine Total.guard fun h2 => ?_
    refine Total.slice (by omega) (by omega) fun pid e2 _ => ?_
    exact .ok ⟨by simp only []; omega, Nat.le_add_right _ _, rfl, fun _ => ⟨(by omega : pid.length = 2), rfl⟩, fun h0 => absurd h0 hq⟩
  · rw [if_neg hq]
    exact .ok ⟨ht, Nat.le_refl _, rfl, fun h0 => absurd h0 hq, fun _ => rfl⟩

theorem decodePublish_total (h : Hdr) (t0 p0 : Bytes) (src : Bytes) :
    Total (decodePublish h src) (Decd (.publish h t0 p0) src) := by
  unfold decodePublish
  refine Total.frame fun r hd hh hl => ?_
  have hfit := hh.fits
  simp only []
  refine Total.lpAt (by omega) fun lp k1 k2 => ?_
  have k3 := k2.2
  rw [hl] at k3
  have vTopic : ViewOk src (r.2 + r.1.remlen) (r.2 + 2, lp.1.length) lp.1 := k2.view0 hfit
  refine Total.guard fun _ => ?_
  refine (pubId_total r.1 _ (r.2 + lp.2) (by omega)).bind fun hp _ ⟨hle, hpos, hhp, hq1, hq0⟩ => ?_
  rw [hl] at hle
  rw [hhp, if_neg (by show ¬ hp.2 - r.2 > r.1.remlen; omega)]
  simp only []
  refine Total.slice (by omega) (by omega) fun pl p2 p3 => ?_
  have hN : hp.2 + pl.length = r.2 + r.1.remlen := by omega
  refine .ok ⟨r, hd, hN, rfl, ⟨fun hid => ?_, fun hid => hq0 (Decidable.not_not.mp hid)⟩,
    .cons vTopic (.cons (p3.view0 hfit) .nil), fun hs => hh.type.trans hs⟩
  obtain ⟨a, b⟩ := hq1 hid
  exact ⟨a, by show hp.1.pidOff = some (r.2 + (Wire.str lp.1).length); rw [b, k1, str_length]⟩

theorem subLoop_total (src : Bytes) (N : Nat) (hN : N ≤ src.length) :
    ∀ (remlen total : Nat) (ts : List Bytes) (qs : List UInt8) (vs : List View),
      total + remlen = N → ViewsOk src N vs ts → ts.length = qs.length →
      Total (subLoop (src.take N) total remlen ts qs vs) (fun r =>
        r.2.2.2 = N ∧ ViewsOk src N r.2.2.1 r.1 ∧ r.1.length = r.2.1.length) := by
  intro remlen
  induction remlen using Nat.strongRecOn with
  | ind remlen ih =>
    intro total ts qs vs htot hv hq
    rw [subLoop]
    by_cases h0 : remlen = 0
    · rw [if_pos h0]; exact .ok ⟨by simp only []; omega, hv, hq⟩
    rw [if_neg h0]
    rcases subStep_total (src.take N) total (by rw [List.length_take_of_le hN]; omega) with he | ⟨⟨t, q, n⟩, hr, h1, h2, h3⟩
    · rw [he]; exact .err
    rw [hr]
    rw [List.length_take_of_le hN] at h2
    refine ih (remlen - n - 1) (by omega) (total + n + 1) _ _ _ (by simp only [] at h2; omega) (hv.snoc (h3.view0 hN)) ?_
    rw [List.length_append, List.length_append, hq]; rfl

theorem decodeSubscribe_total (h : Hdr) (src : Bytes) :
    Total (decodeSubscribe h [] [] src) (Decd (.subscribe h [] []) src) := by
  unfold decodeSubscribe
  refine Total.frame fun r hd hh hl => ?_
  have hfit := hh.fits
  simp only []
  refine Total.guard fun h2 => ?_
  refine Total.slice (by omega) (by omega) fun pid e2 _ => ?_
  refine (subLoop_total src _ hfit (r.1.remlen - (r.2 + 2 - r.2)) (r.2 + 2) [] [] [] (by omega) .nil rfl).bind
    fun lr _ ⟨l1, l2, l3⟩ => ?_
  refine Total.guard fun _ => ?_
  exact .ok ⟨r, hd, l1, rfl, ⟨fun _ => ⟨(by omega : pid.length = 2), rfl⟩, fun hid => absurd trivial hid⟩,
    l2, fun hs => ⟨(hh.type_flags hs.1 (by decide)).1, (hh.type_flags hs.1 (by decide)).2, l3⟩⟩

theorem unsubLoop_total (src : Bytes) (N : Nat) (hN : N ≤ src.length) :
    ∀ (remlen total : Nat) (ts : List Bytes) (vs : List View),
      total + remlen = N → ViewsOk src N vs ts →
      Total (unsubLoop (src.take N) total remlen ts vs) (fun r => r.2.2 = N ∧ ViewsOk src N r.2.1 r.1) := by
  intro remlen
  induction remlen using Nat.strongRecOn with
  | ind remlen ih =>
    intro total ts vs htot hv
    rw [unsubLoop]
    by_cases h0 : remlen = 0
    · rw [if_pos h0]; exact .ok ⟨by simp only []; omega, hv⟩
    rw [if_neg h0]
    rcases unsubStep_total (src.take N) total (by rw [List.length_take_of_le hN]; omega) with he | ⟨⟨t, k⟩, hr, h1, h3⟩
    · rw [he]; exact .err
    rw [hr]
    have := h3.2
    rw [List.length_take_of_le hN] at this
    simp only [] at h1 this
    exact ih (remlen - (2 + k)) (by omega) (total + (2 + k)) _ _ (by omega) (hv.snoc (h3.view0 hN))

theorem decodeUnsubscribe_total (h : Hdr) (src : Bytes) :
    Total (decodeUnsubscribe h [] src) (Decd (.unsubscribe h []) src) := by
  unfold decodeUnsubscribe
  refine Total.frame fun r hd hh hl => ?_
  have hfit := hh.fits
  simp only []
  refine Total.guard fun h2 => ?_
  refine Total.slice (by omega) (by omega) fun pid e2 _ => ?_
  refine (unsubLoop_total src _ hfit (r.1.remlen - (r.2 + 2 - r.2)) (r.2 + 2) [] [] (by omega) .nil).bind
    fun lr _ ⟨l1, l2⟩ => ?_
  refine Total.guard fun _ => ?_
  exact .ok ⟨r, hd, l1, rfl, ⟨fun _ => ⟨(by omega : pid.length = 2), rfl⟩, fun hid => absurd trivial hid⟩,
    l2, fun hs => hh.type_flags hs.1 (by decide)⟩

theorem decodeConnectMessage_total (c : ConnectF) (src : Bytes) (N hn : Nat) (hN : N ≤ src.length) (hhn : hn ≤ N)
    (hc : c.willTopic = [] ∧ c.willMessage = [] ∧ c.username = [] ∧ c.password = []) :
    Total (decodeConnectMessage c ((src.take N).drop hn) hn) (fun r =>
      hn + r.2.1 ≤ N ∧ r.1.connectFlags.toNat % 2 = 0 ∧ r.1.keepAlive < 65536 ∧
      ViewsOk src N r.2.2 [r.1.clientID, r.1.willTopic, r.1.willMessage, r.1.username, r.1.password]) := by
  have hl : ((src.take N).drop hn).length = N - hn := by rw [List.length_drop, List.length_take_of_le hN]
  unfold decodeConnectMessage
  -- `a` … `e`: what the five sections establish; `b3` … `e3` say that a section changed its own fields only, so
  -- `rw [e3, d3, …]` takes a field of the final block back to the section that read it
  refine (connectFixed_total c _).bind fun r1 _ ⟨a1, a2, a3, a4, a5, a6, a7⟩ => ?_
  refine (connectClientID_total r1.1 _ r1.2 hn a1).bind fun r2 _ ⟨_, b2, b3, b4, b5⟩ => ?_
  refine (connectWill_total r2.1 _ r2.2.2 hn b2).bind fun r3 _ ⟨_, c2, c3, c4, c5⟩ => ?_
  rw [connectUser_eq]
  refine (optRead_total _ _ r3.1 _ r3.2.2.2 hn r3.1.username rfl c2).bind fun r4 _ ⟨_, d2, _, d3, d4⟩ => ?_
  rw [connectPass_eq]
  refine (optRead_total _ _ r4.1 _ r4.2.2 hn r4.1.password rfl d2).bind fun r5 _ ⟨_, e2, _, e3, e4⟩ => ?_
  rw [hl] at e2
  refine .ok ⟨by simp only []; omega, by rw [e3, d3, c3, b3]; exact a2, by rw [e3, d3, c3, b3]; exact a3, ?_⟩
  refine .cons ?_ (.cons ?_ (.cons ?_ (.cons ?_ (.cons ?_ .nil))))
  · rw [e3, d3, c3, b4]; exact b5.view hN
  · rw [e3, d3]; exact c4.view (by rw [b3]; exact a4.trans hc.1) hN
  · rw [e3, d3]; exact c5.view (by rw [b3]; exact a5.trans hc.2.1) hN
  · rw [e3, d3]; exact d4.view (by rw [c3, b3]; exact a6.trans hc.2.2.1) hN
  · rw [e3]; exact e4.view (by rw [d3, c3, b3]; exact a7.trans hc.2.2.2) hN

theorem decodeConnect_total (h : Hdr) (src : Bytes) :
    Total (decodeConnect h {} src) (Decd (.connect h {}) src) := by
  unfold decodeConnect
  refine Total.frame fun r hd hh hl => ?_
  have hfit := hh.fits
  simp only []
  rw [sliceFrom_ok (by omega), bind_ok]
  refine (decodeConnectMessage_total {} src _ r.2 hfit (by omega) ⟨rfl, rfl, rfl, rfl⟩).bind fun m _ ⟨m1, m2, m3, m4⟩ => ?_
  rw [hl]
  refine Total.guard fun hall => ?_
  have hall : r.2 + m.2.1 = r.2 + r.1.remlen := Decidable.not_not.mp hall
  exact .ok ⟨r, hd, hall, rfl, ⟨fun hid => absurd hid id, fun _ => rfl⟩,
    m4, fun hs => ⟨(hh.type_flags hs.1 (by decide)).1, (hh.type_flags hs.1 (by decide)).2, m2, m3⟩⟩

theorem decodeNew_dec (t : Nat) (src : Bytes) :
    Total (decodeNew t src) (fun d => ∃ m, Msg.new t = some m ∧ Decd m src d) := by
  unfold decodeNew
  cases hm : Msg.new t with
  | none => exact .err
  | some m =>
    rcases msgNew_cases hm with ⟨_, rfl⟩ | ⟨_, rfl⟩ | ⟨_, rfl⟩ | ⟨_, rfl⟩ | ⟨_, rfl⟩ | ⟨_, rfl⟩ | ⟨_, rfl⟩ | ⟨_, rfl⟩
    · exact (decodeConnect_total _ _).mono fun _ h => ⟨_, rfl, h⟩
    · exact (decodeConnack_total _ _ _ _).mono fun _ h => ⟨_, rfl, h⟩
    · exact (decodePublish_total _ _ _ _).mono fun _ h => ⟨_, rfl, h⟩
    · exact (decodeAck_total _ _).mono fun _ h => ⟨_, rfl, h⟩
    · exact (decodeSubscribe_total _ _).mono fun _ h => ⟨_, rfl, h⟩
    · exact (decodeSuback_total _ _ _).mono fun _ h => ⟨_, rfl, h⟩
    · exact (decodeUnsubscribe_total _ _).mono fun _ h => ⟨_, rfl, h⟩
    · exact (decodeBare_total _ _).mono fun _ h => ⟨_, rfl, h⟩

theorem decodeNew_total (t : Nat) (src : Bytes) : Total (decodeNew t src) (DecOK src) :=
  (decodeNew_dec t src).mono fun _ ⟨_, _, _, hd, h⟩ => h.ok hd

end Mqtt.Proofs.Codec
