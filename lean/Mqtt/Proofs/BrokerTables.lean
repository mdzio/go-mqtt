/-
The tables of the broker state (`sess`, `conns`, `store`) and the laws of their accessors: `getSess` / `setSess`,
`getConn` / `alive` with the two operations on the connection table (`markDead`, `addConn`), `storeGet` /
`storeSet` / `storeDel`, and `send`; beside them the identifier counter (`nextPacketID_ne_zero`).  No operation of the
model is looked at here.  Three namespaces: `BrokerLife` holds the laws of `getSess` /
`setSess`, `getConn` / `markDead` / `addConn` and the store; `Broker` the `@[simp]` projections of the setters, `alive_congr`,
`getSess_congr`, `alive_of_getConn` and the counter; `BrokerQos` `getConn_congr`, `send_alive` and two more projections of `setSess`.
-/
import Mqtt.Model.Broker
import Mqtt.Proofs.Basics

namespace Mqtt.Proofs.BrokerLife
open Mqtt.Iface.Broker Mqtt.Model.Broker

theorem getSess_setSess_eq (b : B) (s : Sess) (r : Nat) :
    (b.setSess s).getSess r = if r = s.ref then some s else b.getSess r := by
  unfold B.setSess B.getSess
  cases ha : b.sess.any (fun x => x.ref == s.ref) with
  | true =>
    have hf : ((fun x : Sess => x.ref == r) ∘ fun x => if x.ref == s.ref then s else x) = fun x => x.ref == r := by
      funext x
      show ((if x.ref == s.ref then s else x).ref == r) = (x.ref == r)
      split
      · rename_i h; rw [beq_iff_eq.mp h]
      · rfl
    simp only [↓reduceIte, List.find?_map, hf]
    cases hg : b.sess.find? (fun x => x.ref == r) with
    | none =>
      rw [if_neg]; · rfl
      rintro rfl
      obtain ⟨x, hx, hxs⟩ := List.any_eq_true.mp ha
      exact absurd hxs (List.find?_eq_none.mp hg x hx)
    | some x =>
      have hx : x.ref = r := beq_iff_eq.mp (List.find?_some (p := fun x : Sess => x.ref == r) hg)
      simp only [Option.map_some, hx, beq_iff_eq]
      split <;> rfl
  | false =>
    simp only [Bool.false_eq_true, ↓reduceIte, List.find?_append, List.find?_cons, List.find?_nil]
    cases hg : b.sess.find? (fun x => x.ref == r) with
    | none =>
      rw [Option.none_or]
      by_cases h : r = s.ref
      · rw [if_pos h, h, BEq.rfl]
      · rw [if_neg h, beq_false_of_ne (Ne.symm h)]
    | some x =>
      rw [if_neg]; · rfl
      rintro rfl
      have := List.any_eq_false.mp ha x (List.mem_of_find?_eq_some hg)
      exact this (List.find?_some (p := fun x : Sess => x.ref == s.ref) hg)

theorem getSess_setSess (b : B) (s : Sess) : (b.setSess s).getSess s.ref = some s := by
  rw [getSess_setSess_eq, if_pos rfl]

theorem getSess_setSess_ne (b : B) (s : Sess) (r : Nat) (h : s.ref ≠ r) :
    (b.setSess s).getSess r = b.getSess r := by
  rw [getSess_setSess_eq, if_neg h.symm]

theorem getSess_ref {b : B} {r : Nat} {s : Sess} (h : b.getSess r = some s) : s.ref = r :=
  List.key_of_find? Sess.ref h

theorem getSess_self {b : B} {s : Sess} (hs : b.getSess s.ref = some s) (r : Nat) :
    b.getSess r = if r = s.ref then some s else b.getSess r := by
  split
  · rename_i h; rw [h]; exact hs
  · rfl

theorem getConn_id {b : B} {c : Nat} {cn : Conn} (h : b.getConn c = some cn) : cn.id = c :=
  List.key_of_find? Conn.id h

theorem alive_true_iff (b : B) (c : Nat) : b.alive c = true ↔ ∃ cn, b.getConn c = some cn ∧ cn.alive = true := by
  unfold B.alive
  cases b.getConn c with
  | none => simp
  | some cn => simp

def markDead (b : B) (c : Nat) : B :=
  { b with conns := b.conns.map (fun (x : Conn) => if x.id == c then { x with alive := false } else x) }

theorem getConn_markDead (b : B) (c d : Nat) :
    (markDead b c).getConn d = (b.getConn d).map (fun x => if x.id == c then { x with alive := false } else x) := by
  unfold B.getConn markDead
  rw [List.find?_map]
  congr 2
  funext x
  show ((if x.id == c then { x with alive := false } else x).id == d) = (x.id == d)
  split <;> rfl

theorem getConn_markDead_ne (b : B) (c d : Nat) (h : c ≠ d) : (markDead b c).getConn d = b.getConn d := by
  rw [getConn_markDead]
  cases hf : b.getConn d with
  | none => rfl
  | some cn =>
    have : (cn.id == c) = false := by rw [getConn_id hf]; exact beq_false_of_ne h.symm
    simp only [Option.map_some, this, Bool.false_eq_true, ↓reduceIte]

theorem markDead_alive_self (b : B) (c : Nat) : (markDead b c).alive c = false := by
  unfold B.alive
  rw [getConn_markDead]
  cases hf : b.getConn c with
  | none => rfl
  | some cn => simp only [Option.map_some, getConn_id hf, BEq.rfl, ↓reduceIte]

theorem markDead_alive_ne (b : B) (c d : Nat) (h : c ≠ d) : (markDead b c).alive d = b.alive d := by
  unfold B.alive; rw [getConn_markDead_ne b c d h]

theorem getConn_markDead_dead (b : B) (c d : Nat) (h : b.alive c = false) :
    (markDead b c).getConn d = b.getConn d := by
  rw [getConn_markDead]
  cases hf : b.getConn d with
  | none => rfl
  | some cn =>
    simp only [Option.map_some, Option.some.injEq]
    split
    · rename_i he
      have hd : d = c := (getConn_id hf).symm.trans (beq_iff_eq.mp he)
      rw [B.alive, ← hd, hf] at h
      cases cn; cases h; rfl
    · rfl

def addConn (b : B) (c ref : Nat) : B :=
  { b with conns := b.conns.filter (fun (x : Conn) => x.id != c) ++ [({ id := c, sess := ref, alive := true } : Conn)] }

theorem getConn_addConn (b : B) (c r : Nat) :
    (addConn b c r).getConn c = some { id := c, sess := r, alive := true } := by
  unfold addConn B.getConn
  simp only [List.find?_append, List.find?_filter_key_self Conn.id]
  simp

theorem getConn_addConn_ne (b : B) (c d r : Nat) (h : c ≠ d) :
    (addConn b c r).getConn d = b.getConn d := by
  unfold addConn B.getConn
  simp only [List.find?_append, List.find?_filter_key_ne Conn.id _ h]
  cases b.conns.find? (fun x => x.id == d) <;> simp [h]

theorem storeGet_storeDel_self (b : B) (k : Bytes) : (b.storeDel k).storeGet k = none :=
  List.lookup_filter_self b.store k

theorem storeGet_storeDel_ne (b : B) (k y : Bytes) (h : k ≠ y) : (b.storeDel k).storeGet y = b.storeGet y :=
  List.lookup_filter_ne b.store k y h

theorem storeGet_storeSet_ne (b : B) (k y : Bytes) (r : Nat) (h : k ≠ y) :
    (b.storeSet k r).storeGet y = b.storeGet y := by
  unfold B.storeSet B.storeGet
  rw [List.lookup_cons, beq_false_of_ne h.symm]
  exact List.lookup_filter_ne b.store k y h

theorem storeGet_storeSet_self (b : B) (k : Bytes) (r : Nat) : (b.storeSet k r).storeGet k = some r := by
  unfold B.storeSet B.storeGet
  rw [List.lookup_cons, BEq.rfl]

theorem setSess_frameless (b : B) (s : Sess) :
    (b.setSess s).conns = b.conns ∧ (b.setSess s).store = b.store ∧ (b.setSess s).topics = b.topics ∧
    (b.setSess s).nextRef = b.nextRef ∧ (b.setSess s).ctr = b.ctr := ⟨rfl, rfl, rfl, rfl, rfl⟩

theorem alive_setSess (b : B) (s : Sess) (c : Nat) : (b.setSess s).alive c = b.alive c := rfl
theorem alive_storeDel (b : B) (cid : Bytes) (c : Nat) : (b.storeDel cid).alive c = b.alive c := rfl

end Mqtt.Proofs.BrokerLife

namespace Mqtt.Proofs.Broker
open Mqtt.Iface.Broker Mqtt.Model.Broker
open Mqtt.Proofs.BrokerLife (getSess_setSess_eq)

theorem getSess_setSess_isSome (b : B) (s : Sess) (r : Nat)
    (h : (b.getSess r).isSome = true ∨ r = s.ref) : ((b.setSess s).getSess r).isSome = true := by
  rw [getSess_setSess_eq]
  split
  · rfl
  · exact h.resolve_right ‹_›

@[simp] theorem setSess_conns (b : B) (s : Sess) : (b.setSess s).conns = b.conns := rfl
@[simp] theorem setSess_topics (b : B) (s : Sess) : (b.setSess s).topics = b.topics := rfl
@[simp] theorem setSess_ctr (b : B) (s : Sess) : (b.setSess s).ctr = b.ctr := rfl
@[simp] theorem storeDel_conns (b : B) (k : Bytes) : (b.storeDel k).conns = b.conns := rfl
@[simp] theorem storeDel_topics (b : B) (k : Bytes) : (b.storeDel k).topics = b.topics := rfl
@[simp] theorem storeDel_sess (b : B) (k : Bytes) : (b.storeDel k).sess = b.sess := rfl
@[simp] theorem storeSet_conns (b : B) (k : Bytes) (r : Nat) : (b.storeSet k r).conns = b.conns := rfl
@[simp] theorem storeSet_topics (b : B) (k : Bytes) (r : Nat) : (b.storeSet k r).topics = b.topics := rfl

theorem alive_congr (b b' : B) (h : b'.conns = b.conns) (c : Nat) : b'.alive c = b.alive c := by
  unfold B.alive B.getConn; rw [h]

theorem getSess_congr (b b' : B) (h : b'.sess = b.sess) (r : Nat) : b'.getSess r = b.getSess r := by
  unfold B.getSess; rw [h]

theorem alive_of_getConn (b : B) (c : Nat) (cn : Conn) (hc : b.getConn c = some cn) (ha : cn.alive = true) :
    b.alive c = true := by
  unfold B.alive; rw [hc]; exact ha

/-- the process-wide counter never hands out the identifier 0 (the client core draws from the same function) -/
theorem nextPacketID_ne_zero (ctr : Nat) : (nextPacketID ctr).1 ≠ 0 := by
  unfold nextPacketID
  split
  · assumption
  · simp only; omega

end Mqtt.Proofs.Broker

namespace Mqtt.Proofs.BrokerQos
open Mqtt.Iface.Broker Mqtt.Model.Broker

theorem setSess_nextRef (b : B) (s : Sess) : (b.setSess s).nextRef = b.nextRef := rfl
theorem setSess_store (b : B) (s : Sess) : (b.setSess s).store = b.store := rfl

theorem send_alive {b : B} {c : Nat} (h : b.alive c = true) (p : Packet) : send b c p = [.send c p] := by
  unfold send; simp [h]

theorem getConn_congr {b b' : B} (h : b'.conns = b.conns) (c : Nat) : b'.getConn c = b.getConn c := by
  unfold B.getConn; rw [h]

end Mqtt.Proofs.BrokerQos
