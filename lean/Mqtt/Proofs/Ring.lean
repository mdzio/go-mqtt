/-
Core D — the byte ring (`Model/Ring.lean`), common ground of its proofs.  The steps of a thread are a relation `Step`, one
constructor per branch of `tstep`; most arguments need only one of two views of a step: what it does to the shared state
(`step_shared`: at most one store, then the lock operation of its program counter) and where it leads (`Edge`: the
control-flow graph, locals erased).

A NEW PROGRAM COUNTER is entered in the tables below (most default to `false` / `0` / `skip`, so a forgotten line shows only as a failed
`rfl` in the lemma named behind the table, which checks it against the program):
* Model/Ring.lean: `Pc`, `Pc.yid`, `Pc.parkedAt`, `tstep`, `lockFacts`, `markPcs` (`lockFacts_steps`, RingFacts);
* here: `pcRole` (`thOK_step`), `closeTail` (`closeTail_edge`), `Step` (`tstep_step`), `Edge` (`step_edge`), `lockOp`, `Store` with
  `stores` = the statement ALWAYS stores, and `dataPc` = it MAY change `Sh.core` (cursor, gate and cell stores; not `done`)
  (`step_shared`, `Store.core`);
* RingSafety: `pcP`, `pcC` (the four step lemmas `prod_quiet`, `prod_data`, `cons_quiet`, `cons_data`), `wfsArg` (`pcP_wcOK`);
* RingLive: `holds` (`holds_edge`, `holds_needs`); `pendC`, `pendCd`, `pendP`, `pendPd` with `feeds` = stores the cursor the waiter
  reads, `closes` = stores `done` (`pend_edge`, `Store.seen`); `cStage`, `pStage`, `cParked`, `pParked`, `loopPc` (`stage_edge`,
  `stage_holds`, `stage_parked`); `noDataAt`, `noSpaceAt` (`need_own`);
* RingProgress: `wantsLock`, `parkedOn` (the rows `lock` / `resume` of `lockOp` a second time, checked against the program only by
  `tstep_none`, whose case list is written by hand; `parkedOn_waits`, `wants_quiet`, `parked_quiet`), `closeRank` (`closeRank_step`, `close_wants`), `csRank` (`csRank_edge`), `doneTest` (`done_exits`);
* RingTerm: `pcRank` (`pcRank_step`);
* RingCall: `visOf` (`vis_step`, `visOf_none`); RingCalls, if a followed call runs through it: `mark`
  (`call_own`), `beforeFinal` (`passed_beforeFinal`).
-/
import Mqtt.Model.Ring
import Mqtt.Spec.Ring
import Mqtt.Proofs.Basics

namespace Mqtt.Proofs.Ring
open Mqtt.Model.Ring Mqtt.Iface.Ring Mqtt.Spec.Ring

theorem size_pos (cfg : Cfg) : 0 < cfg.size := by
  unfold Cfg.size; exact Nat.two_pow_pos _

theorem idx_eq_mod (cfg : Cfg) (pos : Nat) : cfg.idx pos = pos % cfg.size := by
  unfold Cfg.idx Cfg.size
  exact Nat.and_two_pow_sub_one_eq_mod pos cfg.k

theorem idx_lt (cfg : Cfg) (pos : Nat) : cfg.idx pos < cfg.size := by
  rw [idx_eq_mod]; exact Nat.mod_lt _ (size_pos cfg)

theorem idx_ne (cfg : Cfg) {a b : Nat} (hab : a ≠ b) (h1 : a < b + cfg.size) (h2 : b < a + cfg.size) :
    cfg.idx a ≠ cfg.idx b := by
  rw [idx_eq_mod, idx_eq_mod]; exact Nat.mod_ne_of_ne hab h1 h2

theorem wr_size (b : Array UInt8) (i : Nat) (v : UInt8) : (wr b i v).size = b.size := by
  unfold wr; simp

theorem rd_wr_self (b : Array UInt8) (i : Nat) (v : UInt8) (h : i < b.size) : rd (wr b i v) i = v := by
  unfold rd wr
  rw [Array.getD_eq_getD_getElem?, Array.getElem?_setIfInBounds_self_of_lt h]; rfl

theorem rd_wr_ne (b : Array UInt8) (i j : Nat) (v : UInt8) (h : i ≠ j) : rd (wr b i v) j = rd b j := by
  unfold rd wr
  rw [Array.getD_eq_getD_getElem?, Array.getD_eq_getD_getElem?, Array.getElem?_setIfInBounds_ne h]

theorem segment_length (src : Nat → UInt8) (base k : Nat) : (segment src base k).length = k := by
  unfold segment; simp

theorem segment_zero (src : Nat → UInt8) (base : Nat) : segment src base 0 = [] := rfl

theorem segment_succ (src : Nat → UInt8) (base k : Nat) :
    segment src base (k + 1) = segment src base k ++ [src (base + k)] := by
  unfold segment; simp [List.range_succ]

theorem segment_append (src : Nat → UInt8) (base a b : Nat) :
    segment src base (a + b) = segment src base a ++ segment src (base + a) b := by
  induction b with
  | zero => simp [segment_zero]
  | succ b ih => rw [← Nat.add_assoc, segment_succ, ih, segment_succ, List.append_assoc, Nat.add_assoc]

theorem segment_take (src : Nat → UInt8) (base k n : Nat) (h : n ≤ k) :
    (segment src base k).take n = segment src base n := by
  have : k = n + (k - n) := by omega
  rw [this, segment_append, List.take_left' (segment_length _ _ _)]

inductive Role where
  | prod | cons | any
deriving DecidableEq

def pcRole : Pc → Role
  | .idle | .x10 | .x11 | .x12 | .x13 | .x14 | .x15 | .x16 | .l20 | .l21 _ => .any
  | .s30 _ | .s31 _ | .s32 _ _ | .s33 _ _ | .s34 _ _ | .s35 _ _ | .s36 _ _ | .s36w _ _ | .s37 _ _
  | .s38 _ _ _ | .s39 _ _ | .w40 _ | .w41c _ _ _ | .w42 _ _ | .w43 _ | .w44 _ | .w45 _
  | .c50 _ _ | .c51 _ | .c52 _ | .c53 _ | .f0 _ _ _
  | .g110 _ _ | .g112 _ _ _ | .g111 _ _ _ _ | .g111c _ _ _ _ _ | .g111r _ _ _ => .prod
  | .r60 _ | .r61 _ | .r62 _ _ | .r63c _ _ _ _ _ | .r64 _ _ _ | .r65 _ _ _ | .r66 _ _ _ | .r67 _ _ _
  | .r73 _ _ | .r74 _ _ | .r75 _ _ | .r75r _ _ | .r76 _ _ | .r77 _ _ | .r77w _ _ | .r78 _ _ | .r79 _
  | .p84r _ _ _ | .p80 _ _ | .p81 _ _ _ | .p82 _ _ _ | .p83 _ _ _ | .p84 _ _ _ | .p85 _ _ _ | .p86 _ _ _ | .p86w _ _ _
  | .p87 _ _ _ | .p88 _ _ _ _ | .p89c _ _ _ _ _ _
  | .k100 _ | .k101 _ _ | .k102 _ _ | .k103 _ | .k104 _ | .k105 _ | .u0 _ _ _ _ => .cons

def roleOK (t : Tid) (r : Role) : Bool :=
  match t, r with
  | _, .any => true
  | .p, .prod => true
  | .c, .cons => true
  | _, _ => false

/-- a thread is well-typed for its role: producer calls only on `p`, consumer calls only on `c` -/
structure ThOK (t : Tid) (th : Th) : Prop where
  prog : ∀ c ∈ th.prog, t.allowed c = true
  cur : ∀ c, th.cur = some c → t.allowed c = true
  role : roleOK t (pcRole th.pc) = true

/-- the part of the shared state the safety argument is about -/
structure Core where
  buf : Array UInt8
  pseq : Nat
  cseq : Nat
  gate : Nat
  gotRev : List UInt8

def _root_.Mqtt.Model.Ring.Sh.core (sh : Sh) : Core := ⟨sh.buf, sh.pseq, sh.cseq, sh.gate, sh.gotRev⟩

/-! What the model's setters do to each field of the shared state. -/

@[simp] theorem core_setOwner (sh : Sh) (m : Mx) (o : Option Tid) : (sh.setOwner m o).core = sh.core := by
  cases m <;> rfl
@[simp] theorem core_setNote (sh : Sh) (m : Mx) (b : Bool) : (sh.setNote m b).core = sh.core := by
  cases m <;> rfl
@[simp] theorem core_unlock (sh : Sh) (m : Mx) : (sh.unlock m).core = sh.core := by
  unfold Sh.unlock; split
  · rfl
  · exact core_setOwner _ _ _
@[simp] theorem core_bcast (sh : Sh) (m : Mx) : (sh.bcast m).core = sh.core := by simp [Sh.bcast]
@[simp] theorem core_park (sh : Sh) (m : Mx) : (sh.park m).core = sh.core := by simp [Sh.park]

@[simp] theorem owner_setOwner (sh : Sh) (m m' : Mx) (o : Option Tid) :
    (sh.setOwner m o).owner m' = if m = m' then o else sh.owner m' := by
  cases m <;> cases m' <;> rfl
@[simp] theorem owner_setNote (sh : Sh) (m m' : Mx) (b : Bool) : (sh.setNote m b).owner m' = sh.owner m' := by
  cases m <;> cases m' <;> rfl
@[simp] theorem crash_setOwner (sh : Sh) (m : Mx) (o : Option Tid) : (sh.setOwner m o).crash = sh.crash := by
  cases m <;> rfl
@[simp] theorem crash_setNote (sh : Sh) (m : Mx) (b : Bool) : (sh.setNote m b).crash = sh.crash := by
  cases m <;> rfl

@[simp] theorem pseq_setOwner (sh : Sh) (m : Mx) (o : Option Tid) : (sh.setOwner m o).pseq = sh.pseq := by cases m <;> rfl
@[simp] theorem pseq_setNote (sh : Sh) (m : Mx) (b : Bool) : (sh.setNote m b).pseq = sh.pseq := by cases m <;> rfl
@[simp] theorem pseq_unlock (sh : Sh) (m : Mx) : (sh.unlock m).pseq = sh.pseq := by
  unfold Sh.unlock; split <;> simp
@[simp] theorem cseq_setOwner (sh : Sh) (m : Mx) (o : Option Tid) : (sh.setOwner m o).cseq = sh.cseq := by cases m <;> rfl
@[simp] theorem cseq_setNote (sh : Sh) (m : Mx) (b : Bool) : (sh.setNote m b).cseq = sh.cseq := by cases m <;> rfl
@[simp] theorem cseq_unlock (sh : Sh) (m : Mx) : (sh.unlock m).cseq = sh.cseq := by
  unfold Sh.unlock; split <;> simp
@[simp] theorem done_setOwner (sh : Sh) (m : Mx) (o : Option Tid) : (sh.setOwner m o).done = sh.done := by cases m <;> rfl
@[simp] theorem done_setNote (sh : Sh) (m : Mx) (b : Bool) : (sh.setNote m b).done = sh.done := by cases m <;> rfl
@[simp] theorem done_unlock (sh : Sh) (m : Mx) : (sh.unlock m).done = sh.done := by
  unfold Sh.unlock; split <;> simp
@[simp] theorem note_setOwner (sh : Sh) (m m' : Mx) (o : Option Tid) : (sh.setOwner m o).note m' = sh.note m' := by
  cases m <;> cases m' <;> rfl
@[simp] theorem note_setNote (sh : Sh) (m m' : Mx) (b : Bool) :
    (sh.setNote m b).note m' = if m = m' then b else sh.note m' := by
  cases m <;> cases m' <;> rfl
@[simp] theorem note_unlock (sh : Sh) (m m' : Mx) : (sh.unlock m).note m' = sh.note m' := by
  unfold Sh.unlock; split
  · rfl
  · exact note_setOwner _ _ _ _
@[simp] theorem cNote_setNote_c (sh : Sh) (b : Bool) : (sh.setNote .cL b).cNote = b := rfl
@[simp] theorem pNote_setNote_p (sh : Sh) (b : Bool) : (sh.setNote .pL b).pNote = b := rfl

theorem unlock_held (sh : Sh) (m : Mx) (t : Tid) (h : sh.owner m = some t) : sh.unlock m = sh.setOwner m none := by
  unfold Sh.unlock; rw [h]

theorem map_lock {β : Type} (sh : Sh) (m : Mx) (me : Tid) (b b' : β) (s' : Sh) :
    Option.map (fun x => (x, b)) (sh.lock m me) = some (s', b') ↔
      sh.owner m = none ∧ sh.setOwner m (some me) = s' ∧ b = b' := by
  unfold Sh.lock
  cases h : sh.owner m <;> simp

theorem map_resume {β : Type} (sh : Sh) (m : Mx) (me : Tid) (b b' : β) (s' : Sh) :
    Option.map (fun x => (x, b)) (sh.resume m me) = some (s', b') ↔
      sh.note m = true ∧ sh.owner m = none ∧ (sh.setOwner m (some me)).setNote m false = s' ∧ b = b' := by
  unfold Sh.resume Sh.lock
  cases hn : sh.note m <;> cases h : sh.owner m <;> simp

theorem ite_some {α : Type} (c : Prop) [Decidable c] (x y : Option α) (r : α) :
    (if c then x else y) = some r ↔ (c ∧ x = some r) ∨ (¬ c ∧ y = some r) := by
  split <;> simp [*]

theorem tstep_crash (cfg : Cfg) (sh : Sh) (me : Tid) (th : Th) (r : Sh × Th)
    (hs : tstep cfg sh me th = some r) : sh.crash = false := by
  cases hc : sh.crash
  · rfl
  · rw [tstep, if_pos hc] at hs; cases hs

theorem rfExit_pc (th : Th) (n : Nat) (e : Err) : (rfExit th n e).pc = .x10 := rfl

theorem wfsErr_pc (th : Th) (e : Err) : (wfsErr th e).pc = .idle ∨ (wfsErr th e).pc = .x10 := by
  unfold wfsErr
  split
  · exact Or.inr rfl
  · exact Or.inr rfl
  · exact Or.inl rfl

theorem enterWfs_pc (cfg : Cfg) (th : Th) (n : Nat) :
    (enterWfs cfg th n).pc = .s30 n ∨ (enterWfs cfg th n).pc = .idle ∨ (enterWfs cfg th n).pc = .x10 := by
  unfold enterWfs
  split
  · exact Or.inr (wfsErr_pc th _)
  · exact Or.inl rfl

theorem wcRet_pc (th : Th) (n : Nat) : (wcRet th n).pc = .idle ∨ ∃ tot ms, (wcRet th n).pc = .g110 tot ms := by
  unfold wcRet
  split
  · exact Or.inr ⟨_, _, rfl⟩
  · exact Or.inl rfl

theorem closeRet_pc (th : Th) : (closeRet th).pc = .idle := by
  unfold closeRet
  split <;> rfl

/-- the statements of `Close` after the first, which has set `done` -/
def closeTail : Pc → Bool
  | .x11 | .x12 | .x13 | .x14 | .x15 | .x16 => true
  | _ => false

@[simp] theorem prog_rfExit (th : Th) (n : Nat) (e : Err) : (rfExit th n e).prog = th.prog := rfl
@[simp] theorem prog_wfsErr (th : Th) (e : Err) : (wfsErr th e).prog = th.prog := by
  unfold wfsErr; split <;> rfl
@[simp] theorem prog_enterWfs (cfg : Cfg) (th : Th) (n : Nat) : (enterWfs cfg th n).prog = th.prog := by
  unfold enterWfs; split
  · exact prog_wfsErr _ _
  · rfl
@[simp] theorem prog_wcRet (th : Th) (n : Nat) : (wcRet th n).prog = th.prog := by
  unfold wcRet; split <;> rfl
@[simp] theorem prog_closeRet (th : Th) : (closeRet th).prog = th.prog := by
  unfold closeRet; split <;> rfl
@[simp] theorem prog_wfsOk (cfg : Cfg) (th : Th) (ppos n : Nat) : (wfsOk cfg th ppos n).prog = th.prog := by
  unfold wfsOk; dsimp only
  repeat' split
  all_goals rfl
theorem prog_startCall (cfg : Cfg) (th : Th) (call : Call) : (startCall cfg th call).prog = th.prog := by
  cases call <;> simp only [startCall, Th.goto, Th.ret, prog_enterWfs]
  all_goals (repeat' split)
  all_goals rfl

/-! An argument about all steps is a `cases` on `Step`; it need not unfold `tstep` again. -/

/-- the thread as every step first makes it: the result of the previous call forgotten -/
def _root_.Mqtt.Model.Ring.Th.clr (th : Th) : Th := { th with res := none }

section
variable (cfg : Cfg) (me : Tid) (sh : Sh) (th : Th)

set_option autoImplicit true in
/-- `Step cfg me sh th pc sh' th'`: thread `me`, in state `th` at program counter `pc`, takes the shared
state from `sh` to `sh'` and becomes `th'`.  One constructor per branch of `tstep`, named after the
program counter (and the branch: `_done` the ring is closed, `_wait`/`_full` the wait condition holds,
`_room`/`_data` it does not, `_eof` it still holds after `done` was seen, `_copy`/`_end` a byte loop goes on / is over,
`_far`/`_near`/`_empty` how much `Read` finds, `_tmp`/`_alias` the peeked bytes wrap and are copied / are handed out in place,
`_ok`/`_insuf`, `_commit`/`_none`, `_eof`/`_read`/`_len` the outcome of the statement's test);
`free`: the mutex is free, `woken`: the note is set.
In a `case`, the locals of a constructor come in the order in which its type mentions them (those of its hypotheses before
those of the program counter), the hypotheses themselves last. -/
inductive Step : Pc → Sh → Th → Prop
  | start (h : th.prog = call :: rest) : Step .idle sh (startCall cfg { th.clr with prog := rest, cur := some call } call)
  -- Close
  | x10 : Step .x10 { sh with done := true } (th.clr.goto .x11)
  | x11 (free : sh.owner .pL = none) : Step .x11 (sh.setOwner .pL (some me)) (th.clr.goto .x12)
  | x12 : Step .x12 (sh.bcast .pL) (th.clr.goto .x13)
  | x13 : Step .x13 (sh.unlock .pL) (th.clr.goto .x14)
  | x14 (free : sh.owner .cL = none) : Step .x14 (sh.setOwner .cL (some me)) (th.clr.goto .x15)
  | x15 : Step .x15 (sh.bcast .cL) (th.clr.goto .x16)
  | x16 : Step .x16 (sh.unlock .cL) (closeRet th.clr)
  -- Len
  | l20 : Step .l20 sh (th.clr.goto (.l21 sh.cseq))
  | l21_eof (hc : th.cur = some (.read n)) (h : sh.pseq - cpos = 0) : Step (.l21 cpos) sh (th.clr.ret { err := .eof })
  | l21_read (hc : th.cur = some (.read n)) (h : ¬ sh.pseq - cpos = 0) : Step (.l21 cpos) sh (th.clr.goto (.r61 n))
  | l21_len (hc : ∀ n, th.cur ≠ some (.read n)) : Step (.l21 cpos) sh (th.clr.ret { n := sh.pseq - cpos })
  -- waitForWriteSpace
  | s30_done (h : sh.done = true) : Step (.s30 n) sh (wfsErr th.clr .eof)
  | s30 (h : ¬ sh.done = true) : Step (.s30 n) sh (th.clr.goto (.s31 n))
  | s31_wait (h : sh.pseq + n > sh.gate + cfg.size ∨ sh.gate > sh.pseq) : Step (.s31 n) sh (th.clr.goto (.s32 n sh.pseq))
  | s31_room (h : ¬ (sh.pseq + n > sh.gate + cfg.size ∨ sh.gate > sh.pseq)) : Step (.s31 n) sh (th.clr.goto (.s39 n sh.pseq))
  | s32 (free : sh.owner .pL = none) : Step (.s32 n ppos) (sh.setOwner .pL (some me)) (th.clr.goto (.s33 n ppos))
  | s33_full (h : ppos + n > sh.cseq + cfg.size) : Step (.s33 n ppos) sh (th.clr.goto (.s34 n ppos))
  | s33_room (h : ¬ ppos + n > sh.cseq + cfg.size) : Step (.s33 n ppos) sh (th.clr.goto (.s38 n ppos sh.cseq))
  | s34_done (h : sh.done = true) : Step (.s34 n ppos) sh (th.clr.goto (.s35 n ppos))
  | s34 (h : ¬ sh.done = true) : Step (.s34 n ppos) sh (th.clr.goto (.s36 n ppos))
  | s35 : Step (.s35 n ppos) (sh.unlock .pL) (wfsErr th.clr .eof)
  | s36 : Step (.s36 n ppos) (sh.park .pL) (th.clr.goto (.s36w n ppos))
  | s36w (woken : sh.note .pL = true) (free : sh.owner .pL = none) :
      Step (.s36w n ppos) ((sh.setOwner .pL (some me)).setNote .pL false) (th.clr.goto (.s37 n ppos))
  | s37_full (h : ppos + n > sh.cseq + cfg.size) : Step (.s37 n ppos) sh (th.clr.goto (.s34 n ppos))
  | s37_room (h : ¬ ppos + n > sh.cseq + cfg.size) : Step (.s37 n ppos) sh (th.clr.goto (.s38 n ppos sh.cseq))
  | s38 : Step (.s38 n ppos cpos) (({ sh with gate := cpos }).unlock .pL) (th.clr.goto (.s39 n ppos))
  | s39_done (h : sh.done = true) : Step (.s39 n ppos) sh (wfsErr th.clr .eof)
  | s39 (h : ¬ sh.done = true) : Step (.s39 n ppos) sh (wfsOk cfg th.clr ppos n)
  -- Write
  | w40_done (h : sh.done = true) : Step (.w40 n) sh (th.clr.ret { err := .eof })
  | w40 (h : ¬ sh.done = true) : Step (.w40 n) sh (enterWfs cfg th.clr n)
  | w41c_copy (h : j < n) : Step (.w41c n ppos j)
      { sh with buf := wr sh.buf (cfg.idx (ppos + j)) (cfg.src (ppos + j)) } (th.clr.goto (.w41c n ppos (j + 1)))
  | w41c_end (h : ¬ j < n) : Step (.w41c n ppos j) sh (th.clr.goto (.w42 n ppos))
  | w42 : Step (.w42 n ppos) { sh with pseq := ppos + n } ({ th.clr with slice := none, filled := 0 }.goto (.w43 n))
  | w43 (free : sh.owner .cL = none) : Step (.w43 n) (sh.setOwner .cL (some me)) (th.clr.goto (.w44 n))
  | w44 : Step (.w44 n) (sh.bcast .cL) (th.clr.goto (.w45 n))
  | w45 : Step (.w45 n) (sh.unlock .cL) (th.clr.ret { n := n })
  -- WriteCommit
  | c50 : Step (.c50 n ppos) { sh with pseq := ppos + n } ({ th.clr with slice := none, filled := 0 }.goto (.c51 n))
  | c51 (free : sh.owner .cL = none) : Step (.c51 n) (sh.setOwner .cL (some me)) (th.clr.goto (.c52 n))
  | c52 : Step (.c52 n) (sh.bcast .cL) (th.clr.goto (.c53 n))
  | c53 : Step (.c53 n) (sh.unlock .cL) (wcRet th.clr n)
  -- filling the reserved slice
  | f0_copy (h : j < len) : Step (.f0 start len j)
      { sh with buf := wr sh.buf (cfg.idx (start + j)) (cfg.src (start + j)) } (th.clr.goto (.f0 start len (j + 1)))
  | f0_end (h : ¬ j < len) : Step (.f0 start len j) sh ({ th.clr with filled := len }.ret { n := len, off := start })
  -- ReadFrom
  | g110_done (h : sh.done = true) : Step (.g110 tot ms) sh (rfExit th.clr tot .eof)
  | g110 (h : ¬ sh.done = true) : Step (.g110 tot ms) sh (enterWfs cfg { th.clr with cur := some (.rfrom tot ms) } 1)
  | g112 : Step (.g112 tot ms ppos) sh (th.clr.goto (.g111 tot ms ppos
      (if cfg.idx ppos + min cfg.rblock (cfg.size - (ppos - sh.cseq)) > cfg.size then cfg.size - cfg.idx ppos
       else min cfg.rblock (cfg.size - (ppos - sh.cseq)))))
  | g111_eof (h : ms = []) : Step (.g111 tot ms start len) sh (rfExit th.clr tot .eof)
  | g111 (h : ¬ ms = []) : Step (.g111 tot ms start len) sh (th.clr.goto (.g111c tot ms.tail start (min (ms.headD 0) len) 0))
  | g111c_copy (h : j < n) : Step (.g111c tot ms start n j)
      { sh with buf := wr sh.buf (cfg.idx (start + j)) (cfg.src (start + j)) } (th.clr.goto (.g111c tot ms start n (j + 1)))
  | g111c_end (h : ¬ j < n) : Step (.g111c tot ms start n j) sh (th.clr.goto (.g111r tot ms n))
  | g111r_commit (h : 0 < n) : Step (.g111r tot ms n) sh
      (enterWfs cfg { th.clr with filled := n, cur := some (.rfcommit (tot + n) ms) } n)
  | g111r_none (h : ¬ 0 < n) : Step (.g111r tot ms n) sh (th.clr.goto (.g110 tot ms))
  -- Read
  | r60_done (h : sh.done = true) : Step (.r60 n) sh (th.clr.goto .l20)
  | r60 (h : ¬ sh.done = true) : Step (.r60 n) sh (th.clr.goto (.r61 n))
  | r61 : Step (.r61 n) sh (th.clr.goto (.r62 n sh.cseq))
  | r62_far (h : cpos + n < sh.pseq) : Step (.r62 n cpos) sh
      (th.clr.goto (.r63c false cpos (min n (cfg.size - cfg.idx cpos)) 0 []))
  | r62_near (h : ¬ cpos + n < sh.pseq) (h' : cpos < sh.pseq) : Step (.r62 n cpos) sh
      (th.clr.goto (.r63c true cpos (if cfg.idx cpos + (sh.pseq - cpos) < cfg.size then min n (sh.pseq - cpos)
        else min n (cfg.size - cfg.idx cpos)) 0 []))
  | r62_empty (h : ¬ cpos + n < sh.pseq) (h' : ¬ cpos < sh.pseq) : Step (.r62 n cpos) sh (th.clr.goto (.r73 n cpos))
  | r63c_copy (h : j < k) : Step (.r63c b cpos k j acc) sh
      (th.clr.goto (.r63c b cpos k (j + 1) (rd sh.buf (cfg.idx (cpos + j)) :: acc)))
  | r63c_end (h : ¬ j < k) : Step (.r63c b cpos k j acc) sh (th.clr.goto (.r64 b cpos acc))
  | r64 : Step (.r64 b cpos acc) { sh with cseq := cpos + acc.length, gotRev := acc ++ sh.gotRev }
      ({ th.clr with view := .none, pending := [] }.goto (.r65 b cpos acc))
  | r65 (free : sh.owner .pL = none) : Step (.r65 b cpos acc) (sh.setOwner .pL (some me)) (th.clr.goto (.r66 b cpos acc))
  | r66 : Step (.r66 b cpos acc) (sh.bcast .pL) (th.clr.goto (.r67 b cpos acc))
  | r67 : Step (.r67 b cpos acc) (sh.unlock .pL) (th.clr.ret { n := acc.length, off := cpos, data := acc.reverse })
  | r73 (free : sh.owner .cL = none) : Step (.r73 n cpos) (sh.setOwner .cL (some me)) (th.clr.goto (.r74 n cpos))
  | r74_wait (h : cpos ≥ sh.pseq) : Step (.r74 n cpos) sh (th.clr.goto (.r75 n cpos))
  | r74_data (h : ¬ cpos ≥ sh.pseq) : Step (.r74 n cpos) sh (th.clr.goto (.r79 n))
  | r75_done (h : sh.done = true) : Step (.r75 n cpos) sh (th.clr.goto (.r75r n cpos))
  | r75 (h : ¬ sh.done = true) : Step (.r75 n cpos) sh (th.clr.goto (.r77 n cpos))
  | r75r_eof (h : cpos ≥ sh.pseq) : Step (.r75r n cpos) sh (th.clr.goto (.r76 n cpos))
  | r75r_data (h : ¬ cpos ≥ sh.pseq) : Step (.r75r n cpos) sh (th.clr.goto (.r79 n))
  | r76 : Step (.r76 n cpos) (sh.unlock .cL) (th.clr.ret { err := .eof })
  | r77 : Step (.r77 n cpos) (sh.park .cL) (th.clr.goto (.r77w n cpos))
  | r77w (woken : sh.note .cL = true) (free : sh.owner .cL = none) :
      Step (.r77w n cpos) ((sh.setOwner .cL (some me)).setNote .cL false) (th.clr.goto (.r78 n cpos))
  | r78_wait (h : cpos ≥ sh.pseq) : Step (.r78 n cpos) sh (th.clr.goto (.r75 n cpos))
  | r78_data (h : ¬ cpos ≥ sh.pseq) : Step (.r78 n cpos) sh (th.clr.goto (.r79 n))
  | r79 : Step (.r79 n) (sh.unlock .cL) (th.clr.goto (.r61 n))
  -- ReadPeek / ReadWait
  | p80 : Step (.p80 w n) sh (th.clr.goto (.p81 w n sh.cseq))
  | p81 : Step (.p81 w n cpos) sh (th.clr.goto (.p82 w n cpos))
  | p82 (free : sh.owner .cL = none) : Step (.p82 w n cpos) (sh.setOwner .cL (some me)) (th.clr.goto (.p83 w n cpos))
  | p83_wait (h : mustWait w n cpos sh.pseq = true) : Step (.p83 w n cpos) sh (th.clr.goto (.p84 w n cpos))
  | p83_data (h : ¬ mustWait w n cpos sh.pseq = true) : Step (.p83 w n cpos) sh (th.clr.goto (.p88 w n cpos sh.pseq))
  | p84_done (h : sh.done = true) : Step (.p84 w n cpos) sh (th.clr.goto (.p84r w n cpos))
  | p84 (h : ¬ sh.done = true) : Step (.p84 w n cpos) sh (th.clr.goto (.p86 w n cpos))
  | p84r_eof (h : mustWait w n cpos sh.pseq = true) : Step (.p84r w n cpos) sh (th.clr.goto (.p85 w n cpos))
  | p84r_data (h : ¬ mustWait w n cpos sh.pseq = true) : Step (.p84r w n cpos) sh (th.clr.goto (.p88 w n cpos sh.pseq))
  | p85 : Step (.p85 w n cpos) (sh.unlock .cL) (th.clr.ret { err := .eof })
  | p86 : Step (.p86 w n cpos) (sh.park .cL) (th.clr.goto (.p86w w n cpos))
  | p86w (woken : sh.note .cL = true) (free : sh.owner .cL = none) :
      Step (.p86w w n cpos) ((sh.setOwner .cL (some me)).setNote .cL false) (th.clr.goto (.p87 w n cpos))
  | p87_wait (h : mustWait w n cpos sh.pseq = true) : Step (.p87 w n cpos) sh (th.clr.goto (.p84 w n cpos))
  | p87_data (h : ¬ mustWait w n cpos sh.pseq = true) : Step (.p87 w n cpos) sh (th.clr.goto (.p88 w n cpos sh.pseq))
  | p88_tmp (h : cfg.idx cpos + (if w then n else if ppos - cpos ≥ n then n else ppos - cpos) > cfg.size) :
      Step (.p88 w n cpos ppos) (sh.unlock .cL)
        (th.clr.goto (.p89c w cpos (if w then n else if ppos - cpos ≥ n then n else ppos - cpos)
          (if w then Err.ok else if ppos - cpos ≥ n then Err.ok else Err.insuf) 0 []))
  | p88_alias (h : ¬ cfg.idx cpos + (if w then n else if ppos - cpos ≥ n then n else ppos - cpos) > cfg.size) :
      Step (.p88 w n cpos ppos) (sh.unlock .cL)
        ({ th.clr with view := .alias cpos (if w then n else if ppos - cpos ≥ n then n else ppos - cpos) }.ret
          { n := if w then n else if ppos - cpos ≥ n then n else ppos - cpos,
            err := if w then Err.ok else if ppos - cpos ≥ n then Err.ok else Err.insuf, off := cpos })
  | p89c_copy (h : j < m) : Step (.p89c w cpos m err j acc) sh
      (th.clr.goto (.p89c w cpos m err (j + 1) (rd sh.buf (cfg.idx (cpos + j)) :: acc)))
  | p89c_end (h : ¬ j < m) : Step (.p89c w cpos m err j acc) sh
      ({ th.clr with view := .tmp cpos acc.reverse }.ret { n := m, err := err, off := cpos })
  -- ReadCommit
  | k100 : Step (.k100 n) sh (th.clr.goto (.k101 n sh.cseq))
  | k101_ok (h : cpos + n ≤ sh.pseq) : Step (.k101 n cpos) sh (th.clr.goto (.k102 n cpos))
  | k101_insuf (h : ¬ cpos + n ≤ sh.pseq) : Step (.k101 n cpos) sh (th.clr.ret { err := .insuf })
  | k102 : Step (.k102 n cpos) { sh with cseq := cpos + n, gotRev := (th.pending.take n).reverse ++ sh.gotRev }
      ({ th.clr with view := .none, pending := [] }.goto (.k103 n))
  | k103 (free : sh.owner .pL = none) : Step (.k103 n) (sh.setOwner .pL (some me)) (th.clr.goto (.k104 n))
  | k104 : Step (.k104 n) (sh.bcast .pL) (th.clr.goto (.k105 n))
  | k105 : Step (.k105 n) (sh.unlock .pL) (th.clr.ret { n := n })
  -- reading an aliased view
  | u0_copy (h : j < m) : Step (.u0 cpos m j acc) sh
      (th.clr.goto (.u0 cpos m (j + 1) (rd sh.buf (cfg.idx (cpos + j)) :: acc)))
  | u0_end (h : ¬ j < m) : Step (.u0 cpos m j acc) sh
      ({ th.clr with pending := acc.reverse }.ret { n := m, off := cpos, data := acc.reverse })

end

/-- The program counter is an index of `Step` apart from the thread: a proof over all steps says `generalize th.pc = pc at hst …`
before `cases hst`, so that each case computes at its own program counter while the thread stays a variable. -/
theorem tstep_step (cfg : Cfg) (sh sh' : Sh) (me : Tid) (th th' : Th)
    (hs : tstep cfg sh me th = some (sh', th')) : Step cfg me sh th th.pc sh' th' := by
  have hcr : ¬ sh.crash = true := by rw [tstep_crash _ _ _ _ _ hs]; exact Bool.false_ne_true
  rw [tstep, if_neg hcr] at hs
  dsimp only at hs
  split at hs
  all_goals (rename_i heq; rw [heq])
  -- by the shape of the statement: plain; one test; `Lock`; the second half of `Wait`; two tests (`r62`);
  -- a `match` on the program or the call in progress (`idle`, `l21`)
  all_goals first
    | (cases hs; constructor; done)
    | (simp only [ite_some, Option.some.injEq, Prod.mk.injEq] at hs
       rcases hs with ⟨_, rfl, rfl⟩ | ⟨_, rfl, rfl⟩ <;> (constructor; assumption))
    | (simp only [map_lock] at hs; obtain ⟨_, rfl, rfl⟩ := hs; constructor; assumption)
    | (simp only [map_resume] at hs; obtain ⟨_, _, rfl, rfl⟩ := hs; constructor <;> assumption)
    | (simp only [ite_some, Option.some.injEq, Prod.mk.injEq] at hs
       rcases hs with ⟨_, rfl, rfl⟩ | ⟨_, ⟨_, rfl, rfl⟩ | ⟨_, rfl, rfl⟩⟩ <;> (constructor <;> assumption))
    | ((repeat' split at hs) <;> cases hs <;> (constructor <;> assumption))

/-! Every statement performs at most one lock operation, fixed by its program counter, and before it at
most one store. -/

inductive LockOp where
  | skip | lock (m : Mx) | unlock (m : Mx) | bcast (m : Mx) | park (m : Mx) | resume (m : Mx)

def lockOp : Pc → LockOp
  | .x11 | .s32 _ _ | .r65 _ _ _ | .k103 _ => .lock .pL
  | .x14 | .w43 _ | .c51 _ | .r73 _ _ | .p82 _ _ _ => .lock .cL
  | .x12 | .r66 _ _ _ | .k104 _ => .bcast .pL
  | .x15 | .w44 _ | .c52 _ => .bcast .cL
  | .x13 | .s35 _ _ | .s38 _ _ _ | .r67 _ _ _ | .k105 _ => .unlock .pL
  | .x16 | .w45 _ | .c53 _ | .r76 _ _ | .r79 _ | .p85 _ _ _ | .p88 _ _ _ _ => .unlock .cL
  | .s36 _ _ => .park .pL
  | .r77 _ _ | .p86 _ _ _ => .park .cL
  | .s36w _ _ => .resume .pL
  | .r77w _ _ | .p86w _ _ _ => .resume .cL
  | _ => .skip

set_option autoImplicit true in
inductive Does (me : Tid) : LockOp → Sh → Sh → Prop
  | skip : Does me .skip d d
  | lock (free : d.owner m = none) : Does me (.lock m) d (d.setOwner m (some me))
  | unlock : Does me (.unlock m) d (d.unlock m)
  | bcast : Does me (.bcast m) d (d.bcast m)
  | park : Does me (.park m) d (d.park m)
  | resume (woken : d.note m = true) (free : d.owner m = none) :
      Does me (.resume m) d ((d.setOwner m (some me)).setNote m false)

/-- the program counters whose statement may change `Sh.core`: the cursor, gate and cell stores (a copy loop also at its last, empty
iteration); not the `done` store -/
def dataPc : Pc → Bool
  | .w41c _ _ _ | .w42 _ _ | .c50 _ _ | .f0 _ _ _ | .s38 _ _ _ | .g111c _ _ _ _ _ | .r64 _ _ _ | .k102 _ _ => true
  | _ => false

/-- the program counters whose statement always stores -/
def stores : Pc → Bool
  | .x10 | .w42 _ _ | .c50 _ _ | .s38 _ _ _ | .r64 _ _ _ | .k102 _ _ => true
  | _ => false

set_option autoImplicit true in
/-- `Store sh pc d`: the store of the statement at `pc`, if it has one, takes the shared state from `sh` to `d`
(the byte written by a copy loop and the bytes `ReadCommit` hands over are left open) -/
inductive Store (sh : Sh) : Pc → Sh → Prop
  | none (h : stores pc = false) : Store sh pc sh
  | done : Store sh .x10 { sh with done := true }
  | w41c : Store sh (.w41c n p j) { sh with buf := b }
  | f0 : Store sh (.f0 p n j) { sh with buf := b }
  | g111c : Store sh (.g111c t l p n j) { sh with buf := b }
  | w42 : Store sh (.w42 n p) { sh with pseq := p + n }
  | c50 : Store sh (.c50 n p) { sh with pseq := p + n }
  | r64 : Store sh (.r64 b c a) { sh with cseq := c + a.length, gotRev := a ++ sh.gotRev }
  | k102 : Store sh (.k102 n c) { sh with cseq := c + n, gotRev := g }
  | s38 : Store sh (.s38 n p c) { sh with gate := c }

theorem step_shared {cfg : Cfg} {me : Tid} {sh sh' : Sh} {th th' : Th} {pc : Pc}
    (h : Step cfg me sh th pc sh' th') : ∃ d, Store sh pc d ∧ Does me (lockOp pc) d sh' := by
  cases h
  case x10 => exact ⟨_, .done, .skip⟩
  case w41c_copy => exact ⟨_, .w41c, .skip⟩
  case f0_copy => exact ⟨_, .f0, .skip⟩
  case g111c_copy => exact ⟨_, .g111c, .skip⟩
  case w42 => exact ⟨_, .w42, .skip⟩
  case c50 => exact ⟨_, .c50, .skip⟩
  case r64 => exact ⟨_, .r64, .skip⟩
  case k102 => exact ⟨_, .k102, .skip⟩
  case s38 => exact ⟨_, .s38, .unlock⟩
  all_goals first
    | exact ⟨_, .none rfl, .skip⟩
    | exact ⟨_, .none rfl, .lock ‹_›⟩
    | exact ⟨_, .none rfl, .unlock⟩
    | exact ⟨_, .none rfl, .bcast⟩
    | exact ⟨_, .none rfl, .park⟩
    | exact ⟨_, .none rfl, .resume ‹_› ‹_›⟩

theorem Store.owner {sh d : Sh} {pc : Pc} (h : Store sh pc d) (m : Mx) : d.owner m = sh.owner m := by cases h <;> rfl
theorem Store.note {sh d : Sh} {pc : Pc} (h : Store sh pc d) (m : Mx) : d.note m = sh.note m := by cases h <;> rfl
theorem Store.crash {sh d : Sh} {pc : Pc} (h : Store sh pc d) : d.crash = sh.crash := by cases h <;> rfl

theorem Store.done_eq {sh d : Sh} {pc : Pc} (h : Store sh pc d) :
    (pc ≠ .x10 ∧ d.done = sh.done) ∨ (pc = .x10 ∧ d.done = true) := by
  cases h
  case none hn => exact .inl ⟨fun e => (by subst e; cases hn), rfl⟩
  case done => exact .inr ⟨rfl, rfl⟩
  all_goals exact .inl ⟨nofun, rfl⟩

theorem Does.done {me : Tid} {op : LockOp} {d sh' : Sh} (h : Does me op d sh') : sh'.done = d.done := by
  cases h <;> simp only [Sh.bcast, Sh.park, done_setOwner, done_setNote, done_unlock]

theorem Store.core {sh d : Sh} {pc : Pc} (h : Store sh pc d) (hd : dataPc pc = false) : d.core = sh.core := by
  cases h <;> first | rfl | cases hd

theorem Does.core {me : Tid} {op : LockOp} {d sh' : Sh} (h : Does me op d sh') : sh'.core = d.core := by
  cases h <;> simp only [core_setOwner, core_setNote, core_unlock, core_bcast, core_park]

theorem tstep_done (cfg : Cfg) (sh sh' : Sh) (me : Tid) (th th' : Th)
    (hs : tstep cfg sh me th = some (sh', th')) :
    (th.pc ≠ .x10 ∧ sh'.done = sh.done) ∨ (th.pc = .x10 ∧ sh'.done = true) := by
  obtain ⟨d, h1, h2⟩ := step_shared (tstep_step _ _ _ _ _ _ hs)
  rw [h2.done]
  exact h1.done_eq

set_option autoImplicit true in
/-- the control-flow graph of the program: `Edge pc pc'` if some step leads from `pc` to `pc'`, whatever the
locals.  What a program counter is annotated with is checked against the program by looking at every edge; what also needs the
locals or the thread is checked on `Step`. -/
inductive Edge : Pc → Pc → Prop
  | idle_idle : Edge .idle .idle | idle_w40 : Edge .idle (.w40 a) | idle_s30 : Edge .idle (.s30 a) | idle_x10 : Edge .idle .x10
  | idle_f0 : Edge .idle (.f0 a b c) | idle_g110 : Edge .idle (.g110 a l) | idle_r60 : Edge .idle (.r60 a)
  | idle_p80 : Edge .idle (.p80 w a) | idle_k100 : Edge .idle (.k100 a) | idle_u0 : Edge .idle (.u0 a b c l) | idle_l20 : Edge .idle .l20
  | x10 : Edge .x10 .x11 | x11 : Edge .x11 .x12 | x12 : Edge .x12 .x13 | x13 : Edge .x13 .x14 | x14 : Edge .x14 .x15
  | x15 : Edge .x15 .x16 | x16 : Edge .x16 .idle
  | l20 : Edge .l20 (.l21 a) | l21_idle : Edge (.l21 a) .idle | l21_r61 : Edge (.l21 a) (.r61 b)
  | s30_idle : Edge (.s30 a) .idle | s30_x10 : Edge (.s30 a) .x10 | s30_s31 : Edge (.s30 a) (.s31 b)
  | s31_s32 : Edge (.s31 a) (.s32 b c) | s31_s39 : Edge (.s31 a) (.s39 b c)
  | s32 : Edge (.s32 a b) (.s33 c d)
  | s33_s34 : Edge (.s33 a b) (.s34 c d) | s33_s38 : Edge (.s33 a b) (.s38 c d e)
  | s34_s35 : Edge (.s34 a b) (.s35 c d) | s34_s36 : Edge (.s34 a b) (.s36 c d)
  | s35_idle : Edge (.s35 a b) .idle | s35_x10 : Edge (.s35 a b) .x10
  | s36 : Edge (.s36 a b) (.s36w c d) | s36w : Edge (.s36w a b) (.s37 c d)
  | s37_s34 : Edge (.s37 a b) (.s34 c d) | s37_s38 : Edge (.s37 a b) (.s38 c d e)
  | s38 : Edge (.s38 a b c) (.s39 d e)
  | s39_idle : Edge (.s39 a b) .idle | s39_x10 : Edge (.s39 a b) .x10 | s39_w41c : Edge (.s39 a b) (.w41c c d e)
  | s39_c50 : Edge (.s39 a b) (.c50 c d) | s39_g112 : Edge (.s39 a b) (.g112 c l d)
  | w40_idle : Edge (.w40 a) .idle | w40_s30 : Edge (.w40 a) (.s30 b) | w40_x10 : Edge (.w40 a) .x10
  | w41c_w41c : Edge (.w41c a b c) (.w41c d e f) | w41c_w42 : Edge (.w41c a b c) (.w42 d e)
  | w42 : Edge (.w42 a b) (.w43 c) | w43 : Edge (.w43 a) (.w44 b) | w44 : Edge (.w44 a) (.w45 b) | w45 : Edge (.w45 a) .idle
  | c50 : Edge (.c50 a b) (.c51 c) | c51 : Edge (.c51 a) (.c52 b) | c52 : Edge (.c52 a) (.c53 b)
  | c53_idle : Edge (.c53 a) .idle | c53_g110 : Edge (.c53 a) (.g110 b l)
  | f0_f0 : Edge (.f0 a b c) (.f0 d e f) | f0_idle : Edge (.f0 a b c) .idle
  | g110_x10 : Edge (.g110 a l) .x10 | g110_s30 : Edge (.g110 a l) (.s30 b) | g110_idle : Edge (.g110 a l) .idle
  | g112 : Edge (.g112 a l b) (.g111 c l' d e)
  | g111_x10 : Edge (.g111 a l b c) .x10 | g111_g111c : Edge (.g111 a l b c) (.g111c d l' e f g)
  | g111c_g111c : Edge (.g111c a l b c d) (.g111c e l' f g h) | g111c_g111r : Edge (.g111c a l b c d) (.g111r e l' f)
  | g111r_s30 : Edge (.g111r a l b) (.s30 c) | g111r_idle : Edge (.g111r a l b) .idle | g111r_x10 : Edge (.g111r a l b) .x10
  | g111r_g110 : Edge (.g111r a l b) (.g110 c l')
  | r60_l20 : Edge (.r60 a) .l20 | r60_r61 : Edge (.r60 a) (.r61 b)
  | r61 : Edge (.r61 a) (.r62 b c)
  | r62_r63c : Edge (.r62 a b) (.r63c w c d e l) | r62_r73 : Edge (.r62 a b) (.r73 c d)
  | r63c_r63c : Edge (.r63c w a b c l) (.r63c w' d e f l') | r63c_r64 : Edge (.r63c w a b c l) (.r64 w' d l')
  | r64 : Edge (.r64 w a l) (.r65 w' b l') | r65 : Edge (.r65 w a l) (.r66 w' b l') | r66 : Edge (.r66 w a l) (.r67 w' b l')
  | r67 : Edge (.r67 w a l) .idle
  | r73 : Edge (.r73 a b) (.r74 c d)
  | r74_r75 : Edge (.r74 a b) (.r75 c d) | r74_r79 : Edge (.r74 a b) (.r79 c)
  | r75_r75r : Edge (.r75 a b) (.r75r c d) | r75_r77 : Edge (.r75 a b) (.r77 c d)
  | r75r_r76 : Edge (.r75r a b) (.r76 c d) | r75r_r79 : Edge (.r75r a b) (.r79 c)
  | r76 : Edge (.r76 a b) .idle
  | r77 : Edge (.r77 a b) (.r77w c d) | r77w : Edge (.r77w a b) (.r78 c d)
  | r78_r75 : Edge (.r78 a b) (.r75 c d) | r78_r79 : Edge (.r78 a b) (.r79 c)
  | r79 : Edge (.r79 a) (.r61 b)
  | p80 : Edge (.p80 w a) (.p81 w' b c) | p81 : Edge (.p81 w a b) (.p82 w' c d) | p82 : Edge (.p82 w a b) (.p83 w' c d)
  | p83_p84 : Edge (.p83 w a b) (.p84 w' c d) | p83_p88 : Edge (.p83 w a b) (.p88 w' c d e)
  | p84_p84r : Edge (.p84 w a b) (.p84r w' c d) | p84_p86 : Edge (.p84 w a b) (.p86 w' c d)
  | p84r_p85 : Edge (.p84r w a b) (.p85 w' c d) | p84r_p88 : Edge (.p84r w a b) (.p88 w' c d e)
  | p85 : Edge (.p85 w a b) .idle
  | p86 : Edge (.p86 w a b) (.p86w w' c d) | p86w : Edge (.p86w w a b) (.p87 w' c d)
  | p87_p84 : Edge (.p87 w a b) (.p84 w' c d) | p87_p88 : Edge (.p87 w a b) (.p88 w' c d e)
  | p88_p89c : Edge (.p88 w a b c) (.p89c w' d e err f l) | p88_idle : Edge (.p88 w a b c) .idle
  | p89c_p89c : Edge (.p89c w a b err c l) (.p89c w' d e err' f l') | p89c_idle : Edge (.p89c w a b err c l) .idle
  | k100 : Edge (.k100 a) (.k101 b c) | k101_k102 : Edge (.k101 a b) (.k102 c d) | k101_idle : Edge (.k101 a b) .idle
  | k102 : Edge (.k102 a b) (.k103 c) | k103 : Edge (.k103 a) (.k104 b) | k104 : Edge (.k104 a) (.k105 b) | k105 : Edge (.k105 a) .idle
  | u0_u0 : Edge (.u0 a b c l) (.u0 d e f l') | u0_idle : Edge (.u0 a b c l) .idle

theorem startCall_edge (cfg : Cfg) (th : Th) (call : Call) : Edge .idle (startCall cfg th call).pc := by
  cases call <;> simp only [startCall]
  case wwait n => rcases enterWfs_pc cfg _ n with h | h | h <;> rw [h] <;> constructor
  case wcommit n => rcases enterWfs_pc cfg _ (min n th.filled) with h | h | h <;> rw [h] <;> constructor
  all_goals (repeat' split)
  all_goals constructor

theorem wfsOk_edge (cfg : Cfg) (th : Th) (ppos n a b : Nat) : Edge (.s39 a b) (wfsOk cfg th ppos n).pc := by
  unfold wfsOk; dsimp only
  repeat' split
  all_goals constructor

theorem step_edge {cfg : Cfg} {me : Tid} {sh sh' : Sh} {th th' : Th} {pc : Pc}
    (h : Step cfg me sh th pc sh' th') : Edge pc th'.pc := by
  cases h
  case start => exact startCall_edge ..
  case s39 => exact wfsOk_edge ..
  case s30_done | s39_done | s35 => rcases wfsErr_pc th.clr .eof with h | h <;> rw [h] <;> constructor
  case w40 | g110 | g111r_commit => rcases enterWfs_pc .. with h | h | h <;> rw [h] <;> constructor
  case c53 => rcases wcRet_pc .. with h | ⟨_, _, h⟩ <;> rw [h] <;> constructor
  case x16 => rw [closeRet_pc]; constructor
  all_goals constructor

theorem closeTail_edge {p q : Pc} (h : Edge p q) (hq : closeTail q = true) : p = .x10 ∨ closeTail p = true := by
  cases h <;> first | (cases hq; done) | exact .inl rfl | exact .inr rfl

theorem tstep_prog (cfg : Cfg) (sh sh' : Sh) (me : Tid) (th th' : Th)
    (hs : tstep cfg sh me th = some (sh', th')) :
    (th.pc = .idle ∧ sh' = sh ∧
      ∃ c rest, th.prog = c :: rest ∧ th' = startCall cfg { th.clr with prog := rest, cur := some c } c) ∨
    (th.pc ≠ .idle ∧ th'.prog = th.prog) := by
  have hst := tstep_step _ _ _ _ _ _ hs
  generalize th.pc = pc at hst
  cases hst
  case start c rest h => exact .inl ⟨rfl, rfl, c, rest, h, rfl⟩
  -- everywhere else the thread goes on or returns through one of the model's helpers, which keep the program
  all_goals refine .inr ⟨nofun, ?_⟩
  all_goals first
    | rfl | exact prog_wfsErr _ _ | exact prog_enterWfs _ _ _ | exact prog_wfsOk _ _ _ _ | exact prog_wcRet _ _ | exact prog_closeRet _

theorem tstep_idle (cfg : Cfg) (sh sh' : Sh) (me : Tid) (th th' : Th)
    (hs : tstep cfg sh me th = some (sh', th')) (hpc : th.pc = .idle) :
    sh' = sh ∧ ∃ c rest, th.prog = c :: rest ∧ th' = startCall cfg { th.clr with prog := rest, cur := some c } c :=
  (tstep_prog cfg _ _ _ _ _ hs).elim (·.2) (fun h => absurd hpc h.1)

theorem tstep_prog_le (cfg : Cfg) (sh sh' : Sh) (me : Tid) (th th' : Th)
    (hs : tstep cfg sh me th = some (sh', th')) : th'.prog.length ≤ th.prog.length := by
  rcases tstep_prog cfg _ _ _ _ _ hs with ⟨_, _, c, rest, e, rfl⟩ | ⟨_, e⟩
  · rw [prog_startCall, e]; exact Nat.le_succ _
  · rw [e]; exact Nat.le_refl _

theorem none_cur (t : Tid) : ∀ c, (none : Option Call) = some c → t.allowed c = true := fun _ h => nomatch h

theorem roleOK_any (t : Tid) : roleOK t .any = true := by cases t <;> rfl

theorem prod_is_p (t : Tid) (h : roleOK t .prod = true) : t = .p := by
  cases t <;> first | rfl | cases h

theorem cons_is_c (t : Tid) (h : roleOK t .cons = true) : t = .c := by
  cases t <;> first | rfl | cases h

def callRole : Call → Role
  | .write _ | .wwait _ | .wfill | .wcommit _ | .rfrom _ _ | .rfcommit _ _ | .rfret _ _ => .prod
  | .read _ | .peek _ | .rwait _ | .use | .commit _ => .cons
  | .close | .len => .any

theorem allowed_role {t : Tid} {c : Call} (h : t.allowed c = true) : roleOK t (callRole c) = true := by
  cases t <;> cases c <;> first | rfl | exact h

theorem thOK_rfExit (t : Tid) (th : Th) (n : Nat) (e : Err) (hp : ∀ c ∈ th.prog, t.allowed c = true)
    (hr : roleOK t .prod = true) : ThOK t (rfExit th n e) := by
  cases prod_is_p t hr
  exact ⟨hp, fun c h => by cases h; rfl, rfl⟩

theorem thOK_wfsErr (t : Tid) (th : Th) (e : Err) (hp : ∀ c ∈ th.prog, t.allowed c = true)
    (hr : roleOK t .prod = true) : ThOK t (wfsErr th e) := by
  unfold wfsErr
  split
  · exact thOK_rfExit t th _ e hp hr
  · exact thOK_rfExit t th _ e hp hr
  · exact ⟨hp, none_cur t, roleOK_any t⟩

theorem thOK_enterWfs (cfg : Cfg) (t : Tid) (th : Th) (n : Nat) (hp : ∀ c ∈ th.prog, t.allowed c = true)
    (hc : ∀ c, th.cur = some c → t.allowed c = true) (hr : roleOK t .prod = true) : ThOK t (enterWfs cfg th n) := by
  unfold enterWfs
  split
  · exact thOK_wfsErr t th _ hp hr
  · exact ⟨hp, hc, hr⟩

theorem thOK_wcRet (t : Tid) (th : Th) (n : Nat) (hp : ∀ c ∈ th.prog, t.allowed c = true)
    (hr : roleOK t .prod = true) : ThOK t (wcRet th n) := by
  cases prod_is_p t hr
  unfold wcRet
  split
  · exact ⟨hp, fun c h => by cases h; rfl, rfl⟩
  · exact ⟨hp, none_cur _, rfl⟩

theorem thOK_closeRet (t : Tid) (th : Th) (hp : ∀ c ∈ th.prog, t.allowed c = true) : ThOK t (closeRet th) := by
  unfold closeRet
  split <;> exact ⟨hp, none_cur t, roleOK_any t⟩

theorem thOK_wfsOk (cfg : Cfg) (t : Tid) (th : Th) (ppos n : Nat) (hp : ∀ c ∈ th.prog, t.allowed c = true)
    (hc : ∀ c, th.cur = some c → t.allowed c = true) (hr : roleOK t .prod = true) :
    ThOK t (wfsOk cfg th ppos n) := by
  unfold wfsOk
  dsimp only
  split
  · exact ⟨hp, hc, hr⟩
  · split <;> exact ⟨hp, none_cur t, roleOK_any t⟩
  · exact ⟨hp, hc, hr⟩
  · exact ⟨hp, hc, hr⟩
  · exact ⟨hp, hc, hr⟩
  · exact ⟨hp, none_cur t, roleOK_any t⟩

theorem thOK_startCall (cfg : Cfg) (t : Tid) (th : Th) (call : Call) (hp : ∀ c ∈ th.prog, t.allowed c = true)
    (hcur : th.cur = some call) (ha : t.allowed call = true) : ThOK t (startCall cfg th call) := by
  have hc : ∀ c, th.cur = some c → t.allowed c = true := fun c h => by rw [hcur] at h; cases h; exact ha
  have hr := allowed_role ha
  cases call <;> simp only [startCall]
  case wwait n => exact thOK_enterWfs cfg t _ n hp hc hr
  case wcommit n => exact thOK_enterWfs cfg t _ _ hp hc hr
  all_goals (repeat' split)
  all_goals first
    | exact ⟨hp, hc, hr⟩
    | exact ⟨hp, none_cur t, roleOK_any t⟩

theorem thOK_goto {t : Tid} {th : Th} (hp : ∀ c ∈ th.prog, t.allowed c = true) (hc : ∀ c, th.cur = some c → t.allowed c = true)
    (pc' : Pc) (hr : roleOK t (pcRole pc') = true) : ThOK t (th.clr.goto pc') := ⟨hp, hc, hr⟩

theorem thOK_ret {t : Tid} {th : Th} (hp : ∀ c ∈ th.prog, t.allowed c = true) (r : Res) : ThOK t (th.clr.ret r) :=
  ⟨hp, none_cur t, roleOK_any t⟩

theorem thOK_step (cfg : Cfg) (t : Tid) (sh sh' : Sh) (th th' : Th) (h : ThOK t th)
    (hs : tstep cfg sh t th = some (sh', th')) : ThOK t th' := by
  obtain ⟨hp, hc, hr⟩ := h
  have hst := tstep_step _ _ _ _ _ _ hs
  generalize th.pc = pc at hst hr
  cases hst
  case start call rest h =>
    rw [h] at hp
    exact thOK_startCall cfg t _ call (fun c hc => hp c (List.mem_cons_of_mem _ hc)) rfl (hp call (List.mem_cons_self ..))
  case l21_read n _ hcur _ => exact ⟨hp, hc, allowed_role (hc _ hcur)⟩
  case g110 =>
    cases prod_is_p t hr
    exact thOK_enterWfs cfg _ _ 1 hp (fun c h => by cases h; rfl) hr
  case g111r_commit =>
    cases prod_is_p t hr
    exact thOK_enterWfs cfg _ _ _ hp (fun c h => by cases h; rfl) hr
  all_goals first
    | exact thOK_goto hp hc _ hr
    | exact thOK_ret hp _
    | exact ⟨hp, hc, hr⟩
    | exact ⟨hp, none_cur t, roleOK_any t⟩
    | exact ⟨hp, hc, roleOK_any t⟩
    | exact thOK_wfsErr _ _ _ hp hr
    | exact thOK_enterWfs _ _ _ _ hp hc hr
    | exact thOK_wfsOk _ _ _ _ _ hp hc hr
    | exact thOK_wcRet _ _ _ hp hr
    | exact thOK_closeRet _ _ hp
    | exact thOK_rfExit _ _ _ _ hp hr

theorem step_some (cfg : Cfg) (s s' : St) (t : Tid) (hs : step cfg s t = some s') :
    ∃ th sh' th', s.getTh t = some th ∧ tstep cfg s.sh t th = some (sh', th') ∧
      s' = ({ s with sh := sh' } : St).setTh t th' := by
  unfold step at hs
  split at hs
  · cases hs
  · rename_i th hth
    split at hs
    · cases hs
    · rename_i sh' th' hst
      exact ⟨th, sh', th', hth, hst, (Option.some.inj hs).symm⟩

theorem getTh_sh (s : St) (sh : Sh) (t : Tid) : ({ s with sh := sh } : St).getTh t = s.getTh t := by
  cases t <;> rfl

theorem getTh_setTh_self (s : St) (t : Tid) (th th' : Th) (h : s.getTh t = some th) :
    (s.setTh t th').getTh t = some th' := by
  cases t with
  | p => rfl
  | c => rfl
  | k i =>
    simp only [St.getTh, St.setTh] at h ⊢
    rw [List.getElem?_set]
    have : i < s.K.length := by
      rcases Nat.lt_or_ge i s.K.length with hlt | hge
      · exact hlt
      · rw [List.getElem?_eq_none hge] at h; cases h
    simp [this]

theorem getTh_setTh_ne (s : St) (t t' : Tid) (th' : Th) (h : t ≠ t') :
    (s.setTh t th').getTh t' = s.getTh t' := by
  cases t with
  | p => cases t' <;> first | rfl | exact absurd rfl h
  | c => cases t' <;> first | rfl | exact absurd rfl h
  | k i =>
    cases t' with
    | p => rfl
    | c => rfl
    | k j =>
      simp only [St.getTh, St.setTh]
      rw [List.getElem?_set]
      have : i ≠ j := fun e => h (by rw [e])
      simp [this]

theorem setTh_sh (s : St) (sh : Sh) (t : Tid) (th : Th) : (({ s with sh := sh } : St).setTh t th).sh = sh := by
  cases t <;> rfl

theorem step_t (cfg : Cfg) (s s' : St) (t : Tid) (hs : step cfg s t = some s') :
    ∃ th th', s.getTh t = some th ∧ tstep cfg s.sh t th = some (s'.sh, th') ∧ s'.getTh t = some th' := by
  obtain ⟨th, sh', th', hth, hst, rfl⟩ := step_some cfg s s' t hs
  refine ⟨th, th', hth, by rw [setTh_sh]; exact hst, ?_⟩
  exact getTh_setTh_self _ t th th' (by rw [getTh_sh]; exact hth)

theorem step_other (cfg : Cfg) (s s' : St) (t u : Tid) (hs : step cfg s t = some s') (hne : t ≠ u) :
    s'.getTh u = s.getTh u := by
  obtain ⟨th, sh', th', hth, hst, rfl⟩ := step_some cfg s s' t hs
  rw [getTh_setTh_ne _ t u th' hne, getTh_sh]

theorem step_threads {cfg : Cfg} {s s' : St} {t : Tid} {I : Tid → Th → Prop} {I' : Tid → Th → Prop}
    (hs : step cfg s t = some s') (hall : ∀ u th, s.getTh u = some th → I u th)
    (own : ∀ th', s'.getTh t = some th' → I' t th') (other : ∀ u th, u ≠ t → I u th → I' u th) :
    ∀ u th, s'.getTh u = some th → I' u th := by
  intro u th hu
  by_cases e : u = t
  · subst e; exact own th hu
  · rw [step_other cfg s s' t u hs (Ne.symm e)] at hu
    exact other u th e (hall u th hu)

theorem mkInit_idle {cfg : Cfg} {adv gate : Nat} {progP progC : List Call} {progsK : List (List Call)} {t : Tid} {th : Th}
    (hg : (mkInit cfg adv gate progP progC progsK).getTh t = some th) : th.pc = .idle := by
  cases t with
  | p => cases hg; rfl
  | c => cases hg; rfl
  | k i =>
    simp only [St.getTh, mkInit, List.getElem?_map] at hg
    cases hpr : progsK[i]? with
    | none => simp [hpr] at hg
    | some pr => simp only [hpr, Option.map_some, Option.some.injEq] at hg; subst hg; rfl

theorem run_induction {cfg : Cfg} {P : St → Prop} (hstep : ∀ s t s', P s → step cfg s t = some s' → P s')
    (s : St) (sched : List Tid) (h : P s) : P (run cfg s sched) := by
  induction sched generalizing s with
  | nil => exact h
  | cons t ts ih =>
    show P (run cfg ((step cfg s t).getD s) ts)
    cases hs : step cfg s t with
    | none => exact ih s h
    | some s' => exact ih s' (hstep s t s' h hs)

theorem run_append (cfg : Cfg) (s : St) (a b : List Tid) : run cfg s (a ++ b) = run cfg (run cfg s a) b := by
  induction a generalizing s with
  | nil => rfl
  | cons t ts ih => simp only [List.cons_append, run]; exact ih _

theorem run_cons (cfg : Cfg) (s : St) (t : Tid) (ts : List Tid) :
    run cfg s (t :: ts) = run cfg ((step cfg s t).getD s) ts := rfl

theorem run_snoc (cfg : Cfg) (s : St) (sched : List Tid) (t : Tid) :
    run cfg s (sched ++ [t]) = (step cfg (run cfg s sched) t).getD (run cfg s sched) := run_append cfg s sched [t]

theorem getTh_run_some (cfg : Cfg) (s : St) (sched : List Tid) (u : Tid) (th : Th) (hu : s.getTh u = some th) :
    ∃ th', (run cfg s sched).getTh u = some th' := by
  refine run_induction (P := fun a => ∃ th', a.getTh u = some th') (fun a t a' ⟨th', h⟩ hs => ?_) s sched ⟨th, hu⟩
  by_cases e : t = u
  · subst e
    obtain ⟨_, th1, _, _, h1⟩ := step_t cfg a a' t hs
    exact ⟨th1, h1⟩
  · exact ⟨th', by rw [step_other cfg a a' t u hs e]; exact h⟩

theorem step_done (cfg : Cfg) (s s' : St) (t : Tid) (hs : step cfg s t = some s') :
    s'.sh.done = s.sh.done ∨ (∃ th, s.getTh t = some th ∧ th.pc = .x10 ∧ s'.sh.done = true) := by
  obtain ⟨th, th', hth, hst, _⟩ := step_t cfg s s' t hs
  rcases tstep_done cfg _ _ _ _ _ hst with ⟨_, h⟩ | ⟨h1, h2⟩
  · exact Or.inl h
  · exact Or.inr ⟨th, hth, h1, h2⟩

theorem step_done_mono (cfg : Cfg) (s s' : St) (t : Tid) (hs : step cfg s t = some s') (hd : s.sh.done = true) :
    s'.sh.done = true := by
  rcases step_done cfg s s' t hs with h | ⟨_, _, _, h⟩
  · rw [h]; exact hd
  · exact h

theorem run_done_mono (cfg : Cfg) (s : St) (sched : List Tid) (hd : s.sh.done = true) : (run cfg s sched).sh.done = true :=
  run_induction (P := fun a => a.sh.done = true) (fun a t a' h hs => step_done_mono cfg a a' t hs h) s sched hd

theorem run_done_false (cfg : Cfg) (s : St) (sched : List Tid) (h : (run cfg s sched).sh.done = false) : s.sh.done = false := by
  cases hd : s.sh.done with
  | false => rfl
  | true => rw [run_done_mono cfg s sched hd] at h; cases h

end Mqtt.Proofs.Ring
