/-
Core A (codec): the invariant of a message object that is not dirty (`CleanInv V`).
`SetDup` / `SetRetain` / `SetQoS` (that leaves the QoS zero or leaves it non-zero) / `SetPacketID` keep it (`clean_step`); every
decoder establishes it when the accepted bytes are `V` + the body of the fields it returned (`BodyCanonical`).
On it `RInv V`, the invariant of the reachable objects (the `rinv_…` lemmas).  `CanonicalSrc` (the accepted bytes are
the reference encoding) is the case of a minimal `V`: `canonical_body`, `clean_reference`.
-/
import Mqtt.Proofs.CodecReach


namespace Mqtt.Proofs.Codec

open Mqtt.Model.Codec Mqtt.Iface.Codec
open Mqtt.Spec

/-- while a message object is not dirty: its decode buffer is the encoding of its current fields with the
remaining-length bytes `V`, the type/flags byte is a view of the buffer's first byte, and the packet
identifier (if the packet has one on the wire) is a view of the two identifier bytes of that encoding -/
structure CleanInv (V : Bytes) (m : Msg) : Prop where
  buf : m.hdr.dbuf = Wire.encodeV V (absMsg m)
  vlen : Wire.getVarint 4 V = some ((absMsg m).body.length, [])
  tfIn : m.hdr.tfInBuf = true
  pidIn : HasId m → m.hdr.pid.length = 2 ∧ m.hdr.pidOff = some (1 + V.length + (bpre m).length)
  pidOut : ¬ HasId m → m.hdr.pid.length ≠ 2

theorem setHdr_bpre (m : Msg) (h' : Hdr) : bpre (m.setHdr h') = bpre m := by cases m <;> rfl

theorem setHdr_bpost (m : Msg) (h' : Hdr) : bpost (m.setHdr h') = bpost m := by cases m <;> rfl

theorem setHdr_hasId (m : Msg) (h' : Hdr) (e : h'.tf = m.hdr.tf) : HasId (m.setHdr h') ↔ HasId m := by
  cases m <;> simp only [Msg.setHdr, HasId, Msg.hdr, pubQoS, Hdr.flags] at e ⊢
  rw [e]

/-- `SetPacketID(v)` on an identifier slice that is a view of `dbuf[off:off+2]` -/
def writePid (h : Hdr) (v off : Nat) : Hdr :=
  { h with pid := putU16 v,
           dbuf := (h.dbuf.set off (UInt8.ofNat (v / 256))).set (off + 1) (UInt8.ofNat (v % 256)) }

theorem clean_step {V : Bytes} {m m' : Msg} (st : Step m m') (hs : Shape m) (hc : CleanInv V m)
    (hd' : m'.hdr.dirty = false) : CleanInv V m' := by
  have hs' := shape_step st hs
  cases st with
  | same => exact hc
  | dirty _ h _ => rw [h] at hd'; cases hd'
  | flags h t p v hm _ hq =>
    subst hm
    have hb : h.dbuf = Wire.encodeV V (absMsg (.publish h t p)) := hc.buf
    have hti : h.tfInBuf = true := hc.tfIn
    have hpid : (h.setTf v).pid = h.pid := rfl
    have hbody : (absMsg (.publish (h.setTf v) t p)).body = (absMsg (.publish h t p)).body := by
      rw [body_publish, body_publish, hpid]
      by_cases h0 : pubQoS h = 0
      · have h0' := hq.mpr h0
        simp only [h0, h0', if_true]
      · have h0' : ¬ pubQoS (h.setTf v) = 0 := fun e => h0 (hq.mp e)
        simp only [h0, h0', if_false]
    constructor
    · show (h.setTf v).dbuf = _
      have : (h.setTf v).dbuf = h.dbuf.set 0 v := by unfold Hdr.setTf; simp only [hti, if_true]
      rw [this, hb, encV_hd V _ hs, encV_hd V _ hs', hbody]
      rfl
    · rw [hbody]; exact hc.vlen
    · exact hti
    · intro hid
      have hid0 : HasId (.publish h t p) := fun e => hid (hq.mpr e)
      obtain ⟨a, b⟩ := hc.pidIn hid0
      exact ⟨a, b⟩
    · intro hid
      have hid0 : ¬ HasId (.publish h t p) := fun e => hid (fun e' => e (hq.mp e'))
      exact hc.pidOut hid0
  | pid v =>
    -- The one idea: cut the old and the new encoding at the identifier (`encV_split`: prefix, two bytes, rest).
    -- `SetPacketID` writes exactly those two bytes of `dbuf` (`set_two`), and prefix and rest do not mention them.
    rw [setHdr_hdr] at hd'
    by_cases hv0 : v = 0
    · have : m.hdr.setPacketID v = m.hdr := by unfold Hdr.setPacketID; rw [if_pos hv0]
      rw [this]
      have : m.setHdr m.hdr = m := by cases m <;> rfl
      rw [this]; exact hc
    · by_cases hl : m.hdr.pid.length ≠ 2
      · have : (m.hdr.setPacketID v).dirty = true := by
          unfold Hdr.setPacketID; rw [if_neg hv0, if_pos hl]
        rw [this] at hd'; cases hd'
      · simp only [ne_eq, Decidable.not_not] at hl
        have hid : HasId m := by
          by_cases hid : HasId m
          · exact hid
          · exact absurd hl (hc.pidOut hid)
        obtain ⟨_, hoff⟩ := hc.pidIn hid
        generalize hoffv : 1 + V.length + (bpre m).length = off at hoff
        have hpre : (m.hdr.tf :: (V ++ bpre m)).length = off := by
          rw [← hoffv]; simp only [List.length_cons, List.length_append]; omega
        have hset : m.hdr.setPacketID v = writePid m.hdr v off := by
          unfold Hdr.setPacketID writePid
          rw [if_neg hv0, if_neg (by simp [hl]), hoff]
        rw [hset]
        generalize hH : writePid m.hdr v off = H
        have Htf : H.tf = m.hdr.tf := by rw [← hH]; rfl
        have Hpid : H.pid = putU16 v := by rw [← hH]; rfl
        have Hoff : H.pidOff = m.hdr.pidOff := by rw [← hH]; rfl
        have Hin : H.tfInBuf = m.hdr.tfInBuf := by rw [← hH]; rfl
        have Hbuf : H.dbuf = (m.hdr.dbuf.set off (UInt8.ofNat (v / 256))).set (off + 1) (UInt8.ofNat (v % 256)) := by
          rw [← hH]; rfl
        have hid' : HasId (m.setHdr H) := (setHdr_hasId m H Htf).mpr hid
        have hsH : Shape (m.setHdr H) := by rw [← hH, ← hset]; exact hs'
        have hpl' : (m.setHdr H).hdr.pid.length = 2 := by rw [setHdr_hdr, Hpid]; rfl
        constructor
        · rw [setHdr_hdr, Hbuf, hc.buf, encV_split V m hs hid hl]
          rw [encV_split V (m.setHdr H) hsH hid' hpl']
          rw [setHdr_hdr, setHdr_bpre, setHdr_bpost, Hpid, Htf, ← hpre]
          match hp : m.hdr.pid, hl with
          | [a, b], _ =>
            simp only [List.cons_append, List.nil_append]
            have := set_two (m.hdr.tf :: (V ++ bpre m)) (bpost m) a b (UInt8.ofNat (v / 256)) (UInt8.ofNat (v % 256))
            simp only [List.cons_append] at this
            rw [this]
            rfl
        · have e1 := body_split m hid hl
          have e2 := body_split (m.setHdr H) hid' hpl'
          rw [setHdr_hdr, setHdr_bpre, setHdr_bpost] at e2
          have hlen : (absMsg (m.setHdr H)).body.length = (absMsg m).body.length := by
            rw [e1, e2]
            simp only [List.length_append, Hpid, hl]
            rfl
          rw [hlen]; exact hc.vlen
        · rw [setHdr_hdr, Hin]; exact hc.tfIn
        · intro _
          rw [setHdr_hdr, Hpid, Hoff, hoff, setHdr_bpre, hoffv]
          exact ⟨rfl, rfl⟩
        · intro hn; exact absurd hid' hn

/-- the invariant of every message object reachable through the API from `New()` or from a decoder whose
input was the encoding, with remaining-length bytes `V`, of the fields it returned -/
def RInv (V : Bytes) (m : Msg) : Prop := Shape m ∧ (m.hdr.dirty = false → CleanInv V m)

theorem rinv_set (V : Bytes) (m : Msg) (s : Setter) (hi : RInv V m) : RInv V (applySetter m s).1 := by
  obtain ⟨hs, hc⟩ := hi
  refine ⟨shape_set m s hs, fun hd' => ?_⟩
  have hd : m.hdr.dirty = false := by
    cases hdm : m.hdr.dirty with
    | false => rfl
    | true => rw [step_dirty (step_of_setter m s) hdm] at hd'; cases hd'
  exact clean_step (step_of_setter m s) hs (hc hd) hd'

theorem rinv_new (V : Bytes) {t : Nat} {m : Msg} (h : Msg.new t = some m) : RInv V m := by
  obtain ⟨hd, hs⟩ := freshInv_new h
  exact ⟨hs, fun hc => by rw [hd] at hc; cases hc⟩

/-- the bytes a decoder accepted are the type/flags byte, the remaining-length bytes `V` (a 1–4 byte
encoding of the body length, section 2.2.3) and the body of the fields it returned -/
def BodyCanonical (src : Bytes) (d : Decoded) (V : Bytes) : Prop :=
  src.take d.n = Wire.encodeV V (absMsg d.msg) ∧ Wire.getVarint 4 V = some ((absMsg d.msg).body.length, [])

/-- the bytes a decoder accepted are the reference encoding of the fields it returned
(minimal remaining-length encoding; every CONNECT field announced by a flag present).
Not to be confused with `canonical` (CodecEncode): re-encoding a decoded message reproduces the accepted bytes,
which holds of every accepted input, reference encoding or not. -/
def CanonicalSrc (src : Bytes) (d : Decoded) : Prop := Wire.encode (absMsg d.msg) = src.take d.n

instance (src : Bytes) (d : Decoded) : Decidable (CanonicalSrc src d) :=
  inferInstanceAs (Decidable (Wire.encode (absMsg d.msg) = src.take d.n))

/-- `header.decode` counted `1 + |V|` bytes, because `binary.Uvarint` reads exactly `V` (`uvarint_of_getVarint`): so the
offset `r.2 + |bpre|` of `Dec.pid` is the `1 + |V| + |bpre|` of `CleanInv` -/
theorem rinv_dec {t : Nat} {src : Bytes} {d : Decoded} {V : Bytes} (h : decodeNew t src = .ok d)
    (hcan : BodyCanonical src d V) : RInv V d.msg := by
  obtain ⟨m, hm, r, hdec, hD⟩ := (decodeNew_dec t src).of_ok h
  have hh := hdr_decode_of_ok hdec
  refine ⟨hD.shape (freshInv_new hm).2, fun _ => ?_⟩
  obtain ⟨htake, hV⟩ := hcan
  have hsrc : src = Wire.encodeV V (absMsg d.msg) ++ src.drop d.n := by rw [← htake, List.take_append_drop]
  have hd1 : src.drop 1 = V ++ ((absMsg d.msg).body ++ src.drop d.n) := by
    have e : src.drop 1 = (Wire.encodeV V (absMsg d.msg) ++ src.drop d.n).drop 1 := by rw [← hsrc]
    rw [e]
    unfold Wire.encodeV
    simp
  have hhn : r.2 = 1 + V.length := by
    rw [hh.count, hd1, (uvarint_of_getVarint V _ _ hV).1]
    simp
  have hp0 : r.1.pid.length ≠ 2 := by rw [hh.pid, msgNew_hdr hm]; exact fun e => nomatch e
  exact ⟨(hD.ok hdec).dbuf.trans htake, hV, by rw [hD.hdr]; exact hh.tfInBuf, fun hid => hhn ▸ hD.pid.1 hid,
    fun hid => by rw [hD.pid.2 hid]; exact hp0⟩

/-- a reference encoding is the encoding with the minimal remaining-length bytes -/
theorem canonical_body {t : Nat} {src : Bytes} {d : Decoded} (h : decodeNew t src = .ok d) (hcan : CanonicalSrc src d) :
    BodyCanonical src d (Wire.varint (absMsg d.msg).body.length) ∧ (absMsg d.msg).body.length ≤ 268435455 := by
  obtain ⟨m, hm, r, hdec, hD⟩ := (decodeNew_dec t src).of_ok h
  have hh := hdr_decode_of_ok hdec
  -- the reference encoding is `d.n ≤ 5 + 268435455` bytes long; a body out of range would need more
  have hL : (absMsg d.msg).body.length ≤ 268435455 := by
    have hlen : (Wire.encode (absMsg d.msg)).length = d.n := by
      rw [hcan, List.length_take]; exact Nat.min_eq_left (hD.ok hdec).n_le
    have hWl : (Wire.encode (absMsg d.msg)).length =
        1 + (Wire.varint (absMsg d.msg).body.length).length + (absMsg d.msg).body.length := by
      unfold Wire.encode; rw [List.length_cons, List.length_append]; omega
    have := hh.n_hi
    have : r.1.remlen ≤ 268435455 := hh.remlen_le
    have := hD.n
    by_cases hb : (absMsg d.msg).body.length ≤ 268435455
    · exact hb
    · have := varint_len_big (absMsg d.msg).body.length (by omega)
      omega
  refine ⟨⟨hcan.symm, ?_⟩, hL⟩
  have := getVarint_varint (absMsg d.msg).body.length hL []
  rwa [List.append_nil] at this

/-- with the minimal remaining-length bytes the invariant's buffer is the reference encoding -/
theorem clean_reference {L0 : Nat} (hL0 : L0 ≤ 268435455) {m : Msg} (hc : CleanInv (Wire.varint L0) m) :
    m.hdr.dbuf = Wire.encode (absMsg m) := by
  have h1 := hc.vlen
  have h2 := getVarint_varint L0 hL0 []
  rw [List.append_nil] at h2
  rw [h2] at h1
  simp only [Option.some.injEq, Prod.mk.injEq, and_true] at h1
  rw [hc.buf, h1]
  rfl

end Mqtt.Proofs.Codec
