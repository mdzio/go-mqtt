/-
Tie between the REGENERATED translation of the standard-library function
`encoding/binary.Uvarint` (`Mqtt.Generated.Xlate.Binary.Uvarint`, produced from
$GOROOT/src/encoding/binary/varint.go by extract/cmd/xlate on every check) and
the hand-written `uvarint` / `uvarintAux` of `Model/Codec.lean`.

The generated loop keeps the accumulator `x : UInt64` and the shift `s : UInt64`;
the model keeps `x : Nat` (a sum of `b % 128 * 128 ^ i`) and the index `i`.  For
`i ≤ 9` the two accumulators are the same number below `2 ^ (7 * i)` and
`s = 7 * i`; at `i = 10` both return `(0, -11)` whatever the accumulators are.
-/
import Mqtt.Proofs.XlateBasic
import Mqtt.Proofs.CodecBasic

namespace Mqtt.Proofs.XlateVarint

open Mqtt.Model.Codec (uvarint uvarintAux)
open Mqtt.Generated.Xlate
open Mqtt.Proofs.Xlate (ite_tie u8_lt and_mask_toNat)

theorem pow128 (i : Nat) : 128 ^ i = 2 ^ (7 * i) := by
  rw [Nat.pow_mul]

theorem or_shift_eq_add (x c s : Nat) (hx : x < 2 ^ s) : x ||| (c <<< s) = x + c * 2 ^ s := by
  rw [Nat.or_comm, ← Nat.shiftLeft_add_eq_or_of_lt hx, Nat.shiftLeft_eq, Nat.add_comm]

/-- the generated `x | uint64(c) << s` for `s = 7 * i`, `i ≤ 9`, as long as nothing is shifted out -/
theorem step_toNat (x s : UInt64) (c : UInt8) (i : Nat) (hi : i ≤ 9) (hs : s.toNat = 7 * i)
    (hx : x.toNat < 2 ^ (7 * i)) (hc : c.toNat * 2 ^ (7 * i) < 2 ^ 64) :
    (x ||| (if s.toNat < 64 then c.toUInt64 <<< (UInt64.ofNat s.toNat) else 0)).toNat
      = x.toNat + c.toNat * 2 ^ (7 * i) := by
  have hs64 : s.toNat < 64 := by omega
  rw [if_pos hs64, UInt64.toNat_or, UInt64.toNat_shiftLeft, UInt8.toNat_toUInt64, UInt64.toNat_ofNat']
  have e1 : s.toNat % 2 ^ 64 % 64 = 7 * i := by omega
  rw [e1, Nat.shiftLeft_eq, Nat.mod_eq_of_lt hc]
  have := or_shift_eq_add x.toNat c.toNat _ hx
  rw [Nat.shiftLeft_eq] at this
  exact this

/-- at index 10 both loops give up, whatever they have accumulated -/
theorem loop_at_10 (buf rest : List UInt8) (x s : UInt64) (xm : Nat) :
    Binary.Uvarint.loop1 buf x s 10 rest
      = (UInt64.ofNat (uvarintAux rest 10 xm).1, (uvarintAux rest 10 xm).2) := by
  cases rest with
  | nil => simp [Binary.Uvarint.loop1, uvarintAux]
  | cons b rest => simp [Binary.Uvarint.loop1, uvarintAux]

/-- `2 ^ (7 * i)` for the indices of the loop: at most `2^63`, and below index 9 the next one is too -/
theorem pow_bounds (i : Nat) (hi : i ≤ 9) :
    2 ^ (7 * i) ≤ 2 ^ 63 ∧
    (i ≠ 9 → 2 ^ (7 * (i + 1)) = 2 ^ (7 * i) * 128 ∧ 2 ^ (7 * i) * 128 ≤ 2 ^ 63) := by
  refine ⟨Nat.pow_le_pow_right (by decide) (by omega), fun h9 => ?_⟩
  have e : 2 ^ (7 * (i + 1)) = 2 ^ (7 * i) * 128 := by rw [Nat.mul_add, Nat.pow_add]
  exact ⟨e, e ▸ Nat.pow_le_pow_right (by decide) (by omega)⟩

theorem acc_bound {P x c : Nat} (k : Nat) (hx : x < P) (hc : c ≤ k) : x + c * P < (k + 1) * P := by
  have := Nat.mul_le_mul_right P hc
  rw [Nat.add_mul, Nat.one_mul]
  omega

/-- the loop invariant: same accumulator below `2 ^ (7 * i)`, shift `7 * i` -/
theorem loop_eq (buf : List UInt8) : ∀ (rest : List UInt8) (i : Nat) (x s : UInt64),
    i ≤ 9 → s.toNat = 7 * i → x.toNat < 2 ^ (7 * i) →
    Binary.Uvarint.loop1 buf x s i rest
      = (UInt64.ofNat (uvarintAux rest i x.toNat).1, (uvarintAux rest i x.toNat).2) := by
  intro rest
  induction rest with
  | nil => intro i x s _ _ _; rfl
  | cons b rest ih =>
    intro i x s hi hs hx
    obtain ⟨hP, hP'⟩ := pow_bounds i hi
    rw [Binary.Uvarint.loop1, uvarintAux, if_neg (show ¬ (i == 10) = true by rw [beq_iff_eq]; omega),
      if_neg (show ¬ i = 10 by omega), pow128]
    generalize hPdef : 2 ^ (7 * i) = P at *
    refine ite_tie (fun r : Nat × Int => (UInt64.ofNat r.1, r.2)) (p := b.toNat < 128)
      u8_lt (fun hb => ?_) (fun hb => ?_)
    · refine ite_tie (fun r : Nat × Int => (UInt64.ofNat r.1, r.2)) (p := i = 9 ∧ 1 < b.toNat)
        (Bool.and_eq_true_iff.trans (and_congr beq_iff_eq u8_lt))
        (fun _ => rfl) (fun h9 => ?_)
      -- the last byte: at index 9 it is at most 1, below that at most 127; either way nothing is shifted out
      have hlt : x.toNat + b.toNat * P < 2 ^ 64 := by
        by_cases hi9 : i = 9
        · have := acc_bound 1 hx (show b.toNat ≤ 1 by omega); omega
        · have := acc_bound 127 hx (show b.toNat ≤ 127 by omega); have := (hP' hi9).2; omega
      have hstep := step_toNat x s b i hi hs (hPdef ▸ hx) (hPdef ▸ (by omega : b.toNat * P < 2 ^ 64))
      rw [hPdef] at hstep
      refine Prod.ext (UInt64.toNat_inj.mp ?_) rfl
      show _ = (UInt64.ofNat _).toNat
      rw [hstep, UInt64.toNat_ofNat', Nat.mod_mod, Nat.mod_eq_of_lt hlt]
    · by_cases hi9 : i = 9
      · subst hi9
        exact loop_at_10 buf rest _ _ _
      · obtain ⟨hPe, hP128⟩ := hP' hi9
        have hand : (b &&& (127 : UInt8)).toNat = b.toNat % 128 := and_mask_toNat b 127 7 rfl
        have hsum := acc_bound 127 hx (show b.toNat % 128 ≤ 127 by omega)
        have hstep := step_toNat x s (b &&& 127) i hi hs (hPdef ▸ hx) (by rw [hand, hPdef]; omega)
        rw [hand, hPdef] at hstep
        have := ih (i + 1) _ (s + 7) (by omega)
          (by rw [UInt64.toNat_add, hs]; show (7 * i + 7) % 2 ^ 64 = _; omega) (by rw [hstep, hPe]; omega)
        rwa [hstep] at this

theorem uvarint_is_source (buf : List UInt8) :
    Binary.Uvarint buf = (UInt64.ofNat (uvarint buf).1, (uvarint buf).2) := by
  have := loop_eq buf buf 0 0 0 (by omega) rfl (by decide)
  simpa [Binary.Uvarint, uvarint] using this

theorem uvarint_is_source_toNat (buf : List UInt8) :
    (Binary.Uvarint buf).1.toNat = (uvarint buf).1 ∧ (Binary.Uvarint buf).2 = (uvarint buf).2 := by
  rw [uvarint_is_source]
  refine ⟨?_, rfl⟩
  show (UInt64.ofNat (uvarint buf).1).toNat = _
  rw [UInt64.toNat_ofNat']
  exact Nat.mod_eq_of_lt (Mqtt.Proofs.Codec.uvarint_lt_two_pow_64 buf)

end Mqtt.Proofs.XlateVarint
