/-
Facts about lists and numbers that more than one core needs and core Lean does not have:
induction from the right, a sum after one element is replaced (thread tables with a weight),
a property of all elements after one is replaced, a `dropWhile` that drops nothing, `eraseDups` without
duplicates, tables keyed by a projection, association lists, residues of numbers less than `size` apart (ring indices).  Imports nothing.
-/
namespace List
variable {α : Type u}

theorem snoc_ind {P : List α → Prop} (nil : P []) (snoc : ∀ l a, P l → P (l ++ [a])) (l : List α) : P l := by
  rw [← List.reverse_reverse l]
  induction l.reverse with
  | nil => exact nil
  | cons a l ih => rw [List.reverse_cons]; exact snoc _ a ih

/-- `sum` is any function with the equation of a weighted sum (`fun l => (l.map f).sum`, or a recursive
definition of a model) -/
theorem sum_set (f : α → Nat) (sum : List α → Nat) (hc : ∀ a l, sum (a :: l) = f a + sum l) :
    ∀ (l : List α) (i : Nat) {a b : α}, l[i]? = some a → sum (l.set i b) + f a = sum l + f b
  | [], _, _, _, h => nomatch h
  | x :: xs, 0, a, b, h => by
    cases h; simp only [List.set_cons_zero, hc, Nat.add_comm, Nat.add_left_comm]
  | x :: xs, i + 1, a, b, h => by
    simp only [List.set_cons_succ, hc, Nat.add_assoc, sum_set f sum hc xs i (List.getElem?_cons_succ ▸ h)]

theorem sum_map_set (f : α → Nat) (l : List α) (i : Nat) {a b : α} (h : l[i]? = some a) :
    ((l.set i b).map f).sum + f a = (l.map f).sum + f b :=
  sum_set f (fun l => (l.map f).sum) (fun _ _ => rfl) l i h

theorem forall_set {P : Nat → α → Prop} {l : List α} {i : Nat} {x : α} (hx : P i x)
    (h : ∀ j a, l[j]? = some a → j ≠ i → P j a) : ∀ j a, (l.set i x)[j]? = some a → P j a := by
  intro j a hj
  rw [List.getElem?_set] at hj
  by_cases hij : i = j
  · subst hij
    rw [if_pos rfl] at hj
    split at hj
    · cases hj; exact hx
    · cases hj
  · rw [if_neg hij] at hj
    exact h j a hj (Ne.symm hij)

/-- an update that leaves every entry it selects as it is (`Ack` of an identifier that is not in flight, or twice) -/
theorem map_ite_eq_self {c : α → Bool} {g : α → α} {l : List α} (h : ∀ x ∈ l, c x = true → g x = x) :
    l.map (fun x => if c x = true then g x else x) = l :=
  (List.map_congr_left fun x hx => by
    split
    · exact h x hx ‹_›
    · rfl).trans (List.map_id _)

theorem dropWhile_takeWhile_of_head {p : α → Bool} {l : List α} (h : ∀ e, l.head? = some e → p e = false) :
    l.dropWhile p = l ∧ l.takeWhile p = [] := by
  cases l with
  | nil => exact ⟨rfl, rfl⟩
  | cons e l =>
    have : ¬ p e = true := by rw [h e rfl]; exact Bool.false_ne_true
    exact ⟨List.dropWhile_cons_of_neg this, List.takeWhile_cons_of_neg this⟩

theorem nodup_eraseDups [BEq α] [LawfulBEq α] (l : List α) : l.eraseDups.Nodup := by
  -- `eraseDups` recurses on a filtered tail: induction on a bound of the length
  suffices ∀ n (l : List α), l.length ≤ n → l.eraseDups.Nodup from this _ l (Nat.le_refl _)
  intro n
  induction n with
  | zero => intro l hl; rw [List.eq_nil_of_length_eq_zero (Nat.le_zero.mp hl)]; simp
  | succ n ih =>
    intro l hl
    cases l with
    | nil => simp
    | cons a as =>
      rw [List.eraseDups_cons, List.nodup_cons]
      refine ⟨fun h => ?_, ih _ (Nat.le_trans (List.length_filter_le _ as) (Nat.le_of_succ_le_succ hl))⟩
      have := (List.mem_filter.mp (List.mem_eraseDups.mp h)).2
      simp at this

/-! a list as a table keyed by `f`: looked up by `find? (f · == k)`, an entry removed by `filter (f · != k)` -/
section keyed
variable {κ : Type v} [BEq κ] [LawfulBEq κ] (f : α → κ)

theorem key_of_find? {l : List α} {k : κ} {x : α} (h : l.find? (fun x => f x == k) = some x) : f x = k :=
  eq_of_beq (List.find?_some (p := fun x => f x == k) h)

theorem find?_filter_key_ne (l : List α) {k d : κ} (h : k ≠ d) :
    (l.filter (fun x => f x != k)).find? (fun x => f x == d) = l.find? (fun x => f x == d) := by
  rw [List.find?_filter]
  congr 1
  funext x
  by_cases hx : f x = d <;> simp [hx, h.symm]

theorem find?_filter_key_self (l : List α) (k : κ) :
    (l.filter (fun x => f x != k)).find? (fun x => f x == k) = none :=
  List.find?_eq_none.mpr fun x hx => by simpa using (List.mem_filter.mp hx).2

end keyed

/-! an association list as a table: looked up by `lookup`, an entry removed by `filter (·.1 != k)` (a Go map) -/
section assoc
variable {κ : Type v} {β : Type w} [BEq κ] [LawfulBEq κ]

theorem mem_of_lookup {l : List (κ × β)} {k : κ} {v : β} (h : l.lookup k = some v) :
    (k, v) ∈ l := by
  obtain ⟨l₁, l₂, rfl, _⟩ := List.lookup_eq_some_iff.mp h
  exact List.mem_append_right _ List.mem_cons_self

theorem lookup_filter_key (l : List (κ × β)) (q : κ → Bool) (y : κ) :
    (l.filter (fun p => q p.1)).lookup y = if q y then l.lookup y else none := by
  induction l with
  | nil => cases q y <;> rfl
  | cons x xs ih =>
    obtain ⟨a, v⟩ := x
    rw [List.filter_cons, List.lookup_cons]
    cases hy : y == a with
    | true =>
      rw [← beq_iff_eq.mp hy]
      cases hq : q y with
      | true => simp only [↓reduceIte, List.lookup_cons, BEq.rfl]
      | false => simp only [Bool.false_eq_true, ↓reduceIte]; rw [ih, hq]; rfl
    | false =>
      split
      · rw [List.lookup_cons, hy]; exact ih
      · exact ih

theorem lookup_filter_self (l : List (κ × β)) (k : κ) :
    (l.filter (fun p => p.1 != k)).lookup k = none := by
  rw [lookup_filter_key l (· != k), bne_self_eq_false]; rfl

theorem lookup_filter_ne (l : List (κ × β)) (k y : κ) (h : k ≠ y) :
    (l.filter (fun p => p.1 != k)).lookup y = l.lookup y := by
  rw [lookup_filter_key l (· != k), bne_iff_ne.mpr h.symm]; rfl

end assoc
end List

namespace Nat

/-- how a termination measure is read off `List.sum_set`: the replaced element weighs less, so the sum is less -/
theorem lt_of_add_eq {x y r r' : Nat} (h : x + r = y + r') (hr : r' < r) : x < y :=
  Nat.lt_of_add_lt_add_right (h ▸ Nat.add_lt_add_left hr y)

theorem le_of_add_eq {x y r r' : Nat} (h : x + r = y + r') (hr : r' ≤ r) : x ≤ y :=
  Nat.le_of_add_le_add_right (h ▸ Nat.add_le_add_left hr y)

/-- two numbers less than `size` apart have different residues: two live positions of a ring never share a cell -/
theorem mod_ne_of_lt {size a b : Nat} (hab : a < b) (hb : b < a + size) : a % size ≠ b % size := by
  intro h
  have h0 : (b - a) % size = 0 := Nat.sub_mod_eq_zero_of_mod_eq h.symm
  rw [Nat.mod_eq_of_lt (Nat.sub_lt_left_of_lt_add (Nat.le_of_lt hab) hb)] at h0
  exact Nat.sub_ne_zero_of_lt hab h0

theorem mod_ne_of_ne {size a b : Nat} (hne : a ≠ b) (h1 : a < b + size) (h2 : b < a + size) :
    a % size ≠ b % size := by
  rcases Nat.lt_or_gt_of_ne hne with h | h
  · exact mod_ne_of_lt h h2
  · exact fun e => mod_ne_of_lt h h1 e.symm

end Nat
