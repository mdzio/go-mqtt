/-
The simp set `xlate`: what turns the bound checks and outcome plumbing of the translated Go code
(`if decide p && decide q then … else Res.panic`, `Res.bind (Res.ok a) f`, `(↑n : Int).toNat`) into
statements about propositions and naturals.  Lemmas are tagged in `Proofs/XlateBasic.lean`, whose head says
where it is used.
-/
import Lean.Meta.Tactic.Simp.RegisterCommand

/-- bound checks and outcome plumbing of the translated code -/
register_simp_attr xlate
