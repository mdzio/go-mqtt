/-
The entries of the subscription trie (`abs`) after the loops that subscribe and unsubscribe: `entriesAfterSub`,
`entriesAfterUnsub` as list functions, the trie against them (`resubscribe_abs`, `unsubFold_abs`: the SUBSCRIBE
packet, the in-process Subscribe and the resume all run `resubscribe`), what the loops leave of other connections'
entries and which entry of a request survives (`entriesAfterSub_mem`); the subscriber list the store computes
for a publish (`subscribers_char`).
-/
import Mqtt.Proofs.BrokerFanoutInv

namespace Mqtt.Proofs.Broker
open Mqtt.Iface.Broker Mqtt.Model.Broker
open Mqtt.Model.Topics (MemTopics validQos Level)
open Mqtt.Proofs.Topics (entryLevels)
open Mqtt.Proofs.Topics (WF abs good Entry subscribe_WF unsubscribe_WF)
open Mqtt.Spec.Match (split validName)

/-- replace or add the entry of (path, subscriber) -/
def addEntry (es : List Entry) (ls : List Level) (c q : Nat) : List Entry :=
  es.filter (fun e => !(e.1 == ls && e.2.1 == c)) ++ [(ls, c, q)]

/-- drop the entry of (path, subscriber) -/
def delEntry (es : List Entry) (ls : List Level) (c : Nat) : List Entry :=
  es.filter (fun e => !(e.1 == ls && e.2.1 == c))

/-- the entries after the per-filter loop of a SUBSCRIBE from subscriber `c` -/
def entriesAfterSub (c : Nat) (topics : List (Bytes × Nat)) (es : List Entry) : List Entry :=
  topics.foldl (fun es tq =>
    if accepts tq.1 tq.2 then addEntry es (entryLevels tq.1).1 c (min tq.2 Mqtt.Generated.maxQosAllowed) else es) es

/-- the entries after the per-filter loop of an UNSUBSCRIBE from subscriber `c` -/
def entriesAfterUnsub (c : Nat) (topics : List Bytes) (es : List Entry) : List Entry :=
  topics.foldl (fun es t => if (entryLevels t).2 then delEntry es (entryLevels t).1 c else es) es

theorem entriesAfterSub_cons (c : Nat) (tq : Bytes × Nat) (rest : List (Bytes × Nat)) (es : List Entry) :
    entriesAfterSub c (tq :: rest) es = entriesAfterSub c rest
      (if accepts tq.1 tq.2 then addEntry es (entryLevels tq.1).1 c (min tq.2 Mqtt.Generated.maxQosAllowed) else es) :=
  rfl

theorem entriesAfterUnsub_cons (c : Nat) (t : Bytes) (rest : List Bytes) (es : List Entry) :
    entriesAfterUnsub c (t :: rest) es =
      entriesAfterUnsub c rest (if (entryLevels t).2 then delEntry es (entryLevels t).1 c else es) := rfl

/-- the UNSUBSCRIBE loop is a filter -/
theorem entriesAfterUnsub_eq (c : Nat) (topics : List Bytes) : ∀ es : List Entry,
    entriesAfterUnsub c topics es = es.filter (fun e =>
      !(e.2.1 == c && topics.any (fun t => (entryLevels t).2 && e.1 == (entryLevels t).1))) := by
  induction topics with
  | nil => intro es; exact (List.filter_eq_self.mpr fun e _ => by rw [List.any_nil, Bool.and_false]; rfl).symm
  | cons t rest ih =>
    intro es
    rw [entriesAfterUnsub_cons, ih]
    cases hl : (entryLevels t).2 with
    | false => simp only [Bool.false_eq_true, ↓reduceIte, List.any_cons, hl, Bool.false_and, Bool.false_or]
    | true =>
      rw [if_pos rfl, delEntry, List.filter_filter]
      apply List.filter_congr
      intro e _
      rw [List.any_cons, hl, Bool.true_and]
      cases e.2.1 == c <;> cases e.1 == (entryLevels t).1 <;> cases rest.any _ <;> rfl

theorem entriesAfterSub_perm (c : Nat) (topics : List (Bytes × Nat)) :
    ∀ es es' : List Entry, es.Perm es' → (entriesAfterSub c topics es).Perm (entriesAfterSub c topics es') := by
  induction topics with
  | nil => intro es es' h; exact h
  | cons tq rest ih =>
    intro es es' h
    rw [entriesAfterSub_cons, entriesAfterSub_cons]
    refine ih _ _ ?_
    split
    · exact List.Perm.append_right _ (h.filter _)
    · exact h

theorem entriesAfterUnsub_perm (c : Nat) (topics : List Bytes) :
    ∀ es es' : List Entry, es.Perm es' → (entriesAfterUnsub c topics es).Perm (entriesAfterUnsub c topics es') := by
  intro es es' h
  rw [entriesAfterUnsub_eq, entriesAfterUnsub_eq]
  exact h.filter _

theorem subscribe_abs (mt : MemTopics) (t : Bytes) (q c : Nat) (h : WF mt.sroot) :
    (abs (mt.subscribe Mqtt.Generated.maxQosAllowed t q c).1.sroot).Perm
      (if accepts t q then addEntry (abs mt.sroot) (entryLevels t).1 c (min q Mqtt.Generated.maxQosAllowed)
       else abs mt.sroot) :=
  (Mqtt.Proofs.Topics.subscribe_contract mt _ t q c h).entries

theorem unsubscribe_abs (mt : MemTopics) (t : Bytes) (c : Nat) (h : WF mt.sroot) :
    (abs (mt.unsubscribe t (some c)).1.sroot).Perm
      (if (entryLevels t).2 then delEntry (abs mt.sroot) (entryLevels t).1 c else abs mt.sroot) :=
  (Mqtt.Proofs.Topics.unsubscribe_contract mt t (some c) h).entries

theorem resubscribe_abs (c : Nat) (l : List (Bytes × Nat)) : ∀ ts : MemTopics, WF ts.sroot →
    (abs (resubscribe ts c l).sroot).Perm (entriesAfterSub c l (abs ts.sroot)) := by
  induction l with
  | nil => intro ts _; exact .refl _
  | cons tq rest ih =>
    intro ts h
    rw [resubscribe, entriesAfterSub_cons]
    exact (ih _ (subscribe_WF ts _ tq.1 tq.2 c h)).trans (entriesAfterSub_perm c rest _ _ (subscribe_abs ts tq.1 tq.2 c h))

theorem unsubFold_abs (c : Nat) (topics : List Bytes) : ∀ ts : MemTopics, WF ts.sroot →
    (abs (topics.foldl (fun ts t => (ts.unsubscribe t (some c)).1) ts).sroot).Perm
      (entriesAfterUnsub c topics (abs ts.sroot)) := by
  induction topics with
  | nil => intro ts _; exact .refl _
  | cons t rest ih =>
    intro ts h
    rw [List.foldl_cons, entriesAfterUnsub_cons]
    exact (ih _ (unsubscribe_WF ts t (some c) h)).trans
      (entriesAfterUnsub_perm c rest _ _ (unsubscribe_abs ts t c h))

theorem packet_subscribe_sroot (b : B) (hinv : Inv b) (c id : Nat) (topics : List (Bytes × Nat))
    (hl : b.alive c = true) :
    (abs (packet b c (.subscribe id topics)).1.topics.sroot).Perm (entriesAfterSub c topics (abs b.topics.sroot)) := by
  obtain ⟨cn, s, hc, ha, hs⟩ := hinv.live hl
  obtain ⟨_, e⟩ := packet_subscribe_state id topics hc ha hs
  rw [e]
  exact resubscribe_abs c topics b.topics hinv.wf

theorem packet_unsubscribe_sroot (b : B) (hinv : Inv b) (c id : Nat) (topics : List Bytes)
    (hl : b.alive c = true) :
    (abs (packet b c (.unsubscribe id topics)).1.topics.sroot).Perm
      (entriesAfterUnsub c topics (abs b.topics.sroot)) := by
  obtain ⟨cn, s, hc, ha, hs⟩ := hinv.live hl
  rw [packet_unsubscribe b c cn s id topics hc ha hs]
  exact unsubFold_abs c topics b.topics hinv.wf

theorem delEntry_others (es : List Entry) (ls : List Level) (c : Nat) :
    (delEntry es ls c).filter (fun e => e.2.1 != c) = es.filter (fun e => e.2.1 != c) := by
  unfold delEntry
  rw [List.filter_filter]
  apply List.filter_congr
  intro e _
  cases h : e.2.1 == c
  · rw [Bool.and_false, Bool.not_false, Bool.and_true]
  · rw [bne, h]; rfl

theorem entriesAfterSub_others (c : Nat) (topics : List (Bytes × Nat)) : ∀ es : List Entry,
    (entriesAfterSub c topics es).filter (fun e => e.2.1 != c) = es.filter (fun e => e.2.1 != c) := by
  induction topics with
  | nil => intro es; rfl
  | cons tq rest ih =>
    intro es
    rw [entriesAfterSub_cons, ih]
    split
    · unfold addEntry
      rw [List.filter_append, ← delEntry, delEntry_others, List.filter_cons_of_neg (by simp), List.filter_nil,
        List.append_nil]
    · rfl

theorem entriesAfterUnsub_others (c : Nat) (topics : List Bytes) (es : List Entry) :
    (entriesAfterUnsub c topics es).filter (fun e => e.2.1 != c) = es.filter (fun e => e.2.1 != c) := by
  rw [entriesAfterUnsub_eq, List.filter_filter]
  apply List.filter_congr
  intro e _
  cases h : e.2.1 == c <;> rw [bne, h] <;> rfl

theorem entriesAfterSub_keep (c : Nat) (post : List (Bytes × Nat)) (ls : List Level) (g : Nat)
    (hpost : ∀ tq ∈ post, accepts tq.1 tq.2 = true → (entryLevels tq.1).1 ≠ ls) :
    ∀ es : List Entry, (ls, c, g) ∈ es → (ls, c, g) ∈ entriesAfterSub c post es := by
  induction post with
  | nil => intro es h; exact h
  | cons tq rest ih =>
    intro es h
    rw [entriesAfterSub_cons]
    apply ih (fun x hx => hpost x (List.mem_cons_of_mem _ hx))
    split
    · rename_i ha
      have hne : (ls == (entryLevels tq.1).1) = false :=
        beq_eq_false_iff_ne.mpr (fun hx => hpost tq (List.mem_cons_self ..) ha hx.symm)
      exact List.mem_append_left _ (List.mem_filter.mpr ⟨h, by rw [hne]; rfl⟩)
    · exact h

/-- the request at position `pre.length` is granted and no later granted request
names the same filter: its entry, with its own return code, is in the result -/
theorem entriesAfterSub_mem (c : Nat) (pre post : List (Bytes × Nat)) (t : Bytes) (q : Nat) (es : List Entry)
    (ha : accepts t q = true)
    (hpost : ∀ tq ∈ post, accepts tq.1 tq.2 = true → (entryLevels tq.1).1 ≠ (entryLevels t).1) :
    ((entryLevels t).1, c, min q Mqtt.Generated.maxQosAllowed) ∈ entriesAfterSub c (pre ++ (t, q) :: post) es := by
  unfold entriesAfterSub
  rw [List.foldl_append, List.foldl_cons, if_pos ha]
  exact entriesAfterSub_keep c post _ _ hpost _ (List.mem_append_right _ (List.mem_singleton_self _))

theorem entriesAfterUnsub_absent (c : Nat) (topics : List Bytes) (t : Bytes) (ht : t ∈ topics)
    (hl : (entryLevels t).2 = true) (es : List Entry) (q : Nat) :
    ((entryLevels t).1, c, q) ∉ entriesAfterUnsub c topics es := by
  rw [entriesAfterUnsub_eq]
  intro hmem
  have := (List.mem_filter.mp hmem).2
  rw [beq_self_eq_true, List.any_eq_true.mpr ⟨t, ht, by rw [hl, beq_self_eq_true]; rfl⟩] at this
  cases this

theorem subscribers_char (mt : MemTopics) (t : Bytes) (q : Nat) (hwf : WF mt.sroot)
    (hg : good t = true) (hn : validName t = true) (hq : q ≤ 2) :
    ∃ r, mt.subscribers t q = some r ∧
      r.Perm (((abs mt.sroot).filter (fun e => Mqtt.Spec.Match.matchLevels e.1 (split t))).map
        (fun e => (e.2.1, min q e.2.2))) := by
  obtain ⟨e1, e2⟩ := Mqtt.Proofs.Topics.entryLevels_valid t hg (Mqtt.Proofs.Topics.validName_validFilter t hn)
  have hvq : validQos q = true := by rw [Mqtt.Proofs.Topics.validQos_eq]; exact decide_eq_true hq
  obtain ⟨r, hr, hp⟩ := Mqtt.Proofs.Topics.subscribers_contract mt t q hwf (by rw [hvq, e2]; rfl)
  rw [e1, Mqtt.Proofs.Topics.filterMap_ite] at hp
  exact ⟨r, hr, hp⟩

theorem stop_sroot (b : B) (hinv : Inv b) (c : Nat) (cn : Conn) (s : Sess)
    (hc : b.getConn c = some cn) (ha : cn.alive = true) (hs : b.getSess cn.sess = some s) :
    (abs (stop b c).1.topics.sroot).Perm (entriesAfterUnsub c (s.topics.map (·.1)) (abs b.topics.sroot)) := by
  obtain ⟨s', h⟩ := BrokerLife.stop_ended b c cn s hc ha hs
  rw [h.sroot, unsubAll_eq_fold]
  exact unsubFold_abs c (s.topics.map (·.1)) b.topics hinv.wf

end Mqtt.Proofs.Broker
