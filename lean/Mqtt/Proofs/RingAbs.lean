/-
Core D — layer 1: the safety invariant `AInv` of the abstract ring machine is preserved by every
abstract step.  This is where the arithmetic of C14 is done; the real program inherits it, because each
of its steps that touches cursors, gate, cells or the obtained bytes is an abstract step
(`Proofs/RingSafety.lean`).  Also the abstraction function from layer 2.
-/
import Mqtt.Model.RingAbs
import Mqtt.Proofs.Ring

namespace Mqtt.Proofs.Ring
open Mqtt.Model.Ring Mqtt.Model.RingAbs Mqtt.Spec.Ring

/-- the layer-1 safety invariant (`RingInv` in sections 5 and 8 of DESIGN.md) -/
structure AInv (size : Nat) (src : Nat → UInt8) (base : Nat) (a : A) : Prop where
  cp : a.cseq ≤ a.pseq
  pc : a.pseq ≤ a.cseq + size
  gc : a.gate ≤ a.cseq
  cells : ∀ i, a.cseq ≤ i → i < a.pseq → a.cell (i % size) = src i
  basele : base ≤ a.cseq
  got : a.got = segment src base (a.cseq - base)

theorem commitC_data (size : Nat) (src : Nat → UInt8) (base : Nat) (a : A) (n : Nat)
    (h : AInv size src base a) (h1 : a.cseq + n ≤ a.pseq) :
    (List.range n).map (fun i => a.cell ((a.cseq + i) % size)) = segment src a.cseq n :=
  List.map_congr_left fun i hi => h.cells (a.cseq + i) (by omega) (by have := List.mem_range.mp hi; omega)

theorem ainv_step (size : Nat) (hs : 0 < size) (src : Nat → UInt8) (base : Nat) (a a' : A)
    (h : AInv size src base a) (st : AStep size src a a') : AInv size src base a' := by
  have hcd := commitC_data size src base a
  obtain ⟨hcp, hpc, hgc, hcells, hb, hgot⟩ := h
  cases st with
  | learnGate g h1 h2 => exact ⟨hcp, hpc, h2, hcells, hb, hgot⟩
  | write pos h1 h2 =>
    refine ⟨hcp, hpc, hgc, fun i hi1 hi2 => ?_, hb, hgot⟩
    -- a written position lies in `[pseq, cseq + size)`: its cell is none of those of `[cseq, pseq)`
    have hi1' : a.cseq ≤ i := hi1
    have hi2' : i < a.pseq := hi2
    show upd a.cell (pos % size) (src pos) (i % size) = src i
    unfold upd
    rw [if_neg (Nat.mod_ne_of_ne (by omega) (by omega) (by omega))]
    exact hcells i hi1 hi2
  | commitP n h1 h2 =>
    refine ⟨by show a.cseq ≤ a.pseq + n; omega, ?_, hgc, fun i hi1 hi2 => ?_, hb, hgot⟩
    · show a.pseq + n ≤ a.cseq + size
      by_cases hn : n = 0
      · omega
      · have := h2 (by omega); omega
    · have hi2' : i < a.pseq + n := hi2
      by_cases hlt : i < a.pseq
      · exact hcells i hi1 hlt
      · have := h1 (i - a.pseq) (by omega)
        rwa [show a.pseq + (i - a.pseq) = i by omega] at this
  | commitC n h1 =>
    refine ⟨h1, by show a.pseq ≤ a.cseq + n + size; omega, by show a.gate ≤ a.cseq + n; omega,
      fun i hi1 hi2 => ?_, by show base ≤ a.cseq + n; omega, ?_⟩
    · have hi1' : a.cseq + n ≤ i := hi1
      exact hcells i (by omega) hi2
    · show a.got ++ (List.range n).map (fun i => a.cell ((a.cseq + i) % size)) = segment src base (a.cseq + n - base)
      rw [hcd n ⟨hcp, hpc, hgc, hcells, hb, hgot⟩ h1, hgot, show a.cseq + n - base = (a.cseq - base) + n by omega,
        segment_append, show base + (a.cseq - base) = a.cseq by omega]

def absSh (sh : Sh) : A :=
  { pseq := sh.pseq, cseq := sh.cseq, gate := sh.gate, cell := fun i => rd sh.buf i, got := sh.gotRev.reverse }

def absSt (s : St) : A := absSh s.sh

end Mqtt.Proofs.Ring
