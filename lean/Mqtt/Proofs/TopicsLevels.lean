/-
Core B: the byte state machine `nextTopicLevel` / `levels` against the specification's `split` /
`validFilter`.  First the side conditions the statements about the entry points are made with
(`noEmptyLevel`, `good`, `admitted`); then `split` and its inverse `join`; one call of the state
machine (`ntl_chunk`); the call iterated (`levelsFuel_eq`, `levels_spec`); last the entry points: '$'
is an ordinary byte of the state machine, topics that begin with '$', and the empty topic, are turned
away by `checkTopic` (`entryLevels`, the five `…_entry` equations, `entryLevels_ok`).
-/
import Mqtt.Proofs.Topics
import Mqtt.Spec.Match

namespace Mqtt.Proofs.Topics
open Shortcuts
open Mqtt.Model.Topics
open Mqtt.Spec.Match (SEP HASH PLUS DOLLAR split splitAux validFilter validFilterLevels validName)

/-- no empty level (the inputs outside finding B3) -/
def goodLevels (ls : List (List UInt8)) : Bool := ls.all (fun l => !l.isEmpty)
/-- the byte string has no empty level: everything the state machine and the
tries treat as section 4.7 prescribes ('$' is an ordinary byte for them) -/
def noEmptyLevel (s : List UInt8) : Bool := goodLevels (split s)
/-- The topic arguments the `…_partial` theorems about the `MemTopics` entry
points (and about the broker and the client built on them) speak of: no empty
level (finding B3) and - outside the properties' quantifier, section 4.7.2 -
not beginning with '$'.  A '$' anywhere else is allowed ("a/$b" is good). -/
def good (s : List UInt8) : Bool := noEmptyLevel s && !Mqtt.Spec.Match.dollar s

theorem good_iff (s : List UInt8) :
    good s = true ↔ noEmptyLevel s = true ∧ Mqtt.Spec.Match.dollar s = false := by
  rw [good, Bool.and_eq_true, Bool.not_eq_true']

theorem good_noEmptyLevel (s : List UInt8) (hg : good s = true) : noEmptyLevel s = true :=
  ((good_iff s).mp hg).1

theorem good_not_dollar (s : List UInt8) (hg : good s = true) : Mqtt.Spec.Match.dollar s = false :=
  ((good_iff s).mp hg).2

/-- what a history may contain: topics without empty level (everything outside
finding B3) and the empty topic, which every entry point turns away -/
def admitted (s : List UInt8) : Bool := noEmptyLevel s || s.isEmpty

theorem admitted_of_noEmptyLevel (s : List UInt8) (h : noEmptyLevel s = true) : admitted s = true := by
  rw [admitted, h, Bool.true_or]

theorem admitted_nil : admitted [] = true := rfl

theorem admitted_cases (s : List UInt8) (h : admitted s = true) : noEmptyLevel s = true ∨ s = [] := by
  rw [admitted, Bool.or_eq_true, List.isEmpty_iff] at h
  exact h

theorem good_admitted (t : List UInt8) (hg : good t = true) : admitted t = true :=
  admitted_of_noEmptyLevel t (good_noEmptyLevel t hg)

theorem splitAux_append_nosep (l tail cur : List UInt8) (h : ∀ c ∈ l, c ≠ SEP) :
    splitAux (l ++ tail) cur = splitAux tail (l.reverse ++ cur) := by
  induction l generalizing cur with
  | nil => rfl
  | cons c l ih =>
    rw [List.cons_append, splitAux, if_neg (fun e => h c List.mem_cons_self (beq_iff_eq.mp e)),
      ih _ fun d hd => h d (List.mem_cons_of_mem _ hd), List.reverse_cons, List.append_assoc]
    rfl

theorem split_nosep (l : List UInt8) (h : ∀ c ∈ l, c ≠ SEP) : split l = [l] := by
  have := splitAux_append_nosep l [] [] h
  rw [List.append_nil, List.append_nil] at this
  rw [split, this, splitAux, List.reverse_reverse]

theorem split_sep (l r : List UInt8) (h : ∀ c ∈ l, c ≠ SEP) : split (l ++ SEP :: r) = l :: split r := by
  rw [split, splitAux_append_nosep l (SEP :: r) [] h, splitAux, beq_self_eq_true, if_pos rfl, List.append_nil,
    List.reverse_reverse]
  rfl

theorem chunk (s : List UInt8) :
    ∃ l tail, s = l ++ tail ∧ (∀ c ∈ l, c ≠ SEP) ∧ (tail = [] ∨ ∃ r, tail = SEP :: r) := by
  induction s with
  | nil => exact ⟨[], [], rfl, fun _ h => (nomatch h), .inl rfl⟩
  | cons c s ih =>
    by_cases hc : c = SEP
    · exact ⟨[], c :: s, rfl, fun _ h => (nomatch h), .inr ⟨s, by rw [hc]⟩⟩
    · obtain ⟨l, tail, e, hl, ht⟩ := ih
      exact ⟨c :: l, tail, by rw [e]; rfl, List.forall_mem_cons.mpr ⟨hc, hl⟩, ht⟩

theorem split_ne_nil (s : List UInt8) : split s ≠ [] := by
  obtain ⟨l, tail, rfl, hl, rfl | ⟨r, rfl⟩⟩ := chunk s
  · rw [List.append_nil, split_nosep l hl]; exact List.cons_ne_nil _ _
  · rw [split_sep l r hl]; exact List.cons_ne_nil _ _

/-- `split` has an inverse: joining with '/' -/
def join : List (List UInt8) → List UInt8
  | [] => []
  | [l] => l
  | l :: rest => l ++ SEP :: join rest

theorem join_split (s : List UInt8) : join (split s) = s := by
  induction h : s.length using Nat.strongRecOn generalizing s with
  | _ n ih =>
    obtain ⟨l, tail, rfl, hl, rfl | ⟨r, rfl⟩⟩ := chunk s
    · rw [List.append_nil, split_nosep l hl]; rfl
    · rw [split_sep l r hl]
      have hr := ih r.length (by
        rw [← h, List.length_append, List.length_cons]
        exact Nat.lt_of_lt_of_le (Nat.lt_succ_self _) (Nat.le_add_left _ _)) r rfl
      cases hs : split r with
      | nil => exact absurd hs (split_ne_nil r)
      | cons x xs => show l ++ SEP :: join (x :: xs) = _; rw [← hs, hr]

theorem split_inj (a b : List UInt8) (h : split a = split b) : a = b := by
  rw [← join_split a, ← join_split b, h]

theorem split_beq (a b : List UInt8) : (split a == split b) = (a == b) := by
  by_cases h : a = b
  · rw [h, beq_self_eq_true, beq_self_eq_true]
  · rw [beq_eq_false_iff_ne.mpr h, beq_eq_false_iff_ne.mpr fun hs => h (split_inj _ _ hs)]

theorem mem_join {ls : List (List UInt8)} {l : List UInt8} {c : UInt8} (hl : l ∈ ls) (hc : c ∈ l) : c ∈ join ls := by
  induction ls with
  | nil => cases hl
  | cons x xs ih =>
    cases xs with
    | nil => rw [List.mem_singleton.mp hl] at hc; exact hc
    | cons y ys =>
      show c ∈ x ++ SEP :: join (y :: ys)
      rw [List.mem_append, List.mem_cons]
      rcases List.mem_cons.mp hl with rfl | hl
      · exact .inl hc
      · exact .inr (.inr (ih hl))

theorem mem_of_mem_split {s l : List UInt8} {c : UInt8} (hl : l ∈ split s) (hc : c ∈ l) : c ∈ s :=
  join_split s ▸ mem_join hl hc

theorem cMWC_eq : cMWC = HASH := rfl
theorem cSWC_eq : cSWC = PLUS := rfl
theorem cSYS_eq : cSYS = DOLLAR := rfl

def plain (l : List UInt8) : Bool := !l.contains HASH && !l.contains PLUS
/-- a level is acceptable to section 4.7.1 in the last position … -/
def lvalidLast (l : List UInt8) : Bool := l == [HASH] || l == [PLUS] || plain l
/-- … and before the last position -/
def lvalidMid (l : List UInt8) : Bool := l == [PLUS] || plain l

theorem validFilterLevels_single (l : List UInt8) : validFilterLevels [l] = lvalidLast l := rfl

theorem validFilterLevels_cons (l x : List UInt8) (xs : List (List UInt8)) :
    validFilterLevels (l :: x :: xs) = (lvalidMid l && validFilterLevels (x :: xs)) := rfl

theorem plain_cons (c : UInt8) (l : List UInt8) : plain (c :: l) = (c != cMWC && c != cSWC && plain l) := by
  simp only [plain, List.contains_cons, Bool.not_or, cMWC_eq, cSWC_eq, bne, Bool.beq_comm (a := HASH),
    Bool.beq_comm (a := PLUS)]
  cases c == HASH <;> cases c == PLUS <;> cases l.contains HASH <;> rfl

theorem ntlLoop_end (pre : List UInt8) (s : LState) (tail : List UInt8) (hp : pre ≠ [])
    (ht : tail = [] ∨ ∃ r, tail = cSEP :: r) :
    ntlLoop pre s tail =
      if s == .mwc && !tail.isEmpty then .err else .ok pre.reverse (tail.drop 1) tail.isEmpty := by
  rcases ht with rfl | ⟨r, rfl⟩
  · rw [ntlLoop, List.isEmpty_nil, Bool.not_true, Bool.and_false, if_neg Bool.false_ne_true]; rfl
  · rw [ntlLoop, beq_self_eq_true, if_pos rfl, List.isEmpty_eq_false_iff.mpr hp, if_neg Bool.false_ne_true]
    cases s == LState.mwc <;> rfl

theorem ntlLoop_chr (l tail : List UInt8) (hl : ∀ c ∈ l, c ≠ cSEP) (ht : tail = [] ∨ ∃ r, tail = cSEP :: r) :
    ∀ pre : List UInt8, pre ≠ [] →
      ntlLoop pre .chr (l ++ tail) =
        if plain l then .ok (l.reverse ++ pre).reverse (tail.drop 1) tail.isEmpty else .err := by
  induction l with
  | nil => intro pre hp; exact ntlLoop_end pre .chr tail hp ht
  | cons c l ih =>
    intro pre hp
    have e1 : (c == cSEP) = false := beq_eq_false_iff_ne.mpr (hl c List.mem_cons_self)
    rw [List.cons_append, ntlLoop, e1, if_neg Bool.false_ne_true, List.isEmpty_eq_false_iff.mpr hp, plain_cons, bne, bne]
    cases c == cMWC with
    | true => rfl
    | false =>
      cases c == cSWC with
      | true => rfl
      | false =>
        -- (the third condition is "the state is `mwc` or `swc`"; it is `chr`)
        rw [if_neg Bool.false_ne_true, if_neg Bool.false_ne_true, if_neg (by decide),
          ih (fun d hd => hl d (List.mem_cons_of_mem _ hd)) (c :: pre) (List.cons_ne_nil _ _),
          List.reverse_cons, List.append_assoc]
        rfl

theorem ntlLoop_wild (c : UInt8) (rest pre : List UInt8) (s : LState) (hp : pre ≠ [])
    (hs : s = .mwc ∨ s = .swc) (hc : c ≠ cSEP) : ntlLoop pre s (c :: rest) = .err := by
  have e5 : (s == LState.mwc || s == LState.swc) = true := by rcases hs with rfl | rfl <;> rfl
  rw [ntlLoop, beq_eq_false_iff_ne.mpr hc, if_neg Bool.false_ne_true, List.isEmpty_eq_false_iff.mpr hp, e5]
  cases c == cMWC <;> cases c == cSWC <;> rfl

theorem not_plain_of_wild {c d : UInt8} {l : List UInt8} (hc : c = cMWC ∨ c = cSWC) :
    lvalidLast (c :: d :: l) = false ∧ lvalidMid (c :: d :: l) = false := by
  have hp : plain (c :: d :: l) = false := by
    rw [plain_cons]; rcases hc with rfl | rfl <;> rfl
  have h1 : (c :: d :: l == [HASH]) = false := by simp
  have h2 : (c :: d :: l == [PLUS]) = false := by simp
  rw [lvalidLast, lvalidMid, h1, h2, hp]
  exact ⟨rfl, rfl⟩

theorem ntlLoop_wild_head (c : UInt8) (s : LState) (hc : c = cMWC ∧ s = .mwc ∨ c = cSWC ∧ s = .swc)
    (l tail : List UInt8) (hl : ∀ d ∈ l, d ≠ cSEP) (ht : tail = [] ∨ ∃ r, tail = cSEP :: r) :
    ntlLoop [c] s (l ++ tail) =
      if (if tail.isEmpty then lvalidLast (c :: l) else lvalidMid (c :: l)) then
        .ok (c :: l) (tail.drop 1) tail.isEmpty
      else .err := by
  cases l with
  | nil =>
    rw [List.nil_append, ntlLoop_end [c] s tail (List.cons_ne_nil _ _) ht]
    rcases hc with ⟨rfl, rfl⟩ | ⟨rfl, rfl⟩ <;> rcases ht with rfl | ⟨r, rfl⟩ <;> rfl
  | cons d l =>
    have hw : c = cMWC ∨ c = cSWC := hc.imp And.left And.left
    rw [List.cons_append, ntlLoop_wild d _ _ s (List.cons_ne_nil _ _) (hc.imp And.right And.right)
        (hl d List.mem_cons_self),
      (not_plain_of_wild hw).1, (not_plain_of_wild hw).2, ite_self, if_neg Bool.false_ne_true]

/-- one call of `nextTopicLevel` on a level `l` followed by the end of the topic or by '/': it
succeeds exactly when `l` is valid in its position (an empty `l` before a '/' is, and is read as
`+`: finding B3) -/
theorem ntl_chunk (l tail : List UInt8) (hl : ∀ c ∈ l, c ≠ cSEP) (ht : tail = [] ∨ ∃ r, tail = cSEP :: r)
    (hne : l ++ tail ≠ []) :
    nextTopicLevel (l ++ tail) =
      if (if tail.isEmpty then lvalidLast l else lvalidMid l) then
        .ok (if l.isEmpty then SWC else l) (tail.drop 1) tail.isEmpty
      else .err := by
  unfold nextTopicLevel
  cases l with
  | nil =>
    rcases ht with rfl | ⟨r, rfl⟩
    · exact absurd rfl hne
    · rw [List.nil_append, ntlLoop, beq_self_eq_true, if_pos rfl]; rfl
  | cons c l =>
    have e1 : (c == cSEP) = false := beq_eq_false_iff_ne.mpr (hl c List.mem_cons_self)
    have hl' : ∀ d ∈ l, d ≠ cSEP := fun d hd => hl d (List.mem_cons_of_mem _ hd)
    rw [List.cons_append, ntlLoop, e1, if_neg Bool.false_ne_true, List.isEmpty_nil, Bool.not_true,
      if_neg Bool.false_ne_true, if_neg Bool.false_ne_true, List.isEmpty_cons, if_neg Bool.false_ne_true]
    by_cases h2 : c = cMWC
    · rw [h2, beq_self_eq_true, if_pos rfl]
      exact ntlLoop_wild_head cMWC .mwc (.inl ⟨rfl, rfl⟩) l tail hl' ht
    · rw [beq_eq_false_iff_ne.mpr h2, if_neg Bool.false_ne_true]
      by_cases h3 : c = cSWC
      · rw [h3, beq_self_eq_true, if_pos rfl]
        exact ntlLoop_wild_head cSWC .swc (.inr ⟨rfl, rfl⟩) l tail hl' ht
      · -- an ordinary first character (state `chr`): the level must be free of wildcards; it is not
        -- `[#]` or `[+]`, so valid in either position means `plain`, and `plain (c :: l) = plain l`
        rw [beq_eq_false_iff_ne.mpr h3, if_neg Bool.false_ne_true, if_neg (by decide),
          ntlLoop_chr l tail hl' ht [c] (List.cons_ne_nil _ _)]
        have hv : lvalidLast (c :: l) = plain (c :: l) ∧ lvalidMid (c :: l) = plain (c :: l) := by
          have h1 : (c :: l == [HASH]) = false := by
            cases l <;> simp [← cMWC_eq, h2]
          have h2 : (c :: l == [PLUS]) = false := by
            cases l <;> simp [← cSWC_eq, h3]
          rw [lvalidLast, lvalidMid, h1, h2]
          exact ⟨rfl, rfl⟩
        have hp : plain (c :: l) = plain l := by
          rw [plain_cons, bne_iff_ne.mpr h2, bne_iff_ne.mpr h3]; rfl
        rw [hv.1, hv.2, ite_self, hp, List.reverse_append, List.reverse_reverse]
        rfl

/-- What the walk makes of the specification's levels (finding B3): an empty level that is
not the last is read as `+`, an empty last level is dropped. -/
def seen : List Level → List Level
  | [] => []
  | [l] => if l.isEmpty then [] else [l]
  | l :: x :: xs => (if l.isEmpty then SWC else l) :: seen (x :: xs)

theorem seen_of_goodLevels : ∀ ls : List Level, goodLevels ls = true → seen ls = ls
  | [], _ => rfl
  | [l], h => by
    rw [goodLevels, List.all_cons, Bool.and_eq_true, Bool.not_eq_true'] at h
    rw [seen, h.1]; rfl
  | l :: x :: xs, h => by
    rw [goodLevels, List.all_cons, Bool.and_eq_true, Bool.not_eq_true'] at h
    rw [seen, h.1, seen_of_goodLevels (x :: xs) h.2]; rfl

theorem levelsFuel_succ (fuel : Nat) (s : List UInt8) (h : s ≠ []) :
    levelsFuel (fuel + 1) s =
      match nextTopicLevel s with
      | .err => ([], false)
      | .ok l rem _ => (l :: (levelsFuel fuel rem).1, (levelsFuel fuel rem).2) := by
  rw [levelsFuel, List.isEmpty_eq_false_iff.mpr h, if_neg Bool.false_ne_true]
  cases nextTopicLevel s <;> rfl

/-- the walk, for every byte string: no error exactly when every level is valid (4.7.1), and
then it has collected the levels as `seen` -/
theorem levelsFuel_eq : ∀ (fuel : Nat) (s : List UInt8), s.length < fuel →
    (levelsFuel fuel s).2 = validFilterLevels (split s) ∧
    (validFilterLevels (split s) = true → (levelsFuel fuel s).1 = seen (split s)) := by
  intro fuel
  induction fuel with
  | zero => intro s h; exact absurd h (Nat.not_lt_zero _)
  | succ fuel ih =>
    intro s hlen
    by_cases hs : s = []
    · subst hs; exact ⟨rfl, fun _ => rfl⟩
    obtain ⟨l, tail, rfl, hl, ht⟩ := chunk s
    rw [levelsFuel_succ _ _ hs, ntl_chunk l tail hl ht hs]
    rcases ht with rfl | ⟨r, rfl⟩
    · -- the last level: not empty, since the string is not
      rw [List.append_nil] at hs hlen ⊢
      obtain ⟨f, rfl⟩ : ∃ f, fuel = f + 1 :=
        ⟨fuel - 1, (Nat.succ_pred_eq_of_pos (Nat.lt_of_lt_of_le (List.length_pos_iff.mpr hs)
          (Nat.le_of_lt_succ hlen))).symm⟩
      rw [split_nosep l hl, validFilterLevels_single, seen, List.isEmpty_eq_false_iff.mpr hs]
      cases lvalidLast l with
      | false => exact ⟨rfl, fun h => nomatch h⟩
      | true => exact ⟨rfl, fun _ => rfl⟩
    · obtain ⟨ih1, ih2⟩ := ih r (by
        rw [List.length_append, List.length_cons] at hlen
        exact Nat.lt_of_succ_lt_succ (Nat.lt_of_le_of_lt (Nat.le_add_left _ _) hlen))
      rw [split_sep l r hl]
      cases hsr : split r with
      | nil => exact absurd hsr (split_ne_nil r)
      | cons x xs =>
        rw [validFilterLevels_cons, seen, ← hsr]
        cases lvalidMid l with
        | false => exact ⟨rfl, fun h => nomatch h⟩
        | true => exact ⟨ih1, fun h => congrArg (_ :: ·) (ih2 h)⟩

theorem levels_ok (s : List UInt8) : (levels s).2 = validFilterLevels (split s) :=
  (levelsFuel_eq (s.length + 1) s (Nat.lt_succ_self _)).1

theorem levels_seen (s : List UInt8) (h : validFilterLevels (split s) = true) : levels s = (seen (split s), true) :=
  Prod.ext ((levelsFuel_eq (s.length + 1) s (Nat.lt_succ_self _)).2 h) ((levels_ok s).trans h)

theorem noEmptyLevel_ne_nil (s : List UInt8) (h : noEmptyLevel s = true) : s ≠ [] := by
  rintro rfl; cases h

theorem levels_spec (s : List UInt8) (hg : noEmptyLevel s = true) :
    (validFilter s = true → levels s = (split s, true)) ∧
    (validFilter s = false → (levels s).2 = false) := by
  have hv : validFilter s = validFilterLevels (split s) := by
    rw [validFilter, List.isEmpty_eq_false_iff.mpr (noEmptyLevel_ne_nil s hg)]; rfl
  rw [hv]
  exact ⟨fun h => by rw [levels_seen s h, seen_of_goodLevels _ hg], fun h => (levels_ok s).trans h⟩

theorem validName_validFilter (s : List UInt8) (h : validName s = true) : validFilter s = true := by
  rw [validName, Bool.and_eq_true, Bool.and_eq_true] at h
  rw [validFilter, Bool.and_eq_true]
  refine ⟨h.1.1, ?_⟩
  -- no level holds a wildcard character, so every level is valid in every position
  have hp : ∀ l ∈ split s, plain l = true := fun l hl => by
    rw [plain, Bool.and_eq_true]
    refine ⟨?_, ?_⟩ <;> rw [Bool.not_eq_true', List.contains_eq_mem, decide_eq_false_iff_not]
      <;> intro hc <;> have hm := mem_of_mem_split hl hc
    · rw [← List.contains_iff_mem, (Bool.not_eq_true' _).mp h.1.2] at hm; cases hm
    · rw [← List.contains_iff_mem, (Bool.not_eq_true' _).mp h.2] at hm; cases hm
  generalize split s = ls at hp
  induction ls with
  | nil => rfl
  | cons l rest ih =>
    have hl := hp l List.mem_cons_self
    cases rest with
    | nil => rw [validFilterLevels_single, lvalidLast, hl, Bool.or_true]
    | cons x xs =>
      rw [validFilterLevels_cons, lvalidMid, hl, Bool.or_true, Bool.true_and]
      exact ih fun l' hl' => hp l' (List.mem_cons_of_mem _ hl')

theorem checkSys_eq_dollar (s : List UInt8) : checkSys s = Mqtt.Spec.Match.dollar s := rfl

theorem checkTopic_eq (s : List UInt8) : checkTopic s = (s.isEmpty || Mqtt.Spec.Match.dollar s) := rfl

theorem checkTopic_of_dollar (s : List UInt8) (h : Mqtt.Spec.Match.dollar s = true) : checkTopic s = true := by
  rw [checkTopic_eq, h, Bool.or_true]

theorem checkTopic_false_iff (s : List UInt8) :
    checkTopic s = false ↔ s ≠ [] ∧ Mqtt.Spec.Match.dollar s = false := by
  rw [checkTopic_eq, Bool.or_eq_false_iff, List.isEmpty_eq_false_iff]

theorem good_checkTopic (s : List UInt8) (hg : good s = true) : checkTopic s = false :=
  (checkTopic_false_iff s).mpr ⟨noEmptyLevel_ne_nil s (good_noEmptyLevel s hg), good_not_dollar s hg⟩

/-! `entryLevels t` is what the trie operation behind an entry point gets to see of `t`: nothing
at all (and failure) when `checkTopic` turns the topic away, the result of `levels` otherwise.
With it every entry point has one equation that holds for all topics. -/

def entryLevels (t : List UInt8) : List Level × Bool := if checkTopic t then ([], false) else levels t

theorem entryLevels_of_not_checkTopic (t : List UInt8) (h : checkTopic t = false) : entryLevels t = levels t := by
  rw [entryLevels, h, if_neg Bool.false_ne_true]

theorem entryLevels_of_checkTopic (t : List UInt8) (h : checkTopic t = true) : entryLevels t = ([], false) := by
  rw [entryLevels, h, if_pos rfl]

theorem entryLevels_good (t : List UInt8) (hg : good t = true) : entryLevels t = levels t :=
  entryLevels_of_not_checkTopic t (good_checkTopic t hg)

theorem entryLevels_snd (t : List UInt8) : (entryLevels t).2 = (!checkTopic t && (levels t).2) := by
  rw [entryLevels]; cases checkTopic t <;> rfl

/-- acceptance, for every byte string (empty levels and the empty topic included) -/
theorem entryLevels_ok (t : List UInt8) :
    (entryLevels t).2 = (Mqtt.Spec.Match.validFilter t && !Mqtt.Spec.Match.dollar t) := by
  rw [entryLevels_snd, levels_ok, checkTopic_eq, validFilter]
  cases t.isEmpty <;> cases Mqtt.Spec.Match.dollar t <;> cases validFilterLevels (split t) <;> rfl

theorem entryLevels_of_ok (f : List UInt8) (ha : admitted f = true) (hok : (entryLevels f).2 = true) :
    validFilter f = true ∧ Mqtt.Spec.Match.dollar f = false ∧ entryLevels f = (split f, true) := by
  rw [entryLevels_ok, Bool.and_eq_true, Bool.not_eq_true'] at hok
  refine ⟨hok.1, hok.2, ?_⟩
  rcases admitted_cases f ha with hn | rfl
  · rw [entryLevels_of_not_checkTopic f ((checkTopic_false_iff f).mpr ⟨noEmptyLevel_ne_nil f hn, hok.2⟩)]
    exact (levels_spec f hn).1 hok.1
  · cases hok.1

theorem entryLevels_valid (f : List UInt8) (hg : good f = true) (hv : validFilter f = true) :
    (entryLevels f).1 = split f ∧ (entryLevels f).2 = true := by
  rw [entryLevels_good f hg, (levels_spec f (good_noEmptyLevel f hg)).1 hv]; exact ⟨rfl, rfl⟩

theorem entryLevels_invalid (f : List UInt8) (hv : validFilter f = false) : (entryLevels f).2 = false := by
  rw [entryLevels_ok, hv]; rfl

/-- the root node of either trie is not addressable through `MemTopics` -/
theorem entryLevels_ne_root (t : List UInt8) : entryLevels t ≠ ([], true) := by
  cases hc : checkTopic t with
  | true => rw [entryLevels_of_checkTopic t hc]; exact fun h => nomatch h
  | false =>
    rw [entryLevels_of_not_checkTopic t hc, levels, levelsFuel_succ _ t ((checkTopic_false_iff t).mp hc).1]
    cases nextTopicLevel t <;> exact fun h => nomatch h

theorem validQos_eq (q : Nat) : validQos q = decide (q ≤ 2) :=
  match q with
  | 0 | 1 | 2 => rfl
  | _ + 3 => rfl

theorem subscribe_entry (mt : MemTopics) (mq : Nat) (t : List UInt8) (q s : Nat) :
    mt.subscribe mq t q s =
      if !validQos q then (mt, none) else
        ({ mt with sroot := mt.sroot.sinsertL (entryLevels t).1 (entryLevels t).2 s (if q > mq then mq else q) },
          if (entryLevels t).2 then some (if q > mq then mq else q) else none) := by
  -- the store is taken apart so that the trie operation on no level and `{ mt with sroot := … }`
  -- reduce (the same in the four equations below)
  obtain ⟨⟨subs, kids⟩, rr⟩ := mt
  unfold MemTopics.subscribe entryLevels
  cases validQos q <;> cases checkTopic t <;> rfl

theorem unsubscribe_entry (mt : MemTopics) (t : List UInt8) (sub : Option Nat) :
    mt.unsubscribe t sub =
      ({ mt with sroot := (mt.sroot.sremoveL (entryLevels t).1 (entryLevels t).2 sub).1 },
        (mt.sroot.sremoveL (entryLevels t).1 (entryLevels t).2 sub).2) := by
  obtain ⟨⟨subs, kids⟩, rr⟩ := mt
  unfold MemTopics.unsubscribe entryLevels
  cases checkTopic t <;> rfl

theorem subscribers_entry (mt : MemTopics) (t : List UInt8) (q : Nat) :
    mt.subscribers t q =
      if !validQos q then none else mt.sroot.smatchL (entryLevels t).1 (entryLevels t).2 q := by
  obtain ⟨⟨subs, kids⟩, rr⟩ := mt
  unfold MemTopics.subscribers entryLevels
  cases validQos q <;> cases checkTopic t <;> rfl

theorem retain_entry (mt : MemTopics) (m : RMsg) :
    mt.retain m =
      if m.payload.isEmpty then
        ({ mt with rroot := (mt.rroot.rremoveL (entryLevels m.topic).1 (entryLevels m.topic).2).1 },
          (mt.rroot.rremoveL (entryLevels m.topic).1 (entryLevels m.topic).2).2)
      else
        ({ mt with rroot := mt.rroot.rinsertL (entryLevels m.topic).1 (entryLevels m.topic).2 m },
          (entryLevels m.topic).2) := by
  obtain ⟨sr, ⟨msg, kids⟩⟩ := mt
  unfold MemTopics.retain entryLevels
  cases checkTopic m.topic <;> cases m.payload.isEmpty <;> rfl

theorem retained_entry (mt : MemTopics) (t : List UInt8) :
    mt.retained t = mt.rroot.rmatchL (entryLevels t).1 (entryLevels t).2 := by
  obtain ⟨sr, ⟨msg, kids⟩⟩ := mt
  unfold MemTopics.retained entryLevels
  cases checkTopic t <;> rfl

theorem checkTopic_rejected (mt : MemTopics) (t : List UInt8) (hc : checkTopic t = true) :
    (∀ mq q s, mt.subscribe mq t q s = (mt, none)) ∧ (∀ sub, mt.unsubscribe t sub = (mt, false)) ∧
    (∀ q, mt.subscribers t q = none) ∧ (∀ m : RMsg, m.topic = t → mt.retain m = (mt, false)) ∧
    mt.retained t = none := by
  obtain ⟨⟨subs, kids⟩, ⟨msg, rkids⟩⟩ := mt
  refine ⟨fun mq q s => ?_, fun sub => ?_, fun q => ?_, fun m hm => ?_, ?_⟩
  · rw [subscribe_entry, entryLevels_of_checkTopic t hc]; cases validQos q <;> rfl
  · rw [unsubscribe_entry, entryLevels_of_checkTopic t hc]; rfl
  · rw [subscribers_entry, entryLevels_of_checkTopic t hc]; cases validQos q <;> rfl
  · rw [retain_entry, hm, entryLevels_of_checkTopic t hc]; cases m.payload.isEmpty <;> rfl
  · rw [retained_entry, entryLevels_of_checkTopic t hc]; rfl

end Mqtt.Proofs.Topics
