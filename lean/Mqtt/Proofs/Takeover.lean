/-
What the statement orders of `Model/Takeover.lean` are for.  `disconnectClient`: when it returns, every connection
of the client has FINISHED its teardown (`disconnect_complete`; the variants that prune by the `closed` flag, do not
wait, or wait before they stop leave one still ending or hang), and it waits without `Server.mu`, so `Server.Close`
reaches its loops meanwhile (`close_gets_mu_while_disconnect_waits`; with a deferred unlock it would not).
`handleConnection` holds `connectMu` from the take-over to the registration; a stored session is resumed iff it is
initialized, has its CONNECT and that CONNECT had CleanSession = 0; `stop()` reads the stored CONNECT only after its
wait.  No generated name is mentioned here; the equations with the regenerated source facts are in
`Properties/C09Source.lean`, `C10Source.lean`, `C16Source.lean`.
-/
import Mqtt.Model.Takeover

namespace Mqtt.Proofs.Takeover
open Mqtt.Model.Takeover

/-! ## `disconnectClient`: when it returns, every connection of the client has FINISHED its teardown -/

theorem collected_eq (cid : Nat) (s : Svc) :
    collected disconnectProgram cid s = (s.st != .stopped && s.cid == cid) := by
  cases s with | mk i c st => cases st <;> rfl

theorem finish_live : finish disconnectProgram .live = some .stopped := by decide
theorem finish_ending : finish disconnectProgram .ending = some .stopped := by decide

theorem after_eq (cid : Nat) (svcs : List Svc) :
    after disconnectProgram cid svcs =
      some (svcs.map fun s => if s.cid = cid then { s with st := .stopped } else s) := by
  induction svcs with
  | nil => rfl
  | cons s t ih =>
    have : (if collected disconnectProgram cid s then (finish disconnectProgram s.st).map (fun t => { s with st := t })
        else some s) = some (if s.cid = cid then { s with st := .stopped } else s) := by
      rw [collected_eq]
      obtain ⟨i, c, st⟩ := s
      by_cases hc : c = cid <;> cases st <;> simp [hc, finish_live, finish_ending]
    simp only [after, this, ih, List.map_cons]

/-- For every population of connections - live ones, ones whose teardown somebody else has begun and not
finished (`ending`: parked in `wgStopped.Wait` or in the will publish), finished ones; in `svcs` or not -
`disconnectClient cid` returns, and then every connection with that client identifier is `stopped`:
its `stop()` is COMPLETE.  That is the state in which the broker model runs `first` (`Model.Broker.connect
= takeOver; first`, `takeOver = stopAll (sameClient ..)`: each `stop` of the model is the whole teardown).
The others are what they were. -/
theorem disconnect_complete (cid : Nat) (svcs : List Svc) :
    ∃ r, after disconnectProgram cid svcs = some r ∧ r.length = svcs.length ∧
      (∀ s ∈ r, s.cid = cid → s.st = .stopped) ∧ (∀ s ∈ svcs, s.cid ≠ cid → s ∈ r) := by
  refine ⟨_, after_eq cid svcs, List.length_map .., fun s hs hc => ?_, fun s hs hne => ?_⟩
  · obtain ⟨x, -, rfl⟩ := List.mem_map.mp hs
    by_cases h : x.cid = cid
    · rw [if_pos h]
    · rw [if_neg h] at hc; exact absurd hc h
  · exact List.mem_map.mpr ⟨s, hs, if_neg hne⟩

/-- `Server.svcs` afterwards: exactly the entries whose teardown had not finished when the scan ran -
finished connections do not accumulate, and a connection that is still ending stays findable -/
theorem registered_eq (svcs : List Svc) :
    registered disconnectProgram svcs = svcs.filter (fun s => s.st != .stopped) := by
  have : ∀ s : Svc, (!dropped disconnectProgram s) = (s.st != .stopped) := by
    intro s; cases s with | mk i c st => cases st <;> rfl
  have hk : (disconnectProgram.contains .keep && disconnectProgram.contains .truncate) = true := by decide
  unfold registered
  rw [if_pos hk]
  congr 1
  funext s
  exact this s

/-- the population the mutants are shown on: client 7 has a live connection, one whose teardown is in
progress and a finished one; client 8 has a live one -/
def probe : List Svc := [⟨1, 7, .live⟩, ⟨2, 7, .ending⟩, ⟨3, 7, .stopped⟩, ⟨4, 8, .live⟩]

/-- on the probe: all of client 7 finished, client 8 untouched, the finished entry dropped from `svcs` -/
theorem disconnect_probe :
    after disconnectProgram 7 probe = some [⟨1, 7, .stopped⟩, ⟨2, 7, .stopped⟩, ⟨3, 7, .stopped⟩, ⟨4, 8, .live⟩] ∧
    registered disconnectProgram probe = [⟨1, 7, .live⟩, ⟨2, 7, .ending⟩, ⟨4, 8, .live⟩] := by decide +kernel

/-- **pruning by the `closed` flag** (set when a teardown BEGINS) passes over the connection whose teardown
is in progress: it is neither stopped nor waited for, and the handshake goes on while it is still ending
(its late unsubscribe / will / session removal then hit the new connection's session) -/
theorem prune_by_closed_flag_leaves_one_ending :
    after [.lock, .pruneOther, .keep, .collect, .truncate, .unlock, .stop, .wait] 7 probe =
      some [⟨1, 7, .stopped⟩, ⟨2, 7, .ending⟩, ⟨3, 7, .stopped⟩, ⟨4, 8, .live⟩] := by decide +kernel

/-- without the wait a teardown somebody else has begun is not awaited; with the wait before the stop the
caller waits for ever for a live connection -/
theorem no_wait_leaves_one_ending_and_wait_first_hangs :
    after [.lock, .pruneStopped, .keep, .collect, .truncate, .unlock, .stop] 7 probe =
      some [⟨1, 7, .stopped⟩, ⟨2, 7, .ending⟩, ⟨3, 7, .stopped⟩, ⟨4, 8, .live⟩] ∧
    after [.lock, .pruneStopped, .keep, .collect, .truncate, .unlock, .wait, .stop] 7 probe = none := by decide +kernel

/-! ## `Server.mu` is not held while `disconnectClient` waits -/

/-- `stop()` and `<-stopped` run without `Server.mu` -/
theorem disconnect_waits_without_mu : waitsWithoutMu disconnectProgram = true := by decide +kernel

/-- wherever `disconnectClient` may be waiting for another goroutine - and the teardown it waits for may be
held by a third connection whose client does not read, for as long as that client likes -, `Server.Close`
gets `Server.mu`, copies `svcs` and reaches its loops (the first of which, `out.Close()` on every connection,
is what ends that wait: `C16_server_close`) -/
theorem close_gets_mu_while_disconnect_waits (i : Nat) (op : DcOp) (h : disconnectProgram[i]? = some op)
    (hw : op.mayWait = true) : closeReachesLoops disconnectProgram i closeProgram = true := by
  have : i < 8 := by
    rcases Nat.lt_or_ge i 8 with h8 | h8
    · exact h8
    · rw [List.getElem?_eq_none (by simpa [disconnectProgram] using h8)] at h; cases h
  have hall : ∀ j, j < 8 → ∀ o, disconnectProgram[j]? = some o → o.mayWait = true →
      closeReachesLoops disconnectProgram j closeProgram = true := by decide +kernel
  exact hall i this op h hw

/-- **`defer svr.mu.Unlock()` instead of the explicit unlock**: `Server.mu` is held at `stop()` and at the
wait, and `Server.Close` does not get past its first statement while `disconnectClient` waits -/
theorem deferred_unlock_blocks_close :
    waitsWithoutMu [.lock, .deferUnlock, .pruneStopped, .keep, .collect, .truncate, .stop, .wait] = false ∧
    closeReachesLoops [.lock, .deferUnlock, .pruneStopped, .keep, .collect, .truncate, .stop, .wait] 7 closeProgram = false := by
  decide +kernel

/-- `Server.Close` itself: `mu` only around the copy, every outgoing ring closed before the first `stop()` -/
theorem close_shape :
    closeProgram.idxOf .unlock < closeProgram.idxOf .closeOuts ∧
    closeProgram.idxOf .closeOuts < closeProgram.idxOf .stops ∧ closeProgram.contains .deferUnlock = false := by decide +kernel

/-! ## `handleConnection`: `connectMu` from the take-over to the registration -/

theorem connect_held_over : heldOver connectProgram = true := by decide +kernel

/-- released before the CONNACK / start / registration (the seeded change
C09-connectmu-released-before-registration has the lock in a closure around take-over and session lookup:
the statements outside the closure are not under it) -/
theorem connect_released_early_is_not_held_over :
    heldOver [.lock, .disconnect, .getSession, .unlock, .connack, .start, .register] = false ∧
    heldOver [.connack, .start, .register] = false := by decide +kernel

/-- a stored session is resumed iff it is initialized, has its CONNECT and that CONNECT had CleanSession = 0:
the filter `fun s => !s.clean` of `Model.Broker.first` (the model's stored sessions are initialized) -/
theorem resumable_eq (initted hasConnect clean : Bool) :
    resumable resumableProgram initted hasConnect clean = (initted && hasConnect && !clean) := by
  cases initted <;> cases hasConnect <;> cases clean <;> rfl

/-- without the third term the session of a CleanSession = 1 CONNECT that is still in the store - its
connection alive before the take-over repair, or its handshake failed after `getSession` - is resumed -/
theorem resumable_without_clean_resumes_clean :
    resumable [.initted, .hasConnect] true true true = true ∧ resumable resumableProgram true true true = false := by
  decide +kernel

/-- `getSession`: the store is consulted only for CleanSession = 0, SessionPresent = 1 and `Update` only
behind `Resumable()`, everything else gets a new session with SessionPresent = 0 -/
theorem getSession_shape :
    getSessionProgram.idxOf .ifNotClean < getSessionProgram.idxOf .get ∧
    getSessionProgram.idxOf .get < getSessionProgram.idxOf .ifResumable ∧
    getSessionProgram.idxOf .ifResumable < getSessionProgram.idxOf .presentTrue ∧
    getSessionProgram.idxOf .presentTrue < getSessionProgram.idxOf .new := by decide +kernel

/-! ## `stop()` reads the stored CONNECT after the wait -/

open Mqtt.Model.Lifecycle in
/-- the life-cycle model's `stop()`: the wait for the goroutines, then - and only then - the will flag, the
will, the CleanSession flag -/
theorem stop_reads : stopProgram.flatMap sessReads = [6, 21, 22, 23] ∧
    readsAfterWait (stopProgram.flatMap sessReads) = true := by decide +kernel

/-- the seeded change C09-stop-snapshots-will: flag and will read right after the CAS -/
theorem snapshot_reads_before_wait : readsAfterWait [21, 22, 6, 23] = false := by decide +kernel

end Mqtt.Proofs.Takeover
