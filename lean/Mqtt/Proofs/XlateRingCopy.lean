/-
The translated `service.ringCopy` (`service/buffer.go`, `func ringCopy`): `Service.ringCopy fuel dst src start` copies `src`
into the ring `dst` beginning at `start` and wrapping around at the end of `dst`.  `ringCopy_eq`: it returns the model's
`ringPut` (`Model/WriteWrap.lean`); the other theorems read it through the list facts of `Proofs/RingCopied.lean` or say
what happens outside the hypotheses.
-/
import Mqtt.Proofs.RingCopied
import Mqtt.Generated.Xlate
import Mqtt.Model.Ring

namespace Mqtt.Proofs.XlateRingCopy
open Mqtt.Generated.Xlate
open Mqtt.Model.WriteWrap (ringPut)
open Mqtt.Proofs.WriteWrap (ringPut_cells ringPut_spec)

theorem loop1_done {f : Nat} {dst src : List UInt8} {start n : Int} {i l : Nat} (hn : n ≤ 0) :
    Service.ringCopy.loop1 (f + 1) dst src start n i l = Res.ok (dst, i) := by
  rw [Service.ringCopy.loop1, if_neg (by rw [decide_eq_true_eq]; omega)]

/-- `l = copy(dst[s:], src[i:])`, then `start = 0` if something is left -/
theorem loop1_step {f : Nat} {dst src : List UInt8} {s : Nat} {n : Int} {i l : Nat}
    (hn : 0 < n) (hi : i ≤ src.length) (hs : s ≤ dst.length) :
    Service.ringCopy.loop1 (f + 1) dst src (s : Int) n i l =
      Service.ringCopy.loop1 f
        (dst.take s ++ ((src.drop i).take (dst.length - s) ++ dst.drop (s + (src.drop i).length)))
        src
        (if n - ((min (dst.length - s) (src.drop i).length : Nat) : Int) > 0 then 0 else (s : Int))
        (n - ((min (dst.length - s) (src.drop i).length : Nat) : Int))
        (i + min (dst.length - s) (src.drop i).length)
        (min (dst.length - s) (src.drop i).length) := by
  rw [Service.ringCopy.loop1]
  simp only [gt_iff_lt, hn, decide_true, ↓reduceIte, Int.natCast_nonneg, hi, Int.toNat_natCast, hs, Bool.and_self,
    decide_eq_true_eq]

/-- a turn in which everything that is left fits behind `s` is the last one -/
theorem loop1_fits {f : Nat} {dst src : List UInt8} {s i l : Nat} (hi : i < src.length)
    (hfit : s + (src.length - i) ≤ dst.length) :
    Service.ringCopy.loop1 (f + 2) dst src (s : Int) ((src.length - i : Nat) : Int) i l =
      Res.ok (dst.take s ++ (src.drop i ++ dst.drop (s + (src.length - i))), src.length) := by
  have hd : (src.drop i).length = src.length - i := List.length_drop
  rw [loop1_step (by omega) (by omega) (by omega), hd, Nat.min_eq_right (by omega),
    loop1_done (by omega), List.take_of_length_le (l := src.drop i) (by omega)]
  congr 2; omega

/-- what `ringCopy` returns, written out.  Three turns of the loop suffice (the third one only
sees `n = 0`); `ringCopy_fuel_sharp` shows that two do not. -/
theorem ringCopy_eq (fuel : Nat) (hf : 3 ≤ fuel) (dst src : List UInt8) (s : Nat)
    (hS : src.length ≤ dst.length) (hs : s ≤ dst.length) :
    Service.ringCopy fuel dst src (s : Int) = Res.ok (ringPut dst src s, src.length) := by
  obtain ⟨f, rfl⟩ : ∃ f, fuel = f + 3 := ⟨fuel - 3, by omega⟩
  unfold Service.ringCopy ringPut
  by_cases h0 : src.length = 0
  · rw [loop1_done (by omega), List.eq_nil_of_length_eq_zero h0]
    simp only [List.length_nil, Nat.zero_le, ↓reduceIte, Nat.add_zero, List.nil_append, List.take_append_drop]
  · by_cases hc : src.length ≤ dst.length - s
    · rw [if_pos hc]
      exact loop1_fits (f := f + 1) (i := 0) (by omega) (by omega)
    · -- first turn: `dst.length - s` bytes up to the end of `dst`; second turn: the rest from cell 0
      have ha : min (dst.length - s) (src.drop 0).length = dst.length - s := by rw [List.drop_zero]; omega
      have hl : (dst.take s ++ (src.take (dst.length - s) ++ [])).length = dst.length := by
        simp only [List.length_append, List.length_take, List.length_nil]; omega
      rw [if_neg hc, loop1_step (by omega) (by omega) hs, ha, if_pos (by omega), List.drop_zero,
        List.drop_eq_nil_of_le (as := dst) (by omega), Nat.zero_add]
      have h2 := loop1_fits (f := f) (dst := dst.take s ++ (src.take (dst.length - s) ++ [])) (src := src) (s := 0) (i := dst.length - s)
        (l := dst.length - s) (by omega) (by omega)
      rw [Int.natCast_sub (by omega), Int.natCast_zero] at h2
      rw [h2, List.take_zero, List.nil_append, Nat.zero_add, List.append_nil,
        List.drop_append_of_le_length (by rw [List.length_take]; omega)]

/-- `ringCopy dst src start` with `src` not longer than the ring `dst` and
`0 ≤ start ≤ len(dst)`: returns `len(src)`; byte `j` of `src` lands at `(start + j) % len(dst)`,
every other cell keeps its value. -/
theorem ringCopy_cells (fuel : Nat) (hf : 3 ≤ fuel) (dst src : List UInt8) (start : Int)
    (hS : src.length ≤ dst.length) (h0 : 0 ≤ start) (hlt : start ≤ (dst.length : Int)) :
    ∃ dst', Service.ringCopy fuel dst src start = Res.ok (dst', src.length) ∧
      dst'.length = dst.length ∧
      (∀ j : Nat, j < src.length → dst'[(start.toNat + j) % dst.length]? = src[j]?) ∧
      (∀ p : Nat, (∀ j : Nat, j < src.length → p ≠ (start.toNat + j) % dst.length) →
        dst'[p]? = dst[p]?) := by
  obtain ⟨s, rfl⟩ : ∃ s : Nat, start = (s : Int) := ⟨start.toNat, by omega⟩
  have hs : s ≤ dst.length := by omega
  exact ⟨_, ringCopy_eq fuel hf dst src s hS hs, ringPut_cells dst src s hS hs⟩

theorem ringCopy_fuel_sharp : Service.ringCopy 2 [0, 0] [1, 2] 1 = Res.fuel := by decide

theorem loop1_empty_dst (src : List UInt8) (fuel : Nat) (n : Int) (i l : Nat)
    (hn : 0 < n) (hi : i ≤ src.length) :
    Service.ringCopy.loop1 fuel [] src 0 n i l = Res.fuel := by
  induction fuel generalizing i l with
  | zero => rw [Service.ringCopy.loop1]
  | succ f ih =>
    have := loop1_step (f := f) (dst := []) (src := src) (s := 0) (l := l) hn hi (Nat.le_refl _)
    rw [Int.natCast_zero] at this
    rw [this]
    simp only [List.length_nil, Nat.zero_min, Int.natCast_zero, Int.sub_zero, ite_self,
      List.take_zero, List.drop_nil, List.append_nil, Nat.add_zero, Nat.sub_zero]
    exact ih i 0 hi

/-- an empty `dst` with a non-empty `src`: `copy` moves nothing, `n` stays positive, the Go
loop spins forever — the translation runs out of every budget -/
theorem ringCopy_empty_dst (fuel : Nat) (src : List UInt8) (hsrc : src ≠ []) :
    Service.ringCopy fuel [] src 0 = Res.fuel := by
  have : 0 < src.length := List.length_pos_iff.2 hsrc
  exact loop1_empty_dst src fuel _ 0 0 (by omega) (by omega)

/-- `start` outside `0 … len(dst)` with something to copy: `dst[start:]` panics -/
theorem ringCopy_panic (fuel : Nat) (hf : 1 ≤ fuel) (dst src : List UInt8) (start : Int)
    (hsrc : src ≠ []) (hstart : start < 0 ∨ (dst.length : Int) < start) :
    Service.ringCopy fuel dst src start = Res.panic := by
  obtain ⟨f, rfl⟩ : ∃ f, fuel = f + 1 := ⟨fuel - 1, by omega⟩
  have hpos : 0 < src.length := List.length_pos_iff.2 hsrc
  have hb : (decide (0 ≤ start) && decide (0 ≤ src.length) && decide (start.toNat ≤ dst.length)) = false := by
    simp only [Bool.and_eq_false_iff, decide_eq_false_iff_not]
    omega
  unfold Service.ringCopy
  rw [Service.ringCopy.loop1, if_pos (by rw [decide_eq_true_eq]; omega), hb]
  rfl

/-- nothing to copy: `dst` is returned untouched, whatever `start` is -/
theorem ringCopy_nil (fuel : Nat) (hf : 1 ≤ fuel) (dst : List UInt8) (start : Int) :
    Service.ringCopy fuel dst [] start = Res.ok (dst, 0) := by
  obtain ⟨f, rfl⟩ : ∃ f, fuel = f + 1 := ⟨fuel - 1, by omega⟩
  exact loop1_done (l := 0) (Int.le_refl 0)

/-! ### the ring model: `size = 2^k`, cell of stream position `pos` is `cfg.idx pos` -/

open Mqtt.Model.Ring in
/-- `ringCopy(bf.buf, p, ppos & bf.mask)` does what the model's byte-by-byte copy does:
byte `j` goes to cell `cfg.idx (ppos + j)`, the other cells are left alone. -/
theorem ringCopy_ring (cfg : Cfg) (fuel : Nat) (hf : 3 ≤ fuel) (dst src : List UInt8) (ppos : Nat)
    (hlen : dst.length = cfg.size) (hS : src.length ≤ cfg.size) :
    ∃ dst', Service.ringCopy fuel dst src ((cfg.idx ppos : Nat) : Int) = Res.ok (dst', src.length) ∧
      dst'.length = cfg.size ∧
      (∀ j : Nat, j < src.length → dst'[cfg.idx (ppos + j)]? = src[j]?) ∧
      (∀ p : Nat, (∀ j : Nat, j < src.length → p ≠ cfg.idx (ppos + j)) → dst'[p]? = dst[p]?) := by
  have hidx : ∀ pos, cfg.idx pos = pos % cfg.size := fun pos => Nat.and_two_pow_sub_one_eq_mod pos cfg.k
  simp only [hidx]
  exact ⟨_, ringCopy_eq fuel hf dst src _ (hlen ▸ hS) (by rw [hlen]; exact Nat.le_of_lt (Nat.mod_lt _ (Nat.two_pow_pos _))),
    ringPut_spec cfg.size (Nat.two_pow_pos _) dst src ppos hlen hS⟩

end Mqtt.Proofs.XlateRingCopy
