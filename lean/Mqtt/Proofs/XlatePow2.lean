/-
Tie theorems for the translated `powerOfTwo64` / `roundUpPowerOfTwo64`
(`service/buffer.go`, `sessions/ackqueue.go`): the generated definitions work on
unbounded `Int` with two's-complement `Go.andInt 64` / `Go.orInt 64` and the
arithmetic shift of `Int`; the hand-written model (`Model/AckQueue.lean`) works on
`BitVec 64` with logical shifts.  The two Go packages hold the same two functions: everything is proved for
`Sessions.*` and holds of `Service.*` by `service_powerOfTwo64_eq`, `service_roundUpPowerOfTwo64_eq` (`rfl`).
At the end, the guard of the byte ring (`Model/Ring.lean`): `ring_size_is_power_of_two`, `ring_idx_is_mask`.
-/
import Mqtt.Generated.Xlate
import Mqtt.Model.AckQueue
import Mqtt.Model.Ring

namespace Mqtt.Proofs.XlatePow2
open Mqtt.Generated.Xlate

theorem service_powerOfTwo64_eq (n : Int) :
    Service.powerOfTwo64 n = Sessions.powerOfTwo64 n := rfl

theorem service_roundUpPowerOfTwo64_eq (n : Int) :
    Service.roundUpPowerOfTwo64 n = Sessions.roundUpPowerOfTwo64 n := rfl

/-- the six `n |= n >> s` lines with the logical shift (the model) -/
def smearL (v : BitVec 64) : BitVec 64 :=
  let v := v ||| (v >>> 1)
  let v := v ||| (v >>> 2)
  let v := v ||| (v >>> 4)
  let v := v ||| (v >>> 8)
  let v := v ||| (v >>> 16)
  let v := v ||| (v >>> 32)
  v

/-- the six `n |= n >> s` lines with the arithmetic shift (Go's `>>` on `int64`) -/
def smearA (v : BitVec 64) : BitVec 64 :=
  let v := v ||| (v.sshiftRight 1)
  let v := v ||| (v.sshiftRight 2)
  let v := v ||| (v.sshiftRight 4)
  let v := v ||| (v.sshiftRight 8)
  let v := v ||| (v.sshiftRight 16)
  let v := v ||| (v.sshiftRight 32)
  v

/-- bits `≥ L` are clear, bits `L-j … L-1` are set -/
def Band (L j : Nat) (v : BitVec 64) : Prop :=
  (∀ i : Nat, L ≤ i → v.getLsbD i = false) ∧ (∀ i : Nat, L - j ≤ i → i < L → v.getLsbD i = true)

/-- a set bit `i` stays set, and bit `i` is set when bit `j + i` was: the band doubles -/
theorem band_stepL {L j : Nat} {v : BitVec 64} (h : Band L j v) :
    Band L (2 * j) (v ||| (v >>> j)) := by
  refine ⟨fun i hi => ?_, fun i hlo hhi => ?_⟩
  · rw [BitVec.getLsbD_or, BitVec.getLsbD_ushiftRight, h.1 i hi, h.1 (j + i) (Nat.le_add_left_of_le hi)]; rfl
  · rw [BitVec.getLsbD_or, BitVec.getLsbD_ushiftRight]
    by_cases hc : L - j ≤ i
    · rw [h.2 i hc hhi]; rfl
    · rw [h.2 (j + i) (by omega) (by omega), Bool.or_true]

/-- the same with the sign bit shifted in: it is clear unless `L = 64`, where nothing is above the band -/
theorem band_stepA {L j : Nat} {v : BitVec 64} (hL : L ≤ 64) (h : Band L j v) :
    Band L (2 * j) (v ||| (v.sshiftRight j)) := by
  refine ⟨fun i hi => ?_, fun i hlo hhi => ?_⟩
  · rw [BitVec.getLsbD_or, BitVec.getLsbD_sshiftRight, h.1 i hi, Bool.false_or]
    by_cases h64 : 64 ≤ i
    · rw [decide_eq_true h64]; rfl
    · rw [BitVec.msb_eq_getLsbD_last, h.1 63 (by omega)]
      split
      · rw [h.1 _ (Nat.le_add_left_of_le hi), Bool.and_false]
      · exact Bool.and_false _
  · rw [BitVec.getLsbD_or, BitVec.getLsbD_sshiftRight]
    by_cases hc : L - j ≤ i
    · rw [h.2 i hc hhi]; rfl
    · rw [if_pos (by omega), h.2 (j + i) (by omega) (by omega), decide_eq_false (by omega)]
      exact Bool.or_true _

theorem band_full {L : Nat} {v : BitVec 64} (hL : L ≤ 64) (h : Band L 64 v) :
    v = BitVec.ofNat 64 (2 ^ L - 1) := by
  apply BitVec.eq_of_getLsbD_eq
  intro i hi
  rw [BitVec.getLsbD_ofNat, Nat.testBit_two_pow_sub_one, decide_eq_true hi, Bool.true_and]
  by_cases hc : i < L
  · rw [h.2 i (by omega) hc, decide_eq_true hc]
  · rw [h.1 i (by omega), decide_eq_false hc]

theorem smearL_eq {L : Nat} {v : BitVec 64} (hL : L ≤ 64) (h : Band L 1 v) :
    smearL v = BitVec.ofNat 64 (2 ^ L - 1) :=
  band_full hL (band_stepL (band_stepL (band_stepL (band_stepL (band_stepL (band_stepL h))))))

theorem smearA_eq {L : Nat} {v : BitVec 64} (hL : L ≤ 64) (h : Band L 1 v) :
    smearA v = BitVec.ofNat 64 (2 ^ L - 1) :=
  band_full hL (band_stepA hL (band_stepA hL (band_stepA hL (band_stepA hL (band_stepA hL (band_stepA hL h))))))

theorem exists_band (v : BitVec 64) :
    ∃ L, L ≤ 64 ∧ Band L 1 v ∧ v.toNat < 2 ^ L ∧ (L ≠ 0 → 2 ^ (L - 1) ≤ v.toNat) := by
  by_cases hz : v.toNat = 0
  · refine ⟨0, Nat.zero_le _, ⟨fun i _ => ?_, fun i _ hi => absurd hi (Nat.not_lt_zero i)⟩, by omega,
      fun h => absurd rfl h⟩
    rw [← BitVec.testBit_toNat, hz]; exact Nat.zero_testBit i
  · have hlog : v.toNat.log2 < 64 := (Nat.log2_lt hz).2 v.isLt
    refine ⟨v.toNat.log2 + 1, hlog, ⟨fun i hi => ?_, fun i hlo hhi => ?_⟩,
      Nat.lt_log2_self, fun _ => Nat.log2_self_le hz⟩
    · rw [← BitVec.testBit_toNat]
      exact Nat.testBit_lt_two_pow (Nat.lt_of_lt_of_le Nat.lt_log2_self (Nat.pow_le_pow_right (by omega) hi))
    · rw [← BitVec.testBit_toNat, show i = v.toNat.log2 by omega]; exact Nat.testBit_log2 hz

theorem smearA_eq_smearL (v : BitVec 64) : smearA v = smearL v := by
  obtain ⟨L, hL, hb, _, _⟩ := exists_band v
  rw [smearA_eq hL hb, smearL_eq hL hb]

theorem ofInt_sub_one (n : Int) : BitVec.ofInt 64 (n - 1) = BitVec.ofInt 64 n - 1 :=
  BitVec.eq_of_toInt_eq (by simp)

theorem toInt_ofInt_self {n : Int} (h : -2 ^ 63 ≤ n ∧ n < 2 ^ 63) :
    (BitVec.ofInt 64 n).toInt = n :=
  BitVec.toInt_ofInt_eq_self (by omega) h.1 h.2

theorem toInt_pred (n : Int) (h : -2 ^ 63 < n ∧ n ≤ 2 ^ 63) : (BitVec.ofInt 64 n - 1).toInt = n - 1 := by
  rw [← ofInt_sub_one, toInt_ofInt_self (by omega)]

theorem orInt_shift (v : BitVec 64) (s : Nat) :
    Go.orInt 64 v.toInt (v.toInt >>> s) = (v ||| v.sshiftRight s).toInt := by
  unfold Go.orInt
  rw [← BitVec.toInt_sshiftRight, BitVec.ofInt_toInt, BitVec.ofInt_toInt]

/-- the generated `roundUpPowerOfTwo64` when `n - 1` does not leave the `int64` range -/
theorem roundUp_gen_eq (n : Int) (h : -2 ^ 63 < n ∧ n ≤ 2 ^ 63) :
    Sessions.roundUpPowerOfTwo64 n = (smearA (BitVec.ofInt 64 n - 1)).toInt + 1 := by
  unfold Sessions.roundUpPowerOfTwo64 smearA
  rw [← toInt_pred n h]
  simp only [orInt_shift]

/-- both sides through the bit length `L` of `n - 1` (as a 64-bit word) -/
theorem roundUp_both (n : Int) (h : -2 ^ 63 < n ∧ n ≤ 2 ^ 63) :
    ∃ L, L ≤ 64 ∧ (BitVec.ofInt 64 n - 1).toNat < 2 ^ L ∧
      (L ≠ 0 → 2 ^ (L - 1) ≤ (BitVec.ofInt 64 n - 1).toNat) ∧
      Sessions.roundUpPowerOfTwo64 n = (BitVec.ofNat 64 (2 ^ L - 1)).toInt + 1 ∧
      Mqtt.Model.AckQueue.roundUpPowerOfTwo64 (BitVec.ofInt 64 n) = BitVec.ofNat 64 (2 ^ L - 1) + 1 := by
  obtain ⟨L, hL, hb, hlt, hge⟩ := exists_band (BitVec.ofInt 64 n - 1)
  exact ⟨L, hL, hlt, hge, (roundUp_gen_eq n h).trans (by rw [smearA_eq hL hb]),
    (show _ = smearL _ + 1 from rfl).trans (by rw [smearL_eq hL hb])⟩

/-- `2^L - 1` as a word, plus one, for `L ≤ 62`: no wrap on either side -/
theorem small_val {L : Nat} (hL : L ≤ 62) :
    (BitVec.ofNat 64 (2 ^ L - 1)).toInt + 1 = ((2 ^ L : Nat) : Int) ∧
    BitVec.ofNat 64 (2 ^ L - 1) + 1 = BitVec.ofNat 64 (2 ^ L) := by
  have h1 : 2 ^ L ≤ 2 ^ 62 := Nat.pow_le_pow_right (by omega) hL
  have h2 : 0 < 2 ^ L := Nat.two_pow_pos L
  generalize 2 ^ L = P at h1 h2
  constructor
  · rw [BitVec.toInt_eq_toNat_of_lt (by rw [BitVec.toNat_ofNat]; omega), BitVec.toNat_ofNat]; omega
  · rw [show (1 : BitVec 64) = BitVec.ofNat 64 1 from rfl, ← BitVec.ofNat_add, Nat.sub_add_cancel h2]

theorem pow_lt_imp {a b : Nat} (h : 2 ^ a < 2 ^ b) : a < b :=
  (Nat.pow_lt_pow_iff_right (by omega : 1 < 2)).1 h

theorem toNat_pred (n : Int) (h : -2 ^ 63 < n ∧ n ≤ 2 ^ 63) :
    ((BitVec.ofInt 64 n - 1).toNat : Int) = if 0 < n then n - 1 else n - 1 + 2 ^ 64 := by
  have hm := toInt_pred n h
  have hlt := (BitVec.ofInt 64 n - 1).isLt
  rw [BitVec.toInt_eq_toNat_cond] at hm
  split at hm <;> split <;> omega

/-- for `0 < N ≤ 2^62` both functions yield the least power of two that is at least `N` -/
theorem roundUp_pos (N : Nat) (h : 0 < N ∧ N ≤ 2 ^ 62) :
    ∃ k, N ≤ 2 ^ k ∧ 2 ^ k < 2 * N ∧ Sessions.roundUpPowerOfTwo64 N = ((2 ^ k : Nat) : Int) ∧
      Mqtt.Model.AckQueue.roundUpPowerOfTwo64 (BitVec.ofNat 64 N) = BitVec.ofNat 64 (2 ^ k) := by
  obtain ⟨L, hL, hlt, hge, hg, hm⟩ := roundUp_both N (by omega)
  have hp := toNat_pred N (by omega)
  rw [if_pos (by omega)] at hp
  have hL62 : L ≤ 62 := by
    by_cases h0 : L = 0
    · omega
    · have := pow_lt_imp (a := L - 1) (b := 62) (by have := hge h0; omega)
      omega
  refine ⟨L, by omega, ?_, hg.trans (small_val hL62).1, ?_⟩
  · by_cases h0 : L = 0
    · subst h0; omega
    · have h1 := hge h0
      have : 2 ^ L = 2 * 2 ^ (L - 1) := by rw [← Nat.pow_succ']; congr 1; omega
      omega
  · rw [← BitVec.ofInt_natCast, hm, (small_val hL62).2]

/-- for `-2^63 < n ≤ 0` both yield 0: the word `n - 1` has its top bit set -/
theorem roundUp_nonpos (n : Int) (h : -2 ^ 63 < n ∧ n ≤ 0) :
    Sessions.roundUpPowerOfTwo64 n = 0 ∧ Mqtt.Model.AckQueue.roundUpPowerOfTwo64 (BitVec.ofInt 64 n) = 0 := by
  obtain ⟨L, hL, hlt, hge, hg, hm⟩ := roundUp_both n (by omega)
  have hp := toNat_pred n (by omega)
  rw [if_neg (by omega)] at hp
  have hL64 : L = 64 := by
    by_cases h0 : L ≤ 63
    · have : 2 ^ L ≤ 2 ^ 63 := Nat.pow_le_pow_right (by omega) h0
      omega
    · omega
  subst hL64
  exact ⟨hg.trans (by decide), hm.trans (by decide)⟩

/-- The generated function equals the model exactly on `-2^63 < n ≤ 2^62`.
Outside this range (inside `int64`): at `n = -2^63` the generated `n - 1` leaves the range
(the generated function yields 0, Go and the model `-2^63`); for `2^62 < n < 2^63` the final
`+ 1` yields `2^63` on `Int`, while Go and the model wrap to `-2^63`. -/
theorem roundUpPowerOfTwo64_is_source_partial (n : Int) (h : -2 ^ 63 < n ∧ n ≤ 2 ^ 62) :
    Sessions.roundUpPowerOfTwo64 n =
      (Mqtt.Model.AckQueue.roundUpPowerOfTwo64 (BitVec.ofInt 64 n)).toInt := by
  by_cases hpos : 0 < n
  · obtain ⟨N, rfl⟩ := Int.eq_ofNat_of_zero_le (Int.le_of_lt hpos)
    obtain ⟨k, h1, h2, hg, hm⟩ := roundUp_pos N (by omega)
    rw [hg, BitVec.ofInt_natCast, hm, BitVec.toInt_eq_toNat_of_lt (by rw [BitVec.toNat_ofNat]; omega),
      BitVec.toNat_ofNat, Nat.mod_eq_of_lt (by omega)]
  · obtain ⟨hg, hm⟩ := roundUp_nonpos n ⟨h.1, by omega⟩
    rw [hg, hm]; rfl

theorem roundUp_differs_at_min :
    Sessions.roundUpPowerOfTwo64 (-2 ^ 63) = 0 ∧
    (Mqtt.Model.AckQueue.roundUpPowerOfTwo64 (BitVec.ofInt 64 (-2 ^ 63))).toInt = -2 ^ 63 := by
  decide

/-- the upper part of the `int64` range: the generated function does not wrap -/
theorem roundUp_differs_high (n : Int) (h : 2 ^ 62 < n ∧ n < 2 ^ 63) :
    Sessions.roundUpPowerOfTwo64 n = 2 ^ 63 ∧
    (Mqtt.Model.AckQueue.roundUpPowerOfTwo64 (BitVec.ofInt 64 n)).toInt = -2 ^ 63 := by
  obtain ⟨L, hL, hlt, hge, hg, hm⟩ := roundUp_both n (by omega)
  have hp := toNat_pred n (by omega)
  rw [if_pos (by omega)] at hp
  have hL63 : L = 63 := by
    have h1 : 62 < L := pow_lt_imp (by omega)
    by_cases h0 : L = 64
    · subst h0; have := hge (by omega); omega
    · omega
  subst hL63
  rw [hg, hm]
  decide

theorem roundUpPowerOfTwo64_least (n : Int) (h : 0 < n ∧ n ≤ 2 ^ 62) :
    ∃ k : Nat, Sessions.roundUpPowerOfTwo64 n = 2 ^ k ∧ n ≤ 2 ^ k ∧ 2 ^ k < 2 * n := by
  obtain ⟨N, rfl⟩ := Int.eq_ofNat_of_zero_le (Int.le_of_lt h.1)
  obtain ⟨k, h1, h2, hg, _⟩ := roundUp_pos N (by omega)
  have e : ((2 ^ k : Nat) : Int) = (2 : Int) ^ k := Int.natCast_pow 2 k
  exact ⟨k, hg.trans e, by omega, by omega⟩

theorem powerOfTwo64_is_source (n : Int) (h : -2 ^ 63 ≤ n ∧ n < 2 ^ 63) :
    Sessions.powerOfTwo64 n = Mqtt.Model.AckQueue.powerOfTwo64 (BitVec.ofInt 64 n) := by
  unfold Sessions.powerOfTwo64 Mqtt.Model.AckQueue.powerOfTwo64 Go.andInt
  have e1 : (n != 0) = (BitVec.ofInt 64 n != 0) :=
    congrArg (!·) (Bool.eq_iff_iff.mpr (by
      rw [beq_iff_eq, beq_iff_eq]
      exact ⟨fun hn => hn ▸ rfl, fun he => (toInt_ofInt_self h).symm.trans (he ▸ rfl)⟩))
  have e2 : ∀ x : BitVec 64, (x.toInt == 0) = (x == 0) := fun x =>
    Bool.eq_iff_iff.mpr (by rw [beq_iff_eq, beq_iff_eq]; exact BitVec.toInt_inj (y := 0))
  rw [ofInt_sub_one, e1, e2]

theorem andInt_natCast (a b : Nat) (ha : a < 2 ^ 63) (hb : b < 2 ^ 64) :
    Go.andInt 64 (a : Int) (b : Int) = ((a &&& b : Nat) : Int) := by
  have hle : a &&& b ≤ a := Nat.and_le_left
  have e : (BitVec.ofNat 64 a &&& BitVec.ofNat 64 b).toNat = a &&& b := by
    rw [BitVec.toNat_and, BitVec.toNat_ofNat, BitVec.toNat_ofNat, Nat.mod_eq_of_lt (by omega), Nat.mod_eq_of_lt hb]
  unfold Go.andInt
  rw [BitVec.ofInt_natCast, BitVec.ofInt_natCast, BitVec.toInt_eq_toNat_of_lt (by omega), e]

theorem nat_and_pred_eq_zero_iff (N : Nat) (hN : 0 < N) :
    N &&& (N - 1) = 0 ↔ ∃ k, N = 2 ^ k := by
  constructor
  · intro h
    have hz : N ≠ 0 := by omega
    refine ⟨N.log2, ?_⟩
    have hlo := Nat.log2_self_le hz
    have hhi : N < 2 ^ (N.log2 + 1) := Nat.lt_log2_self
    rw [Nat.pow_succ] at hhi
    by_cases he : N = 2 ^ N.log2
    · exact he
    · -- otherwise the top bit of `N` is also set in `N - 1`
      have hb : (N &&& (N - 1)).testBit N.log2 = true := by
        rw [Nat.testBit_and, Nat.testBit_log2 hz, show N - 1 = 2 ^ N.log2 + (N - 1 - 2 ^ N.log2) by omega,
          Nat.testBit_two_pow_add_eq, Nat.testBit_lt_two_pow (by omega)]; rfl
      rw [h, Nat.zero_testBit] at hb
      exact Bool.noConfusion hb
  · rintro ⟨k, rfl⟩
    rw [Nat.and_two_pow_sub_one_eq_mod, Nat.mod_self]

theorem powerOfTwo64_natCast (N : Nat) (hN : 0 < N ∧ N < 2 ^ 63) :
    Sessions.powerOfTwo64 (N : Int) = true ↔ ∃ k, N = 2 ^ k := by
  unfold Sessions.powerOfTwo64
  rw [show (N : Int) - 1 = ((N - 1 : Nat) : Int) by omega, andInt_natCast N (N - 1) hN.2 (by omega),
    ← nat_and_pred_eq_zero_iff N hN.1, Bool.and_eq_true, bne_iff_ne, beq_iff_eq]
  exact ⟨fun h => Int.ofNat_inj.mp h.2, fun h => ⟨by omega, congrArg Nat.cast h⟩⟩

theorem powerOfTwo64_iff (n : Int) (h : 0 < n ∧ n < 2 ^ 63) :
    Sessions.powerOfTwo64 n = true ↔ ∃ k : Nat, n = 2 ^ k := by
  obtain ⟨N, rfl⟩ := Int.eq_ofNat_of_zero_le (Int.le_of_lt h.1)
  rw [powerOfTwo64_natCast N (by omega)]
  exact exists_congr fun k =>
    ⟨fun e => (congrArg Nat.cast e).trans (Int.natCast_pow 2 k), fun e => Int.ofNat_inj.mp (e.trans (Int.natCast_pow 2 k).symm)⟩

theorem powerOfTwo64_roundUp (n : Int) (h : 0 < n ∧ n ≤ 2 ^ 62) :
    Sessions.powerOfTwo64 (Sessions.roundUpPowerOfTwo64 n) = true := by
  obtain ⟨k, hk, h1, h2⟩ := roundUpPowerOfTwo64_least n h
  exact (powerOfTwo64_iff _ (by omega)).mpr ⟨k, hk⟩

theorem msb_of_neg {n : Int} (h : -2 ^ 63 ≤ n ∧ n < 0) : (BitVec.ofInt 64 n).msb = true := by
  rw [BitVec.msb_eq_toInt, toInt_ofInt_self (by omega)]
  exact decide_eq_true h.2

theorem powerOfTwo64_nonpos (n : Int) (h : -2 ^ 63 < n ∧ n ≤ 0) : Sessions.powerOfTwo64 n = false := by
  by_cases h0 : n = 0
  · subst h0; rfl
  · unfold Sessions.powerOfTwo64 Go.andInt
    have hm : (BitVec.ofInt 64 n &&& BitVec.ofInt 64 (n - 1)).msb = true := by
      rw [BitVec.msb_and, msb_of_neg (by omega), msb_of_neg (by omega)]; rfl
    have := BitVec.toInt_neg_of_msb_true hm
    rw [beq_eq_false_iff_ne.mpr (by omega), Bool.and_false]

/-! ### the guard of the byte ring: `size = 2^k` passes `powerOfTwo64`, `pos & (size - 1)` is the model's `idx` -/

open Mqtt.Model.Ring in
theorem ring_size_lt (cfg : Cfg) (hk : cfg.k < 63) : 0 < cfg.size ∧ cfg.size < 2 ^ 63 :=
  ⟨Nat.two_pow_pos _, Nat.pow_lt_pow_right (by omega) hk⟩

open Mqtt.Model.Ring in
theorem ring_size_is_power_of_two (cfg : Cfg) (hk : cfg.k < 63) :
    Service.powerOfTwo64 (cfg.size : Int) = true :=
  (powerOfTwo64_natCast _ (ring_size_lt cfg hk)).mpr ⟨cfg.k, rfl⟩

open Mqtt.Model.Ring in
theorem ring_idx_is_mask (cfg : Cfg) (hk : cfg.k < 63) (pos : Nat) (hp : pos < 2 ^ 63) :
    Go.andInt 64 (pos : Int) ((cfg.size : Int) - 1) = ((cfg.idx pos : Nat) : Int) ∧
    cfg.idx pos = pos % cfg.size := by
  have hs := ring_size_lt cfg hk
  refine ⟨?_, Nat.and_two_pow_sub_one_eq_mod pos cfg.k⟩
  rw [show (cfg.size : Int) - 1 = ((cfg.size - 1 : Nat) : Int) by omega,
    andInt_natCast pos (cfg.size - 1) hp (by omega)]
  rfl

end Mqtt.Proofs.XlatePow2
