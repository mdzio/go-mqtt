/-
Sessions across connections: SessionPresent (`accepted_sp`), what an accepted CONNECT answers and leaves when it resumes
a stored session object (`first_resumes`) and when it makes a fresh one (`first_fresh`), and what `stop` leaves in the store
(`stop_store`; under the invariant: `stop_clean_discarded`, `stop_persistent_kept`).
-/
import Mqtt.Proofs.BrokerLifeInv

namespace Mqtt.Proofs.BrokerLife
open Mqtt.Iface.Broker Mqtt.Model.Broker

theorem accepted_sp (b : B) (c : Nat) (req : Connect) : (accepted b c req).2 = (resumed b c req).isSome := by
  unfold accepted
  cases resumed b c req <;> rfl

theorem resumed_of_store {b : B} (c : Nat) {req : Connect} {r : Nat} {s : Sess} (hne : req.clientId.isEmpty = false)
    (hcl : req.clean = false) (hst : b.storeGet req.clientId = some r) (hs : b.getSess r = some s)
    (hsc : s.clean = false) : resumed b c req = some s := by
  simp [resumed, effClean, effCid, hne, hcl, hst, hs, hsc]

theorem resumed_isSome_iff (b : B) (c : Nat) (req : Connect) :
    (resumed b c req).isSome = true ↔
      req.clean = false ∧ req.clientId ≠ [] ∧
      ∃ r s, b.storeGet req.clientId = some r ∧ b.getSess r = some s ∧ s.clean = false := by
  constructor
  · intro h
    cases hres : resumed b c req with
    | none => rw [hres] at h; cases h
    | some s =>
      obtain ⟨hcl, hst, hs, hsc⟩ := resumed_some hres
      unfold effClean at hcl
      unfold effCid at hst
      by_cases he : req.clientId.isEmpty = true
      · simp [he] at hcl
      · simp only [he, Bool.false_eq_true, ↓reduceIte] at hcl hst
        refine ⟨hcl, ?_, s.ref, s, hst, hs, hsc⟩
        intro hnil; rw [hnil] at he; exact he rfl
  · rintro ⟨hcl, hne, r, s, hst, hs, hsc⟩
    rw [resumed_of_store c (List.isEmpty_eq_false_iff.mpr hne) hcl hst hs hsc]
    rfl

theorem accepted_fresh (b : B) (c : Nat) (req : Connect) (h : resumed b c req = none) :
    (accepted b c req).1 =
      addConn ((({ b with nextRef := b.nextRef + 1 }).setSess (newSess b c req)).storeSet
        (effCid c req) b.nextRef) c b.nextRef ∧
    (accepted b c req).2 = false ∧ acceptedSess b c req = newSess b c req := by
  unfold accepted acceptedSess
  rw [h]
  exact ⟨rfl, rfl, rfl⟩

theorem resumed_none_of_clean (b : B) (c : Nat) (req : Connect) (h : effClean req = true) :
    resumed b c req = none := by
  unfold resumed; simp [h]

theorem accepted_resumed (b : B) (c : Nat) (req : Connect) (s : Sess) (h : resumed b c req = some s) :
    (accepted b c req).1 =
      { addConn (b.setSess (updSess s req)) c s.ref with topics := resubscribe b.topics c s.topics } ∧
    (accepted b c req).2 = true ∧ acceptedSess b c req = updSess s req := by
  unfold accepted acceptedSess
  rw [h]
  exact ⟨rfl, rfl, rfl⟩

theorem effClean_of (req : Connect) (h : req.clean = true ∨ req.clientId = []) : effClean req = true := by
  unfold effClean
  rcases h with h | h <;> simp [h]

theorem resumed_store {b : B} {c : Nat} {req : Connect} {s : Sess} (h : resumed b c req = some s) :
    req.clean = false ∧ req.clientId ≠ [] ∧ b.storeGet req.clientId = some s.ref ∧ b.getSess s.ref = some s ∧
    s.clean = false := by
  obtain ⟨h1, h2, r, s', h3, h4, _⟩ := (resumed_isSome_iff b c req).mp (by rw [h]; rfl)
  obtain ⟨_, hst, hs, hsc⟩ := resumed_some h
  rw [effCid_of_ne c req h2] at hst
  exact ⟨h1, h2, hst, hs, hsc⟩

theorem resumed_of_connack_sp {b : B} {c : Nat} {req : Connect} {a : Bool}
    (h : Out.send c (.connack true 0) ∈ (first b c (.connect req) a).2) :
    accepts (.connect req) a = true ∧ ∃ s, resumed b c req = some s := by
  have ha := (accepts_iff_emits b c (.connect req) a).mpr ⟨true, h⟩
  rw [first_accepted b c req a ha] at h
  simp only [List.mem_singleton, Out.send.injEq, Packet.connack.injEq, and_true, true_and] at h
  cases hres : resumed b c req with
  | none => rw [accepted_sp, hres] at h; cases h
  | some s => exact ⟨ha, s, rfl⟩

theorem first_resumes {b : B} {c : Nat} {req : Connect} {a : Bool} {s : Sess}
    (hacc : accepts (.connect req) a = true) (hres : resumed b c req = some s) :
    (first b c (.connect req) a).2 = [.send c (.connack true 0)] ∧
    (first b c (.connect req) a).1.topics = resubscribe b.topics c s.topics ∧
    (first b c (.connect req) a).1.getConn c = some { id := c, sess := s.ref, alive := true } ∧
    (first b c (.connect req) a).1.getSess s.ref = some (updSess s req) := by
  obtain ⟨h1, h2, h3⟩ := accepted_resumed b c req s hres
  have hg := accepted_getSess b c req
  have hc := accepted_getConn b c req
  rw [h3] at hg hc
  rw [first_accepted b c req a hacc, h2]
  exact ⟨rfl, by rw [h1], hc, hg⟩

theorem first_fresh {b : B} {c : Nat} {req : Connect} {a : Bool}
    (hacc : accepts (.connect req) a = true) (hres : resumed b c req = none) :
    (first b c (.connect req) a).2 = [.send c (.connack false 0)] ∧
    (first b c (.connect req) a).1.topics = b.topics ∧
    (first b c (.connect req) a).1.getConn c = some { id := c, sess := b.nextRef, alive := true } ∧
    (first b c (.connect req) a).1.getSess b.nextRef = some (newSess b c req) := by
  obtain ⟨h1, h2, h3⟩ := accepted_fresh b c req hres
  have hg := accepted_getSess b c req
  have hc := accepted_getConn b c req
  rw [h3] at hg hc
  rw [first_accepted b c req a hacc, h2]
  exact ⟨rfl, by rw [h1]; rfl, hc, hg⟩

theorem stop_store (b : B) (c : Nat) (cn : Conn) (s : Sess)
    (hc : b.getConn c = some cn) (ha : cn.alive = true) (hs : b.getSess cn.sess = some s)
    (hw : s.willFlag = true → s.will.isSome = true) :
    (stop b c).1.store = if s.clean then b.store.filter (fun p => p.1 != s.cid) else b.store := by
  obtain ⟨s', h⟩ := stop_ended b c cn s hc ha hs
  rw [h.store]
  cases hf : s.willFlag with
  | false => simp
  | true => simp [hw hf]

/-- only the will message object may have been mutated, by its own publication -/
theorem stop_sess (b : B) (c : Nat) (cn : Conn) (s : Sess)
    (hc : b.getConn c = some cn) (ha : cn.alive = true) (hs : b.getSess cn.sess = some s) :
    ∃ s', (stop b c).1.getSess s.ref = some s' ∧ s'.cid = s.cid ∧ s'.clean = s.clean ∧
      s'.topics = s.topics ∧ s'.pub2in = s.pub2in ∧ s'.willFlag = s.willFlag := by
  obtain ⟨s', h⟩ := stop_ended b c cn s hc ha hs
  refine ⟨s', (h.getSess _).trans (if_pos rfl), ?_⟩
  rcases h.sess with rfl | ⟨w, rfl⟩ <;> exact ⟨rfl, rfl, rfl, rfl, rfl⟩

theorem resumed_cid {b : B} (h : Inv b) {c : Nat} {req : Connect} {s : Sess} (hres : resumed b c req = some s) :
    s.cid = effCid c req := by
  obtain ⟨_, hst, hs, _⟩ := resumed_some hres
  obtain ⟨t, ht, hcid⟩ := h.store _ (List.mem_of_lookup (by exact hst))
  rw [hs] at ht; cases ht; exact hcid

theorem accepted_other_id {b : B} (h : Inv b) (c : Nat) (req : Connect) (y : Bytes) (hy : y ≠ effCid c req) :
    (accepted b c req).1.storeGet y = b.storeGet y ∧
    ∀ r, b.storeGet y = some r → (accepted b c req).1.getSess r = b.getSess r := by
  cases hres : resumed b c req with
  | some s =>
    rw [(accepted_resumed b c req s hres).1]
    refine ⟨rfl, ?_⟩
    intro r hr
    obtain ⟨t, ht, hcid⟩ := h.store _ (List.mem_of_lookup (by exact hr))
    have hne : r ≠ s.ref := by
      intro he
      obtain ⟨_, _, hs, _⟩ := resumed_some hres
      rw [he, hs] at ht; cases ht
      exact hy (hcid.symm.trans (resumed_cid h hres))
    exact getSess_setSess_ne b (updSess s req) r hne.symm
  | none =>
    rw [(accepted_fresh b c req hres).1]
    refine ⟨storeGet_storeSet_ne _ _ _ _ (Ne.symm hy), ?_⟩
    intro r hr
    obtain ⟨t, ht, _⟩ := h.store _ (List.mem_of_lookup (by exact hr))
    have hne : r ≠ b.nextRef := by
      intro he
      rw [he, h.fresh _ (Nat.le_refl _)] at ht; cases ht
    exact getSess_setSess_ne { b with nextRef := b.nextRef + 1 } (newSess b c req) r hne.symm

theorem stop_clean_discarded {b : B} (h : Inv b) (c : Nat) (cn : Conn) (s : Sess)
    (hc : b.getConn c = some cn) (ha : cn.alive = true) (hs : b.getSess cn.sess = some s)
    (hcl : s.clean = true) :
    (stop b c).1.storeGet s.cid = none ∧ ∀ p ∈ (stop b c).1.store, p.2 ≠ s.ref := by
  have hst := stop_store b c cn s hc ha hs (h.wills _ s hs)
  simp only [hcl, ↓reduceIte] at hst
  constructor
  · unfold B.storeGet; rw [hst]; exact List.lookup_filter_self _ _
  · intro p hp he
    rw [hst, List.mem_filter] at hp
    obtain ⟨t, ht, hcid⟩ := h.store p hp.1
    have hr : cn.sess = s.ref := (getSess_ref hs).symm
    rw [he, ← hr, hs] at ht; cases ht
    simp [hcid] at hp

theorem stop_persistent_kept {b : B} (h : Inv b) (c : Nat) (cn : Conn) (s : Sess)
    (hc : b.getConn c = some cn) (ha : cn.alive = true) (hs : b.getSess cn.sess = some s)
    (hcl : s.clean = false) :
    (stop b c).1.store = b.store := by
  have hst := stop_store b c cn s hc ha hs (h.wills _ s hs)
  simpa [hcl] using hst

end Mqtt.Proofs.BrokerLife
