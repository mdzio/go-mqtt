/-
Core F — what a state in which nothing can run (`∀ t, TBlocked c s t`) looks like (`quiescent_cases`), the four
invariants along schedules (`Inv`, `inv_init`, `inv_step`, `inv_run`), the step bound and fair round-robin
(`takenTh_le_rank`, `drain_quiescent`, `drain_induction`).
-/
import Mqtt.Proofs.LifecycleRecv

namespace Mqtt.Proofs.Lifecycle
open Mqtt.Model.Lifecycle

/-- the receiver's `WriteCommit` never waits: what it commits was read into free space (`InvA.rcommit`) -/
theorem recv_blocked {c : Cfg} {s : St} (hA : InvA c s) (h : TBlocked c s .recv) :
    (s.recv = .space ∧ s.sh.inR.done = false ∧ c.cap ≤ s.sh.inR.buf) ∨
    (s.recv = .read ∧ s.sh.sock = .open ∧ s.sh.timeout = false ∧ s.sh.wire = 0) ∨
    s.recv = .exited := by
  cases h with | recv hpc h => ?_
  cases h with
  | space hd hb => exact .inl ⟨hpc, hd, hb⟩
  | read hs ht hw => exact .inr (.inl ⟨hpc, hs, ht, hw⟩)
  | commit n hb => exact absurd (hA.rcommit n hpc) (Nat.not_le.mpr hb)
  | exited => exact .inr (.inr hpc)

/-- the receiver waits for space only while the incoming ring is completely full: short of a request that fits the ring it is
reading (what the repair 8f682d1 rests on) -/
theorem recv_reading {c : Cfg} {s : St} (hA : InvA c s) (h : TBlocked c s .recv) (hnd : s.sh.inR.done = false) {n : Nat}
    (hn : n ≤ c.cap) (hb : s.sh.inR.buf < n) : s.recv = .read ∧ s.sh.sock = .open ∧ s.sh.timeout = false ∧ s.sh.wire = 0 := by
  rcases recv_blocked hA h with ⟨_, _, hf⟩ | h | hr
  · exact absurd (Nat.lt_of_lt_of_le hb hn) (Nat.not_lt.mpr hf)
  · exact h
  · rw [hA.rdone (by rw [hr]; rfl)] at hnd; cases hnd

theorem TBlocked.kOf {c : Cfg} {s : St} {t : Tid} (h : TBlocked c s t) {k : KPc} (hk : kOf s t = some k) : KBlocked s.sh k := by
  cases h with
  | proc hpc h => rw [kOf_proc hk] at hpc; subst hpc; cases h with | stop _ h => exact h
  | k hpc h => rw [show s.ks[_]? = _ from hk] at hpc; cases hpc; exact h
  | noK h => rw [show s.ks[_]? = _ from hk] at h; cases h
  | _ => cases hk

theorem hdrNeed_le (st : List Pkt) : hdrNeed st ≤ 5 := by
  cases st with
  | nil => decide
  | cons p tl => exact Nat.max_le.mpr ⟨by decide, Nat.min_le_right ..⟩

/-- whoever holds `wmu` when nothing can run is the processor or a writer that waits for space in the outgoing ring -/
theorem wmu_holder {c : Cfg} {s : St} (hW : InvW s) (hq : ∀ t, TBlocked c s t) (h : s.sh.wmu.isSome = true) :
    PPc.holdsWmu s.proc = true ∨ ∃ l, OutBlocked c s.sh l := by
  obtain ⟨t, hm⟩ := Option.isSome_iff_exists.mp h
  rcases hW.other t hm with rfl | ⟨j, rfl⟩
  · exact .inl (hW.proc.mp hm)
  · obtain ⟨w, hwj, hh⟩ := (hW.w j).mp hm
    cases hq (.w j) with
    | noW h0 => rw [h0] at hwj; cases hwj
    | w hpc hb =>
      rw [hwj] at hpc; cases hpc
      cases hb with
      | wait l hb => exact .inr ⟨l, hb⟩
      | commit l hb => exact .inr ⟨l, hb⟩
      | _ => cases hh

/-- once the CAS is won, a state in which nothing can run has the socket and both rings closed and receiver and sender gone:
the winner is at `Wait` or has returned (every other statement of `stop()` can run), so it has closed all three -/
theorem closed_quiet {c : Cfg} {s : St} (hA : InvA c s) (hK : InvK s) (hq : ∀ t, TBlocked c s t) (hc : s.sh.closed = true) :
    s.sh.sock = .closed ∧ s.sh.inR.done = true ∧ s.sh.outR.done = true ∧ s.recv = .exited ∧ s.send = .exited := by
  obtain ⟨t, kk, -, hkk, w⟩ := hK.winner hc
  have hst : 5 ≤ stage kk := by
    cases kk with
    | idle => cases w.pos
    | finished => decide
    | run j => cases (hq t).kOf hkk with | wait _ => exact Nat.le_refl 5
  have h3 := w.sock (Nat.le_trans (by decide) hst)
  have h4 := w.inDone (Nat.le_trans (by decide) hst)
  have h5 := w.outDone hst
  refine ⟨h3, h4, h5, ?_, ?_⟩
  · rcases recv_blocked hA (hq .recv) with ⟨_, hd, _⟩ | ⟨_, hs, _⟩ | h
    · rw [h4] at hd; cases hd
    · rw [h3] at hs; cases hs
    · exact h
  · cases hq .send with | send hpc h => ?_
    cases h with
    | peek hd _ => rw [h5] at hd; cases hd
    | write m hs _ => rw [h3] at hs; cases hs
    | exited => exact hpc

theorem final_iff (s : St) : Final s = true ↔ s.recv = .exited ∧ s.send = .exited ∧ s.proc = .stop .finished ∧
    (∀ (i : Nat) (k : KPc), s.ks[i]? = some k → k.isFinal = true) ∧
    ∀ (i : Nat) (w : WTh), s.ws[i]? = some w → w.pc.isFinal = true := by
  have all : ∀ {α : Type} (l : List α) (p : α → Bool), l.all p = true ↔ ∀ i a, l[i]? = some a → p a = true := fun l p => by
    rw [List.all_eq_true]
    exact ⟨fun h i a hi => h a (List.mem_iff_getElem?.mpr ⟨i, hi⟩), fun h a ha => (List.mem_iff_getElem?.mp ha).elim fun i hi => h i a hi⟩
  simp only [Final, Bool.and_eq_true, beq_iff_eq, all, and_assoc]

theorem winner_returned {s : St} (hK : InvK s) (hp : s.proc = .stop .finished) (hks : ∀ (i j : Nat), s.ks[i]? ≠ some (.run j)) :
    s.sh.closed = true ∧ ∃ t, s.sh.winner = some t ∧ kOf s t = some .finished ∧ Won s.sh 100 := by
  have hc : s.sh.closed = true := (hK.ks .proc .finished (by simp only [kOf, hp])).fin rfl
  obtain ⟨t, kk, hwin, hkk, w⟩ := hK.winner hc
  refine ⟨hc, t, hwin, ?_⟩
  cases kk with
  | finished => exact ⟨hkk, w⟩
  | idle => cases w.pos
  | run j =>
    cases t with
    | proc => rw [kOf_proc hkk] at hp; cases hp
    | k i => exact absurd hkk (hks i j)
    | _ => cases hkk

/-- **what a state in which nothing can run looks like**: the teardown is complete (`Final`), or
the processor is inside a delivery held up by a still-open connection that has stopped reading
(`HeldByThird`: another connection — the property's exemption; `HeldBySelf`: its own, see
`self_held_not_ended`), or the connection simply has not ended (everybody legitimately waits for
traffic).  There is no state in which receiver and processor wait for each other (the F3 wedge before
8f682d1): a processor waiting for inbound data faces a ring that is not full (the data it waits for
fits the ring), and a receiver waits for space only while the ring is completely full.

Once the CAS is won everything is closed (`closed_quiet`): nobody waits for a ring, and the processor is held by a third
party or has returned from `stop()`, and then so has everybody.  Before that the processor is inside its loop, and whom it
waits for decides: the receiver, which is then reading (`recv_reading`); the sender, directly or through the writer that
holds `wmu`, which is then writing; the third party. -/
theorem quiescent_cases {c : Cfg} (hw : WF c) {s : St} (hA : InvA c s) (hW : InvW s) (hK : InvK s)
    (hq : ∀ t, TBlocked c s t) :
    Final s = true ∨ HeldByThird s = true ∨ HeldBySelf s = true ∨ Ended s = false := by
  cases hq .proc with | proc hpc hp => ?_
  have third : ∀ rest, s.proc = .acts (.foreign :: rest) → s.sh.extBlocked = true → HeldByThird s = true :=
    fun rest hpc hext => by rw [HeldByThird, hpc, hext]; rfl
  cases hc : s.sh.closed with
  | true =>
    obtain ⟨-, hin, hout, hr, hs⟩ := closed_quiet hA hK hq hc
    have hnb : ∀ l, ¬ OutBlocked c s.sh l := fun l hb => by have := hb.2.1; rw [hout] at this; cases this
    have hmu : s.sh.wmu.isSome = true → PPc.holdsWmu s.proc = true := fun hm =>
      (wmu_holder hW hq hm).resolve_right fun ⟨l, hb⟩ => hnb l hb
    cases hp with
    | size hnd _ => rw [hin] at hnd; cases hnd
    | msg _ _ _ _ _ hnd => rw [hin] at hnd; cases hnd
    | foreign rest hext => exact .inr (.inl (third rest hpc hext))
    | own l rest hm => have := hmu hm; rw [hpc] at this; cases this
    | ownWait l rest hob => exact absurd hob (hnb l)
    | ownCommit l rest hob => exact absurd hob (hnb l)
    | stop k hk =>
      -- the processor is past its `Done()`, receiver and sender have exited: nobody is left at `Wait`
      have hwg : s.sh.wg = 0 := by rw [hA.wg, cnt, hr, hs, hpc]; rfl
      cases hk with
      | wait hg => exact absurd hwg hg
      | idle => exact absurd (by simp only [kOf, hpc]) hK.pidle
      | finished =>
        refine .inl ((final_iff s).mpr ⟨hr, hs, hpc, fun i k hi => ?_, fun i w hi => ?_⟩)
        · cases (hq (.k i)).kOf hi with
          | idle => rfl
          | finished => rfl
          | wait hg => exact absurd hwg hg
        · cases hq (.w i) with
          | noW h0 => rw [h0] at hi; cases hi
          | w hpcw hb =>
            rw [hi] at hpcw; cases hpcw
            cases hb with
            | lock l hm => have := hmu hm; rw [hpc] at this; cases this
            | wait l hb => exact absurd hb (hnb _)
            | commit l hb => exact absurd hb (hnb _)
            | finished => rfl
            | panicked => rfl
  | false =>
    have inbound : PPc.pastLoop s.proc = false → s.sh.inR.done = false → (∃ n, n ≤ c.cap ∧ s.sh.inR.buf < n) →
        Ended s = false := fun hpl hnd ⟨n, hn, hb⟩ => by
      obtain ⟨hr, hso, hto, _⟩ := recv_reading hA (hq .recv) hnd hn hb
      rw [Ended, hso, hto, hc, hr, hpl]; rfl
    have outbound : PPc.inOwnWrite s.proc = true → (∃ l, OutBlocked c s.sh l) → HeldBySelf s = true := by
      intro hown ⟨l, hl1, hl2, hl3⟩
      cases hq .send with | send hse h => ?_
      cases h with
      | peek _ hb0 => rw [hb0, Nat.zero_add] at hl3; exact absurd hl1 (Nat.not_le.mpr hl3)
      | write m hso hpr => rw [HeldBySelf, hso, hpr, hown]; rfl
      | exited => rw [hA.sdone (by rw [hse]; rfl)] at hl2; cases hl2
    cases hp with
    | size hnd hbuf =>
      exact .inr (.inr (.inr (inbound (by rw [hpc]; rfl) hnd ⟨_, Nat.le_trans (hdrNeed_le _) hw.room, hbuf⟩)))
    | msg p tl hst hbuf hcap hnd => exact .inr (.inr (.inr (inbound (by rw [hpc]; rfl) hnd ⟨_, hcap, hbuf⟩)))
    | foreign rest hext => exact .inr (.inl (third rest hpc hext))
    | own l rest hmu =>
      -- waiting for `wmu`: its holder is a writer waiting for space in the outgoing ring
      refine .inr (.inr (.inl (outbound (by rw [hpc]; rfl) ((wmu_holder hW hq hmu).resolve_left fun hh => ?_))))
      rw [hpc] at hh; cases hh
    | ownWait l rest hob => exact .inr (.inr (.inl (outbound (by rw [hpc]; rfl) ⟨_, hob⟩)))
    | ownCommit l rest hob => exact .inr (.inr (.inl (outbound (by rw [hpc]; rfl) ⟨_, hob⟩)))
    | stop k hk =>
      -- a caller that waits or has returned has seen the CAS taken
      have kv := hK.ks .proc k (by simp only [kOf, hpc])
      cases hk with
      | wait _ => rw [invK_winner_closed s hK .proc (kv.prog (by decide) (by decide))] at hc; cases hc
      | idle => exact absurd (by simp only [kOf, hpc]) hK.pidle
      | finished => rw [kv.fin rfl] at hc; cases hc

structure Inv (c : Cfg) (s : St) : Prop where
  a : InvA c s
  w : InvW s
  k : InvK s
  r : InvR s

theorem inv_init (c : Cfg) (s : St) (h : Init c s) : Inv c s :=
  ⟨invA_init c s h, invW_init c s h, invK_init c s h, invR_init c s h⟩

theorem TStep.inv {c : Cfg} (hw : WF c) {s s' : St} {t : Tid} {k : Nat} (hi : Inv c s) (h : TStep c s t k s') : Inv c s' :=
  ⟨h.invA hw hi.a, h.invW hi.w, h.invK hi.a hi.k, h.invR hi.r⟩

theorem inv_step (c : Cfg) (hw : WF c) (s s' : St) (l : Label) (hi : Inv c s) (h : step c s l = some s') :
    Inv c s' := by
  cases l with
  | th t k => exact (tstep_sound hw h).inv hw hi
  | env e =>
    have h := estep_sound hw h
    exact ⟨h.invA hi.a, h.invW hi.w, h.invK hi.k, h.invR hi.r⟩

theorem inv_run (c : Cfg) (hw : WF c) (s : St) (sched : List Label) (hi : Inv c s) : Inv c (run c s sched) :=
  run_induction (L := fun _ => True) (fun s l s' _ hi h => inv_step c hw s s' l hi h) (fun _ _ => trivial) hi

/-- thread steps a schedule actually takes (environment events not counted) -/
def takenTh (c : Cfg) (s : St) : List Label → Nat
  | [] => 0
  | l :: ls => match step c s l with
    | some s' => takenTh c s' ls + (match l with | .th _ _ => 1 | .env _ => 0)
    | none => takenTh c s ls

theorem takenTh_le_rank (c : Cfg) (hw : WF c) (s : St) (sched : List Label) (hi : Inv c s) :
    takenTh c s sched + rank c (run c s sched) ≤ rank c s := by
  induction sched generalizing s with
  | nil => exact Nat.le_of_eq (Nat.zero_add _)
  | cons l ls ih =>
    simp only [takenTh, run]
    cases h : step c s l with
    | none => exact ih s hi
    | some s' =>
      have := ih s' (inv_step c hw s s' l hi h)
      cases l with
      | th t k =>
        exact Nat.le_trans (Nat.le_of_eq (Nat.add_right_comm ..))
          (Nat.le_trans (Nat.succ_le_succ this) ((tstep_sound hw h).rank_lt hw hi.a.swin))
      | env e => exact Nat.le_trans this (estep_sound hw h).rank_le

/-- whether a thread can step does not depend on the size of the piece a socket read returns -/
theorem tstep_isSome_k (c : Cfg) (s : St) (t : Tid) (k k' : Nat) :
    (tstep c s t k).isSome = (tstep c s t k').isSome := by
  cases t with
  | recv =>
    simp only [tstep, Option.isSome_map]
    cases s.recv with
    | read =>
      simp only [rstep]
      split
      · rfl
      · split <;> rfl
    | _ => rfl
  | _ => rfl

theorem en_of_not_mem (c : Cfg) (s : St) (t : Tid) (h : t ∉ tids s) : en c s t = false := by
  simp only [tids, List.mem_append, List.mem_cons, List.mem_map, List.mem_range, List.not_mem_nil, or_false, not_or] at h
  cases t with
  | k i => simp only [en, tstep, List.getElem?_eq_none (Nat.le_of_not_lt fun hl => h.1.2 ⟨i, hl, rfl⟩), Option.isSome_none]
  | w i => simp only [en, tstep, List.getElem?_eq_none (Nat.le_of_not_lt fun hl => h.2 ⟨i, hl, rfl⟩), Option.isSome_none]
  | recv => exact absurd rfl h.1.1.1
  | proc => exact absurd rfl h.1.1.2.1
  | send => exact absurd rfl h.1.1.2.2

theorem quiescent_iff (c : Cfg) (s : St) : quiescent c s = true ↔ ∀ t, en c s t = false := by
  simp only [quiescent, List.all_eq_true, Bool.not_eq_eq_eq_not, Bool.not_true]
  exact ⟨fun hq t => if hm : t ∈ tids s then hq t hm else en_of_not_mem c s t hm, fun h t _ => h t⟩

theorem blocked_of_quiescent {c : Cfg} (hw : WF c) {s : St} (h : quiescent c s = true) (t : Tid) : TBlocked c s t :=
  blocked_of_not_en hw ((quiescent_iff c s).mp h t)

theorem run_append (c : Cfg) (s : St) (a b : List Label) : run c s (a ++ b) = run c (run c s a) b := by
  induction a generalizing s with
  | nil => rfl
  | cons l ls ih =>
    simp only [List.cons_append, run]
    cases h : step c s l with
    | none => exact ih s
    | some s' => exact ih s'

theorem turns_take (c : Cfg) (s : St) (r : Nat) (ts : List Tid) (h : ∃ t, t ∈ ts ∧ en c s t = true) :
    1 ≤ takenTh c s (ts.map fun t => .th t r) := by
  induction ts with
  | nil => obtain ⟨t, hm, _⟩ := h; cases hm
  | cons t0 rest ih =>
    simp only [List.map_cons, takenTh]
    cases hs : step c s (.th t0 r) with
    | some s' => exact Nat.le_add_left ..
    | none =>
      obtain ⟨t, hm, he⟩ := h
      rcases List.mem_cons.mp hm with rfl | hm'
      · rw [en, tstep_isSome_k c s t 1 r, show tstep c s t r = none from hs] at he; cases he
      · exact ih ⟨t, hm', he⟩

theorem round_spec (c : Cfg) (hw : WF c) (s : St) (hi : Inv c s) (hq : quiescent c s = false) :
    Inv c (round c s) ∧ rank c (round c s) + 1 ≤ rank c s := by
  refine ⟨inv_run c hw s _ hi, ?_⟩
  have h1 : ∃ t, t ∈ tids s ∧ en c s t = true := by simpa [quiescent] using hq
  have h2 := turns_take c s c.rblock (tids s) h1
  have h3 := takenTh_le_rank c hw s ((tids s).map fun t => .th t c.rblock) hi
  exact Nat.le_trans (Nat.add_comm .. ▸ Nat.add_le_add_right h2 _) h3

theorem drain_quiescent (c : Cfg) (hw : WF c) (n : Nat) (s : St) (hi : Inv c s) (hn : rank c s ≤ n) :
    quiescent c (drain c n s) = true := by
  induction n generalizing s with
  | zero =>
    cases hq : quiescent c s with
    | true => exact hq
    | false => exact absurd (Nat.le_trans (round_spec c hw s hi hq).2 hn) (Nat.not_succ_le_zero _)
  | succ n ih =>
    simp only [drain]
    cases hq : quiescent c s with
    | true => simpa using hq
    | false =>
      obtain ⟨h1, h2⟩ := round_spec c hw s hi hq
      simpa using ih (round c s) h1 (Nat.le_of_succ_le_succ (Nat.le_trans h2 hn))

theorem drain_is_run (c : Cfg) (n : Nat) (s : St) :
    ∃ sched, drain c n s = run c s sched ∧ ∀ l, l ∈ sched → ∃ t k, l = .th t k := by
  induction n generalizing s with
  | zero => exact ⟨[], rfl, nofun⟩
  | succ n ih =>
    simp only [drain]
    cases hq : quiescent c s with
    | true => exact ⟨[], rfl, nofun⟩
    | false =>
      obtain ⟨sched, h1, h2⟩ := ih (round c s)
      refine ⟨((tids s).map fun t => .th t c.rblock) ++ sched, ?_, fun l hl => ?_⟩
      · simp only [Bool.false_eq_true, if_false, run_append]; exact h1
      · rcases List.mem_append.mp hl with hl | hl
        · obtain ⟨t, _, rfl⟩ := List.mem_map.mp hl; exact ⟨t, _, rfl⟩
        · exact h2 l hl

theorem drain_induction {c : Cfg} (hw : WF c) {P : St → Prop}
    (hstep : ∀ s t k s', P s → TStep c s t k s' → P s') (n : Nat) {s : St} (h : P s) : P (drain c n s) := by
  obtain ⟨sched, hr, hth⟩ := drain_is_run c n s
  rw [hr]
  exact run_induction (fun s1 l s2 ⟨t, k, hl⟩ h hs => by subst hl; exact hstep _ _ _ _ h (tstep_sound hw hs)) hth h

end Mqtt.Proofs.Lifecycle
