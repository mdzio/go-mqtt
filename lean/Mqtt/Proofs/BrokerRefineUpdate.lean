/-
Transfer of `R`: `R_held` and `R_storedAt` (instances of `R_frame`), and `R_at` - the change is confined
to one connection and the client identifier it uses: the connection appears, ends, or has its session
object replaced (`R_update`).  `HeldAt c held held'`: the held subscriptions change at owner `c` only;
`Filed b b' σ'`: a session object is (re)filed, nothing else about sessions changes.
-/
import Mqtt.Proofs.BrokerRefinePacket

namespace Mqtt.Proofs.BrokerRefine
open Mqtt.Iface.Broker Mqtt.Model.Broker
open Mqtt.Proofs.Topics (good)
open Mqtt.Spec.Match (split)
open Mqtt.Proofs.Broker (HeldInv)
open Mqtt.Proofs.BrokerQos (toOpen2)
open Mqtt.Spec.Broker (Held addHeld)

def heldOfL (held : List Held) (o : Nat) : List (Bytes × Nat) :=
  (held.filter (fun h => h.owner == o)).map (fun h => (h.filter, h.qos))

theorem heldOf_eq (s : Spec.Broker.S) (o : Nat) : Spec.Broker.heldOf s o = heldOfL s.held o := rfl

theorem heldOfL_append (a b : List Held) (o : Nat) : heldOfL (a ++ b) o = heldOfL a o ++ heldOfL b o := by
  simp [heldOfL]

theorem heldOfL_filter (held : List Held) (P : Held → Bool) (c o : Nat) (Q : Bytes → Bool)
    (hP : ∀ h, P h = !(h.owner == c && Q h.filter)) :
    heldOfL (held.filter P) o = if o = c then (heldOfL held c).filter (fun p => !Q p.1) else heldOfL held o := by
  unfold heldOfL
  rw [List.filter_filter]
  split
  · rename_i hoc
    subst hoc
    rw [List.filter_map, List.filter_filter]
    congr 1
    apply List.filter_congr
    intro x _
    rw [hP]
    by_cases hx : x.owner = o
    · simp [hx]
    · have : (x.owner == o) = false := by simpa using hx
      simp [this]
  · rename_i hoc
    congr 1
    apply List.filter_congr
    intro x _
    rw [hP]
    by_cases hx : x.owner = o
    · have : (x.owner == c) = false := by rw [beq_eq_false_iff_ne, hx]; exact hoc
      simp [hx, hoc]
    · simp [hx]

theorem heldOfL_addHeld_ne (held : List Held) (c o : Nat) (t : Bytes) (g : Nat) (h : o ≠ c) :
    heldOfL (addHeld held c t g) o = heldOfL held o := by
  have h1 : heldOfL [(⟨c, t, g⟩ : Held)] o = [] := by simp [heldOfL, Ne.symm h]
  rw [addHeld, heldOfL_append, heldOfL_filter held _ c o (· == t) (fun _ => rfl), if_neg h, h1, List.append_nil]

theorem heldOfL_addHeld_self (held : List Held) (c : Nat) (t : Bytes) (g : Nat) :
    heldOfL (addHeld held c t g) c = (heldOfL held c).filter (fun p => p.1 != t) ++ [(t, g)] := by
  have h1 : heldOfL [(⟨c, t, g⟩ : Held)] c = [(t, g)] := by simp [heldOfL]
  rw [addHeld, heldOfL_append, heldOfL_filter held _ c c (· == t) (fun _ => rfl), if_pos rfl, h1]
  rfl

/-- `held'` differs from `held` only in what owner `c` holds, and what `c` newly holds has a good filter -/
structure HeldAt (c : Nat) (held held' : List Held) : Prop where
  sub : ∀ x ∈ held', x ∈ held ∨ (x.owner = c ∧ good x.filter = true)
  other : ∀ o, o ≠ c → heldOfL held' o = heldOfL held o

namespace HeldAt
variable {c : Nat} {held held' held'' : List Held}

theorem refl (c : Nat) (held : List Held) : HeldAt c held held := ⟨fun _ hx => .inl hx, fun _ _ => rfl⟩

theorem trans (h1 : HeldAt c held held') (h2 : HeldAt c held' held'') : HeldAt c held held'' :=
  ⟨fun x hx => (h2.sub x hx).elim (h1.sub x) .inr, fun o ho => (h2.other o ho).trans (h1.other o ho)⟩

theorem filter (held : List Held) (c : Nat) (Q : Bytes → Bool) :
    HeldAt c held (held.filter (fun h => !(h.owner == c && Q h.filter))) :=
  ⟨fun _ hx => .inl (List.mem_filter.mp hx).1,
   fun o ho => (heldOfL_filter held _ c o Q (fun _ => rfl)).trans (if_neg ho)⟩

theorem filterOwner (held : List Held) (c : Nat) : HeldAt c held (held.filter (fun h => h.owner != c)) :=
  ⟨fun _ hx => .inl (List.mem_filter.mp hx).1,
   fun o ho => (heldOfL_filter held _ c o (fun _ => true) (fun x => by simp [bne])).trans (if_neg ho)⟩

theorem addHeld (held : List Held) (c : Nat) {t : Bytes} (g : Nat) (hg : good t = true) :
    HeldAt c held (addHeld held c t g) :=
  ⟨fun x hx => by
    rcases List.mem_append.mp hx with hx | hx
    · exact .inl (List.mem_filter.mp hx).1
    · rw [List.mem_singleton.mp hx]; exact .inr ⟨rfl, hg⟩,
   fun o ho => heldOfL_addHeld_ne held c o t g ho⟩

/-- conversely: a new list whose entries are good and that leaves the other owners what they held -/
theorem of_other (hgood : ∀ x ∈ held', good x.filter = true)
    (hother : ∀ o, o ≠ c → heldOfL held' o = heldOfL held o) : HeldAt c held held' := by
  refine ⟨fun x hx => ?_, hother⟩
  by_cases hc : x.owner = c
  · exact .inr ⟨hc, hgood x hx⟩
  · have hm : (x.filter, x.qos) ∈ heldOfL held' x.owner :=
      List.mem_map.mpr ⟨x, List.mem_filter.mpr ⟨hx, beq_self_eq_true _⟩, rfl⟩
    rw [hother x.owner hc] at hm
    obtain ⟨y, hy, e⟩ := List.mem_map.mp hm
    obtain ⟨hy1, hy2⟩ := List.mem_filter.mp hy
    obtain ⟨yo, yf, yq⟩ := y
    obtain ⟨xo, xf, xq⟩ := x
    cases e
    cases (beq_iff_eq.mp hy2 : yo = xo)
    exact .inl hy1

end HeldAt

theorem R.heldAt {b : B} {s : Spec.Broker.S} (h : R b s) {c : Nat} {held' : List Held} (hat : HeldAt c s.held held') :
    (∀ x ∈ held', good x.filter = true) ∧ (∀ x ∈ held', x.owner < cbBase → x.owner ≠ c → b.alive x.owner = true) :=
  ⟨fun x hx => (hat.sub x hx).elim (h.heldGood x) (·.2),
   fun x hx hlt hne => (hat.sub x hx).elim (fun h1 => h.owners x h1 hlt) (fun h1 => absurd h1.1 hne)⟩

/-- the subscriptions change, nothing else -/
theorem R_held {b b' : B} {s s' : Spec.Broker.S} (h : R b s) (hi : Invs b')
    (hc : b'.conns = b.conns) (hs : b'.sess = b.sess) (hst : b'.store = b.store)
    (hrr : b'.topics.rroot = b.topics.rroot)
    (hheld : HeldInv b'.topics.sroot s'.held) (hgood : ∀ x ∈ s'.held, good x.filter = true)
    (hown : ∀ x ∈ s'.held, x.owner < cbBase → b.alive x.owner = true)
    (hlive : ∀ c, b.alive c = true → Spec.Broker.heldOf s' c = Spec.Broker.heldOf s c)
    (hrets : s'.rets = s.rets) (hstored : s'.stored = s.stored) (hconns : s'.conns = s.conns)
    : R b' s' :=
  R_frame h hi hc (hls := liveSess_congr hc hs) hconns hheld hgood hown (hheldOf := hlive)
    (hrets := by rw [hrr, hrets]; exact h.rets) (hretsOk := by rw [hrets]; exact h.retsOk)
    (hids := by unfold IdsOk; rw [hrr]; exact h.retIds) (hsg := fun _ σ _ => storeGet_congr hst σ.cid)
    (hstored := fun x hx hf => (h.stored x hx hf).congr (resumable_congr hst hs x) (by rw [hstored]))

/-- the subscriptions of the in-process callback `cb` change, nothing else -/
theorem R_heldAt {b b' : B} {s s' : Spec.Broker.S} (h : R b s) (hi : Invs b')
    (hc : b'.conns = b.conns) (hs : b'.sess = b.sess) (hst : b'.store = b.store)
    (hrr : b'.topics.rroot = b.topics.rroot) (hheld : HeldInv b'.topics.sroot s'.held) {cb : Nat} (hcb : cbBase ≤ cb)
    (hat : HeldAt cb s.held s'.held)
    (hrets : s'.rets = s.rets) (hstored : s'.stored = s.stored) (hconns : s'.conns = s.conns) : R b' s' :=
  R_held h hi hc hs hst hrr hheld (h.heldAt hat).1
    (fun x hx hlt => (h.heldAt hat).2 x hx hlt (by omega))
    (fun c hc' => hat.other c (by have := h.connLt c hc'; omega)) hrets hstored hconns

/-- the store and the stored sessions change at one client identifier `X`, which no live connection uses -/
theorem R_storedAt {b b' : B} {s s' : Spec.Broker.S} (h : R b s) (hi : Invs b') (X : Bytes)
    (htop : b'.topics = b.topics) (hc : b'.conns = b.conns)
    (hls : ∀ c', liveSess b' c' = liveSess b c')
    (hheld : s'.held = s.held) (hrets : s'.rets = s.rets) (hconns : s'.conns = s.conns)
    (hcidfree : ∀ c' τ, liveSess b c' = some τ → τ.cid ≠ X)
    (hstoreget : ∀ x, x ≠ X → b'.storeGet x = b.storeGet x)
    (hresum : ∀ x, realCid x = true → x ≠ X → resumable b' x = resumable b x)
    (hlookup : ∀ x, realCid x = true → x ≠ X → s'.stored.lookup x = s.stored.lookup x)
    (hX : realCid X = true → StoredRel b' s' X) : R b' s' := by
  refine R_frame h hi hc hls hconns
    (hheld := by rw [htop, hheld]; exact h.held) (hgood := by rw [hheld]; exact h.heldGood)
    (hown := by rw [hheld]; exact h.owners) (hheldOf := fun c _ => heldOf_congr hheld c)
    (hrets := by rw [htop, hrets]; exact h.rets) (hretsOk := by rw [hrets]; exact h.retsOk)
    (hids := by rw [htop]; exact h.retIds) (hsg := fun c σ hl => hstoreget _ (hcidfree c σ hl)) (hstored := ?_)
  intro x hx hf
  by_cases hxe : x = X
  · rw [hxe]; exact hX (hxe ▸ hx)
  · exact (h.stored x hx hf).congr (hresum x hx hxe) (hlookup x hx hxe)

theorem resumable_of_filed {b : B} {x : Bytes} {r : Nat} {σ : Sess} (hg : b.storeGet x = some r)
    (hs : b.getSess r = some σ) : resumable b x = if σ.clean then none else some σ := by
  unfold resumable
  rw [hg, Option.bind_some, hs, Option.filter_some]
  cases σ.clean <;> rfl

theorem storedRel_of_filed {b : B} {s : Spec.Broker.S} {x : Bytes} {r : Nat} {σ : Sess}
    (hg : b.storeGet x = some r) (hs : b.getSess r = some σ)
    (hclean : σ.clean = true → s.stored.lookup x = none)
    (hkeep : σ.clean = false → ∃ subs o2, s.stored.lookup x = some (subs, o2) ∧
      TopicsRel σ.topics subs ∧ o2 = toOpen2 σ.pub2in ∧ ∀ e ∈ σ.pub2in, pubOk e.msg = true) : StoredRel b s x := by
  have hr := resumable_of_filed hg hs
  cases hcl : σ.clean with
  | true =>
    rw [hcl, if_pos rfl] at hr
    exact ⟨fun τ hτ => (by rw [hr] at hτ; cases hτ), fun _ => hclean hcl⟩
  | false =>
    rw [hcl, if_neg Bool.false_ne_true] at hr
    exact ⟨fun τ hτ => (by rw [hr] at hτ; cases hτ; exact hkeep hcl), fun hn => (by rw [hr] at hn; cases hn)⟩

/-- `b'` is `b` with the session object `σ'` filed under its reference and its client identifier: an object
replaced in place (`setSess`; the store entry exists) or a new one created and entered in the store
(`getSession`).  Connection table as before; nothing else about sessions changes. -/
structure Filed (b b' : B) (σ' : Sess) : Prop where
  conns : b'.conns = b.conns
  getSess : ∀ r, b'.getSess r = if r = σ'.ref then some σ' else b.getSess r
  storeGet : ∀ x, b'.storeGet x = if x = σ'.cid then some σ'.ref else b.storeGet x
  /-- an object that is replaced carried the same identifier -/
  old : ∀ σ, b.getSess σ'.ref = some σ → σ.cid = σ'.cid

theorem getSess_update {b b' : B} {σ' : Sess} (hs : b'.sess = (b.setSess σ').sess) (r : Nat) :
    b'.getSess r = if r = σ'.ref then some σ' else b.getSess r := by
  rw [Mqtt.Proofs.Broker.getSess_congr (b.setSess σ') b' hs]
  exact Mqtt.Proofs.BrokerLife.getSess_setSess_eq b σ' r

theorem liveSess_of_getSess {b b' : B} {σ' : Sess} (hc : b'.conns = b.conns)
    (hg : ∀ r, b'.getSess r = if r = σ'.ref then some σ' else b.getSess r) (hinv : Mqtt.Proofs.BrokerLife.Inv b)
    (c : Nat) : liveSess b' c = (liveSess b c).map (fun τ => if τ.ref = σ'.ref then σ' else τ) := by
  unfold liveSess
  rw [Mqtt.Proofs.BrokerQos.getConn_congr hc c]
  cases hcn : b.getConn c with
  | none => rfl
  | some cn =>
    dsimp only
    split
    · obtain ⟨τ, hτ⟩ := hinv.conns cn (List.mem_of_find?_eq_some hcn)
      rw [hg, hτ, Option.map_some, Mqtt.Proofs.BrokerLife.getSess_ref hτ]
      split <;> rfl
    · rfl

namespace Filed
variable {b b' : B} {σ σ' : Sess}

/-- `setSess` of an object that is filed under its identifier -/
theorem of_setSess (hc : b'.conns = b.conns) (hst : b'.store = b.store) (hs : b'.sess = (b.setSess σ').sess)
    (hσ : b.getSess σ'.ref = some σ) (hcid : σ'.cid = σ.cid) (hsg : b.storeGet σ.cid = some σ.ref) :
    Filed b b' σ' := by
  refine ⟨hc, getSess_update hs, fun x => ?_, fun τ hτ => ?_⟩
  · rw [storeGet_congr hst]
    split
    · rename_i hx; rw [hx, hcid, hsg, Mqtt.Proofs.BrokerLife.getSess_ref hσ]
    · rfl
  · rw [hσ] at hτ; cases hτ; exact hcid.symm

/-- live sessions: the object is exchanged wherever it is in use -/
theorem liveSess (h : Filed b b' σ') (hinv : Mqtt.Proofs.BrokerLife.Inv b) (c : Nat) :
    liveSess b' c = (liveSess b c).map (fun τ => if τ.ref = σ'.ref then σ' else τ) :=
  liveSess_of_getSess h.conns h.getSess hinv c

/-- no live connection uses the identifier: live sessions are as before -/
theorem liveSess_free (h : Filed b b' σ') (hinv : Mqtt.Proofs.BrokerLife.Inv b)
    (hfree : ∀ c τ, BrokerRefine.liveSess b c = some τ → τ.cid ≠ σ'.cid) (c : Nat) :
    BrokerRefine.liveSess b' c = BrokerRefine.liveSess b c := by
  rw [h.liveSess hinv]
  cases hl : BrokerRefine.liveSess b c with
  | none => rfl
  | some τ =>
    rw [Option.map_some, if_neg]
    intro e
    exact hfree c τ hl (h.old τ (e ▸ liveSess_ref hl))

/-- what a CONNECT would resume under another identifier is as before -/
theorem resumable_ne (h : Filed b b' σ') (hinv : Mqtt.Proofs.BrokerLife.Inv b) {x : Bytes} (hx : x ≠ σ'.cid) :
    resumable b' x = resumable b x := by
  unfold resumable
  rw [h.storeGet, if_neg hx]
  cases hg : b.storeGet x with
  | none => rfl
  | some r =>
    obtain ⟨t, ht, htc⟩ := hinv.store (x, r) (List.mem_of_lookup hg)
    rw [Option.bind_some, Option.bind_some, h.getSess, if_neg]
    intro hr
    exact hx (htc.symm.trans (h.old t (hr ▸ ht)))

/-- under its own identifier the object itself is found -/
theorem storedRel (h : Filed b b' σ') {s : Spec.Broker.S}
    (hclean : σ'.clean = true → s.stored.lookup σ'.cid = none)
    (hkeep : σ'.clean = false → ∃ subs o2, s.stored.lookup σ'.cid = some (subs, o2) ∧
      TopicsRel σ'.topics subs ∧ o2 = toOpen2 σ'.pub2in ∧ ∀ e ∈ σ'.pub2in, pubOk e.msg = true) :
    StoredRel b' s σ'.cid :=
  storedRel_of_filed (by rw [h.storeGet, if_pos rfl]) (by rw [h.getSess, if_pos rfl]) hclean hkeep

end Filed

/-- a session object is (re)filed under an identifier no live connection uses; the reference broker's stored
sessions change at that identifier only -/
theorem R_filed {b b' : B} {s s' : Spec.Broker.S} {σ' : Sess} (h : R b s) (hi : Invs b') (hf : Filed b b' σ')
    (htop : b'.topics = b.topics)
    (hheld : s'.held = s.held) (hrets : s'.rets = s.rets) (hconns : s'.conns = s.conns)
    (hfree : ∀ c τ, liveSess b c = some τ → τ.cid ≠ σ'.cid)
    (hlookup : ∀ x, realCid x = true → x ≠ σ'.cid → s'.stored.lookup x = s.stored.lookup x)
    (hX : realCid σ'.cid = true → StoredRel b' s' σ'.cid) : R b' s' :=
  R_storedAt h hi σ'.cid htop (hc := hf.conns) (hls := hf.liveSess_free h.linv hfree) hheld hrets hconns (hcidfree := hfree)
    (hstoreget := fun x hx => by rw [hf.storeGet, if_neg hx]) (hresum := fun x _ hx => hf.resumable_ne h.linv hx)
    (hlookup := hlookup) (hX := hX)

/-- the change is confined to one connection `c`, whose live session becomes `new`, and to the client
identifier `X` it uses before and after. The hypotheses come in three groups: away from `c` and `X` nothing
moves (`hls` to `hat`); at `c` the caller supplies the subscription trie, the connection tables and the
connection itself, gone (`hnone`) or related (`hsome`); at `X`, that `c` alone uses it (`hold`, `hfree`) and
the stored session once `c` has ended (`hX`) -/
theorem R_at {b b' : B} {s s' : Spec.Broker.S} (h : R b s) (hi : Invs b') (c : Nat) (X : Bytes) (new : Option Sess)
    (hls : ∀ c', liveSess b' c' = if c' = c then new else liveSess b c')
    (hsg : ∀ x, x ≠ X → b'.storeGet x = b.storeGet x) (hrr : b'.topics.rroot = b.topics.rroot)
    (hrets : s'.rets = s.rets)
    (hgc : ∀ c', c' ≠ c → Spec.Broker.getConn s' c' = Spec.Broker.getConn s c')
    (hres : ∀ x, realCid x = true → x ≠ X → resumable b' x = resumable b x)
    (hlk : ∀ x, realCid x = true → x ≠ X → s'.stored.lookup x = s.stored.lookup x)
    (hat : HeldAt c s.held s'.held)
    (hheld : HeldInv b'.topics.sroot s'.held) (hownc : new = none → ∀ x ∈ s'.held, x.owner ≠ c)
    (hmnd : (b'.conns.map (·.id)).Nodup) (hnd : (s'.conns.map (·.id)).Nodup)
    (hnone : new = none → Spec.Broker.getConn s' c = none)
    (hsome : ∀ σ', new = some σ' → c < cbBase ∧ σ'.cid = X ∧
      ∃ k', Spec.Broker.getConn s' c = some k' ∧ LiveRel b' s' c σ' k')
    (hold : ∀ σ, liveSess b c = some σ → σ.cid = X)
    (hfree : ∀ c' τ, c' ≠ c → liveSess b c' = some τ → τ.cid ≠ X)
    (hX : realCid X = true → new = none → StoredRel b' s' X) : R b' s' := by
  have hal : ∀ c', b'.alive c' = if c' = c then new.isSome else b.alive c' := by
    intro c'
    rw [← liveSess_isSome hi.1, hls]
    split
    · rfl
    · exact liveSess_isSome h.inv c'
  refine {
    inv := hi.1, linv := hi.2.1, qinv := hi.2.2
    held := hheld, heldGood := (h.heldAt hat).1, owners := ?owners
    rets := by rw [hrr, hrets]; exact h.rets
    retsOk := by rw [hrets]; exact h.retsOk
    retIds := by unfold IdsOk; rw [hrr]; exact h.retIds
    connLt := ?connLt, mconns := hmnd, sconns := hnd
    connsIff := ?connsIff, live := ?live, cidUniq := ?cidUniq, stored := ?stored }
  case owners =>
    intro x hx hlt
    rw [hal]
    by_cases he : x.owner = c
    · rw [if_pos he]
      cases hn : new with
      | none => exact absurd he (hownc hn x hx)
      | some _ => rfl
    · rw [if_neg he]; exact (h.heldAt hat).2 x hx hlt he
  case connLt =>
    intro c' hc'
    rw [hal] at hc'
    by_cases he : c' = c
    · rw [if_pos he] at hc'
      cases hn : new with
      | none => rw [hn] at hc'; cases hc'
      | some σ' => rw [he]; exact (hsome σ' hn).1
    · rw [if_neg he] at hc'; exact h.connLt c' hc'
  case connsIff =>
    intro c'
    rw [hal]
    by_cases he : c' = c
    · rw [if_pos he, he]
      cases hn : new with
      | none => rw [hnone hn]; rfl
      | some σ' => obtain ⟨_, _, k', hk', _⟩ := hsome σ' hn; rw [hk']; rfl
    · rw [if_neg he, hgc c' he]; exact h.connsIff c'
  case live =>
    intro c' τ ht
    rw [hls] at ht
    by_cases he : c' = c
    · rw [if_pos he] at ht; rw [he]; exact (hsome τ ht).2.2
    · rw [if_neg he] at ht
      obtain ⟨k0, hk0, r0⟩ := h.live c' τ ht
      exact ⟨k0, by rw [hgc c' he]; exact hk0, r0.congr (hsg _ (hfree c' τ he ht)) (hat.other c' he)⟩
  case cidUniq =>
    intro c1 c2 τ1 τ2 h1 h2 hcid
    rw [hls] at h1 h2
    by_cases e1 : c1 = c <;> by_cases e2 : c2 = c
    · rw [e1, e2]
    · rw [if_pos e1] at h1; rw [if_neg e2] at h2
      exact absurd (hcid ▸ (hsome τ1 h1).2.1) (hfree c2 τ2 e2 h2)
    · rw [if_neg e1] at h1; rw [if_pos e2] at h2
      exact absurd (hcid ▸ (hsome τ2 h2).2.1) (hfree c1 τ1 e1 h1)
    · rw [if_neg e1] at h1; rw [if_neg e2] at h2
      exact h.cidUniq c1 c2 τ1 τ2 h1 h2 hcid
  case stored =>
    intro x hx hfree'
    by_cases hxe : x = X
    · subst hxe
      refine hX hx ?_
      cases hn : new with
      | none => rfl
      | some σ' => exact absurd (hsome σ' hn).2.1 (hfree' c σ' (by rw [hls, if_pos rfl, hn]))
    · refine (h.stored x hx ?_).congr (hres x hx hxe) (hlk x hx hxe)
      intro c' τ ht
      by_cases he : c' = c
      · rw [he] at ht; rw [hold τ ht]; exact fun e => hxe e.symm
      · exact hfree' c' τ (by rw [hls, if_neg he]; exact ht)

theorem R_update {b b' : B} {s s' : Spec.Broker.S} {c : Nat} {σ σ' : Sess} (h : R b s) {k' : Spec.Broker.Conn}
    (hl : liveSess b c = some σ) (hi : Invs b')
    (hc : b'.conns = b.conns) (hst : b'.store = b.store) (hs : b'.sess = (b.setSess σ').sess)
    (href : σ'.ref = σ.ref) (hcid : σ'.cid = σ.cid)
    (hrr : b'.topics.rroot = b.topics.rroot)
    (hheld : HeldInv b'.topics.sroot s'.held) (hat : HeldAt c s.held s'.held)
    (hrets : s'.rets = s.rets) (hstored : s'.stored = s.stored)
    (hnd : (s'.conns.map (·.id)).Nodup)
    (hgc : ∀ c', Spec.Broker.getConn s' c' = if c' = c then some k' else Spec.Broker.getConn s c')
    (hrel : LiveRel b' s' c σ' k') : R b' s' := by
  obtain ⟨k, _, hk⟩ := h.live c σ hl
  have hf : Filed b b' σ' := .of_setSess hc hst hs (href ▸ liveSess_ref hl) hcid hk.store
  have hothers := h.others_free hl
  refine R_at h hi c σ.cid (some σ') (hrr := hrr) (hheld := hheld) (hat := hat) (hrets := hrets) (hnd := hnd)
    (hls := fun c' => ?_)
    (hsg := fun x hx => by rw [hf.storeGet, if_neg (hcid ▸ hx)])
    (hownc := nofun) (hnone := nofun) (hX := fun _ => nofun)
    (hmnd := by rw [hc]; exact h.mconns)
    (hgc := fun c' he => by rw [hgc, if_neg he])
    (hsome := ?_) (hold := ?_) (hfree := hothers)
    (hres := fun x _ hxe => hf.resumable_ne h.linv (hcid ▸ hxe))
    (hlk := fun x _ _ => by rw [hstored])
  · -- `σ'` takes the place of `σ`, which only `c` uses
    rw [hf.liveSess h.linv]
    by_cases he : c' = c
    · rw [if_pos he, he, hl, Option.map_some, if_pos href.symm]
    · rw [if_neg he]
      cases ht : liveSess b c' with
      | none => rfl
      | some τ =>
        rw [Option.map_some, if_neg]
        exact fun e => hothers c' τ he ht ((hf.old τ (e ▸ liveSess_ref ht)).trans hcid)
  · intro τ ht
    cases ht
    exact ⟨h.connLt c (liveSess_alive hl), hcid, k', by rw [hgc, if_pos rfl], hrel⟩
  · intro τ ht
    rw [hl] at ht; cases ht; rfl

end Mqtt.Proofs.BrokerRefine
