/-
The invariant of the two critical sections of `service.ackmu` (`Model/AckLock.lean`), for any number
of senders, any schedule, any peer; and the tie of `senderProgram` / `procProgram` to the lock
structure extracted from the source (`Generated.ack*`).  `Inv` is for these two programs only (the model takes
the programs as parameters): its numerals are positions in them.
-/
import Mqtt.Model.AckLock
import Mqtt.Generated.Facts

namespace Mqtt.Proofs.AckLock
open Mqtt.Model.AckLock

theorem upd_self {α : Type} (f : Nat → α) (i : Nat) (v : α) : upd f i v i = v := by simp [upd]

theorem upd_ne {α : Type} (f : Nat → α) (i j : Nat) (v : α) (h : i ≠ j) : upd f i v j = f j := by
  simp [upd, h.symm]

structure Inv (s : St) : Prop where
  /-- a sender holds `ackmu` exactly from after its `Lock` until its `Unlock` -/
  hold  : ∀ i, s.holder = some (.sender i) ↔ (1 ≤ s.spc i ∧ s.spc i ≤ 4)
  /-- the request is written from the second operation on … -/
  wr    : ∀ i, s.written i = true ↔ 2 ≤ s.spc i
  /-- … and registered from the fourth on: in between the sender holds the mutex -/
  reg   : ∀ i, s.registered i = true ↔ 4 ≤ s.spc i
  /-- the processor holds `ackmu` exactly around `Ack` -/
  phold : s.holder = some .proc ↔ (s.ppc = 2 ∨ s.ppc = 3)
  ppc   : s.ppc < 5
  /-- no `Ack` so far fell into the window of its request; an acknowledgement of a written request found it -/
  marks : ∀ m ∈ s.marks, m.inWindow = false ∧ (m.caused = true → m.found = true)
  /-- an acknowledgement marked as caused by its request was sent after the request was written -/
  inbox : ∀ a ∈ s.inbox, a.caused = true → s.written a.id = true
  cur   : s.cur.caused = true → s.written s.cur.id = true
  /-- completions run only for requests that were registered -/
  compl : ∀ i ∈ s.completed, s.registered i = true
  /-- an acknowledgement recorded as found: its request is registered (registrations are never undone) -/
  found : ∀ m ∈ s.marks, m.found = true → s.registered m.id = true

theorem inv_init : Inv init where
  hold := by intro i; simp [init]
  wr := by intro i; simp [init]
  reg := by intro i; simp [init]
  phold := by simp [init]
  ppc := by simp [init]
  marks := by intro m hm; cases hm
  inbox := by intro a ha; cases ha
  cur := by simp [init]
  compl := by intro i hi; cases hi
  found := by intro m hm; cases hm

theorem Inv.window_holds {s : St} (h : Inv s) (i : Nat) (hw : s.written i = true) (hr : s.registered i = false) :
    s.holder = some (.sender i) := by
  have h2 := (h.wr i).mp hw
  have h4 : ¬ 4 ≤ s.spc i := fun h4 => by rw [(h.reg i).mpr h4] at hr; cases hr
  exact (h.hold i).mpr ⟨by omega, by omega⟩

theorem inv_peer {s : St} (h : Inv s) (i : Nat) : Inv { s with inbox := s.inbox ++ [⟨i, s.written i⟩] } where
  hold := h.hold
  wr := h.wr
  reg := h.reg
  phold := h.phold
  ppc := h.ppc
  marks := h.marks
  inbox := by
    intro a ha
    simp only [List.mem_append, List.mem_singleton] at ha
    rcases ha with ha | rfl
    · exact h.inbox a ha
    · exact id
  cur := h.cur
  compl := h.compl
  found := h.found

theorem iff_upd {A : Nat → Prop} {P : Nat → Prop} {g : Nat → Nat} (i n : Nat)
    (hne : ∀ j, j ≠ i → (A j ↔ P (g j))) (hi : A i ↔ P n) : ∀ j, A j ↔ P (upd g i n j) := by
  intro j
  unfold upd
  split
  · rename_i hj; rw [hj]; exact hi
  · exact hne j ‹_›

theorem flag_upd {f : Nat → Bool} {g : Nat → Nat} {b : Nat} (h : ∀ j, f j = true ↔ b ≤ g j) (i : Nat) :
    ∀ j, upd f i true j = true ↔ b ≤ upd g i b j :=
  iff_upd i b (fun j hj => by rw [upd_ne _ _ _ _ hj.symm]; exact h j) (iff_of_true (upd_self ..) (Nat.le_refl b))

theorem upd_true_of {f : Nat → Bool} {i j : Nat} (h : f j = true) : upd f i true j = true := by
  unfold upd; split
  · rfl
  · exact h

theorem inv_sender {s s' : St} (h : Inv s) (i : Nat) (hs : senderStep senderProgram s i = some s') : Inv s' := by
  unfold senderStep at hs
  have hne : ∀ j, j ≠ i → Tid.sender i ≠ Tid.sender j := fun j hj e => hj (by cases e; rfl)
  -- the flags of the other senders, and of `i` as long as its counter stays on the same side of the bound
  have hwr : ∀ n, (2 ≤ s.spc i ↔ 2 ≤ n) → ∀ j, s.written j = true ↔ 2 ≤ upd s.spc i n j :=
    fun n hn => iff_upd i n (fun j _ => h.wr j) ((h.wr i).trans hn)
  have hreg : ∀ n, (4 ≤ s.spc i ↔ 4 ≤ n) → ∀ j, s.registered j = true ↔ 4 ≤ upd s.spc i n j :=
    fun n hn => iff_upd i n (fun j _ => h.reg j) ((h.reg i).trans hn)
  have hhold : ∀ n, 1 ≤ s.spc i → s.spc i ≤ 4 → 1 ≤ n → n ≤ 4 →
      ∀ j, s.holder = some (.sender j) ↔ 1 ≤ upd s.spc i n j ∧ upd s.spc i n j ≤ 4 :=
    fun n h1 h4 n1 n4 => iff_upd (P := fun m => 1 ≤ m ∧ m ≤ 4) i n (fun j _ => h.hold j)
      (iff_of_true ((h.hold i).mpr ⟨h1, h4⟩) ⟨n1, n4⟩)
  match hpc : s.spc i with
  | 0 =>
    simp only [hpc, senderProgram, List.getElem?_cons_zero] at hs
    split at hs
    · cases hs
    · rename_i hfree
      have hnone : s.holder = none := by simpa using hfree
      cases hs
      refine ⟨?_, hwr 1 (by omega), hreg 1 (by omega), ?_, h.ppc, h.marks, h.inbox, h.cur, h.compl, h.found⟩
      · refine iff_upd (P := fun m => 1 ≤ m ∧ m ≤ 4) i 1 (fun j hj => ?_) (iff_of_true rfl (by decide))
        refine iff_of_false (fun e => hne j hj (Option.some.inj e)) fun hh => ?_
        have := (h.hold j).mpr hh
        rw [hnone] at this; cases this
      · refine iff_of_false (fun e => by cases e) fun hh => ?_
        have := h.phold.mpr hh
        rw [hnone] at this; cases this
  | 1 =>
    simp only [hpc, senderProgram, List.getElem?_cons_succ, List.getElem?_cons_zero] at hs
    cases hs
    exact ⟨hhold 2 (by omega) (by omega) (by decide) (by decide), flag_upd h.wr i, hreg 2 (by omega), h.phold, h.ppc,
      h.marks, fun a ha hc => upd_true_of (h.inbox a ha hc), fun hc => upd_true_of (h.cur hc), h.compl, h.found⟩
  | 2 =>
    simp only [hpc, senderProgram, List.getElem?_cons_succ, List.getElem?_cons_zero] at hs
    cases hs
    exact ⟨hhold 3 (by omega) (by omega) (by decide) (by decide), hwr 3 (by omega), hreg 3 (by omega), h.phold, h.ppc,
      h.marks, h.inbox, h.cur, h.compl, h.found⟩
  | 3 =>
    simp only [hpc, senderProgram, List.getElem?_cons_succ, List.getElem?_cons_zero] at hs
    cases hs
    exact ⟨hhold 4 (by omega) (by omega) (by decide) (by decide), hwr 4 (by omega), flag_upd h.reg i, h.phold, h.ppc,
      h.marks, h.inbox, h.cur, fun j hj => upd_true_of (h.compl j hj), fun m hm hf => upd_true_of (h.found m hm hf)⟩
  | 4 =>
    simp only [hpc, senderProgram, List.getElem?_cons_succ, List.getElem?_cons_zero] at hs
    have hh := (h.hold i).mpr (by omega)
    split at hs
    · cases hs
    · cases hs
      refine ⟨?_, hwr 5 (by omega), hreg 5 (by omega), ?_, h.ppc, h.marks, h.inbox, h.cur, h.compl, h.found⟩
      · refine iff_upd (P := fun m => 1 ≤ m ∧ m ≤ 4) i 5 (fun j hj => ?_) (iff_of_false (fun e => by cases e) (by decide))
        refine iff_of_false (fun e => by cases e) fun hx => ?_
        have := (h.hold j).mpr hx
        rw [hh] at this; exact hne j hj (Option.some.inj this)
      · refine iff_of_false (fun e => by cases e) fun hx => ?_
        have := h.phold.mpr hx
        rw [hh] at this; cases this
  | n + 5 =>
    simp [hpc, senderProgram] at hs

theorem inv_proc {s s' : St} (h : Inv s) (hs : procStep procProgram s = some s') : Inv s' := by
  unfold procStep at hs
  have hlt := h.ppc
  -- while no sender holds the mutex, none is inside its critical section
  have hout : (∀ j, s.holder ≠ some (.sender j)) → ∀ (x : Option Tid), (∀ j, x ≠ some (.sender j)) →
      ∀ j, x = some (.sender j) ↔ 1 ≤ s.spc j ∧ s.spc j ≤ 4 :=
    fun hn x hx j => iff_of_false (hx j) fun hh => hn j ((h.hold j).mpr hh)
  -- outside `Lock … Unlock` the processor does not hold it
  have hno : s.ppc ≠ 2 → s.ppc ≠ 3 → s.holder ≠ some .proc := fun h2 h3 e => (h.phold.mp e).elim h2 h3
  match hpc : s.ppc with
  | 0 =>
    simp only [hpc, procProgram, List.getElem?_cons_zero] at hs
    split at hs
    · cases hs
    · rename_i a rest hin
      cases hs
      exact ⟨h.hold, h.wr, h.reg, iff_of_false (hno (by omega) (by omega)) (show ¬ (nextP procProgram 0 = 2 ∨ nextP procProgram 0 = 3) by decide),
        (show nextP procProgram 0 < 5 by decide), h.marks, fun b hb => h.inbox b (hin ▸ List.mem_cons_of_mem _ hb), h.inbox a (hin ▸ List.mem_cons_self), h.compl, h.found⟩
  | 1 =>
    simp only [hpc, procProgram, List.getElem?_cons_succ, List.getElem?_cons_zero] at hs
    split at hs
    · cases hs
    · rename_i hfree
      have hnone : s.holder = none := by simpa using hfree
      cases hs
      exact ⟨hout (fun j e => by rw [hnone] at e; cases e) _ (fun j e => by cases e), h.wr, h.reg,
        iff_of_true rfl (.inl rfl), (show nextP procProgram 1 < 5 by decide), h.marks, h.inbox, h.cur, h.compl, h.found⟩
  | 2 =>
    simp only [hpc, procProgram, List.getElem?_cons_succ, List.getElem?_cons_zero] at hs
    cases hs
    have hh : s.holder = some .proc := h.phold.mpr (.inl hpc)
    -- the processor holds the mutex: the sender of this request is not in its critical section
    have hnot : ¬ (1 ≤ s.spc s.cur.id ∧ s.spc s.cur.id ≤ 4) := fun hx => by
      have := (h.hold s.cur.id).mpr hx
      rw [hh] at this; cases this
    refine ⟨h.hold, h.wr, h.reg, iff_of_true hh (.inr rfl), (show nextP procProgram 2 < 5 by decide), ?_, h.inbox, h.cur, h.compl, ?_⟩
    · intro m hm
      rcases List.mem_append.mp hm with hm | hm
      · exact h.marks m hm
      · rw [List.mem_singleton.mp hm]
        constructor
        · show (s.written s.cur.id && !s.registered s.cur.id) = false
          cases hw : s.written s.cur.id with
          | false => rfl
          | true =>
            have h2 := (h.wr _).mp hw
            rw [(h.reg _).mpr (by omega)]; rfl
        · exact fun hc => (h.reg _).mpr (by have := (h.wr _).mp (h.cur hc); omega)
    · intro m hm hf
      rcases List.mem_append.mp hm with hm | hm
      · exact h.found m hm hf
      · rw [List.mem_singleton.mp hm] at hf ⊢; exact hf
  | 3 =>
    simp only [hpc, procProgram, List.getElem?_cons_succ, List.getElem?_cons_zero] at hs
    have hh : s.holder = some .proc := h.phold.mpr (.inr hpc)
    split at hs
    · cases hs
    · cases hs
      exact ⟨hout (fun j e => by rw [hh] at e; cases e) _ (fun j e => by cases e), h.wr, h.reg,
        iff_of_false (fun e => by cases e) (show ¬ (nextP procProgram 3 = 2 ∨ nextP procProgram 3 = 3) by decide),
        (show nextP procProgram 3 < 5 by decide), h.marks, h.inbox, h.cur, h.compl, h.found⟩
  | 4 =>
    simp only [hpc, procProgram, List.getElem?_cons_succ, List.getElem?_cons_zero] at hs
    cases hs
    refine ⟨h.hold, h.wr, h.reg, iff_of_false (hno (by omega) (by omega))
      (show ¬ (nextP procProgram 4 = 2 ∨ nextP procProgram 4 = 3) by decide), (show nextP procProgram 4 < 5 by decide),
      h.marks, h.inbox, h.cur, ?_, h.found⟩
    intro i hi
    rcases List.mem_append.mp hi with hi | hi
    · exact h.compl i hi
    · -- `found` was the registration flag when the mark was made; registrations are never undone
      cases hl : s.marks.getLast? with
      | none => rw [hl] at hi; cases hi
      | some m =>
        rw [hl] at hi
        change i ∈ (if m.found = true then [m.id] else []) at hi
        split at hi
        · rw [List.mem_singleton.mp hi]
          exact h.found m (List.mem_of_getLast? hl) ‹_›
        · cases hi
  | n + 5 => omega

theorem inv_step {s s' : St} (h : Inv s) (ch : Choice) (hs : step senderProgram procProgram s ch = some s') :
    Inv s' := by
  cases ch with
  | sender i => exact inv_sender h i hs
  | proc => exact inv_proc h hs
  | peer i => simp only [step, Option.some.injEq] at hs; subst hs; exact inv_peer h i

theorem inv_run (s : St) (h : Inv s) (sched : List Choice) : Inv (run senderProgram procProgram s sched) := by
  induction sched generalizing s with
  | nil => exact h
  | cons ch rest ih =>
    simp only [run]
    cases hs : step senderProgram procProgram s ch with
    | none => exact ih s h
    | some s' => exact ih s' (inv_step h ch hs)

theorem inv_reachable (sched : List Choice) : Inv (run senderProgram procProgram init sched) :=
  inv_run init inv_init sched

/-! ## the tie to the source

`Generated.ack*` are regenerated from service/service.go and service/process.go on every run
(extract/facts_acklock.go: the calls `ackmu.Lock` 1, `defer ackmu.Unlock` 2, `writeMessage` 3,
`verifAckWindow` 4, `sess.<queue>.Wait` 5, `ackmu.Unlock` 6, `sendPublish` 7, `onComplete` 8,
`Ackqueue.Ack` 9, `ack` 10, `processAcked` 11, in source order; 0 is the receive, which is no
call of the list (`procProgram.drop 1` leaves it out of the comparison); `ackIrregular` counts such calls
inside function literals, deferred or started with `go`). -/

def SOp.code : SOp → Nat
  | .lock => 1 | .write => 3 | .window => 4 | .register => 5 | .unlock => 6

def POp.code : POp → Nat
  | .recv => 0 | .lock => 1 | .mark => 9 | .unlock => 6 | .callbacks => 11

/-- source shape of a Go function that runs a program `lock · body · unlock` with the unlock
deferred: `Lock(); defer Unlock(); body` -/
def deferredShape (codes : List Nat) : Option (List Nat) :=
  match codes with
  | 1 :: rest => if rest.getLast? = some 6 then some (1 :: 2 :: rest.dropLast) else none
  | _ => none

/-- `publish` for an acknowledged PUBLISH, `sendPublish` inlined: the statements after the QoS 0
guard, with the call of `sendPublish` replaced by what `sendPublish` does up to its `switch` and in
the case `label` of it -/
def publishInlined (label : String) : Option (List Nat) := do
  let pub ← Mqtt.Generated.ackSenders.lookup "publish"
  let sp ← Mqtt.Generated.ackSenders.lookup "sendPublish"
  let cs ← Mqtt.Generated.ackSendPublishCases.lookup label
  let inCases := (Mqtt.Generated.ackSendPublishCases.map (·.2)).flatten
  let pre := sp.take (sp.length - inCases.length)
  if Mqtt.Generated.ackPublishQos0Guard && pub.head? == some 7 && sp == pre ++ inCases then
    some ((pub.drop 1).flatMap (fun c => if c == 7 then pre ++ cs else [c]))
  else none

def publishQos0 : Option (List Nat) := do
  let sp ← Mqtt.Generated.ackSenders.lookup "sendPublish"
  let cs ← Mqtt.Generated.ackSendPublishCases.lookup "QosAtMostOnce"
  let inCases := (Mqtt.Generated.ackSendPublishCases.map (·.2)).flatten
  if Mqtt.Generated.ackPublishQos0Guard then some (sp.take (sp.length - inCases.length) ++ cs) else none

/-- **The sending calls of the source run `senderProgram`.**  `subscribe`, `unsubscribe`, `ping` and
`publish` for QoS 1 and for QoS 2 (with `sendPublish`, which only `publish` calls, inlined) are
`ackmu.Lock(); defer ackmu.Unlock(); writeMessage; verifAckWindow; Wait` - the write, the window
and the registration inside one critical section; the QoS 0 path of `publish` takes no lock, writes,
registers nothing and calls the completion itself.  The mutex is locked in these four functions and
in `ack` only, never unlocked explicitly, and no other function of the package registers a request
of this connection's senders (`processPublish` registers inbound QoS 2 PUBLISHes, in the processor
itself). -/
theorem facts_senders :
    (∀ name ∈ ["subscribe", "unsubscribe", "ping"],
      Mqtt.Generated.ackSenders.lookup name = deferredShape (senderProgram.map SOp.code)) ∧
    publishInlined "QosAtLeastOnce" = deferredShape (senderProgram.map SOp.code) ∧
    publishInlined "QosExactlyOnce" = deferredShape (senderProgram.map SOp.code) ∧
    publishQos0 = some [3, 4, 8] ∧
    Mqtt.Generated.ackSendPublishCases.map (·.1) = ["QosAtMostOnce", "QosAtLeastOnce", "QosExactlyOnce"] ∧
    Mqtt.Generated.ackSendPublishSwitches = 1 ∧
    Mqtt.Generated.ackSendPublishCallers = ["publish", "publish"] ∧
    Mqtt.Generated.ackLockSites = ["ack", "ping", "publish", "subscribe", "unsubscribe"] ∧
    Mqtt.Generated.ackDeferUnlockSites = Mqtt.Generated.ackLockSites ∧
    Mqtt.Generated.ackUnlockSites = [] ∧
    Mqtt.Generated.ackWaitSites = ["ping", "processPublish", "sendPublish", "sendPublish", "subscribe", "unsubscribe"] ∧
    Mqtt.Generated.ackWindowSites = ["ping", "sendPublish", "subscribe", "unsubscribe"] := by
  decide +kernel

/-- **The processor of the source runs `procProgram`.**  `ack` is `ackmu.Lock(); defer
ackmu.Unlock(); Ackqueue.Ack` and the only place where `Ackqueue.Ack` is called; `processIncoming`
calls it once per acknowledgement type, first thing, and calls `processAcked` (the completion
callbacks) only after it has returned - outside the mutex; nothing of this happens outside the type
switch.  The terminal acknowledgements of the sending side (PUBACK, PUBCOMP, SUBACK, UNSUBACK,
PINGRESP) are exactly `ack; processAcked`. -/
theorem facts_processor :
    some Mqtt.Generated.ackHelper = deferredShape ((procProgram.drop 1).dropLast.map POp.code) ∧
    Mqtt.Generated.ackAckSites = ["ack"] ∧
    Mqtt.Generated.ackHelperCallers = List.replicate 7 "processIncoming" ∧
    Mqtt.Generated.ackProcessAckedCallers = List.replicate 6 "processIncoming" ∧
    Mqtt.Generated.ackProcessIncomingOutside = 0 ∧ Mqtt.Generated.ackProcessIncomingSwitches = 1 ∧
    Mqtt.Generated.ackIrregular = 0 ∧
    Mqtt.Generated.ackProcessIncoming.map (·.1) =
      ["PubackMessage", "PubrecMessage", "PubrelMessage", "PubcompMessage", "SubackMessage", "UnsubackMessage",
       "PingrespMessage"] ∧
    (∀ c ∈ Mqtt.Generated.ackProcessIncoming, c.2.head? = some 10 ∧ c.2.tail.all (fun x => x == 11 || x == 3)) ∧
    (∀ name ∈ ["PubackMessage", "PubcompMessage", "SubackMessage", "UnsubackMessage", "PingrespMessage"],
      Mqtt.Generated.ackProcessIncoming.lookup name = some [10, (procProgram.getLast?.map POp.code).getD 0]) := by
  decide +kernel

end Mqtt.Proofs.AckLock
