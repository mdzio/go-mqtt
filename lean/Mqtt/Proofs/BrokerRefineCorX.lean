/-
Histories with failed handshakes (`EvX`) reach related states too: the statements of
Proofs/BrokerRefineCor.lean apply after them as they are.
-/
import Mqtt.Proofs.BrokerRefineCor
import Mqtt.Proofs.BrokerRefineFail

namespace Mqtt.Proofs.BrokerRefine
open Mqtt.Iface.Broker Mqtt.Model.Broker
open Mqtt.Proofs.Topics (good)
open Mqtt.Spec.Match (topicMatches)
open Mqtt.Proofs.Broker (HeldInv RetInv)
open Mqtt.Proofs.BrokerQos (toOpen2 specReleaseAll)
open Mqtt.Spec.Broker (Accepts addHeld subCode wild pubOf modelGroup)

theorem reachX (es : List EvX) (hok : okRunX {} es = true) : R (runX {} es).1 (specRunX {} es).1 :=
  (BrokerX_refines_spec es hok).1

theorem reach_stepX (es : List EvX) (hok : okRunX {} es = true) (e : Ev) (he : okEv (runX {} es).1 e = true) :
    R (step (runX {} es).1 e).1 (Spec.Broker.step (specRunX {} es).1 e).1 ∧
    Accepts (Spec.Broker.step (specRunX {} es).1 e).2 (step (runX {} es).1 e).2 ∧
    Spec.Broker.step (specRunX {} es).1 e = Spec.Broker.step1 (specRunX {} es).1 e :=
  reach_step_of_R _ _ (reachX es hok) e he

theorem reach_stepXX (es : List EvX) (hok : okRunX {} es = true) (e : EvX) (he : okEvX (runX {} es).1 e = true) :
    R (stepX (runX {} es).1 e).1 (specStepX (specRunX {} es).1 e).1 ∧
    Accepts (specStepX (specRunX {} es).1 e).2 (stepX (runX {} es).1 e).2 :=
  stepX_refines _ _ e (reachX es hok) he

theorem publish01_refinesX (es : List EvX) (hok : okRunX {} es = true) (c : Nat) (p : Pub)
    (hl : (runX {} es).1.alive c = true) (hp : pubOk p = true) (hq : p.qos ≤ 1) :
    Accepts (Spec.Broker.step (specRunX {} es).1 (.packet c (.publish p))).2
      (step (runX {} es).1 (.packet c (.publish p))).2 ∧
    (step (runX {} es).1 (.packet c (.publish p))).2 =
      (if p.qos = 1 then [.send c (.puback p.pktid)] else []) ++ (onPublish (runX {} es).1 ⟨p, false⟩).2.2.1 ∧
    ∀ g,
      (((modelGroup g (onPublish (runX {} es).1 ⟨p, false⟩).2.2.1).filterMap pubOf).map wild).Perm
        (((specRunX {} es).1.held.filter (fun x => topicMatches x.filter p.topic && x.owner == g)).map
          (fun x => mkCopy p.topic p.payload (min p.qos x.qos))) ∧
      ((∀ x ∈ (specRunX {} es).1.held, x.owner = g → topicMatches x.filter p.topic = false) →
        modelGroup g (onPublish (runX {} es).1 ⟨p, false⟩).2.2.1 = []) :=
  publish01_refines_of_R _ _ (reachX es hok) c p hl hp hq

theorem qos2_acceptedX (es : List EvX) (hok : okRunX {} es = true) (c : Nat)
    (hl : (runX {} es).1.alive c = true) :
    (∀ p : Pub, pubOk p = true →
      Accepts (Spec.Broker.step (specRunX {} es).1 (.packet c (.publish p))).2
        (step (runX {} es).1 (.packet c (.publish p))).2) ∧
    (∀ id, Accepts (Spec.Broker.step (specRunX {} es).1 (.packet c (.pubrel id))).2
      (step (runX {} es).1 (.packet c (.pubrel id))).2) ∧
    ∃ σ k, liveSess (runX {} es).1 c = some σ ∧ Spec.Broker.getConn (specRunX {} es).1 c = some k ∧
      k.open2 = toOpen2 σ.pub2in ∧
      (∀ p : Pub, p.qos = 2 → (step (runX {} es).1 (.packet c (.publish p))).2 = [.send c (.pubrec p.pktid)] ∧
        (Spec.Broker.step (specRunX {} es).1 (.packet c (.publish p))).2 = [.send c (.pubrec p.pktid)]) ∧
      (∀ id, ∃ outs,
        (step (runX {} es).1 (.packet c (.pubrel id))).2 = outs ++ [.send c (.pubcomp id)] ∧
        (Spec.Broker.step (specRunX {} es).1 (.packet c (.pubrel id))).2 =
          (specReleaseAll (Spec.Broker.setConn (specRunX {} es).1
              { k with open2 := toOpen2 (q2Acked (q2Ack σ.pub2in id)).1 })
            ((q2Acked (q2Ack σ.pub2in id)).2.map (·.msg))).2 ++ [.send c (.pubcomp id)] ∧
        Fan (specReleaseAll (Spec.Broker.setConn (specRunX {} es).1
              { k with open2 := toOpen2 (q2Acked (q2Ack σ.pub2in id)).1 })
            ((q2Acked (q2Ack σ.pub2in id)).2.map (·.msg))).2 outs) :=
  qos2_accepted_of_R _ _ (reachX es hok) c hl

theorem subunsub_refinesX (es : List EvX) (hok : okRunX {} es = true) (c id : Nat)
    (hl : (runX {} es).1.alive c = true) :
    (∀ ts : List (Bytes × Nat), (∀ tq ∈ ts, good tq.1 = true) →
      Accepts (Spec.Broker.step (specRunX {} es).1 (.packet c (.subscribe id ts))).2
        (step (runX {} es).1 (.packet c (.subscribe id ts))).2 ∧
      (∃ rest, (step (runX {} es).1 (.packet c (.subscribe id ts))).2 =
        .send c (.suback id (ts.map (fun t => subCode t.1 t.2))) :: rest) ∧
      HeldInv (step (runX {} es).1 (.packet c (.subscribe id ts))).1.topics.sroot
        (Spec.Broker.step (specRunX {} es).1 (.packet c (.subscribe id ts))).1.held) ∧
    (∀ ts : List Bytes, (∀ t ∈ ts, good t = true) →
      Accepts (Spec.Broker.step (specRunX {} es).1 (.packet c (.unsubscribe id ts))).2
        (step (runX {} es).1 (.packet c (.unsubscribe id ts))).2 ∧
      (step (runX {} es).1 (.packet c (.unsubscribe id ts))).2 = [.send c (.unsuback id)] ∧
      HeldInv (step (runX {} es).1 (.packet c (.unsubscribe id ts))).1.topics.sroot
        (Spec.Broker.step (specRunX {} es).1 (.packet c (.unsubscribe id ts))).1.held) :=
  subunsub_refines_of_R _ _ (reachX es hok) c id hl

theorem retained_refinesX (es : List EvX) (hok : okRunX {} es = true) (c id : Nat)
    (hl : (runX {} es).1.alive c = true) (ts : List (Bytes × Nat)) (hg : ∀ tq ∈ ts, good tq.1 = true) :
    RetInv (runX {} es).1.topics.rroot (specRunX {} es).1.rets ∧
    Accepts (Spec.Broker.step (specRunX {} es).1 (.packet c (.subscribe id ts))).2
      (step (runX {} es).1 (.packet c (.subscribe id ts))).2 ∧
    ∃ rest, (step (runX {} es).1 (.packet c (.subscribe id ts))).2 =
        .send c (.suback id (ts.map (fun t => subCode t.1 t.2))) :: rest ∧
      ((rest.filterMap pubOf).map wild).Perm
        ((((ts.zip (ts.map (fun t => subCode t.1 t.2))).filter (fun p => p.2 != 0x80)).map
          (fun p => Spec.Broker.retainedFor (specRunX {} es).1 p.1.1 p.2)).flatten) ∧
      ∀ y ∈ rest, ∃ w, y = .send c (.publish w) ∧ w.retain = true :=
  retained_refines_of_R _ _ (reachX es hok) c id hl ts hg

theorem end_acceptedX (es : List EvX) (hok : okRunX {} es = true) (c : Nat)
    (hl : (runX {} es).1.alive c = true) :
    (step (runX {} es).1 (.packet c .disconnect)).2 = [.closed c] ∧
    Accepts (Spec.Broker.step (specRunX {} es).1 (.close c)).2 (step (runX {} es).1 (.close c)).2 ∧
    ∃ σ k, liveSess (runX {} es).1 c = some σ ∧ Spec.Broker.getConn (specRunX {} es).1 c = some k ∧
      σ.willFlag = k.will.isSome ∧ σ.will = k.will.map willMsg ∧
      (k.will = none → (step (runX {} es).1 (.close c)).2 = [.closed c]) ∧
      (∀ w, k.will = some w →
        (step (runX {} es).1 (.close c)).2 =
          .closed c :: (onPublish (Mqtt.Proofs.BrokerLife.stopBase (runX {} es).1 c σ) (willMsg w)).2.2.1 ∧
        (Spec.Broker.step (specRunX {} es).1 (.close c)).2 =
          .closed c :: (Spec.Broker.accept (endSpec (specRunX {} es).1 c k)
            { qos := w.qos, retain := w.retain, topic := w.topic, payload := w.payload }).2) :=
  end_accepted_of_R _ _ (reachX es hok) c hl

theorem connect_acceptedX (es : List EvX) (hok : okRunX {} es = true) (c : Nat) (req : Connect) (a : Bool)
    (he : okEv (runX {} es).1 (.first c (.connect req) a) = true)
    (hacc : Mqtt.Proofs.BrokerLife.accepts (.connect req) a = true) :
    Accepts (Spec.Broker.step (specRunX {} es).1 (.first c (.connect req) a)).2 (step (runX {} es).1 (.first c (.connect req) a)).2 ∧
    (step (runX {} es).1 (.first c (.connect req) a)).2 = (takeOver (runX {} es).1 (.connect req) a).2 ++
      [.send c (.connack (specPrior (Spec.Broker.takeOver (specRunX {} es).1 (.connect req) a).1 c req).isSome 0)] ∧
    HeldInv (step (runX {} es).1 (.first c (.connect req) a)).1.topics.sroot
      (((specPrior (Spec.Broker.takeOver (specRunX {} es).1 (.connect req) a).1 c req).getD ([], [])).1.foldl
        (fun h p => addHeld h c p.1 p.2) (Spec.Broker.takeOver (specRunX {} es).1 (.connect req) a).1.held) ∧
    ((takeOver (runX {} es).1 (.connect req) a = ((runX {} es).1, []) ∧ Spec.Broker.takeOver (specRunX {} es).1 (.connect req) a = ((specRunX {} es).1, [])) ∨
     ∃ c0 σ k, liveSess (runX {} es).1 c0 = some σ ∧ σ.cid = req.clientId ∧
       Spec.Broker.getConn (specRunX {} es).1 c0 = some k ∧ k.clean = σ.clean ∧
       takeOver (runX {} es).1 (.connect req) a = stop (runX {} es).1 c0 ∧
       Spec.Broker.takeOver (specRunX {} es).1 (.connect req) a = Spec.Broker.endConn (specRunX {} es).1 c0 false ∧
       (specPrior (Spec.Broker.takeOver (specRunX {} es).1 (.connect req) a).1 c req).isSome = (!req.clean && !k.clean)) :=
  connect_accepted_of_R (runX {} es).1 (specRunX {} es).1 (BrokerX_refines_spec es hok).1 c req a he hacc

theorem refusal_acceptedX (es : List EvX) (hok : okRunX {} es = true) (c : Nat) (f : First) (a : Bool)
    (he : okEv (runX {} es).1 (.first c f a) = true) (hacc : Mqtt.Proofs.BrokerLife.accepts f a = false) :
    Accepts (Spec.Broker.step (specRunX {} es).1 (.first c f a)).2 (step (runX {} es).1 (.first c f a)).2 ∧
    (step (runX {} es).1 (.first c f a)).1 = (runX {} es).1 ∧
    (Spec.Broker.step (specRunX {} es).1 (.first c f a)).1 = (specRunX {} es).1 ∧
    ∃ codes, (Spec.Broker.step (specRunX {} es).1 (.first c f a)).2 = [.refused c codes] ∧
      codes = reasons f a ∧
      (((step (runX {} es).1 (.first c f a)).2 = [.closed c] ∧ none ∈ codes) ∨
       ∃ k, k ≠ 0 ∧ some k ∈ codes ∧
         (step (runX {} es).1 (.first c f a)).2 = [.send c (.connack false k), .closed c]) :=
  refusal_accepted_of_R _ _ (reachX es hok) c f a he hacc

end Mqtt.Proofs.BrokerRefine
