/-
Core A (codec): `Encode`.  First the notions its statements need: `assign` (the message after `Encode` has given
it an identifier) and `WillOk` (with `Shape` of CodecDecode: when the fields of a message object denote a packet).
A message that is not dirty is written as its decode buffer
(`encode_clean`, `canonical`).  On the dirty path `encode_dirty_iff` characterises success (it does not tell `.err` from `.panic`;
an object without `Shape` can panic, e.g. a SUBSCRIBE with fewer QoS bytes than topics): `Encode` succeeds exactly
when the fields pass its checks and the buffer has `Len()` bytes, and then it has written the type/flags byte, the
shortest form of the remaining length and `bodyBytes` — of exactly that length (`bodyBytes_length`) and, for a message
with the shape of its type, the body of the MQTT 3.1.1 encoding of its fields (`bodyBytes_abs`).  The model's first
guard compares the buffer with header + remaining length, so behind it every writer is equivalent to its field checks
(`header_step`, `writeTopicsQos_iff`, `encodeConnectMessage_iff`).  `encode_wire_le`, `encode_len_all`, `encode_dirty_succeeds` read it off.
-/
import Mqtt.Proofs.CodecDecode
import Mqtt.Proofs.CodecAbs

namespace Mqtt.Proofs.Codec

open Mqtt.Model.Codec Mqtt.Iface.Codec Mqtt.Generated
open Mqtt.Spec

/-- the header after `if m.PacketID() == 0 { m.SetPacketID(nextPacketID()) }` -/
def withAutoId (h : Hdr) (ctr : UInt64) : Hdr × UInt64 :=
  if h.packetID = 0 then ((h.setPacketID (nextPacketID ctr).1), (nextPacketID ctr).2) else (h, ctr)

/-- the message after `Encode` has assigned an identifier where one is required and missing -/
def assign (m : Msg) (ctr : UInt64) : Msg :=
  match m with
  | .publish h t p => if pubQoS h ≠ 0 then .publish (withAutoId h ctr).1 t p else m
  | .subscribe h ts qs => .subscribe (withAutoId h ctr).1 ts qs
  | .unsubscribe h ts => .unsubscribe (withAutoId h ctr).1 ts
  | _ => m

/-- the flags of a CONNECT describe a packet: Will QoS / Will Retain only together with the Will flag -/
def WillOk : Msg → Prop
  | .connect _ c => c.willFlag = false → c.willQos = 0 ∧ c.willRetain = false
  | _ => True

/-- what `encodeConnectMessage` writes for protocol name `name` -/
def connectBytes (c : ConnectF) (name : Bytes) : Bytes :=
  Wire.str name ++ [c.version, c.connectFlags] ++ putU16 c.keepAlive ++ Wire.str c.clientID ++
    (if c.willFlag = true then Wire.str c.willTopic ++ Wire.str c.willMessage else []) ++
    (if c.usernameFlag = true then Wire.str c.username else []) ++
    (if c.passwordFlag = true then Wire.str c.password else [])

/-- the bytes `Encode` writes behind the fixed header -/
def bodyBytes : Msg → Bytes
  | .connect _ c => connectBytes c ((versionName c.version.toNat).getD [])
  | .connack _ sp rc => [if sp then 1 else 0, rc]
  | .publish h t p => Wire.str t ++ ((if pubQoS h ≠ 0 then h.pid else []) ++ p)
  | .ack h => pidOrZero h
  | .subscribe h ts qs => h.pid ++ encFilters (ts.zip qs)
  | .suback h cs => pidOrZero h ++ cs
  | .unsubscribe h ts => h.pid ++ encTopics ts
  | .bare _ => []

/-- the remaining length `Encode` writes: computed from the fields, except that DISCONNECT / PING write the stored one -/
def remlenOf : Msg → Nat
  | .bare h => h.remlen
  | m => m.msglen

/-- the counter after `Encode` -/
def assignCtr (m : Msg) (ctr : UInt64) : UInt64 :=
  match m with
  | .publish h _ _ => if pubQoS h ≠ 0 then (withAutoId h ctr).2 else ctr
  | .subscribe h _ _ | .unsubscribe h _ => (withAutoId h ctr).2
  | _ => ctr

/-- what `Encode` asks of the fields (every check that is not about room or the remaining length) -/
def FieldsOk : Msg → Prop
  | .connect h c => h.type = 1 ∧ ∃ name, versionName c.version.toNat = some name ∧ name.length ≤ 65535 ∧
      c.clientID.length ≤ 65535 ∧ (c.willFlag = true → c.willTopic.length ≤ 65535 ∧ c.willMessage.length ≤ 65535) ∧
      (c.usernameFlag = true → c.username.length ≤ 65535) ∧ (c.passwordFlag = true → c.password.length ≤ 65535)
  | .connack _ _ rc => rc.toNat ≤ 5
  | .publish _ t _ => t.length ≠ 0 ∧ t.length ≤ 65535
  | .subscribe _ ts qs => ts.length ≤ qs.length ∧ ∀ f ∈ ts.zip qs, f.1.length ≤ 65535
  | .suback _ cs => (cs.all fun c => c = 0 || c = 1 || c = 2 || c = 0x80) = true
  | .unsubscribe _ ts => ∀ t ∈ ts, t.length ≤ 65535
  | _ => True

/-- what a successful `Encode` of a dirty message returns -/
def encoded (m : Msg) (ctr : UInt64) : Encoded :=
  ⟨assign m ctr, assignCtr m ctr, m.hdr.tf :: (Wire.varint (remlenOf m) ++ bodyBytes (assign m ctr))⟩

/-- when it succeeds.  Room is ONE inequality: the model's first guard compares the buffer with header + remaining length,
and behind that guard no writer can run out of room -/
def EncodeOk (m : Msg) (n : Nat) : Prop :=
  FieldsOk m ∧ validType m.hdr.type = true ∧ remlenOf m ≤ 268435455 ∧ hdrLen (remlenOf m) + m.msglen ≤ n

theorem encode_clean (m : Msg) (ctr : UInt64) (hd : m.hdr.dirty = false) :
    m.len = m.hdr.dbuf.length ∧ encode m ctr m.len = .ok ⟨m, ctr, m.hdr.dbuf⟩ := by
  cases m <;> simp only [Msg.hdr] at hd <;>
    simp [Msg.len, Msg.hdr, encode, encodeClean, hd]

theorem encode_clean_of_ok {m : Msg} {ctr : UInt64} {e : Encoded} (hd : m.hdr.dirty = false)
    (he : encode m ctr m.len = .ok e) : e = ⟨m, ctr, m.hdr.dbuf⟩ := by
  rw [(encode_clean m ctr hd).2] at he; exact (Outcome.ok.inj he).symm

/-- re-encoding a freshly decoded message reproduces exactly the bytes of the packet, and `Len() = n` -/
theorem canonical (t : Nat) (src : Bytes) (d : Decoded) (ctr : UInt64) (h : decodeNew t src = .ok d) :
    d.msg.len = d.n ∧ encode d.msg ctr d.msg.len = .ok ⟨d.msg, ctr, src.take d.n⟩ := by
  have ok := (decodeNew_total t src).of_ok h
  obtain ⟨h1, h2⟩ := encode_clean d.msg ctr ok.clean
  rw [ok.dbuf] at h1 h2
  have : (src.take d.n).length = d.n := by rw [List.length_take]; have := ok.n_le; omega
  rw [this] at h1
  exact ⟨h1, h2⟩

theorem pidOrZero_eq (h : Hdr) : pidOrZero h = Wire.u16 (u16of h.pid) := by
  unfold pidOrZero
  rcases h.pid with _ | ⟨a, _ | ⟨b, _ | ⟨c, r⟩⟩⟩
  · rfl
  · rw [if_neg (by simp)]; show _ = Wire.u16 0; rfl
  · exact (u16_u16of a b).symm
  · rw [if_neg (by simp)]; show _ = Wire.u16 0; rfl

theorem pidOrZero_length (h : Hdr) : (pidOrZero h).length = 2 := by
  rw [pidOrZero_eq]; rfl

theorem pid_two (h : Hdr) (hl : h.pid.length = 2) : h.pid = Wire.u16 (u16of h.pid) := by
  have := pidOrZero_eq h
  unfold pidOrZero at this
  rw [if_pos hl] at this
  exact this

theorem putU16_eq (v : Nat) (hv : v < 65536) : putU16 v = Wire.u16 (UInt16.ofNat v) := by
  unfold putU16 Wire.u16
  have : (UInt16.ofNat v).toNat = v := by simp; omega
  rw [this]

theorem packetID_ne_zero_len (h : Hdr) (hp : h.packetID ≠ 0) : h.pid.length = 2 := by
  unfold Hdr.packetID at hp
  split at hp
  · rename_i a b hpid; rw [hpid]; rfl
  · exact absurd rfl hp

theorem nextPacketID_bounds (ctr : UInt64) : (nextPacketID ctr).1 ≠ 0 ∧ (nextPacketID ctr).1 < 65536 := by
  constructor
  · unfold nextPacketID
    simp only []
    split
    · assumption
    · rename_i h
      have h1 := (ctr + 1).toNat_lt
      have h2 : (1 : UInt64).toNat = 1 := rfl
      rw [UInt64.toNat_add (ctr+1) 1, h2]
      generalize (ctr + 1).toNat = x at *
      omega
  · unfold nextPacketID
    simp only []
    split <;> omega

theorem setPacketID_keeps (h : Hdr) (v : Nat) :
    (h.setPacketID v).tf = h.tf ∧ (h.setPacketID v).remlen = h.remlen ∧
    (h.dirty = true → (h.setPacketID v).dirty = true) := by
  unfold Hdr.setPacketID
  split
  · exact ⟨rfl, rfl, id⟩
  · split
    · exact ⟨rfl, rfl, fun _ => rfl⟩
    · split <;> exact ⟨rfl, rfl, id⟩

theorem setPacketID_pid (h : Hdr) {v : Nat} (hv : v ≠ 0) : (h.setPacketID v).pid = putU16 v := by
  unfold Hdr.setPacketID
  rw [if_neg hv]
  split
  · rfl
  · split <;> rfl

theorem withAutoId_keeps (h : Hdr) (ctr : UInt64) :
    (withAutoId h ctr).1.tf = h.tf ∧ (withAutoId h ctr).1.remlen = h.remlen := by
  unfold withAutoId
  split
  · exact ⟨(setPacketID_keeps h _).1, (setPacketID_keeps h _).2.1⟩
  · exact ⟨rfl, rfl⟩

/-- behind `Encode`'s assignment the identifier slice holds exactly two bytes -/
theorem withAutoId_pid (h : Hdr) (ctr : UInt64) : (withAutoId h ctr).1.pid = Wire.u16 (u16of (withAutoId h ctr).1.pid) := by
  unfold withAutoId
  by_cases h0 : h.packetID = 0
  · obtain ⟨hn0, hlt⟩ := nextPacketID_bounds ctr
    rw [if_pos h0]
    show (h.setPacketID _).pid = Wire.u16 (u16of (h.setPacketID _).pid)
    rw [setPacketID_pid h hn0, putU16_eq _ hlt, u16of_u16]
  · rw [if_neg h0]
    exact pid_two h (packetID_ne_zero_len h h0)

theorem withAutoId_length (h : Hdr) (ctr : UInt64) : (withAutoId h ctr).1.pid.length = 2 := by
  rw [withAutoId_pid h ctr]; rfl

theorem withAutoId_pubQoS (h : Hdr) (ctr : UInt64) : pubQoS (withAutoId h ctr).1 = pubQoS h := by
  unfold pubQoS Hdr.flags; rw [(withAutoId_keeps h ctr).1]

theorem withAutoId_ne_zero (h : Hdr) (ctr : UInt64) (hp : h.packetID = 0) : u16of (withAutoId h ctr).1.pid ≠ 0 := by
  obtain ⟨hn0, hlt⟩ := nextPacketID_bounds ctr
  unfold withAutoId
  rw [if_pos hp]
  show u16of (h.setPacketID _).pid ≠ 0
  rw [setPacketID_pid h hn0, putU16_eq _ hlt, u16of_u16]
  intro e
  have := congrArg UInt16.toNat e
  simp at this
  omega

/-- `Shape` looks at the type/flags byte and the remaining length of the header only -/
theorem shape_setHdr (m : Msg) (h' : Hdr) (htf : h'.tf = m.hdr.tf) (hr : h'.remlen = m.hdr.remlen) (hs : Shape m) :
    Shape (m.setHdr h') := by
  cases m <;> simp only [Msg.setHdr, Msg.hdr, Shape, Hdr.type, Hdr.flags] at htf hr hs ⊢ <;> rw [htf] <;> try rw [hr]
  all_goals exact hs

theorem assign_cases (m : Msg) (ctr : UInt64) :
    assign m ctr = m ∨ assign m ctr = m.setHdr (withAutoId m.hdr ctr).1 := by
  cases m with
  | publish h t p =>
    by_cases hq : pubQoS h ≠ 0
    · exact .inr (if_pos hq)
    · exact .inl (if_neg hq)
  | subscribe h ts qs => exact .inr rfl
  | unsubscribe h ts => exact .inr rfl
  | _ => exact .inl rfl

theorem assign_keeps (m : Msg) (ctr : UInt64) :
    (assign m ctr).hdr.tf = m.hdr.tf ∧ (Shape m → Shape (assign m ctr)) ∧ (WillOk m → WillOk (assign m ctr)) := by
  obtain ⟨h2, h3⟩ := withAutoId_keeps m.hdr ctr
  rcases assign_cases m ctr with e | e <;> rw [e]
  · exact ⟨rfl, id, id⟩
  · refine ⟨by cases m <;> exact h2, shape_setHdr m _ h2 h3, ?_⟩
    cases m <;> exact id

theorem tf_eq (h : Hdr) : UInt8.ofNat (h.type * 16 + h.flags) = h.tf := by
  unfold Hdr.type Hdr.flags
  have : h.tf.toNat / 16 * 16 + h.tf.toNat % 16 = h.tf.toNat := by omega
  rw [this]; simp

theorem b2n_decide_mod (x : Nat) : Wire.b2n (decide (x % 2 = 1)) = x % 2 := by
  unfold Wire.b2n
  by_cases h : x % 2 = 1
  · simp [h]
  · simp [h]; omega

theorem pub_flags (h : Hdr) : Wire.b2n (pubDup h) * 8 + pubQoS h * 2 + Wire.b2n (pubRetain h) = h.flags := by
  have hfl : h.flags < 16 := Nat.mod_lt _ (by decide)
  unfold pubDup pubQoS pubRetain
  rw [b2n_decide_mod, b2n_decide_mod]
  omega

theorem u8_pubQoS (h : Hdr) : (UInt8.ofNat (pubQoS h)).toNat = pubQoS h :=
  u8_ofNat_toNat (Nat.lt_trans (Nat.mod_lt _ (by decide)) (by decide))

theorem u8_pubQoS_zero (h : Hdr) : (UInt8.ofNat (pubQoS h) = 0) ↔ pubQoS h = 0 := by
  constructor
  · intro e
    have := congrArg UInt8.toNat e
    rw [u8_pubQoS] at this
    exact this
  · intro e; rw [e]; rfl

theorem head_tf (m : Msg) (hs : Shape m) :
    UInt8.ofNat ((absMsg m).type * 16 + (absMsg m).flags) = m.hdr.tf := by
  cases m with
  | publish h t p =>
    show UInt8.ofNat (3 * 16 + (Wire.b2n (pubDup h) * 8 + (UInt8.ofNat (pubQoS h)).toNat * 2 + Wire.b2n (pubRetain h))) = h.tf
    have ht : h.type = 3 := hs
    rw [u8_pubQoS, pub_flags, ← ht, tf_eq]
  | ack h =>
    obtain ⟨ht, hf⟩ := hs
    simp only [Msg.hdr]
    rw [← tf_eq h, hf]
    rcases ht with ht | ht | ht | ht | ht <;> rw [ht] <;>
      simp [absMsg, ht, Wire.Packet.type, Wire.Packet.flags, defaultFlagsOf, defaultFlags]
  | subscribe h ts qs =>
    show UInt8.ofNat (8 * 16 + 2) = h.tf
    rw [← tf_eq h, hs.1, hs.2.1]
  | suback h cs =>
    show UInt8.ofNat (9 * 16 + 0) = h.tf
    rw [← tf_eq h, hs.1, hs.2]
  | unsubscribe h ts =>
    show UInt8.ofNat (10 * 16 + 2) = h.tf
    rw [← tf_eq h, hs.1, hs.2]
  | connect h c =>
    show UInt8.ofNat (1 * 16 + 0) = h.tf
    rw [← tf_eq h, hs.1, hs.2.1]
  | connack h a b =>
    show UInt8.ofNat (2 * 16 + 0) = h.tf
    rw [← tf_eq h, hs.1, hs.2]
  | bare h =>
    obtain ⟨ht, hf, _⟩ := hs
    simp only [Msg.hdr]
    rw [← tf_eq h, hf]
    rcases ht with ht | ht | ht <;> rw [ht] <;>
      simp [absMsg, ht, Wire.Packet.type, Wire.Packet.flags]

theorem body_publish (h : Hdr) (t p : Bytes) :
    (absMsg (.publish h t p)).body =
      Wire.str t ++ ((if pubQoS h = 0 then [] else Wire.u16 (u16of h.pid)) ++ p) := by
  simp only [absMsg, Wire.Packet.body]
  by_cases hq : pubQoS h = 0
  · have : UInt8.ofNat (pubQoS h) = 0 := (u8_pubQoS_zero h).mpr hq
    simp only [hq, if_true]
    simp
  · have : ¬ UInt8.ofNat (pubQoS h) = 0 := fun e => hq ((u8_pubQoS_zero h).mp e)
    simp only [hq, this, if_false]
    simp

theorem body_ack (h : Hdr) : (absMsg (.ack h)).body = Wire.u16 (u16of h.pid) := by
  simp only [absMsg]
  repeat' split
  all_goals rfl

theorem hdrLen_varint (ml : Nat) : 1 + (Wire.varint ml).length = hdrLen ml := by
  unfold hdrLen Wire.varint msglenT1 msglenT2 msglenT3
  by_cases h1 : ml < 128
  · rw [if_pos h1, if_pos (show ml ≤ 127 by omega)]; rfl
  rw [if_neg h1, if_neg (show ¬ ml ≤ 127 by omega)]
  by_cases h2 : ml < 16384
  · rw [if_pos h2, if_pos (show ml ≤ 16383 by omega)]; rfl
  rw [if_neg h2, if_neg (show ¬ ml ≤ 16383 by omega)]
  by_cases h3 : ml < 2097152
  · rw [if_pos h3, if_pos (show ml ≤ 2097151 by omega)]; rfl
  rw [if_neg h3, if_neg (show ¬ ml ≤ 2097151 by omega)]; rfl

theorem two_le_hdrLen (n : Nat) : 2 ≤ hdrLen n := by
  unfold hdrLen
  split
  · omega
  · split
    · omega
    · split <;> omega

/-- `header.encode` in closed form: the length check at the top covers the `PutUvarint` call, so nothing is a panic -/
theorem hdr_encode_eq (h : Hdr) (ml avail : Nat) :
    h.encode ml avail =
      if hdrLen ml ≤ avail ∧ ml ≤ maxRemainingLength ∧ validType h.type = true then .ok (h.tf :: putUvarint ml)
      else .err := by
  unfold Hdr.encode
  by_cases c1 : avail < hdrLen ml
  · rw [if_pos c1, if_neg fun c => absurd c.1 (by omega)]
  by_cases c2 : ml > maxRemainingLength
  · rw [if_neg c1, if_pos c2, if_neg fun c => absurd c.2.1 (by omega)]
  cases hv : validType h.type
  · rw [if_neg c1, if_neg c2, if_pos (show (!false) = true from rfl), if_neg fun c => Bool.noConfusion c.2.2]
  · have := hdrLen_varint ml
    rw [← putUvarint_eq_varint ml (by unfold maxRemainingLength at c2; omega)] at this
    rw [if_neg c1, if_neg c2, if_neg (show ¬ (!true) = true by decide),
      if_pos (show hdrLen ml ≤ avail ∧ ml ≤ maxRemainingLength ∧ true = true from ⟨by omega, by omega, rfl⟩)]
    exact if_neg (by omega)

/-- the panic case of `Hdr.encode` does not occur (hence the translated `encode` never panics either) -/
theorem hdr_encode_ne_panic (mh : Hdr) (remlen avail : Nat) : Hdr.encode mh remlen avail ≠ .panic := by
  rw [hdr_encode_eq]; split <;> exact fun x => nomatch x

theorem hdr_encode_iff {h : Hdr} {ml avail : Nat} {hb : Bytes} :
    h.encode ml avail = .ok hb ↔
      (validType h.type = true ∧ ml ≤ 268435455 ∧ hdrLen ml ≤ avail) ∧ hb = h.tf :: Wire.varint ml := by
  rw [hdr_encode_eq, facts_maxRemainingLength]
  split
  · rename_i c
    rw [putUvarint_eq_varint ml (by omega)]
    exact ⟨fun h => ⟨⟨c.2.2, c.2.1, c.1⟩, (Outcome.ok.inj h).symm⟩, fun h => h.2 ▸ rfl⟩
  · rename_i c
    exact ⟨nofun, fun h => absurd ⟨h.1.2.2, h.1.2.1, h.1.1⟩ c⟩

/-- the guard `remlen > maxRemainingLength` of `Len` and `Encode`, against the bound as the specification writes it -/
theorem not_gt_max {n : Nat} (h : n ≤ 268435455) : ¬ n > maxRemainingLength := by
  rw [facts_maxRemainingLength]; omega

/-- the two guards and the header write that follow each other in `Encode` of every struct type except DISCONNECT
(no guards) and PUBLISH (guards in the other order) -/
theorem header_step (h : Hdr) (ml n : Nat) (f : Bytes → Outcome Encoded) (e : Encoded) :
    (if n < hdrLen ml + ml then Outcome.err else if ml > maxRemainingLength then .err else (h.encode ml n).bind f) = .ok e ↔
      (validType h.type = true ∧ ml ≤ 268435455 ∧ hdrLen ml + ml ≤ n) ∧ f (h.tf :: Wire.varint ml) = .ok e := by
  simp only [ite_err_eq_ok, bind_eq_ok, hdr_encode_iff]
  constructor
  · rintro ⟨_, _, _, ⟨⟨hv, hml, _⟩, rfl⟩, hf⟩; exact ⟨⟨hv, hml, by omega⟩, hf⟩
  · rintro ⟨⟨hv, hml, _⟩, hf⟩; exact ⟨by omega, not_gt_max hml, _, ⟨⟨hv, hml, by omega⟩, rfl⟩, hf⟩

theorem ite_err_swap {α : Type} {a b : Prop} [Decidable a] [Decidable b] (o : Outcome α) :
    (if a then .err else if b then .err else o) = (if b then .err else if a then .err else o) := by
  by_cases a <;> by_cases b <;> simp [*]

theorem header_length_sub (h : Hdr) (ml n : Nat) : n - (h.tf :: Wire.varint ml).length = n - hdrLen ml := by
  rw [List.length_cons, ← hdrLen_varint ml, Nat.add_comm]

theorem room_behind_hdr {ml n : Nat} (h : hdrLen ml + ml ≤ n) : ml ≤ n - hdrLen ml := by omega

theorem room_behind_id {S n : Nat} (h : hdrLen (2 + S) + (2 + S) ≤ n) : S ≤ n - hdrLen (2 + S) - 2 := by omega

/-- `writeLPBytes` writes `Wire.str` (the two length bytes are `putU16` of the length by definition), when the string
and the buffer allow it -/
theorem writeLP_iff {avail : Nat} {b out : Bytes} :
    writeLPBytes avail b = .ok out ↔ b.length ≤ 65535 ∧ 2 + b.length ≤ avail ∧ out = Wire.str b := by
  unfold writeLPBytes maxLPString
  by_cases h1 : b.length > 65535
  · rw [if_pos h1]; exact ⟨(fun h => nomatch h), fun h => absurd h.1 (by omega)⟩
  by_cases h2 : avail < 2 + b.length
  · rw [if_neg h1, if_pos h2]; exact ⟨(fun h => nomatch h), fun h => absurd h.2.1 (by omega)⟩
  rw [if_neg h1, if_neg h2]
  exact ⟨fun h => ⟨by omega, by omega, (Outcome.ok.inj h).symm⟩, fun h => h.2.2 ▸ rfl⟩

theorem writeTopics_iff : ∀ (ts : List Bytes) (avail : Nat) (body : Bytes),
    writeTopics avail ts = .ok body ↔
      (∀ t ∈ ts, t.length ≤ 65535) ∧ (ts.map (fun t => 2 + t.length)).sum ≤ avail ∧ body = encTopics ts := by
  intro ts
  induction ts with
  | nil => intro avail body; simp [writeTopics, encTopics, eq_comm]
  | cons t ts ih =>
    intro avail body
    rw [writeTopics]
    simp only [bind_eq_ok, writeLP_iff, ih, encTopics_cons, List.map_cons, List.sum_cons, List.mem_cons,
      forall_eq_or_imp, Outcome.ok.injEq]
    constructor
    · rintro ⟨a, ⟨h1, h2, rfl⟩, r, ⟨h3, h4, rfl⟩, rfl⟩
      rw [str_length] at h4
      exact ⟨⟨h1, h3⟩, by omega, rfl⟩
    · rintro ⟨⟨h1, h2⟩, h3, rfl⟩
      exact ⟨_, ⟨h1, by omega, rfl⟩, _, ⟨h2, by rw [str_length]; omega, rfl⟩, rfl⟩

theorem encTopics_length : ∀ (ts : List Bytes), (encTopics ts).length = (ts.map (fun t => 2 + t.length)).sum := by
  intro ts
  induction ts with
  | nil => simp [encTopics]
  | cons t ts ih =>
    simp only [encTopics_cons, List.map_cons, List.sum_cons, List.length_append, str_length]
    rw [ih]

/-- `writeTopicsQos` does not ask for room for the QoS byte, so it is characterised where there is room (behind the model's
first guard there is) -/
theorem writeTopicsQos_iff : ∀ (ts : List Bytes) (qs : List UInt8) (avail : Nat) (body : Bytes),
    (ts.map (fun t => 2 + t.length + 1)).sum ≤ avail →
    (writeTopicsQos avail ts qs = .ok body ↔
      ts.length ≤ qs.length ∧ (∀ f ∈ ts.zip qs, f.1.length ≤ 65535) ∧ body = encFilters (ts.zip qs)) := by
  intro ts
  induction ts with
  | nil => intro qs avail body _; simp [writeTopicsQos, encFilters, eq_comm]
  | cons t ts ih =>
    intro qs avail body ha
    simp only [List.map_cons, List.sum_cons] at ha
    cases qs with
    | nil => simp [writeTopicsQos, bind_eq_ok]
    | cons q qs =>
      have ih := fun r => ih qs (avail - (Wire.str t).length - 1) r (by rw [str_length]; omega)
      rw [writeTopicsQos]
      simp only [bind_eq_ok, writeLP_iff, List.zip_cons_cons, encFilters_cons, List.forall_mem_cons, List.length_cons,
        Nat.add_le_add_iff_right, Outcome.ok.injEq]
      constructor
      · rintro ⟨_, ⟨h1, _, rfl⟩, r, hr, rfl⟩
        obtain ⟨h2, h3, rfl⟩ := (ih r).mp hr
        exact ⟨h2, ⟨h1, h3⟩, by simp⟩
      · rintro ⟨h2, ⟨h1, h3⟩, rfl⟩
        exact ⟨_, ⟨h1, by omega, rfl⟩, _, (ih _).mpr ⟨h2, h3, rfl⟩, by simp⟩

theorem encFilters_zip_length : ∀ (ts : List Bytes) (qs : List UInt8), ts.length ≤ qs.length →
    (encFilters (ts.zip qs)).length = (ts.map (fun t => 2 + t.length + 1)).sum := by
  intro ts
  induction ts with
  | nil => intro qs _; simp [encFilters]
  | cons t ts ih =>
    intro qs hl
    cases qs with
    | nil => simp at hl
    | cons q qs =>
      simp only [List.zip_cons_cons, encFilters_cons, List.map_cons, List.sum_cons, List.length_append,
        List.length_cons, str_length]
      rw [ih qs (by simpa using hl)]
      omega

theorem optPart_iff (flag : Bool) (av : Nat) (x out r : Bytes) :
    (if flag = true then (writeLPBytes av x).bind (fun a => Outcome.ok (out ++ a)) else Outcome.ok out) = .ok r ↔
      (flag = true → x.length ≤ 65535 ∧ 2 + x.length ≤ av) ∧ r = out ++ (if flag = true then Wire.str x else []) := by
  cases flag
  · simp [eq_comm]
  · simp only [if_true, bind_eq_ok, writeLP_iff, Outcome.ok.injEq, forall_const]
    exact ⟨fun ⟨_, ⟨h1, h2, rfl⟩, h⟩ => ⟨⟨h1, h2⟩, h.symm⟩, fun ⟨⟨h1, h2⟩, h⟩ => ⟨_, ⟨h1, h2, rfl⟩, h.symm⟩⟩

theorem willPart_iff (flag : Bool) (av1 : Nat) (av2 : Bytes → Nat) (x y out r : Bytes) :
    (if flag = true then (writeLPBytes av1 x).bind (fun a => (writeLPBytes (av2 a) y).bind fun b => Outcome.ok (out ++ a ++ b))
      else Outcome.ok out) = .ok r ↔
      (flag = true → (x.length ≤ 65535 ∧ 2 + x.length ≤ av1) ∧ y.length ≤ 65535 ∧ 2 + y.length ≤ av2 (Wire.str x)) ∧
        r = out ++ (if flag = true then Wire.str x ++ Wire.str y else []) := by
  cases flag
  · simp [eq_comm]
  · simp only [if_true, bind_eq_ok, writeLP_iff, Outcome.ok.injEq, forall_const, List.append_assoc]
    exact ⟨fun ⟨_, ⟨h1, h2, rfl⟩, _, ⟨h3, h4, rfl⟩, h⟩ => ⟨⟨⟨h1, h2⟩, h3, h4⟩, h.symm⟩,
      fun ⟨⟨⟨h1, h2⟩, h3, h4⟩, h⟩ => ⟨_, ⟨h1, h2, rfl⟩, _, ⟨h3, h4, rfl⟩, h.symm⟩⟩

theorem versionName_protoName (v : UInt8) (n : Bytes) (h : versionName v.toNat = some n) : n = Wire.protoName v := by
  unfold versionName supportedVersions at h
  simp only [List.lookup] at h
  have hv := v.toNat_lt
  by_cases h3 : v.toNat = 3
  · have : v = 3 := UInt8.toNat_inj.mp h3
    subst this
    simp at h; rw [← h]; rfl
  · by_cases h4 : v.toNat = 4
    · have : v = 4 := UInt8.toNat_inj.mp h4
      subst this
      simp at h; rw [← h]; rfl
    · have e3 : (v.toNat == 3) = false := by simp [h3]
      have e4 : (v.toNat == 4) = false := by simp [h4]
      simp [e3, e4] at h

theorem isSome_ite {α : Type} (b : Bool) (x : α) : (if b = true then some x else none).isSome = b := by
  cases b <;> rfl

/-- a byte is the sum of the fields of the CONNECT flags byte (section 3.1.2.3) -/
theorem connectFlags_fields : ∀ b : UInt8, b.toNat = b.toNat / 128 % 2 * 128 + b.toNat / 64 % 2 * 64 +
    b.toNat / 32 % 2 * 32 + b.toNat / 8 % 4 * 8 + b.toNat / 4 % 2 * 4 + b.toNat / 2 % 2 * 2 + b.toNat % 2 := by
  apply forall_u8; decide +kernel

theorem decide_mod_two (x : Nat) : decide (x % 2 = 1) = false ↔ x % 2 = 0 := by
  rw [decide_eq_false_iff_not]; omega

/-- the flags byte of the record is the flags byte of the field block: each field of the byte is read back by
its accessor (`connectFlags_fields`), bit 0 is clear, and without the Will flag the Will fields are zero -/
theorem abs_flags (c : ConnectF) (h0 : c.connectFlags.toNat % 2 = 0)
    (hw : c.willFlag = false → c.willQos = 0 ∧ c.willRetain = false) :
    (absConnect c).flags = c.connectFlags.toNat := by
  have hb := connectFlags_fields c.connectFlags
  have hq : (UInt8.ofNat (c.connectFlags.toNat / 8 % 4)).toNat = c.connectFlags.toNat / 8 % 4 :=
    u8_ofNat_toNat (Nat.lt_trans (Nat.mod_lt _ (by decide)) (by decide))
  unfold Wire.Connect.flags absConnect
  simp only [isSome_ite]
  unfold ConnectF.usernameFlag ConnectF.passwordFlag ConnectF.cleanSession
  rw [b2n_decide_mod, b2n_decide_mod, b2n_decide_mod]
  rw [h0] at hb
  cases hf : c.willFlag with
  | false =>
    obtain ⟨h1, h2⟩ := hw hf
    rw [ConnectF.willQos] at h1
    rw [ConnectF.willRetain, decide_mod_two] at h2
    rw [ConnectF.willFlag, decide_mod_two] at hf
    rw [h1, h2, hf] at hb
    simp only [Bool.false_eq_true, if_false]
    generalize c.connectFlags.toNat / 128 % 2 = a7, c.connectFlags.toNat / 64 % 2 = a6,
      c.connectFlags.toNat / 2 % 2 = a1 at hb ⊢
    omega
  | true =>
    rw [ConnectF.willFlag, decide_eq_true_eq] at hf
    simp only [if_true]
    rw [ConnectF.willRetain, ConnectF.willQos, b2n_decide_mod, hq]
    rw [hf] at hb
    generalize c.connectFlags.toNat / 128 % 2 = a7, c.connectFlags.toNat / 64 % 2 = a6, c.connectFlags.toNat / 32 % 2 = a5,
      c.connectFlags.toNat / 8 % 4 = a3, c.connectFlags.toNat / 2 % 2 = a1 at hb ⊢
    omega

theorem connectBytes_length (c : ConnectF) (name : Bytes) (hv : versionName c.version.toNat = some name) :
    (connectBytes c name).length = connectMsglen c := by
  unfold connectMsglen connectBytes
  rw [hv]
  simp only [List.length_append, apply_ite List.length, str_length, List.length_nil, List.length_cons, putU16,
    ← Nat.add_assoc]

theorem optStr_ite_length (b : Bool) (x : Bytes) :
    (Wire.optStr (if b = true then some x else none)).length = if b = true then 2 + x.length else 0 := by
  cases b
  · rfl
  · exact str_length x

/-- needs no `WillOk`: the flags byte is one byte whatever it holds -/
theorem abs_body_length (c : ConnectF) (name : Bytes) (hv : versionName c.version.toNat = some name) :
    (Wire.Packet.connect (absConnect c)).body.length = connectMsglen c := by
  have hw : (willBytes (absConnect c).will).length =
      if c.willFlag = true then 2 + c.willTopic.length + 2 + c.willMessage.length else 0 := by
    unfold absConnect
    cases c.willFlag
    · rfl
    · show (Wire.str c.willTopic ++ Wire.str c.willMessage).length = _
      rw [List.length_append, str_length, str_length, if_pos rfl]; omega
  have hu : (Wire.optStr (absConnect c).username).length = _ := optStr_ite_length c.usernameFlag c.username
  have hp : (Wire.optStr (absConnect c).password).length = _ := optStr_ite_length c.passwordFlag c.password
  have hk : (Wire.u16 (absConnect c).keepAlive).length = 2 := rfl
  have hc : (absConnect c).clientId = c.clientID := rfl
  unfold connectMsglen
  rw [hv, connect_body_eq, show (absConnect c).level = c.version from rfl, ← versionName_protoName c.version name hv]
  simp only [List.length_append, List.length_cons, List.length_nil, str_length, hw, hu, hp, hk, hc]
  omega

theorem connectBytes_wire (c : ConnectF) (name : Bytes) (hv : versionName c.version.toNat = some name)
    (h0 : c.connectFlags.toNat % 2 = 0) (hw : c.willFlag = false → c.willQos = 0 ∧ c.willRetain = false)
    (hka : c.keepAlive < 65536) :
    connectBytes c name = (Wire.Packet.connect (absConnect c)).body := by
  have hcf : UInt8.ofNat (absConnect c).flags = c.connectFlags := by rw [abs_flags c h0 hw]; simp
  have hkaw : Wire.u16 (absConnect c).keepAlive = putU16 c.keepAlive := (putU16_eq _ hka).symm
  show _ = Wire.str (Wire.protoName (absConnect c).level) ++ [(absConnect c).level, UInt8.ofNat (absConnect c).flags] ++
      Wire.u16 (absConnect c).keepAlive ++ Wire.str (absConnect c).clientId ++
      (match (absConnect c).will with
       | some w => Wire.str w.topic ++ Wire.str w.message
       | none => []) ++
      Wire.optStr (absConnect c).username ++ Wire.optStr (absConnect c).password
  rw [hcf, hkaw, show (absConnect c).level = c.version from rfl, ← versionName_protoName c.version name hv]
  unfold connectBytes absConnect
  cases c.willFlag <;> cases c.usernameFlag <;> cases c.passwordFlag <;> rfl

/-- where there is room for `connectMsglen c` bytes -/
theorem encodeConnectMessage_iff (c : ConnectF) (name : Bytes) (avail : Nat) (body : Bytes)
    (hv : versionName c.version.toNat = some name) (hr : connectMsglen c ≤ avail) :
    encodeConnectMessage c avail = .ok body ↔
      (name.length ≤ 65535 ∧ c.clientID.length ≤ 65535 ∧
        (c.willFlag = true → c.willTopic.length ≤ 65535 ∧ c.willMessage.length ≤ 65535) ∧
        (c.usernameFlag = true → c.username.length ≤ 65535) ∧ (c.passwordFlag = true → c.password.length ≤ 65535)) ∧
      body = connectBytes c name := by
  unfold encodeConnectMessage connectBytes
  simp only [connectMsglen, hv] at hr
  rw [hv]
  simp only [Option.getD_some, bind_eq_ok, writeLP_iff, optPart_iff, willPart_iff]
  constructor
  · rintro ⟨_, ⟨h1, _, rfl⟩, _, ⟨h2, _, rfl⟩, _, ⟨hw, rfl⟩, _, ⟨hu, rfl⟩, hp, rfl⟩
    exact ⟨⟨h1, h2, fun f => ⟨(hw f).1.1, (hw f).2.1⟩, fun f => (hu f).1, fun f => (hp f).1⟩, rfl⟩
  · rintro ⟨⟨h1, h2, hw, hu, hp⟩, rfl⟩
    refine ⟨_, ⟨h1, ?_, rfl⟩, _, ⟨h2, ?_, rfl⟩, _, ⟨fun f => ⟨⟨(hw f).1, ?_⟩, (hw f).2, ?_⟩, rfl⟩, _,
      ⟨fun f => ⟨hu f, ?_⟩, rfl⟩, fun f => ⟨hp f, ?_⟩, rfl⟩
    -- room for each of the six strings: the lengths written so far, against `connectMsglen c ≤ avail`
    · omega
    · simp only [List.length_append, str_length, List.length_cons, List.length_nil, putU16]; omega
    · simp only [List.length_append, str_length, List.length_cons, List.length_nil, putU16]; rw [if_pos f] at hr; omega
    · simp only [List.length_append, str_length, List.length_cons, List.length_nil, putU16]; rw [if_pos f] at hr; omega
    · simp only [List.length_append, apply_ite List.length, str_length, List.length_cons, List.length_nil, putU16,
        ← Nat.add_assoc]
      rw [if_pos f] at hr; omega
    · simp only [List.length_append, apply_ite List.length, str_length, List.length_cons, List.length_nil, putU16,
        ← Nat.add_assoc]
      rw [if_pos f] at hr; omega

theorem shape_validType (m : Msg) (hs : Shape m) : validType m.hdr.type = true := by
  cases m <;> simp only [Shape, Msg.hdr] at hs ⊢
  all_goals exact (facts_validType _).mpr (by omega)

/-- `Encode` of a dirty message in closed form, one walk per struct type: `header_step`, then the writer of the type where
there is room.  For `n ≠ m.len` this speaks of the model only: the Go code takes the header length of that guard
from the `remlen` stored before, which need not be the one of the present fields unless `Len()` was called first -/
theorem encode_dirty_iff (m : Msg) (ctr : UInt64) (n : Nat) (e : Encoded) (hd : m.hdr.dirty = true) :
    encode m ctr n = .ok e ↔ EncodeOk m n ∧ e = encoded m ctr := by
  cases m with
  | connect h c =>
    have hd : h.dirty = true := hd
    unfold encode encoded EncodeOk
    simp only [hd, Bool.not_true, Bool.false_eq_true, if_false]
    rw [ite_err_eq_ok, ite_err_eq_ok, header_step]
    simp only [bind_eq_ok, header_length_sub, Outcome.ok.injEq, assign, assignCtr, bodyBytes, remlenOf, FieldsOk, Msg.hdr,
      tCONNECT, Decidable.not_not]
    constructor
    · rintro ⟨ht, hvn, hH, _, hm, rfl⟩
      obtain ⟨name, hv⟩ : ∃ name, versionName c.version.toNat = some name := by
        cases hvv : versionName c.version.toNat with
        | none => rw [hvv] at hvn; exact absurd rfl hvn
        | some name => exact ⟨name, rfl⟩
      obtain ⟨hs, rfl⟩ := (encodeConnectMessage_iff c name _ _ hv (room_behind_hdr hH.2.2)).mp hm
      exact ⟨⟨⟨ht, name, hv, hs⟩, hH⟩, by rw [hv]; rfl⟩
    · rintro ⟨⟨⟨ht, name, hv, hs⟩, hH⟩, rfl⟩
      exact ⟨ht, by rw [hv]; exact Bool.noConfusion, hH, _,
        (encodeConnectMessage_iff c name _ _ hv (room_behind_hdr hH.2.2)).mpr ⟨hs, rfl⟩, by rw [hv]; rfl⟩
  | connack h sp rc =>
    have hd : h.dirty = true := hd
    unfold encode encoded EncodeOk
    simp only [hd, Bool.not_true, Bool.false_eq_true, if_false]
    rw [header_step, ite_err_eq_ok]
    simp only [Outcome.ok.injEq, assign, assignCtr, bodyBytes, remlenOf, FieldsOk, Msg.hdr, facts_connackMaxCode]
    exact ⟨fun ⟨hH, hc, he⟩ => ⟨⟨by omega, hH⟩, he.symm⟩, fun ⟨⟨hc, hH⟩, he⟩ => ⟨hH, by omega, he.symm⟩⟩
  | publish h t p =>
    have hd : h.dirty = true := hd
    have hroom : 2 + t.length ≤ (Msg.publish h t p).msglen := by show _ ≤ 2 + t.length + p.length + _; omega
    unfold encode encoded EncodeOk
    simp only [hd, Bool.not_true, Bool.false_eq_true, if_false]
    rw [ite_err_eq_ok, ite_err_swap, header_step]
    simp only [bind_eq_ok, writeLP_iff, header_length_sub]
    by_cases hq : pubQoS h ≠ 0
    · simp only [if_pos hq, assign, assignCtr, bodyBytes, withAutoId_pubQoS, Outcome.ok.injEq, remlenOf, FieldsOk, Msg.hdr]
      constructor
      · rintro ⟨ht0, hH, _, ⟨hts, _, rfl⟩, rfl⟩
        exact ⟨⟨⟨ht0, hts⟩, hH⟩, by simp only [List.append_assoc, List.cons_append]; rfl⟩
      · rintro ⟨⟨⟨ht0, hts⟩, hH⟩, rfl⟩
        exact ⟨ht0, hH, _, ⟨hts, by omega, rfl⟩, by simp only [List.append_assoc, List.cons_append]; rfl⟩
    · simp only [if_neg hq, assign, assignCtr, bodyBytes, Outcome.ok.injEq, remlenOf, FieldsOk, Msg.hdr]
      constructor
      · rintro ⟨ht0, hH, _, ⟨hts, _, rfl⟩, rfl⟩
        exact ⟨⟨⟨ht0, hts⟩, hH⟩, by simp only [List.append_assoc, List.cons_append, List.nil_append]⟩
      · rintro ⟨⟨⟨ht0, hts⟩, hH⟩, rfl⟩
        exact ⟨ht0, hH, _, ⟨hts, by omega, rfl⟩, by simp only [List.append_assoc, List.cons_append, List.nil_append]⟩
  | ack h =>
    have hd : h.dirty = true := hd
    unfold encode encoded EncodeOk
    simp only [hd, Bool.not_true, Bool.false_eq_true, if_false]
    rw [header_step]
    simp only [Outcome.ok.injEq, assign, assignCtr, bodyBytes, remlenOf, FieldsOk, Msg.hdr, true_and, @eq_comm _ _ e]
    exact Iff.rfl
  | subscribe h ts qs =>
    have hd : h.dirty = true := hd
    unfold encode encoded EncodeOk
    simp only [hd, Bool.not_true, Bool.false_eq_true, if_false]
    rw [header_step]
    simp only [bind_eq_ok, header_length_sub, Outcome.ok.injEq, assign, assignCtr, bodyBytes, remlenOf, FieldsOk, Msg.hdr]
    show (_ ∧ ∃ a, writeTopicsQos (_ - (withAutoId h ctr).1.pid.length) ts qs = _ ∧ _) ↔ _
    rw [withAutoId_length]
    constructor
    · rintro ⟨hH, _, hw, rfl⟩
      obtain ⟨hl, hs, rfl⟩ := (writeTopicsQos_iff ts qs _ _ (room_behind_id hH.2.2)).mp hw
      exact ⟨⟨⟨hl, hs⟩, hH⟩, by simp only [List.append_assoc, List.cons_append]; rfl⟩
    · rintro ⟨⟨⟨hl, hs⟩, hH⟩, rfl⟩
      exact ⟨hH, _, (writeTopicsQos_iff ts qs _ _ (room_behind_id hH.2.2)).mpr ⟨hl, hs, rfl⟩,
        by simp only [List.append_assoc, List.cons_append]; rfl⟩
  | suback h cs =>
    have hd : h.dirty = true := hd
    unfold encode encoded EncodeOk
    simp only [hd, Bool.not_true, Bool.false_eq_true, if_false]
    rw [ite_err_eq_ok, header_step]
    simp only [Outcome.ok.injEq, assign, assignCtr, bodyBytes, remlenOf, FieldsOk, Msg.hdr, @eq_comm _ _ e,
      Bool.not_eq_true', Bool.not_eq_false, List.append_assoc, List.cons_append, and_assoc]
  | unsubscribe h ts =>
    have hd : h.dirty = true := hd
    unfold encode encoded EncodeOk
    simp only [hd, Bool.not_true, Bool.false_eq_true, if_false]
    rw [header_step]
    simp only [bind_eq_ok, header_length_sub, Outcome.ok.injEq, assign, assignCtr, bodyBytes, remlenOf, FieldsOk, Msg.hdr]
    show (_ ∧ ∃ a, writeTopics (_ - (withAutoId h ctr).1.pid.length) ts = _ ∧ _) ↔ _
    rw [withAutoId_length]
    simp only [writeTopics_iff]
    constructor
    · rintro ⟨hH, _, ⟨hs, _, rfl⟩, rfl⟩
      exact ⟨⟨hs, hH⟩, by simp only [List.append_assoc, List.cons_append]; rfl⟩
    · rintro ⟨⟨hs, hH⟩, rfl⟩
      exact ⟨hH, _, ⟨hs, room_behind_id hH.2.2, rfl⟩,
        by simp only [List.append_assoc, List.cons_append]; rfl⟩
  | bare h =>
    have hd : h.dirty = true := hd
    unfold encode encoded EncodeOk
    simp only [hd, Bool.not_true, Bool.false_eq_true, if_false, bind_eq_ok, hdr_encode_iff, Outcome.ok.injEq, assign, assignCtr,
      bodyBytes, remlenOf, FieldsOk, Msg.hdr, Msg.msglen, true_and, Nat.add_zero, List.append_nil]
    exact ⟨fun ⟨_, ⟨hH, rfl⟩, he⟩ => ⟨hH, he.symm⟩, fun ⟨hH, he⟩ => ⟨_, ⟨hH, rfl⟩, he.symm⟩⟩

/-- `msglen()` is the length of what `Encode` writes behind the header, with or without the shape of the type -/
theorem bodyBytes_length (m : Msg) (ctr : UInt64) (hf : FieldsOk m) : (bodyBytes (assign m ctr)).length = m.msglen := by
  cases m with
  | connect h c =>
    obtain ⟨_, name, hv, _⟩ := hf
    show (connectBytes c _).length = connectMsglen c
    rw [hv]; exact connectBytes_length c name hv
  | connack h sp rc => rfl
  | publish h t p =>
    show _ = 2 + t.length + p.length + _
    by_cases hq : pubQoS h ≠ 0
    · simp only [assign, if_pos hq, bodyBytes, withAutoId_pubQoS, List.length_append, str_length, withAutoId_length]; omega
    · simp only [assign, if_neg hq, bodyBytes, List.length_append, str_length, List.length_nil]; omega
  | ack h => exact pidOrZero_length h
  | subscribe h ts qs =>
    show (_ ++ encFilters (ts.zip qs)).length = 2 + _
    rw [List.length_append, withAutoId_length, encFilters_zip_length ts qs hf.1]
  | suback h cs => show (pidOrZero h ++ cs).length = 2 + cs.length; rw [List.length_append, pidOrZero_length]
  | unsubscribe h ts =>
    show (_ ++ encTopics ts).length = 2 + _
    rw [List.length_append, withAutoId_length, encTopics_length]
  | bare h => rfl

theorem bodyBytes_abs (m : Msg) (ctr : UInt64) (hs : Shape m) (hw : WillOk m) (hf : FieldsOk m) :
    bodyBytes (assign m ctr) = (absMsg (assign m ctr)).body := by
  cases m with
  | connect h c =>
    obtain ⟨_, name, hv, _⟩ := hf
    show connectBytes c _ = _
    rw [hv]; exact connectBytes_wire c name hv hs.2.2.1 hw hs.2.2.2
  | connack h sp rc => cases sp <;> rfl
  | publish h t p =>
    by_cases hq : pubQoS h ≠ 0
    · rw [assign, if_pos hq, body_publish, withAutoId_pubQoS, if_neg hq, ← withAutoId_pid h ctr]
      simp only [bodyBytes, withAutoId_pubQoS, if_pos hq]
    · rw [assign, if_neg hq, body_publish, if_pos (Decidable.not_not.mp hq)]
      simp only [bodyBytes, if_neg hq]
  | ack h => show pidOrZero h = (absMsg (.ack h)).body; rw [body_ack, pidOrZero_eq]
  | subscribe h ts qs =>
    show _ = Wire.u16 (u16of (withAutoId h ctr).1.pid) ++ encFilters (ts.zip qs)
    rw [← withAutoId_pid h ctr]; rfl
  | suback h cs => show pidOrZero h ++ cs = Wire.u16 _ ++ cs; rw [pidOrZero_eq]
  | unsubscribe h ts =>
    show _ = Wire.u16 (u16of (withAutoId h ctr).1.pid) ++ encTopics ts
    rw [← withAutoId_pid h ctr]; rfl
  | bare h =>
    simp only [assign, absMsg]; repeat' split
    all_goals rfl

theorem len_dirty (m : Msg) (hd : m.hdr.dirty = true) (hl : remlenOf m ≤ 268435455) :
    m.len = hdrLen (remlenOf m) + m.msglen := by
  have hl := not_gt_max hl
  cases m <;> simp only [Msg.hdr, remlenOf] at hd hl <;> simp [Msg.len, Msg.hdr, hd, hl, remlenOf]
  rfl

theorem shape_remlen (m : Msg) (hs : Shape m) : remlenOf m = m.msglen := by
  cases m <;> first | rfl | exact hs.2.2

theorem encode_wire_le (m : Msg) (ctr : UInt64) (e : Encoded) (hd : m.hdr.dirty = true) (hs : Shape m) (hw : WillOk m)
    (he : encode m ctr m.len = .ok e) :
    e.out = Wire.encode (absMsg e.msg) ∧ (absMsg e.msg).body.length ≤ 268435455 := by
  obtain ⟨⟨hf, _, hle, _⟩, rfl⟩ := (encode_dirty_iff m ctr _ e hd).mp he
  obtain ⟨htf, hs', _⟩ := assign_keeps m ctr
  have hB := bodyBytes_abs m ctr hs hw hf
  have hL := bodyBytes_length m ctr hf
  rw [shape_remlen m hs] at hle
  show m.hdr.tf :: (Wire.varint (remlenOf m) ++ bodyBytes (assign m ctr)) = Wire.encode (absMsg (assign m ctr)) ∧ _
  rw [shape_remlen m hs, ← hL, hB, ← htf, ← head_tf _ (hs' hs)]
  exact ⟨rfl, by show (absMsg (assign m ctr)).body.length ≤ _; rw [← hB, hL]; exact hle⟩

theorem encode_len_all (m : Msg) (ctr : UInt64) (e : Encoded) (he : encode m ctr m.len = .ok e) :
    e.out.length = m.len := by
  cases hd : m.hdr.dirty with
  | true =>
    obtain ⟨⟨hf, _, hle, _⟩, rfl⟩ := (encode_dirty_iff m ctr _ e hd).mp he
    show (m.hdr.tf :: (Wire.varint (remlenOf m) ++ bodyBytes (assign m ctr))).length = _
    rw [len_dirty m hd hle, ← hdrLen_varint, List.length_cons, List.length_append, bodyBytes_length m ctr hf]
    omega
  | false => rw [encode_clean_of_ok hd he, (encode_clean m ctr hd).1]

/-- `remlen ≤ max` comes from `packet_body_le` through `bodyBytes_abs` and `bodyBytes_length`; CONNECT, which may lack
`WillOk`, takes it from `abs_body_length` -/
theorem fieldsOk_of_wf (m : Msg) (ctr : UInt64) (hs : Shape m) (hwf : Wire.WF (absMsg (assign m ctr))) :
    FieldsOk m ∧ remlenOf m ≤ 268435455 := by
  have hlen : WillOk m → FieldsOk m → remlenOf m ≤ 268435455 := fun hw hf => by
    have := packet_body_le _ hwf
    rwa [← bodyBytes_abs m ctr hs hw hf, bodyBytes_length m ctr hf, ← shape_remlen m hs] at this
  cases m with
  | ack h => exact ⟨trivial, hlen trivial trivial⟩
  | bare h => exact ⟨trivial, hlen trivial trivial⟩
  | connack h sp rc => have hf := wf_connack (sp := sp) hwf; exact ⟨hf, hlen trivial hf⟩
  | suback h cs => have hf := (wf_suback (id := u16of h.pid) hwf).1; exact ⟨hf, hlen trivial hf⟩
  | publish h t p =>
    -- what well-formedness says of the topic is the same whether or not an identifier was assigned
    obtain ⟨h', hwf'⟩ : ∃ h', Wire.WF (absMsg (.publish h' t p)) := by
      by_cases hq : pubQoS h ≠ 0
      · exact ⟨_, by rwa [assign, if_pos hq] at hwf⟩
      · exact ⟨_, by rwa [assign, if_neg hq] at hwf⟩
    obtain ⟨_, hts, htn, _⟩ := wf_publish hwf'
    have hf : FieldsOk (.publish h t p) :=
      ⟨fun e0 => by rw [List.eq_nil_of_length_eq_zero e0] at htn; simp [Wire.topicNameOk] at htn, hts⟩
    exact ⟨hf, hlen trivial hf⟩
  | subscribe h ts qs =>
    have hf : FieldsOk (.subscribe h ts qs) :=
      ⟨Nat.le_of_eq hs.2.2, (wf_subscribe (id := u16of (withAutoId h ctr).1.pid) (fs := ts.zip qs) hwf).2.1⟩
    exact ⟨hf, hlen trivial hf⟩
  | unsubscribe h ts =>
    have hf := (wf_unsubscribe (id := u16of (withAutoId h ctr).1.pid) (fs := ts) hwf).2.1
    exact ⟨hf, hlen trivial hf⟩
  | connect h c =>
    obtain ⟨hlev, hcid, hwill, hun, hpw⟩ := wf_connect (c := absConnect c) hwf
    obtain ⟨hc1, _, _⟩ := validClientID_of_ok _ _ hcid
    obtain ⟨name, hv, hnl⟩ : ∃ name, versionName c.version.toNat = some name ∧ name.length ≤ 6 := by
      rcases hlev with e | e <;> rw [show c.version = _ from e]
      · exact ⟨Wire.nameMQIsdp, by decide, by decide⟩
      · exact ⟨Wire.nameMQTT, by decide, by decide⟩
    have hc1 : c.clientID.length ≤ 32 := hc1
    exact ⟨⟨hs.1, name, hv, by omega, by omega, fun hf => have := hwill _ (if_pos hf); ⟨this.1, this.2.1⟩,
        fun hf => hun _ (if_pos hf), fun hf => hpw _ (if_pos hf)⟩,
      show connectMsglen c ≤ _ from abs_body_length c name hv ▸ connect_body_le _ hwf⟩

theorem encode_dirty_succeeds (m : Msg) (ctr : UInt64) (hd : m.hdr.dirty = true) (hs : Shape m)
    (hwf : Wire.WF (absMsg (assign m ctr))) : ∃ e, encode m ctr m.len = .ok e ∧ e.msg = assign m ctr := by
  obtain ⟨hf, hl⟩ := fieldsOk_of_wf m ctr hs hwf
  exact ⟨_, (encode_dirty_iff m ctr _ _ hd).mpr ⟨⟨hf, shape_validType m hs, hl, Nat.le_of_eq (len_dirty m hd hl).symm⟩, rfl⟩, rfl⟩

end Mqtt.Proofs.Codec
