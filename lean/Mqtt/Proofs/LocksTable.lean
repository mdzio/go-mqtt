/-
Core G (C18) — the regenerated access table against the lock discipline.

`Generated.lockAccesses` (extract/facts_locks.go) lists every lexical access to
the tracked state of the library with the mutexes held at that point.  Here:

* `guardOf` — the hand-written expectation: how each tracked field / package
  variable is meant to be protected (from the declarations' own comments);
* `disciplined : LockAccess → Bool` — the row obeys that expectation;
* `excuseOf` — the rows that do not, each attached to a recorded finding
  (known_findings.json) or to a named assumption; a class (`Key`) that no excuse names has only
  disciplined rows (`class_covered_or_listed`);
* `allowedEscapes` — the references that may leave their critical section;
* `Conforms` — what it means for a trace to be generated by the table (each
  access event is an instance of a row and is wrapped in that row's lock
  events), and `conforming_disciplinedLoc`: in such a trace every location all of whose rows
  are disciplined satisfies the hypothesis of the discipline theorem, hence has no data race
  (`conforming_no_race`, for the `traceable` kinds of guard).

The claim that the compiled program's accesses ARE those of the table is the
extractor's (lexical, package-local; see NOTES-locks.md), not Lean's.
-/
import Mqtt.Proofs.Locks
import Mqtt.Generated.Facts

namespace Mqtt.Proofs.LocksTable
open Mqtt.Spec.Locks Mqtt.Proofs.Locks Mqtt.Generated

inductive Guard where
  /-- a mutex that is a field of the same object (`Ackqueue.mu` for `Ackqueue.count`), or - for a
  package-level variable - a package-level mutex of the same package (`topics.providersMu` for
  `topics.providers`) -/
  | own (mu : String)
  /-- a mutex of the object that owns this one (the tries hang off `MemTopics`) -/
  | owner (mu : String)
  /-- only `sync/atomic` accesses -/
  | atomicOnly
  /-- written only during initialisation (in `func init`, or before the first `go`
  statement of the function that starts the goroutines), read-only afterwards -/
  | initOnly
  /-- written once, by the named function under the named mutex of the same
  object, read-only afterwards (the ack queues of a `Session`, created by `Init`) -/
  | writeOnce (fn : String) (mu : String)
  /-- confined to one goroutine by design -/
  | confined
deriving DecidableEq, Repr

/-- key of a location class: struct field `(false, struct, field)` or package
variable `(true, package, name)` -/
abbrev Key := Bool × String × String

def keyOf (r : LockAccess) : Key :=
  if r.obj == "" then (true, r.pkg, r.field) else (false, r.obj, r.field)

def guardOf : Key → Option Guard
  | (false, "MemTopics", "sroot") => some (.own "MemTopics.smu")
  | (false, "MemTopics", "rroot") => some (.own "MemTopics.rmu")
  | (false, "snode", "subs") | (false, "snode", "qos") | (false, "snode", "snodes") =>
      some (.owner "MemTopics.smu")
  | (false, "rnode", "msg") | (false, "rnode", "buf") | (false, "rnode", "rnodes") =>
      some (.owner "MemTopics.rmu")
  | (false, "Ackqueue", "size") | (false, "Ackqueue", "mask") | (false, "Ackqueue", "count")
  | (false, "Ackqueue", "head") | (false, "Ackqueue", "tail") | (false, "Ackqueue", "pings")
  | (false, "Ackqueue", "ring") | (false, "Ackqueue", "emap") | (false, "Ackqueue", "ackdone") =>
      some (.own "Ackqueue.mu")
  | (false, "Session", "Pub1ack") | (false, "Session", "Pub2in") | (false, "Session", "Pub2out")
  | (false, "Session", "Suback") | (false, "Session", "Unsuback") | (false, "Session", "Pingack")
  | (false, "Session", "id") =>
      some (.writeOnce "Session.Init" "Session.mu")
  | (false, "Session", "Cmsg") | (false, "Session", "Will") | (false, "Session", "Retained")
  | (false, "Session", "cbuf") | (false, "Session", "rbuf") | (false, "Session", "topics")
  | (false, "Session", "initted") =>
      some (.own "Session.mu")
  | (false, "MemProvider", "st") => some (.own "MemProvider.mu")
  | (false, "Server", "svcs") => some (.own "Server.mu")
  | (false, "service", "conn") | (false, "service", "in") | (false, "service", "out") => some .initOnly
  | (false, "service", "outtmp") => some (.own "service.wmu")
  | (false, "service", "intmp") => some .confined
  | (false, "stat", "bytes") | (false, "stat", "msgs") => some .atomicOnly
  | (true, "message", "gPacketID") | (true, "service", "gsvcid") | (true, "service", "bufcnt") =>
      some .atomicOnly
  -- the provider registries (written by the exported Register / Unregister, read by NewManager):
  -- one package-level RWMutex per package
  | (true, "topics", "providers") => some (.own "topics.providersMu")
  | (true, "sessions", "providers") => some (.own "sessions.providersMu")
  | (true, "auth", "providers") => some (.own "auth.providersMu")
  | _ => none

/-- the row holds mutex `mu` (lexically or through every caller) in a mode
sufficient for the access; `needSame`: the mutex must belong to the object accessed -/
def holdsFor (r : LockAccess) (mu : String) (needSame : Bool) : Bool :=
  (r.held ++ r.inherited).any fun h => h.name == mu && (h.excl || !r.write) && (h.same || !needSame)

/-- the methods through which the producer side of the outgoing ring is used -/
def producerMethods : List String := ["WriteWait", "Write", "WriteCommit"]

/-- the producer side of `service.out` is serialised by `service.wmu` -/
def producerOk (r : LockAccess) : Bool :=
  if r.obj == "service" && r.field == "out" && producerMethods.contains r.via then
    (r.held ++ r.inherited).any fun h => h.name == "service.wmu" && h.excl && h.same
  else true

def disciplined (r : LockAccess) : Bool :=
  r.dead ||
  (producerOk r &&
   match guardOf (keyOf r) with
   | some (.own mu) => holdsFor r mu true
   | some (.owner mu) => holdsFor r mu false
   | some .atomicOnly => r.atomic
   | some .initOnly => !r.write || r.init
   | some (.writeOnce fn mu) => !r.write || (r.fn == fn && holdsFor r mu true)
   | some .confined => false
   | none => false)

/-- an undisciplined row, identified by function, struct (or "" for a package
variable), field and direction -/
structure Excuse where
  id : String
  pkg : String
  fn : String
  obj : String
  field : String
  write : Bool
deriving DecidableEq, Repr

def excuses : List Excuse := [
  -- O-teardown (ordered by the session take-over, MQTT-3.1.4-2): Session.Cmsg /
  -- Session.Will are read (Cmsg's will flag is cleared on DISCONNECT) by package service without
  -- Session.mu - by the processor goroutine and by stop() of the ONE connection that serves the
  -- session.  These accesses are ordered, not locked: stop() reads them after wgStopped.Wait()
  -- (join of the connection's goroutines), and Session.Update / Session.Init of the next
  -- connection with that client identifier run in getSession, which handleConnection calls (under
  -- Server.connectMu) only after disconnectClient has received from the `stopped` channel that
  -- stop() closes when it has finished, and before the new connection's goroutines are started
  -- (fork).  The trace model has exactly these edges (`HB`: join, fork; a channel close/receive
  -- pair is a join); the table cannot express them, so the rows are listed, as an ordering
  -- class.  The race workload reports no race on them.
  ⟨"O-teardown", "service", "service.processIncoming", "Session", "Cmsg", false⟩,
  ⟨"O-teardown", "service", "service.stop", "Session", "Cmsg", false⟩,
  ⟨"O-teardown", "service", "service.stop", "Session", "Will", false⟩
  -- nothing else is excused: an access of the kinds recorded as findings G1 - G6 (DESIGN.md 14.4)
  -- coming back breaks the table theorem
]

def Excuse.covers (e : Excuse) (r : LockAccess) : Bool :=
  e.pkg == r.pkg && e.fn == r.fn && e.obj == r.obj && e.field == r.field && e.write == r.write

def excuseOf (r : LockAccess) : Option String :=
  (excuses.find? (·.covers r)).map (·.id)

/-- the undisciplined rows of a table with their excuse (`none` = not recorded) -/
def undisciplined (T : List LockAccess) : List (LockAccess × Option String) :=
  (T.filter (fun r => !disciplined r)).map fun r => (r, excuseOf r)

/-! An excused row belongs to the class its excuse names, so in a table whose undisciplined rows
are all excused a class that no excuse names has only disciplined rows. -/

def Excuse.key (e : Excuse) : Key := if e.obj == "" then (true, e.pkg, e.field) else (false, e.obj, e.field)

theorem Excuse.key_of_covers {e : Excuse} {r : LockAccess} (h : e.covers r = true) : e.key = keyOf r := by
  simp only [Excuse.covers, Bool.and_eq_true, beq_iff_eq] at h
  obtain ⟨⟨⟨⟨h1, _⟩, h3⟩, h4⟩, _⟩ := h
  simp only [Excuse.key, keyOf, h1, h3, h4]

def unexcused (k : Key) : Bool := !(excuses.map Excuse.key).contains k

theorem all_disciplined_of_unexcused {T : List LockAccess}
    (hT : ∀ r ∈ T, disciplined r = true ∨ (excuseOf r).isSome = true) {k : Key} (hk : unexcused k = true) :
    (T.all fun r => r.dead || keyOf r != k || disciplined r) = true := by
  rw [List.all_eq_true]
  intro r hr
  rcases hT r hr with hd | hx
  · rw [hd, Bool.or_true]
  · obtain ⟨e, he⟩ := Option.isSome_iff_exists.mp (Option.isSome_map.symm.trans hx)
    have hm : keyOf r ∈ excuses.map Excuse.key :=
      List.mem_map.mpr ⟨e, List.mem_of_find?_eq_some he, Excuse.key_of_covers (List.find?_some (p := (Excuse.covers · r)) he)⟩
    have hne : (keyOf r != k) = true := bne_iff_ne.mpr fun h => by
      rw [unexcused, ← h, List.contains_iff_mem.mpr hm] at hk; cases hk
    rw [hne, Bool.or_true, Bool.true_or]

/-- the kinds of protection the trace theory justifies (`conforming_disciplinedLoc`): a mutex of the
object or of its owner, `sync/atomic`, initialisation before publication -/
def traceable (k : Key) : Bool :=
  match guardOf k with
  | some (.own _) | some (.owner _) | some .atomicOnly | some .initOnly => true
  | _ => false

theorem class_covered_or_listed {T : List LockAccess} {U : List Key}
    (hT : ∀ r ∈ T, (disciplined r = true ∨ (excuseOf r).isSome = true) ∧
      (traceable (keyOf r) = true ∨ keyOf r ∈ U)) :
    ∀ r ∈ T, (traceable (keyOf r) && T.all fun r' => r'.dead || keyOf r' != keyOf r || disciplined r') = true ∨
      keyOf r ∈ excuses.map Excuse.key ++ U := by
  intro r hr
  rcases (hT r hr).2 with ht | hu
  · cases hx : unexcused (keyOf r) with
    | true =>
      left
      rw [all_disciplined_of_unexcused (fun r hr => (hT r hr).1) hx, Bool.and_true]
      exact ht
    | false =>
      right
      rw [unexcused, Bool.not_eq_false'] at hx
      exact List.mem_append_left _ (List.contains_iff_mem.mp hx)
  · exact .inr (List.mem_append_right _ hu)

/-- `k` has no undisciplined live row in `T` (the table is scanned only for a class some excuse names) -/
def classClean (T : List LockAccess) (k : Key) : Bool :=
  unexcused k || T.all fun r => r.dead || keyOf r != k || disciplined r

theorem all_disciplined_eq_classClean {T : List LockAccess}
    (hT : ∀ r ∈ T, disciplined r = true ∨ (excuseOf r).isSome = true) (k : Key) :
    (T.all fun r => r.dead || keyOf r != k || disciplined r) = classClean T k := by
  unfold classClean
  cases hk : unexcused k with
  | false => rfl
  | true => exact all_disciplined_of_unexcused hT hk

/-! References that leave the critical section (copied out of a guarded struct). -/

def allowedEscapes : List (String × String × String × String × String × String) := [
  -- (the retained messages appended by `rnode.rmatch` / `rnode.allRetained` are not allowed to
  -- leave: a reference to a stored message handed out breaks `C18_escapes_recorded`)
  -- A-acked: Acked returns its internal slice; sound only while one goroutine drains a queue
  ("A-acked", "sessions", "Ackqueue.Acked", "Ackqueue", "ackdone", "return")
]

def escapeExcuse (e : String × String × String × String × String) : Option String :=
  (allowedEscapes.find? (fun a => a.2 == e)).map (·.1)

def structsCovered : Bool :=
  lockStructs.all fun s => s.2.2.2.all fun f => (guardOf (false, s.2.1, f)).isSome

def modeOf (h : LockHeld) : Mode := if h.excl then .excl else .shared

/-- how a trace is read as an execution of the table -/
structure Interp where
  /-- the table row that produced the access event at a position -/
  row : Nat → LockAccess
  /-- the location class a memory location is an instance of -/
  key : Loc → Key
  /-- the instance of the mutex called `name` that goes with a location (its
  object's own mutex, or its owner's) -/
  mtx : Loc → String → Mid

/-- `τ` is generated by table `T`: every access event is an instance of a live
row of `T` for the class of its location, with the row's direction and
atomicity, wrapped in the lock events of every mutex the row records as held
(lexically or through all callers); an access made by a row flagged `init`
happens before the `go` statement of every other goroutine that touches the
location (an assumption about constructors and start-up code, not derived). -/
def Conforms (I : Interp) (T : List LockAccess) (τ : List Ev) : Prop :=
  ∀ (i : Nat) (e : Ev) (a : Acc), τ[i]? = some e → e.acc = some a →
    I.row i ∈ T ∧ (I.row i).dead = false ∧ keyOf (I.row i) = I.key a.x ∧
    (I.row i).write = a.write ∧ (I.row i).atomic = a.atomic ∧
    (∀ h, h ∈ (I.row i).held ++ (I.row i).inherited → InCS τ i a.t (I.mtx a.x h.name) (modeOf h)) ∧
    ((I.row i).init = true → InitBefore τ i a)

/-- the guard of a location in the trace: the instance of the expected mutex -/
def traceGuard (I : Interp) (x : Loc) : Option Mid :=
  match guardOf (I.key x) with
  | some (.own mu) => some (I.mtx x mu)
  | some (.owner mu) => some (I.mtx x mu)
  | some (.writeOnce _ mu) => some (I.mtx x mu)
  | _ => none

theorem holdsFor_guarded {I : Interp} {τ : List Ev} (hwf : WF τ)
    {i : Nat} {a : Spec.Locks.Acc} {mu : String} {ns : Bool}
    (hcs : ∀ h, h ∈ (I.row i).held ++ (I.row i).inherited → InCS τ i a.t (I.mtx a.x h.name) (modeOf h))
    (hw : (I.row i).write = a.write)
    (hh : holdsFor (I.row i) mu ns = true) :
    (stAt τ i).excl (I.mtx a.x mu) = some a.t ∨
      (a.write = false ∧ 0 < (stAt τ i).shr (I.mtx a.x mu) a.t) := by
  unfold holdsFor at hh
  rw [List.any_eq_true] at hh
  obtain ⟨h, hmem, hp⟩ := hh
  simp only [Bool.and_eq_true, beq_iff_eq, Bool.or_eq_true, Bool.not_eq_true'] at hp
  -- (`h.same` is dropped: that the mutex named `h.name`, held at an access to `x`, is the instance `I.mtx x h.name`
  -- is what `Conforms` assumes of the interpretation; the table side tests `same` through `holdsFor … true`)
  obtain ⟨⟨hn, hm⟩, _⟩ := hp
  have cs := hcs h hmem
  rw [hn] at cs
  by_cases hx : h.excl = true
  · left
    have : modeOf h = .excl := by simp [modeOf, hx]
    rw [this] at cs
    exact inCS_excl_holds hwf cs
  · right
    have hx' : h.excl = false := by simpa using hx
    have : modeOf h = .shared := by simp [modeOf, hx']
    rw [this] at cs
    refine ⟨?_, inCS_shared_holds cs⟩
    rcases hm with h1 | h1
    · rw [hx'] at h1; cases h1
    · rw [← hw]; exact h1

/-- **from the table to the trace theorem**: in a well-formed trace generated
by `T`, every location whose class has only disciplined (live) rows in `T`
(and is not of the write-once kind) satisfies the hypothesis of the discipline
theorem -/
theorem conforming_disciplinedLoc {I : Interp} {T : List LockAccess} {τ : List Ev}
    (hwf : WF τ) (hc : Conforms I T τ) (x : Loc)
    (hclean : ∀ r, r ∈ T → r.dead = false → keyOf r = I.key x → disciplined r = true)
    (hnw : ∀ fn mu, guardOf (I.key x) ≠ some (.writeOnce fn mu)) :
    DisciplinedLoc (traceGuard I) τ x := by
  intro i e a hi ha hx
  obtain ⟨hmem, hdead, hkey, hw, hat, hcs, hinit⟩ := hc i e a hi ha
  have hd := hclean (I.row i) hmem hdead (by rw [hkey, hx])
  unfold disciplined at hd
  rw [hdead, Bool.false_or, Bool.and_eq_true] at hd
  obtain ⟨_, hd⟩ := hd
  rw [hkey, hx] at hd
  -- the other accesses to `x` are rows of the same class, hence disciplined as well
  have other : ∀ (j : Nat) (e' : Ev) (b : Spec.Locks.Acc), τ[j]? = some e' → e'.acc = some b → b.x = x →
      disciplined (I.row j) = true ∧ (I.row j).dead = false ∧ keyOf (I.row j) = I.key x ∧
      (I.row j).write = b.write ∧ (I.row j).atomic = b.atomic ∧
      ((I.row j).init = true → InitBefore τ j b) := by
    intro j e' b hj hb hbx
    obtain ⟨m2, d2, k2, w2, a2, _, i2⟩ := hc j e' b hj hb
    exact ⟨hclean (I.row j) m2 d2 (by rw [k2, hbx]), d2, by rw [k2, hbx], w2, a2, i2⟩
  cases hg : guardOf (I.key x) with
  | none => rw [hg] at hd; cases hd
  | some gd =>
    rw [hg] at hd
    cases gd with
    | own mu | owner mu =>
      dsimp only at hd
      right; left
      refine ⟨I.mtx a.x mu, ?_, holdsFor_guarded hwf hcs hw hd⟩
      simp [traceGuard, hx, hg]
    | atomicOnly =>
      dsimp only at hd
      left
      refine ⟨by rw [← hat]; exact hd, ?_⟩
      intro j e' b hj hb hbx
      obtain ⟨dj, ddj, kj, _, aj, _⟩ := other j e' b hj hb (by rw [hbx, hx])
      unfold disciplined at dj
      rw [ddj, Bool.false_or, Bool.and_eq_true, kj, hg] at dj
      rw [← aj]; exact dj.2
    | initOnly =>
      dsimp only at hd
      simp only [Bool.or_eq_true, Bool.not_eq_true'] at hd
      rcases hd with hr | hin
      · -- a read: every write to `x` is an initialising write
        right; right; right; right
        refine ⟨by rw [← hw]; exact hr, ?_⟩
        intro j e' b hj hb hbx hbw
        obtain ⟨dj, ddj, kj, wj, _, ij⟩ := other j e' b hj hb (by rw [hbx, hx])
        unfold disciplined at dj
        rw [ddj, Bool.false_or, Bool.and_eq_true, kj, hg] at dj
        have := dj.2
        simp only [Bool.or_eq_true, Bool.not_eq_true'] at this
        rcases this with h1 | h1
        · rw [wj, hbw] at h1; cases h1
        · exact Or.inl (ij h1)
      · right; right; left; exact hinit hin
    | writeOnce fn mu =>
      -- reads of a write-once field are ordered after the single write only by the
      -- publication of the object, which the trace theory does not model (`disciplined`
      -- accepts them under assumption A-init): such classes are excluded by `hnw`
      exact absurd hg (hnw fn mu)
    | confined => dsimp only at hd; cases hd

theorem conforming_no_race {I : Interp} {T : List LockAccess} {τ : List Ev} (hwf : WF τ) (hc : Conforms I T τ)
    (x : Loc) (htr : traceable (I.key x) = true)
    (hall : (T.all fun r => r.dead || keyOf r != I.key x || disciplined r) = true) (i j : Nat) :
    ¬ RaceOn τ x i j := by
  rw [List.all_eq_true] at hall
  apply no_race_on_disciplined_loc hwf (g := traceGuard I)
  apply conforming_disciplinedLoc hwf hc x
  · intro r hr hdead hkey
    have := hall r hr
    rw [hdead, hkey] at this
    simpa using this
  · intro fn mu h
    rw [traceable, h] at htr
    cases htr

/-! A statement about every position of a list written out, peeled off element by element. -/

theorem forall_getElem?_cons {α} {P : Nat → α → Prop} {a : α} {l : List α} :
    (∀ k e, (a :: l)[k]? = some e → P k e) ↔ P 0 a ∧ ∀ k e, l[k]? = some e → P (k + 1) e :=
  ⟨fun h => ⟨h 0 a rfl, fun k e hk => h (k + 1) e hk⟩,
   fun h k e hk => by
    cases k with
    | zero => cases hk; exact h.1
    | succ k => exact h.2 k e hk⟩

theorem forall_getElem?_nil {α} {P : Nat → α → Prop} :
    (∀ k e, ([] : List α)[k]? = some e → P k e) ↔ True :=
  ⟨fun _ => trivial, fun _ _ _ hk => nomatch hk⟩

theorem forall_lt_getElem? {α} {P : α → Prop} {l : List α} {k : Nat} (h : ∀ e ∈ l.take k, P e) :
    ∀ i e, i < k → l[i]? = some e → P e := fun i e hi he =>
  h e (List.mem_of_getElem? (by rw [List.getElem?_take, if_pos hi]; exact he))

end Mqtt.Proofs.LocksTable
