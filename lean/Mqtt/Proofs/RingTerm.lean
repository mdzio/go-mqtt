/-
Core D — a termination measure for the ring program: every enabled step of every
thread strictly decreases `mu` (rank of the program counters + weight of the calls
not yet started + credit of pending wake-ups).  Hence no schedule contains more
than `mu (initial state)` enabled steps: no livelock, every run that keeps
scheduling enabled threads reaches a state where nothing can run, to which
`quiescent_legit` applies.
-/
import Mqtt.Proofs.RingSafety

namespace Mqtt.Proofs.Ring
open Mqtt.Model.Ring Mqtt.Iface.Ring

/-- weight of one iteration of `ReadFrom`'s loop whose reader offers `m` bytes, and of a whole
`ReadFrom` with the reader script `ms` (the last iteration finds the reader at its end; then `Close`) -/
def iterW (m : Nat) : Nat := 2 * m + 70
def rfW : List Nat → Nat
  | [] => 30
  | m :: ms => iterW m + rfW ms

theorem rfW_ge (ms : List Nat) : 30 ≤ rfW ms := by
  induction ms with
  | nil => exact Nat.le_refl _
  | cons m ms ih => unfold rfW; omega

/-- what a `ReadFrom` that is inside `waitForWriteSpace` / `WriteCommit` still has to do after that call -/
def contW : Option Call → Nat
  | some (.rfrom _ ms) => rfW ms
  | some (.rfcommit _ ms) => rfW ms + 40
  | _ => 0

/-- weight of a call that has not started: more than the rank of its first program counter -/
def callW (cfg : Cfg) : Call → Nat
  | .write n => n + 27 | .wwait n => n + 26 | .wcommit n => n + 26 | .wfill => cfg.size + 3
  | .rfrom _ ms => rfW ms + 31 | .rfcommit _ _ => 1 | .rfret _ _ => 1
  | .read n => n + 28 | .peek n => n + 15 | .rwait n => n + 15 | .use => cfg.size + 3 | .commit _ => 15
  | .close => 24 | .len => 3

/-- rank of a program counter: an upper bound on the own steps to the end of the call, where a
`Broadcast` is worth 9 (it may wake a waiter, credit 8) and a wake-up costs the waiter 7.  The constants are counted
backwards from the return of each call (rank 1 at its last statement): one more per statement, 9 more across a `Broadcast`,
and a wait loop's re-test after `Wait` ranks at most 7 above the parked statement, so that the 8 a wake-up takes from the
credit pay for the way round the loop; a callee's program counters add the weight of the caller's frame (`contW`).
`pcRank_step` checks the table `Step` by `Step` (not along `Edge`: some ranks depend on the locals). -/
def pcRank (sh : Sh) (cur : Option Call) : Pc → Nat
  | .idle => 0
  | .x10 => 23 | .x11 => 22 | .x12 => 21 | .x13 => 12 | .x14 => 11 | .x15 => 10 | .x16 => 1
  | .l20 => match cur with | some (.read n) => n + 26 | _ => 2
  | .l21 _ => match cur with | some (.read n) => n + 25 | _ => 1
  | .s30 n => n + 25 + contW cur | .s31 n => n + 24 + contW cur | .s32 n _ => n + 23 + contW cur
  | .s33 n _ => n + 22 + contW cur | .s34 n _ => n + 16 + contW cur
  | .s35 _ _ => 1 + contW cur | .s36 n _ => n + 15 + contW cur | .s36w n _ => n + 14 + contW cur
  | .s37 n _ => n + 21 + contW cur | .s38 n _ _ => n + 15 + contW cur | .s39 n _ => n + 14 + contW cur
  | .w40 n => n + 26 + contW cur | .w41c n _ j => (n - j) + 13 | .w42 _ _ => 12 | .w43 _ => 11 | .w44 _ => 10 | .w45 _ => 1
  | .c50 _ _ => 12 + contW cur | .c51 _ => 11 + contW cur | .c52 _ => 10 + contW cur | .c53 _ => 1 + contW cur
  | .f0 _ len j => (len - j) + 1
  | .g110 _ ms => rfW ms + 30 | .g112 _ ms _ => rfW ms + 10 | .g111 _ ms _ _ => rfW ms + 9
  | .g111c _ ms _ n j => (n - j) + n + 68 + rfW ms | .g111r _ ms n => n + 67 + rfW ms
  | .r60 n => n + 27
  | .r61 n => if sh.cseq < sh.pseq then n + 15 else n + 24
  | .r62 n cpos => if cpos < sh.pseq then n + 14 else n + 23
  | .r63c _ _ k j _ => (k - j) + 13
  | .r64 _ _ _ => 12 | .r65 _ _ _ => 11 | .r66 _ _ _ => 10 | .r67 _ _ _ => 1
  | .r73 n _ => n + 22 | .r74 n _ => n + 21 | .r75 n _ => n + 20 | .r75r n _ => n + 17 | .r76 _ _ => 1 | .r77 n _ => n + 19
  | .r77w n _ => n + 18 | .r78 n _ => n + 21 | .r79 n => n + 16
  | .p80 _ n => n + 14 | .p81 _ n _ => n + 13 | .p82 _ n _ => n + 12 | .p83 _ n _ => n + 11 | .p84 _ n _ => n + 10
  | .p84r _ n _ => n + 4 | .p85 _ _ _ => 1 | .p86 _ n _ => n + 9 | .p86w _ n _ => n + 8 | .p87 _ n _ => n + 15 | .p88 _ n _ _ => n + 3
  | .p89c _ _ m _ j _ => (m - j) + 1
  | .k100 _ => 14 | .k101 _ _ => 13 | .k102 _ _ => 12 | .k103 _ => 11 | .k104 _ => 10 | .k105 _ => 1
  | .u0 _ m j _ => (m - j) + 1

def progW (cfg : Cfg) (prog : List Call) : Nat := (prog.map (callW cfg)).sum

def thRank (cfg : Cfg) (sh : Sh) (th : Th) : Nat := progW cfg th.prog + pcRank sh th.cur th.pc

def noteT (sh : Sh) : Nat := (if sh.pNote then 8 else 0) + (if sh.cNote then 8 else 0)

theorem noteT_setOwner (sh : Sh) (m : Mx) (o : Option Tid) : noteT (sh.setOwner m o) = noteT sh := by cases m <;> rfl
theorem noteT_unlock (sh : Sh) (m : Mx) : noteT (sh.unlock m) = noteT sh := by
  unfold Sh.unlock; split
  · rfl
  · exact noteT_setOwner _ _ _

theorem noteT_bcast (sh : Sh) (m : Mx) : noteT (sh.bcast m) ≤ noteT sh + 8 := by
  cases m <;> cases hp : sh.pNote <;> cases hc : sh.cNote <;> simp [Sh.bcast, Sh.setNote, noteT, hp, hc]
theorem noteT_park (sh : Sh) (m : Mx) : noteT (sh.park m) ≤ noteT sh := by
  unfold Sh.park; rw [noteT_unlock]
  cases m <;> cases hp : sh.pNote <;> cases hc : sh.cNote <;> simp [Sh.setNote, noteT, hp, hc]
theorem noteT_resume (sh : Sh) (m : Mx) (o : Option Tid) (h : sh.note m = true) :
    noteT ((sh.setOwner m o).setNote m false) + 8 = noteT sh := by
  cases m <;> simp only [Sh.note] at h <;> cases hp : sh.pNote <;> cases hc : sh.cNote <;>
    simp_all [Sh.setNote, Sh.setOwner, noteT]

theorem rfW_tail (ms : List Nat) (h : ms ≠ []) : rfW ms = iterW (ms.headD 0) + rfW ms.tail := by
  cases ms with
  | nil => exact absurd rfl h
  | cons m rest => rfl

/-- what a lock operation adds to, and takes from, the credit of pending wake-ups -/
def LockOp.gain : LockOp → Nat
  | .bcast _ => 8
  | _ => 0
def LockOp.pay : LockOp → Nat
  | .resume _ => 8
  | _ => 0

theorem Store.noteT {sh d : Sh} {pc : Pc} (h : Store sh pc d) : noteT d = noteT sh := by cases h <;> rfl

theorem Does.noteT {me : Tid} {op : LockOp} {d sh' : Sh} (h : Does me op d sh') : noteT sh' + op.pay ≤ noteT d + op.gain := by
  cases h
  case skip => exact Nat.le_refl _
  case lock => exact Nat.le_of_eq (noteT_setOwner ..)
  case unlock => exact Nat.le_of_eq (noteT_unlock ..)
  case bcast m => exact noteT_bcast d m
  case park m => exact noteT_park d m
  case resume m woken _ => exact Nat.le_of_eq (noteT_resume d m _ woken)

theorem progW_cons (cfg : Cfg) (c : Call) (rest : List Call) : progW cfg (c :: rest) = callW cfg c + progW cfg rest := rfl

theorem rank_l21 (sh : Sh) (cur : Option Call) (c : Nat) :
    pcRank sh cur (.l21 c) + 1 = pcRank sh cur .l20 ∧ 1 ≤ pcRank sh cur (.l21 c) := by
  dsimp only [pcRank]; split <;> exact ⟨rfl, Nat.le_add_left ..⟩

theorem handed_le {cfg : Cfg} {base : Nat} {c : Core} {t : Tid} {th : Th} (hg : Glob cfg base c) (hi : TInv cfg c t th) :
    (∀ cpos m, t.allowed .use = true → th.view = .alias cpos m → m ≤ cfg.size) ∧
    (∀ st len, t.allowed .wfill = true → th.slice = some (st, len) → len ≤ cfg.size) := by
  have hcp := hg.cp
  have hpc := hg.pc
  refine ⟨fun cpos m ha hv => ?_, fun st len ha hsl => ?_⟩
  · cases t <;> first | cases ha | skip
    have := (hi : CInv cfg c th).view
    rw [hv] at this
    have a : cpos = c.cseq := this.1
    have b : cpos + m ≤ c.pseq := this.2
    omega
  · cases t <;> first | cases ha | skip
    obtain ⟨a, b⟩ := (hi : PInv cfg c th).slice st len hsl
    omega

/-- the rank at which each of the model's continuations leaves a thread, program apart -/
theorem pcRank_wfsErr (sh : Sh) (th : Th) (e : Err) :
    pcRank sh (wfsErr th e).cur (wfsErr th e).pc ≤ contW th.cur := by
  unfold wfsErr
  split
  · rename_i tot ms h
    have := rfW_ge ms
    rw [h]; show 23 ≤ rfW ms; omega
  · rename_i tot ms h
    have := rfW_ge ms
    rw [h]; show 23 ≤ rfW ms + 40; omega
  · exact Nat.zero_le _

theorem pcRank_enterWfs (cfg : Cfg) (sh : Sh) (th : Th) (n : Nat) :
    pcRank sh (enterWfs cfg th n).cur (enterWfs cfg th n).pc ≤ n + 25 + contW th.cur := by
  unfold enterWfs
  split
  · have := pcRank_wfsErr sh th .full; omega
  · exact Nat.le_refl _

theorem pcRank_wcRet (sh : Sh) (th : Th) (n : Nat) : pcRank sh (wcRet th n).cur (wcRet th n).pc ≤ contW th.cur := by
  unfold wcRet
  split
  · rename_i tot ms h
    rw [h]; show rfW ms + 30 ≤ rfW ms + 40; omega
  · exact Nat.zero_le _

theorem pcRank_closeRet (sh : Sh) (th : Th) : pcRank sh (closeRet th).cur (closeRet th).pc = 0 := by
  unfold closeRet
  split <;> rfl

theorem pcRank_wfsOk (cfg : Cfg) (sh : Sh) (th : Th) (ppos n : Nat) :
    pcRank sh (wfsOk cfg th ppos n).cur (wfsOk cfg th ppos n).pc ≤ n + 13 + contW th.cur := by
  unfold wfsOk; dsimp only
  split
  · exact Nat.le_add_right _ _
  · split <;> exact Nat.zero_le _
  · dsimp only [pcRank, Th.goto]; omega
  · rename_i h
    dsimp only [Th.goto, pcRank]
    rw [h]
    dsimp only [contW]
    omega
  · dsimp only [pcRank, Th.goto]; omega
  · exact Nat.zero_le _

theorem rank_via {a b g c : Nat} (h : a ≤ b) (h' : b + g + 1 ≤ c) : a + g + 1 ≤ c := by omega

/-- inside a call the rank of the program counter pays for the step and for the credit a broadcast creates; a wake-up is paid
out of the credit.  Two rows of the table read more than the program counter and the step, and what they read is handed in from the
consumer's assertion `pcC` (by `rank_own`): the rank at `r61` after `r79` counts on data being there (`h79`), the rank at `l20` after
`r60` on the call in progress being that `Read` (`h60`).  A new row whose rank depends on `sh` or `cur` gets a hypothesis of this kind. -/
theorem pcRank_step {cfg : Cfg} {me : Tid} {sh sh' : Sh} {th th' : Th} {pc : Pc} (hst : Step cfg me sh th pc sh' th')
    (hne : pc ≠ .idle) (h79 : ∀ n, pc = .r79 n → sh.cseq < sh.pseq) (h60 : ∀ n, pc = .r60 n → th.cur = some (.read n)) :
    pcRank sh' th'.cur th'.pc + (lockOp pc).gain + 1 ≤ pcRank sh th.cur pc + (lockOp pc).pay := by
  cases hst
  case start => exact absurd rfl hne
  case' s30_done | s39_done | s35 => refine rank_via (pcRank_wfsErr ..) ?_
  case' w40 | g110 | g111r_commit => refine rank_via (pcRank_enterWfs ..) ?_
  case' s39 => refine rank_via (pcRank_wfsOk ..) ?_
  case' c53 => refine rank_via (pcRank_wcRet ..) ?_
  case' x16 => rw [pcRank_closeRet]
  case' g110_done ms _ | g111_eof ms _ _ _ _ => have := rfW_ge ms
  case' g111 ms _ _ len h =>
    have : rfW ms = 2 * ms.headD 0 + 70 + rfW ms.tail := rfW_tail ms h
    have := Nat.min_le_left (ms.headD 0) len
  case l20 => exact Nat.le_of_eq (rank_l21 sh th.cur sh.cseq).1
  case l21_eof c _ _ | l21_len c _ => exact (rank_l21 sh th.cur c).2
  case l21_read n _ hc _ =>
    dsimp only [Th.goto, Th.clr]
    rw [hc]
    dsimp only [pcRank, lockOp, LockOp.gain, LockOp.pay]
    split <;> omega
  case r60_done n _ =>
    dsimp only [Th.goto, Th.clr]
    rw [h60 n rfl]
    exact Nat.le_refl _
  case r79 n =>
    dsimp only [Th.goto, Th.clr, pcRank, lockOp, LockOp.gain, LockOp.pay]
    rw [cseq_unlock, pseq_unlock, if_pos (h79 n rfl)]
    omega
  case r62_far | r62_near | r62_empty | r60 | r61 | p88_tmp =>
    dsimp only [Th.goto, Th.clr, pcRank, lockOp, LockOp.gain, LockOp.pay]
    repeat' split
    all_goals omega
  all_goals (dsimp only [Th.goto, Th.ret, Th.clr, rfExit, pcRank, contW, lockOp, LockOp.gain, LockOp.pay]; omega)

theorem pcRank_startCall (cfg : Cfg) (sh : Sh) (th : Th) (call : Call) (hcur : th.cur = some call)
    (hview : ∀ cpos m, call = .use → th.view = .alias cpos m → m ≤ cfg.size)
    (hslice : ∀ st len, call = .wfill → th.slice = some (st, len) → len ≤ cfg.size) :
    pcRank sh (startCall cfg th call).cur (startCall cfg th call).pc + 1 ≤ callW cfg call := by
  cases call <;> dsimp only [startCall]
  case wwait n =>
    have := pcRank_enterWfs cfg sh { th with slice := none, filled := 0 } n
    have : contW th.cur = 0 := by rw [hcur]; rfl
    dsimp only [callW] at *
    omega
  case wcommit n =>
    have := pcRank_enterWfs cfg sh { th with slice := none } (min n th.filled)
    have := Nat.min_le_left n th.filled
    have : contW th.cur = 0 := by rw [hcur]; rfl
    dsimp only [callW] at *
    omega
  case write n =>
    have : contW th.cur = 0 := by rw [hcur]; rfl
    dsimp only [pcRank, callW, Th.goto]
    omega
  case wfill =>
    split
    · have := hslice _ _ rfl ‹_›
      dsimp only [pcRank, callW, Th.goto]; omega
    · dsimp only [pcRank, callW, Th.ret]; omega
  case use =>
    split
    · have := hview _ _ rfl ‹_›
      dsimp only [pcRank, callW, Th.goto]; omega
    · dsimp only [pcRank, callW, Th.ret]; omega
    · dsimp only [pcRank, callW, Th.ret]; omega
  case peek | rwait | commit => split <;> dsimp only [pcRank, callW, Th.goto, Th.ret] <;> omega
  case len => dsimp only [Th.goto]; rw [hcur]; exact Nat.le_refl _
  all_goals (dsimp only [pcRank, callW, Th.goto, Th.ret]; omega)

theorem rank_own (cfg : Cfg) (base : Nat) (sh sh' : Sh) (me : Tid) (th th' : Th)
    (hg : Glob cfg base sh.core) (hok : ThOK me th) (hi : TInv cfg sh.core me th)
    (hs : tstep cfg sh me th = some (sh', th')) :
    thRank cfg sh' th' + noteT sh' < thRank cfg sh th + noteT sh := by
  have hst := tstep_step _ _ _ _ _ _ hs
  obtain ⟨d, hd, hop⟩ := step_shared hst
  have hN := hop.noteT
  rw [hd.noteT] at hN
  unfold thRank
  rcases tstep_prog cfg _ _ _ _ _ hs with ⟨hidle, hsh, call, rest, hp, rfl⟩ | ⟨hne, hprog⟩
  · -- a call begins: it costs less than it weighed while it stood in the program
    subst hsh
    have := pcRank_startCall cfg sh' { th.clr with prog := rest, cur := some call } call rfl
      (fun cpos m e hv => (handed_le hg hi).1 cpos m (hok.prog _ (by rw [hp, e]; exact List.mem_cons_self ..)) hv)
      (fun st len e hsl => (handed_le hg hi).2 st len (hok.prog _ (by rw [hp, e]; exact List.mem_cons_self ..)) hsl)
    rw [hidle] at hN ⊢
    rw [prog_startCall, hp, progW_cons, show pcRank sh' th.cur .idle = 0 from rfl]
    dsimp only [lockOp, LockOp.gain, LockOp.pay] at hN
    show progW cfg rest + _ + _ < _
    omega
  · -- at a program counter of `Read` the thread is the consumer, and `pcC` holds of it
    have hC : pcRole th.pc = .cons → pcC cfg sh.core (th.goto th.pc) := fun h => by
      cases cons_is_c me (h ▸ hok.role)
      exact pcC_at (hi : CInv cfg sh.core th).pcinv
    have := pcRank_step hst hne (fun n e => by rw [e] at hC; exact hC rfl) (fun n e => by rw [e] at hC; exact hC rfl)
    rw [hprog]
    omega

/-- the rank of a program counter depends on the shared state only at the head of `Read`'s loop, where more
committed data means a shorter way to the return -/
theorem pcRank_sh (sh sh' : Sh) (cur : Option Call) (pc : Pc) :
    pcRank sh' cur pc = pcRank sh cur pc ∨
    pcRole pc = .cons ∧ (sh.pseq ≤ sh'.pseq → sh'.cseq = sh.cseq → pcRank sh' cur pc ≤ pcRank sh cur pc) := by
  cases pc
  case r61 | r62 =>
    refine .inr ⟨rfl, fun hp hc => ?_⟩
    dsimp only [pcRank]
    split <;> split <;> omega
  all_goals exact .inl rfl

theorem rank_mono (cfg : Cfg) (sh sh' : Sh) (th : Th) (hp : sh.pseq ≤ sh'.pseq) (hc : sh'.cseq = sh.cseq) :
    thRank cfg sh' th ≤ thRank cfg sh th := by
  rcases pcRank_sh sh sh' th.cur th.pc with e | ⟨_, h⟩
  · exact Nat.add_le_add_left (Nat.le_of_eq e) _
  · exact Nat.add_le_add_left (h hp hc) _

theorem rank_indep (cfg : Cfg) (sh sh' : Sh) (th : Th) (hr : pcRole th.pc ≠ .cons) :
    thRank cfg sh' th = thRank cfg sh th := by
  rcases pcRank_sh sh sh' th.cur th.pc with e | ⟨h, _⟩
  · exact congrArg (progW cfg th.prog + ·) e
  · exact absurd h hr

def mu (cfg : Cfg) (s : St) : Nat :=
  thRank cfg s.sh s.P + thRank cfg s.sh s.C + (s.K.map (thRank cfg s.sh)).sum + noteT s.sh

theorem sum_le_sum (f g : Th → Nat) (K : List Th) (h : ∀ th ∈ K, f th ≤ g th) : (K.map f).sum ≤ (K.map g).sum := by
  induction K with
  | nil => simp
  | cons a K ih =>
    simp only [List.map_cons, List.sum_cons]
    have := h a (List.mem_cons_self ..)
    have := ih (fun th hth => h th (List.mem_cons_of_mem _ hth))
    omega

theorem not_cons_pc (t : Tid) (th : Th) (ht : t ≠ .c) (hok : ThOK t th) : pcRole th.pc ≠ .cons := fun e => by
  have h := hok.role
  rw [e] at h
  cases t <;> first | exact ht rfl | cases h

theorem mu_step (cfg : Cfg) (base : Nat) (s s' : St) (t : Tid) (hr : RInv cfg base s)
    (hs : step cfg s t = some s') : mu cfg s' < mu cfg s := by
  have hg := step_guar cfg base s s' t hr hs
  obtain ⟨th, sh', th', hth, hst, rfl⟩ := step_some cfg s s' t hs
  have hown := rank_own cfg base s.sh sh' t th th' hr.glob (hr.threads t th hth).1 (hr.threads t th hth).2 hst
  have hsh := setTh_sh s sh' t th'
  have hKrole : ∀ (i : Nat) (thk : Th), s.K[i]? = some thk → pcRole thk.pc ≠ .cons := fun i thk h =>
    not_cons_pc (.k i) thk nofun (hr.okK i thk h)
  have hKeq : (s.K.map (thRank cfg sh')).sum = (s.K.map (thRank cfg s.sh)).sum := by
    congr 1
    apply List.map_congr_left
    intro thk hk
    obtain ⟨i, hi, rfl⟩ := List.mem_iff_getElem.mp hk
    exact rank_indep cfg s.sh sh' _ (hKrole i _ (List.getElem?_eq_getElem hi))
  -- the producer's rank does not read the shared state; the consumer's does not rise under a step of another thread
  have hPi := rank_indep cfg s.sh sh' s.P (not_cons_pc .p s.P nofun hr.okP)
  have hC : t ≠ .c → thRank cfg sh' s.C ≤ thRank cfg s.sh s.C := fun hne =>
    rank_mono cfg s.sh sh' s.C (by rw [← hsh]; exact hg.pseq_le) (by rw [← hsh]; exact hg.cons hne)
  unfold mu
  cases t with
  | p =>
    have hP : s.P = th := by simpa [St.getTh] using hth
    have hC := hC nofun
    show thRank cfg sh' th' + thRank cfg sh' s.C + (s.K.map (thRank cfg sh')).sum + noteT sh' < _
    rw [hKeq, hP]; omega
  | c =>
    have hC : s.C = th := by simpa [St.getTh] using hth
    show thRank cfg sh' s.P + thRank cfg sh' th' + (s.K.map (thRank cfg sh')).sum + noteT sh' < _
    rw [hKeq, hC, hPi]; omega
  | k i =>
    have hthk : s.K[i]? = some th := hth
    have hC := hC nofun
    have hset := List.sum_map_set (thRank cfg sh') s.K i (b := th') hthk
    have hthi := rank_indep cfg s.sh sh' th (hKrole i th hthk)
    show thRank cfg sh' s.P + thRank cfg sh' s.C + ((s.K.set i th').map (thRank cfg sh')).sum + noteT sh' < _
    rw [hPi]
    rw [hKeq] at hset
    omega

/-- number of steps of a schedule that were enabled (and therefore taken) -/
def taken (cfg : Cfg) (s : St) : List Tid → Nat
  | [] => 0
  | t :: ts =>
    match step cfg s t with
    | none => taken cfg s ts
    | some s' => taken cfg s' ts + 1

theorem taken_le_mu (cfg : Cfg) (base : Nat) (s : St) (sched : List Tid) (hr : RInv cfg base s) :
    taken cfg s sched + mu cfg (run cfg s sched) ≤ mu cfg s := by
  induction sched generalizing s with
  | nil => simp [taken, run]
  | cons t ts ih =>
    unfold taken run
    cases hs : step cfg s t with
    | none => simpa [hs] using ih s hr
    | some s' =>
      have h1 := mu_step cfg base s s' t hr hs
      have h2 := ih s' (rinv_step_inv cfg base s s' t hr hs)
      simp only [Option.getD_some]
      omega

/-- while some thread is enabled, step it; `mu` falls every time -/
theorem quiescent_reachable (cfg : Cfg) (base : Nat) (s : St) (hr : RInv cfg base s) :
    ∃ sched, ∀ t, step cfg (run cfg s sched) t = none := by
  generalize hn : mu cfg s = n
  induction n using Nat.strongRecOn generalizing s with
  | _ n ih =>
    by_cases hq : ∀ t, step cfg s t = none
    · exact ⟨[], hq⟩
    · obtain ⟨t, ht⟩ := Classical.not_forall.mp hq
      obtain ⟨s', hs⟩ := Option.ne_none_iff_exists'.mp ht
      obtain ⟨sched, h⟩ := ih _ (hn ▸ mu_step cfg base s s' t hr hs) s' (rinv_step_inv cfg base s s' t hr hs) rfl
      exact ⟨t :: sched, by rw [run, hs]; exact h⟩

end Mqtt.Proofs.Ring
