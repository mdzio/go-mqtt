/-
Retained delivery at subscribe time - what `sendRetained` writes for the pending list the SUBSCRIBE loop builds
(`sendRetained_char`, `packet_subscribe_out`) and what `srvSub` hands to its callback (`srvSub_char`), both against the
retained trie and the specification's retained store (`retained_spec`); they stand behind `C08_subscribe_delivers_retained`,
`C08_srvSub_delivers_retained_partial` of `Properties/C08.lean`.  At the end the HELD subscriptions under the in-process
Subscribe / Unsubscribe: one-element instances of `HeldInv.resubscribe`, `HeldInv.unsubFold` (`srvSub_held`, `srvUnsub_held`).
-/
import Mqtt.Proofs.BrokerFanoutHeld

namespace Mqtt.Proofs.Broker
open Mqtt.Iface.Broker Mqtt.Model.Broker
open Mqtt.Model.Topics (MemTopics RMsg Level)
open Mqtt.Proofs.Topics (entryLevels)
open Mqtt.Proofs.Topics (RWF absR good)
open Mqtt.Spec.Match (split validFilter matchLevels)

/-- the PUBLISH a subscriber granted at `g` gets for the stored message `r`:
stored topic, payload, DUP bit and RETAIN flag, QoS min(stored, granted), the
stored identifier (none at QoS 0) -/
def retainedPub (r : RMsg) (g : Nat) : Pub :=
  { dup := r.dup, qos := min r.qos g, retain := r.retain, topic := r.topic,
    pktid := if min r.qos g = 0 then 0 else r.pktid, payload := r.payload }

/-- `Clone` + `SetQoS`: the stored fields at QoS min(stored, granted) -/
theorem setQoS_min (rq : Nat) (r : RMsg) :
    (if r.qos > rq then ((⟨ofRMsg r, false⟩ : Msg).setQoS rq).p else ofRMsg r) =
      { ofRMsg r with qos := min r.qos rq } := by
  split
  · rw [Nat.min_eq_right (Nat.le_of_lt ‹_›)]; rfl
  · rw [Nat.min_eq_left (Nat.le_of_not_lt ‹_›)]; rfl

theorem conv_p (rq : Nat) (r : RMsg) : (conv rq r).p = { ofRMsg r with qos := min r.qos rq } := by
  rw [← setQoS_min]
  unfold conv
  split <;> rfl

/-- a clone only becomes dirty by a downgrade to QoS 0, where no identifier is needed -/
theorem conv_dirty (rq : Nat) (r : RMsg) (h : (conv rq r).dirty = true) : (conv rq r).p.qos = 0 := by
  unfold conv at h ⊢
  split
  · rename_i hq
    rw [if_pos hq] at h
    by_cases h0 : rq = 0
    · exact h0
    · have h2 : rq > 0 := Nat.pos_of_ne_zero h0
      rw [show ((⟨ofRMsg r, false⟩ : Msg).setQoS rq).dirty = (false || (decide (r.qos > 0) != decide (rq > 0))) from rfl,
        decide_eq_true (Nat.lt_trans h2 hq), decide_eq_true h2] at h
      cases h
  · rename_i hq
    rw [if_neg hq] at h
    cases h

theorem sendRetained_char (c : Nat) (rms : List Msg) : ∀ b : B, b.alive c = true →
    (∀ m ∈ rms, m.p.topic ≠ [] ∧ (m.dirty = true → m.p.qos = 0)) →
    sendRetained b c rms =
      (b, rms.map (fun m => Out.send c (.publish { m.p with pktid := if m.p.qos = 0 then 0 else m.p.pktid }))) := by
  induction rms with
  | nil => intro b _ _; rfl
  | cons m rest ih =>
    intro b hal hm
    obtain ⟨h1, h2⟩ := hm m (List.mem_cons_self ..)
    unfold sendRetained
    simp only [hal, Bool.not_true, Bool.false_eq_true, ↓reduceIte, encode_eq, List.isEmpty_eq_false_iff.mpr h1,
      Bool.and_false, encId, encCtr, draws_clean fun h => .inl (h2 h), wire_eq]
    rw [show ({ b with ctr := b.ctr } : B) = b from rfl, ih b hal (fun x hx => hm x (List.mem_cons_of_mem _ hx))]
    rfl

theorem retained_char_good (mt : MemTopics) (t : Bytes) (hwf : RWF mt.rroot)
    (hg : good t = true) (hv : validFilter t = true) :
    ∃ l, mt.retained t = some l ∧
      l.Perm (((absR mt.rroot).filter (fun e => matchLevels (split t) e.1)).map (·.2)) := by
  obtain ⟨e1, e2⟩ := Mqtt.Proofs.Topics.entryLevels_valid t hg hv
  obtain ⟨l, h1, h2⟩ := Mqtt.Proofs.Topics.retained_contract mt t hwf e2
  refine ⟨l, h1, ?_⟩
  rw [e1, Mqtt.Proofs.Topics.filterMap_ite] at h2
  have hvl : Mqtt.Spec.Match.validFilterLevels (split t) = true := by
    simp only [validFilter, Bool.and_eq_true] at hv; exact hv.2
  simpa only [Mqtt.Proofs.Topics.rwalk_eq_matchLevels _ hvl] using h2

theorem retainedOf_mem (mt : MemTopics) (t : Bytes) (hwf : RWF mt.rroot) (hl : (entryLevels t).2 = true) (r : RMsg)
    (hr : r ∈ retainedOf mt t) : ∃ e ∈ absR mt.rroot, e.2 = r := by
  unfold retainedOf at hr
  obtain ⟨l, h1, h2⟩ := Mqtt.Proofs.Topics.retained_contract mt t hwf hl
  rw [h1, Option.getD_some, h2.mem_iff, Mqtt.Proofs.Topics.filterMap_ite] at hr
  obtain ⟨e, he, rfl⟩ := List.mem_map.mp hr
  exact ⟨e, (List.mem_filter.mp he).1, rfl⟩

theorem retainedOf_good (b : B) (hinv : Inv b) (t : Bytes) (hg : good t = true) (hv : validFilter t = true) :
    (retainedOf b.topics t).Perm
      (((absR b.topics.rroot).filter (fun e => matchLevels (split t) e.1)).map (·.2)) ∧
    ∀ r ∈ retainedOf b.topics t, r.retain = true := by
  obtain ⟨l, h1, h2⟩ := retained_char_good b.topics t hinv.rwf hg hv
  rw [show retainedOf b.topics t = l by rw [retainedOf, h1]; rfl]
  refine ⟨h2, fun r hr => ?_⟩
  obtain ⟨e, he, rfl⟩ := List.mem_map.mp (h2.mem_iff.mp hr)
  exact hinv.rflag e (List.mem_filter.mp he).1

theorem packet_subscribe_out (b : B) (hinv : Inv b) (c id : Nat) (topics : List (Bytes × Nat))
    (hl : b.alive c = true) (htop : ∀ e ∈ absR b.topics.rroot, e.2.topic ≠ []) :
    (packet b c (.subscribe id topics)).2 =
      Out.send c (.suback id (topics.map (fun tq => modelCode tq.1 tq.2))) ::
      topics.flatMap (fun tq =>
        if accepts tq.1 tq.2 then
          (retainedOf b.topics tq.1).map (fun r =>
            Out.send c (.publish (retainedPub r (min tq.2 Mqtt.Generated.maxQosAllowed))))
        else []) := by
  obtain ⟨cn, s, hc, ha, hs⟩ := hinv.live hl
  -- every pending message is a clone of a stored one: it has a topic and needs no new identifier
  have hpend : ∀ m ∈ topics.flatMap (fun tq => if accepts tq.1 tq.2 then
      (retainedOf b.topics tq.1).map (conv (min tq.2 Mqtt.Generated.maxQosAllowed)) else []),
      m.p.topic ≠ [] ∧ (m.dirty = true → m.p.qos = 0) := by
    intro m hm
    obtain ⟨tq, _, hm⟩ := List.mem_flatMap.mp hm
    split at hm
    · rename_i hacc
      obtain ⟨r, hr, rfl⟩ := List.mem_map.mp hm
      obtain ⟨e, he, rfl⟩ := retainedOf_mem b.topics tq.1 hinv.rwf (accepts_levels _ _ hacc) r hr
      exact ⟨by rw [conv_p]; exact htop e he, conv_dirty _ _⟩
    · cases hm
  rw [packet_subscribe_snd id topics hc ha hs, sendRetained_char c _ _ (show ((({ b with topics := resubscribe b.topics c topics } : B).setSess
      { s with topics := subTopics topics s.topics })).alive c = true from alive_of_getConn b c cn hc ha) hpend]
  show Out.send c (.suback id _) :: List.map _ (List.flatMap _ topics) = _
  refine congrArg _ ?_
  rw [List.map_flatMap]
  apply Mqtt.Proofs.Topics.flatMap_congr'
  intro tq _
  split
  · rw [List.map_map]
    apply List.map_congr_left
    intro r _
    show Out.send c (.publish { (conv _ r).p with pktid := _ }) = _
    rw [conv_p]
    rfl
  · rfl

/-- what an in-process callback granted at `g` is called with for the stored
message `r` (no encoding: the stored identifier stays) -/
def retainedCall (r : RMsg) (g : Nat) : Pub :=
  { dup := r.dup, qos := min r.qos g, retain := r.retain, topic := r.topic, pktid := r.pktid, payload := r.payload }

theorem srvSub_char (b : B) (cb : Nat) (f : Bytes) (q : Nat) :
    (srvSub b cb f q).2 =
      (if accepts f q then
        (retainedOf b.topics f).map (fun r => Out.call cb (retainedCall r (min q Mqtt.Generated.maxQosAllowed)))
       else [.apiErr]) ∧
    (srvSub b cb f q).1 = { b with topics := (b.topics.subscribe Mqtt.Generated.maxQosAllowed f q cb).1 } := by
  refine ⟨?_, srvSub_fst b cb f q⟩
  unfold srvSub
  rw [subscribe_eq]
  unfold retainedOf
  cases accepts f q
  · rfl
  · simp only [↓reduceIte]
    show List.map _ (match b.topics.retained f with | none => [] | some l => _) = _
    cases b.topics.retained f with
    | none => rfl
    | some l =>
      rw [List.map_map]
      apply List.map_congr_left
      intro r _
      exact congrArg (Out.call cb) (setQoS_min _ r)

theorem srvSub_retain (b : B) (hinv : Inv b) (cb : Nat) (f : Bytes) (q : Nat) (w : Pub)
    (ho : Out.call cb w ∈ (srvSub b cb f q).2) : w.retain = true := by
  rw [(srvSub_char b cb f q).1] at ho
  cases ha : accepts f q with
  | false => simp [ha] at ho
  | true =>
    simp only [ha, ↓reduceIte] at ho
    obtain ⟨r, hr, heq⟩ := List.mem_map.mp ho
    obtain ⟨e, he, rfl⟩ := retainedOf_mem b.topics f hinv.rwf (accepts_levels f q ha) r hr
    cases heq
    exact hinv.rflag e he

/-- a PUBLISH without the fields the specification leaves open (DUP, identifier) -/
def normPub (p : Pub) : Pub := { p with dup := false, pktid := 0 }

theorem retained_spec (mt : MemTopics) (rets : List Mqtt.Spec.Broker.Ret) (h : RetInv mt.rroot rets)
    (t : Bytes) (g : Nat) (hg : good t = true) (hv : validFilter t = true) :
    ((retainedOf mt t).map (fun r => normPub (retainedPub r g))).Perm
      (Mqtt.Spec.Broker.retainedFor { rets := rets } t g) := by
  obtain ⟨l, h1, h2⟩ := retained_char_good mt t h.wf hg hv
  simp only [retainedOf, h1, Option.getD_some]
  refine (h2.map _).trans ?_
  rw [List.map_map]
  -- through `retOf`
  let ψ' : List Level × Mqtt.Spec.Broker.Ret → Pub := fun x =>
    { qos := min x.2.qos g, retain := true, topic := x.2.topic, payload := x.2.payload }
  have e1 : ((absR mt.rroot).filter (fun e => matchLevels (split t) e.1)).map
        ((fun r => normPub (retainedPub r g)) ∘ (·.2)) =
      (((absR mt.rroot).map retOf).filter (fun x => matchLevels (split t) x.1)).map ψ' := by
    rw [List.filter_map, List.map_map]
    apply List.map_congr_left
    intro e he
    have hf := h.flag e (List.mem_filter.mp he).1
    simp only [Function.comp, normPub, retainedPub, retOf, ψ', hf]
  rw [e1]
  refine ((h.perm.filter _).map _).trans ?_
  rw [List.filter_map, List.map_map]
  exact List.Perm.refl _

theorem srvSub_held (b : B) (hinv : Inv b) (cb : Nat) (f : Bytes) (q : Nat) (hg : good f = true)
    (held : List Mqtt.Spec.Broker.Held) (hh : HeldInv b.topics.sroot held) :
    HeldInv (srvSub b cb f q).1.topics.sroot
      (if (!validFilter f || decide (q > 2)) = true then held
       else Mqtt.Spec.Broker.addHeld held cb f (min q Mqtt.Spec.Broker.maxQos)) := by
  rw [srvSub_fst]
  obtain ⟨c1, c2⟩ := subCode_granted f q
  -- the specification's test, in terms of its return code: the SUBSCRIBE loop over the single request
  have hspec : (if (!validFilter f || decide (q > 2)) = true then held
      else Mqtt.Spec.Broker.addHeld held cb f (min q Mqtt.Spec.Broker.maxQos)) = specSubHeld cb [(f, q)] held := by
    show _ = if Mqtt.Spec.Broker.subCode f q != 0x80 then _ else held
    rw [c1]
    cases hv : validFilter f with
    | false => rfl
    | true =>
      by_cases hq : q ≤ 2
      · rw [c2 (by rw [hv, decide_eq_true hq]; rfl), decide_eq_true hq, decide_eq_false (Nat.not_lt.mpr hq)]; rfl
      · rw [decide_eq_false hq, decide_eq_true (Nat.lt_of_not_le hq)]; rfl
  rw [hspec]
  exact hh.resubscribe hinv.wf cb [(f, q)] (fun tq h => List.mem_singleton.mp h ▸ hg)

theorem srvUnsub_held (b : B) (hinv : Inv b) (cb : Nat) (f : Bytes) (hg : good f = true)
    (held : List Mqtt.Spec.Broker.Held) (hh : HeldInv b.topics.sroot held) :
    HeldInv (srvUnsub b cb f).1.topics.sroot (held.filter (fun h => !(h.owner == cb && h.filter == f))) := by
  -- one `Unsubscribe` call is the UNSUBSCRIBE loop over the single filter
  have := hh.unsubFold hinv.wf cb [f] (fun t ht => List.mem_singleton.mp ht ▸ hg)
  rw [srvUnsub_fst]
  simpa only [List.contains_cons, List.contains_nil, Bool.or_false, List.foldl_cons, List.foldl_nil] using this

end Mqtt.Proofs.Broker
