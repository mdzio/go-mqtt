/-
The specification of an ack queue (`Spec/Fifo.lean`) seen from the list models that are shown to be such
queues: the three list operations under a projection from any record type (`register_map`, `ackId_map`,
`collect_map`, on `takeWhile_dropWhile_congr`), step simulation to run simulation (`fifo_run_sim`), the
bookkeeping law every "handed back ++ still in flight = was in flight ++ accepted" theorem iterates
(`ledger_chain`), and what a PINGRESP does (`step_pingresp`, `answerPing_skip`).
-/
import Mqtt.Spec.Fifo

namespace Mqtt.Proofs.Fifo
open Mqtt.Spec Mqtt.Iface.AckQ

theorem ledger_chain {β} {r1 r2 q0 q1 q2 a1 a2 : List β} (h1 : r1 ++ q1 = q0 ++ a1) (h2 : r2 ++ q2 = q1 ++ a2) :
    (r1 ++ r2) ++ q2 = q0 ++ (a1 ++ a2) := by
  rw [List.append_assoc, h2, ← List.append_assoc, h1, List.append_assoc]

theorem takeWhile_dropWhile_congr {α : Type} {p p' : α → Bool} {l : List α} (h : ∀ a ∈ l, p a = p' a) :
    l.takeWhile p = l.takeWhile p' ∧ l.dropWhile p = l.dropWhile p' := by
  induction l with
  | nil => exact ⟨rfl, rfl⟩
  | cons a l ih =>
    obtain ⟨i1, i2⟩ := ih fun x hx => h x (List.mem_cons_of_mem _ hx)
    rw [List.takeWhile_cons, List.dropWhile_cons, List.takeWhile_cons, List.dropWhile_cons,
      h a List.mem_cons_self, i1, i2]
    exact ⟨rfl, rfl⟩

/-! ### the list operations under a projection

`g` sends the records of a list model to FIFO entries and reads the identifier through `id`.  A model's
"append unless the identifier is in flight", "update the record bearing the identifier" and "split off the
prefix satisfying `t`" are then `register`, `ackId` and `collect` of the projected list. -/

section proj
variable {α : Type} (g : α → Fifo.Entry)

theorem register_map (id : α → Nat) (hid : ∀ e, (g e).id = id e) (q : List α) (pg : List Fifo.Entry) (r : α) :
    Fifo.register ⟨q.map g, pg⟩ (g r) = ⟨(if q.any (fun e => id e == id r) then q else q ++ [r]).map g, pg⟩ := by
  unfold Fifo.register
  rw [List.any_map, show ((fun x : Fifo.Entry => x.id == (g r).id) ∘ g) = fun e => id e == id r from
    funext fun e => by simp only [Function.comp_apply, hid]]
  split
  · rfl
  · rw [List.map_append]; rfl

theorem ackId_map (id : α → Nat) (hid : ∀ e, (g e).id = id e) (u : α → α) (t i : Nat) (bytes : List UInt8)
    (hu : ∀ e, id e = i → g (u e) = { g e with state := t, ack := bytes }) (q : List α) (pg : List Fifo.Entry) :
    Fifo.ackId ⟨q.map g, pg⟩ t i bytes = ⟨(q.map fun e => if id e == i then u e else e).map g, pg⟩ := by
  unfold Fifo.ackId
  rw [List.map_map, List.map_map]
  refine congrArg (Fifo.S.mk · pg) (List.map_congr_left fun e _ => ?_)
  show (if (g e).id == i then _ else _) = g (if id e == i then _ else _)
  rw [show ((g e).id == i) = (id e == i) by rw [hid]]
  split
  · rename_i h; exact (hu e (eq_of_beq h)).symm
  · rfl

theorem collect_map (t : α → Bool) (q : List α) (ht : ∀ e ∈ q, Fifo.terminal (g e).state = t e)
    (pg : List Fifo.Entry) :
    Fifo.collect ⟨q.map g, pg⟩ = (⟨(q.dropWhile t).map g, pg⟩, (q.takeWhile t).map g) := by
  obtain ⟨h1, h2⟩ := takeWhile_dropWhile_congr (l := q)
    (p := (fun e : Fifo.Entry => Fifo.terminal e.state) ∘ g) (p' := t) ht
  unfold Fifo.collect
  rw [List.dropWhile_map, List.takeWhile_map, h1, h2]

end proj

theorem answerPing_skip (bytes : List UInt8) (pre rest : List Fifo.Entry)
    (h : ∀ x ∈ pre, (x.state == Fifo.PINGRESP) = true) :
    Fifo.answerPing bytes (pre ++ rest) = pre ++ Fifo.answerPing bytes rest := by
  induction pre with
  | nil => rfl
  | cons a pre ih =>
    simp only [List.cons_append, Fifo.answerPing, h a List.mem_cons_self, ↓reduceIte]
    rw [ih fun x hx => h x (List.mem_cons_of_mem _ hx)]

theorem step_pingresp (s : Fifo.S) (id : Nat) (bytes : List UInt8) :
    (Fifo.step s (.ack Fifo.PINGRESP id bytes)).1 = { s with pings := Fifo.answerPing bytes s.pings } := rfl

/-- A machine (`stp`, iterated by `run`) whose every step is the specification's step under `abs` / `toOp` /
`out` - in states satisfying `I`, for operations satisfying `ok` - runs as the specification runs. -/
theorem fifo_run_sim {σ ω ρ : Type} (stp : σ → ω → σ × ρ) (run : σ → List ω → σ × List ρ)
    (run_nil : ∀ s, run s [] = (s, []))
    (run_cons : ∀ s op ops, run s (op :: ops) = ((run (stp s op).1 ops).1, (stp s op).2 :: (run (stp s op).1 ops).2))
    (abs : σ → Fifo.S) (toOp : ω → Op) (out : ρ → ω → Fifo.SOut) (I : σ → Prop) (ok : ω → Bool)
    (hstep : ∀ s op, I s → ok op = true →
      I (stp s op).1 ∧ Fifo.step (abs s) (toOp op) = (abs (stp s op).1, out (stp s op).2 op))
    (s : σ) (hs : I s) (ops : List ω) (hops : ops.all ok = true) :
    (Fifo.run (abs s) (ops.map toOp)).1 = abs (run s ops).1 ∧
    (Fifo.run (abs s) (ops.map toOp)).2 = (List.zip (run s ops).2 ops).map (fun x => out x.1 x.2) ∧
    I (run s ops).1 := by
  induction ops generalizing s with
  | nil => rw [run_nil]; exact ⟨rfl, rfl, hs⟩
  | cons op ops ih =>
    rw [List.all_cons, Bool.and_eq_true] at hops
    obtain ⟨h1, h2⟩ := hstep s op hs hops.1
    obtain ⟨i1, i2, i3⟩ := ih (stp s op).1 h1 hops.2
    rw [run_cons]
    simp only [List.map_cons, Fifo.run, h2, List.zip_cons_cons]
    exact ⟨i1, congrArg _ i2, i3⟩

end Mqtt.Proofs.Fifo
