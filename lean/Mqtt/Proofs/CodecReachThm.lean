/-
Core A (codec): the statements of C03 for every message object reachable through the
public API — `Type.New()` or a successful `Decode`, then any setter calls.
-/
import Mqtt.Proofs.CodecReachInv
import Mqtt.Proofs.CodecWireV


namespace Mqtt.Proofs.Codec

open Mqtt.Model.Codec Mqtt.Iface.Codec
open Mqtt.Spec

/-- messages reachable through the public API: `Type.New()`, or the result of a successful
`Decode` of any byte string, followed by setter calls -/
inductive Reachable : Msg → Prop where
  | new {t : Nat} {m : Msg} : Msg.new t = some m → Reachable m
  | dec {t : Nat} {src : Bytes} {d : Decoded} : decodeNew t src = .ok d → Reachable d.msg
  | set {m : Msg} (s : Setter) : Reachable m → Reachable (applySetter m s).1

/-- where a message object comes from -/
inductive Origin where
  | new (t : Nat)
  | dec (t : Nat) (src : Bytes)
deriving Repr, DecidableEq

/-- the object an origin yields (`none`: invalid type number, or the decoder refused the input) -/
def Origin.start : Origin → Option Msg
  | .new t => Msg.new t
  | .dec t src => match decodeNew t src with
    | .ok d => some d.msg
    | _ => none

/-- the object after the setter calls `ss` (in order) -/
def run (o : Origin) (ss : List Setter) : Option Msg := o.start.map fun m0 => (applySetters m0 ss).1

/-- the accepted input was the reference encoding of the fields the decoder returned -/
def Origin.canonical : Origin → Bool
  | .new _ => true
  | .dec t src => match decodeNew t src with
    | .ok d => decide (CanonicalSrc src d)
    | _ => true

/-- the runs the `_partial` theorems leave out: the decoder's input was **not** a reference encoding
(non-minimal remaining length, or a CONNECT whose user-name/password flag announces a field that is
missing) and no setter call has marked the object dirty since, so `Encode` still copies those bytes -/
def Excluded (o : Origin) (ss : List Setter) : Bool :=
  !o.canonical && (match run o ss with
    | some m => !m.hdr.dirty
    | none => false)

/-- the bytes between the type/flags byte and the body of the decoded fields: how the input wrote the remaining length -/
def srcLenBytes (src : Bytes) (d : Decoded) : Bytes :=
  ((src.take d.n).drop 1).take (d.n - 1 - (absMsg d.msg).body.length)

instance (src : Bytes) (d : Decoded) (V : Bytes) : Decidable (BodyCanonical src d V) :=
  inferInstanceAs (Decidable (_ ∧ _))

/-- the accepted input was the type/flags byte, some one- to four-byte form of the remaining length, and the body
of the fields the decoder returned (weaker than `canonical`: the remaining length need not be minimal) -/
def Origin.bodyCanonical : Origin → Bool
  | .new _ => true
  | .dec t src => match decodeNew t src with
    | .ok d => decide (BodyCanonical src d (srcLenBytes src d))
    | _ => true

/-- the runs the `Encodes` theorem leaves out: the accepted input was not even an encoding of the returned fields
up to the form of the remaining length (the leniently accepted CONNECT whose flag announces a missing field), and
the object is still clean -/
def ExcludedV (o : Origin) (ss : List Setter) : Bool :=
  !o.bodyCanonical && (match run o ss with
    | some m => !m.hdr.dirty
    | none => false)

/-- what the origin guarantees about the decode buffer: the input was `V` + the body of the returned fields -/
def OriginV (V : Bytes) : Origin → Prop
  | .new _ => True
  | .dec t src => ∀ d, decodeNew t src = .ok d → BodyCanonical src d V

theorem start_dec (t : Nat) (src : Bytes) :
    (Origin.dec t src).start = (match decodeNew t src with | .ok d => some d.msg | _ => none) := rfl

theorem canonical_dec (t : Nat) (src : Bytes) :
    (Origin.dec t src).canonical = (match decodeNew t src with | .ok d => decide (CanonicalSrc src d) | _ => true) := rfl

theorem start_cases {o : Origin} {m0 : Msg} (hs : o.start = some m0) :
    (∃ t, o = .new t ∧ Msg.new t = some m0) ∨ ∃ t src d, o = .dec t src ∧ decodeNew t src = .ok d ∧ d.msg = m0 := by
  cases o with
  | new t => exact .inl ⟨t, rfl, hs⟩
  | dec t src =>
    rw [start_dec] at hs
    cases hd : decodeNew t src with
    | ok d => rw [hd] at hs; exact .inr ⟨t, src, d, rfl, hd, Option.some.inj hs⟩
    | err => rw [hd] at hs; cases hs
    | panic => rw [hd] at hs; cases hs

/-- the shape of `Origin.canonical` and `Origin.bodyCanonical` at a decoding origin -/
theorem dec_flag {t : Nat} {src : Bytes} {P : Decoded → Prop} [DecidablePred P] :
    (match decodeNew t src with | .ok d => decide (P d) | _ => true) = true ↔ ∀ d, decodeNew t src = .ok d → P d := by
  cases decodeNew t src with
  | ok d => exact ⟨fun h d' hd' => Outcome.ok.inj hd' ▸ of_decide_eq_true h, fun h => decide_eq_true (h d rfl)⟩
  | err => exact ⟨fun _ _ hd => (nomatch hd), fun _ => rfl⟩
  | panic => exact ⟨fun _ _ hd => (nomatch hd), fun _ => rfl⟩

theorem applySetters_snoc (m : Msg) (ss : List Setter) (s : Setter) :
    (applySetters m (ss ++ [s])).1 = (applySetter (applySetters m ss).1 s).1 := by
  induction ss generalizing m with
  | nil => rfl
  | cons a ss ih => simp only [List.cons_append, applySetters]; exact ih _

theorem reachable_iff_run (m : Msg) : Reachable m ↔ ∃ o ss, run o ss = some m := by
  constructor
  · intro h
    induction h with
    | @new t m h => exact ⟨.new t, [], by simp [run, Origin.start, h, applySetters]⟩
    | @dec t src d h => exact ⟨.dec t src, [], by simp [run, Origin.start, h, applySetters]⟩
    | @set m s _ ih =>
      obtain ⟨o, ss, hr⟩ := ih
      refine ⟨o, ss ++ [s], ?_⟩
      unfold run at hr ⊢
      cases hs : o.start with
      | none => rw [hs] at hr; cases hr
      | some m0 =>
        rw [hs] at hr
        simp only [Option.map_some, Option.some.injEq] at hr ⊢
        rw [applySetters_snoc, hr]
  · rintro ⟨o, ss, hr⟩
    unfold run at hr
    cases hs : o.start with
    | none => rw [hs] at hr; cases hr
    | some m0 =>
      rw [hs] at hr
      simp only [Option.map_some, Option.some.injEq] at hr
      have h0 : Reachable m0 := by
        rcases start_cases hs with ⟨t, rfl, h⟩ | ⟨t, src, d, rfl, hd, rfl⟩
        · exact .new h
        · exact .dec hd
      rw [← hr]
      clear hr hs
      induction ss generalizing m0 with
      | nil => exact h0
      | cons s ss ih => exact ih _ (Reachable.set s h0)

/-- `Built` is the part of `Reachable` that never went through `Decode`, and there every object is dirty: the
statements about built messages are the dirty case of the statements about reachable ones -/
theorem built_reachable {m : Msg} (hb : Built m) : Reachable m ∧ m.hdr.dirty = true := by
  refine ⟨?_, (built_inv hb).1⟩
  induction hb with
  | new h => exact .new h
  | set s _ ih => exact .set s ih

theorem shape_reachable {m : Msg} (h : Reachable m) : Shape m := by
  induction h with
  | new h => exact (freshInv_new h).2
  | dec h =>
    obtain ⟨_, hm, _, _, hD⟩ := (decodeNew_dec _ _).of_ok h
    exact hD.shape (freshInv_new hm).2
  | set s _ ih => exact shape_set _ s ih

theorem rinv_setters (V : Bytes) (m : Msg) (ss : List Setter) (hi : RInv V m) : RInv V (applySetters m ss).1 := by
  induction ss generalizing m with
  | nil => exact hi
  | cons s ss ih => exact ih _ (rinv_set V m s hi)

theorem rinv_run {o : Origin} {ss : List Setter} {m : Msg} {V : Bytes} (hr : run o ss = some m) (hV : OriginV V o) :
    RInv V m := by
  unfold run at hr
  cases hs : o.start with
  | none => rw [hs] at hr; cases hr
  | some m0 =>
    rw [hs] at hr
    simp only [Option.map_some, Option.some.injEq] at hr
    rw [← hr]
    apply rinv_setters
    rcases start_cases hs with ⟨t, rfl, h⟩ | ⟨t, src, d, rfl, hd, rfl⟩
    · exact rinv_new V h
    · exact rinv_dec hd (hV d hd)

theorem bodyCanonical_dec (t : Nat) (src : Bytes) :
    (Origin.dec t src).bodyCanonical =
      (match decodeNew t src with | .ok d => decide (BodyCanonical src d (srcLenBytes src d)) | _ => true) := rfl

theorem originV_of_canonical {o : Origin} (hc : o.canonical = true) :
    ∃ L0, L0 ≤ 268435455 ∧ OriginV (Wire.varint L0) o := by
  cases o with
  | new t => exact ⟨0, by omega, trivial⟩
  | dec t src =>
    have hc := dec_flag.mp ((canonical_dec t src).symm.trans hc)
    cases hd : decodeNew t src with
    | ok d =>
      obtain ⟨hb, hL⟩ := canonical_body hd (hc d hd)
      exact ⟨_, hL, fun d' hd' => Outcome.ok.inj (hd.symm.trans hd') ▸ hb⟩
    | err => exact ⟨0, by omega, fun d' hd' => by rw [hd] at hd'; cases hd'⟩
    | panic => exact ⟨0, by omega, fun d' hd' => by rw [hd] at hd'; cases hd'⟩

/-- `srcLenBytes` recovers the remaining-length bytes of any input that is `V` + the body of the returned fields -/
theorem srcLenBytes_eq {src : Bytes} {d : Decoded} {V : Bytes} (hn : d.n ≤ src.length) (h : BodyCanonical src d V) :
    srcLenBytes src d = V := by
  have hl := congrArg List.length h.1
  rw [List.length_take, Nat.min_eq_left hn, encodeV_length] at hl
  unfold srcLenBytes
  rw [h.1, hl]
  unfold Wire.encodeV
  rw [List.drop_succ_cons, List.drop_zero, show 1 + V.length + (absMsg d.msg).body.length - 1 - (absMsg d.msg).body.length = V.length by omega,
    List.take_left' rfl]

/-- a reference encoding is in particular body-canonical (so `ExcludedV` excludes fewer runs than `Excluded`) -/
theorem canonical_imp_bodyCanonical {o : Origin} (hc : o.canonical = true) : o.bodyCanonical = true := by
  cases o with
  | new t => rfl
  | dec t src =>
    have hc := dec_flag.mp ((canonical_dec t src).symm.trans hc)
    refine (bodyCanonical_dec t src).trans (dec_flag.mpr fun d hd => ?_)
    have hb := (canonical_body hd (hc d hd)).1
    exact srcLenBytes_eq ((decodeNew_total t src).of_ok hd).n_le hb ▸ hb

theorem excludedV_excluded (o : Origin) (ss : List Setter) (h : ExcludedV o ss = true) : Excluded o ss = true := by
  unfold ExcludedV at h
  unfold Excluded
  cases hc : o.canonical with
  | false => simpa [hc] using (by simpa using h : _ ∧ _).2
  | true => rw [canonical_imp_bodyCanonical hc] at h; simp at h

theorem originV_of_body {o : Origin} (hc : o.bodyCanonical = true) : ∃ V, OriginV V o := by
  cases o with
  | new t => exact ⟨[], trivial⟩
  | dec t src =>
    have hc := dec_flag.mp ((bodyCanonical_dec t src).symm.trans hc)
    cases hd : decodeNew t src with
    | ok d => exact ⟨srcLenBytes src d, fun d' hd' => Outcome.ok.inj (hd.symm.trans hd') ▸ hc d hd⟩
    | err => exact ⟨[], fun d' hd' => by rw [hd] at hd'; cases hd'⟩
    | panic => exact ⟨[], fun d' hd' => by rw [hd] at hd'; cases hd'⟩

theorem rinv_encode_wire {L0 : Nat} (hL0 : L0 ≤ 268435455) {m : Msg} (hi : RInv (Wire.varint L0) m) (hw : WillOk m)
    (ctr : UInt64) (e : Encoded) (he : encode m ctr m.len = .ok e) : e.out = Wire.encode (absMsg e.msg) := by
  obtain ⟨hs, hc⟩ := hi
  cases hd : m.hdr.dirty with
  | true => exact (encode_wire_le m ctr e hd hs hw he).1
  | false => rw [encode_clean_of_ok hd he]; exact clean_reference hL0 (hc hd)

theorem rinv_clean_encodes {V : Bytes} {m : Msg} (hi : RInv V m) (hd : m.hdr.dirty = false)
    (ctr : UInt64) (e : Encoded) (he : encode m ctr m.len = .ok e) :
    e.out = Wire.encodeV V (absMsg m) ∧ Wire.Encodes e.out (absMsg e.msg) := by
  rw [encode_clean_of_ok hd he]
  have hc := hi.2 hd
  exact ⟨hc.buf, V, hc.vlen, hc.buf⟩

theorem reachable_dirty_encode_wire {m : Msg} (hr : Reachable m) (hd : m.hdr.dirty = true) (hw : WillOk m)
    (ctr : UInt64) (e : Encoded) (he : encode m ctr m.len = .ok e) : e.out = Wire.encode (absMsg e.msg) :=
  (encode_wire_le m ctr e hd (shape_reachable hr) hw he).1

/-- `Excluded o ss` and `ExcludedV o ss` are this, with `b` the origin's flag (`hx` stands first: behind `hr` the
`match` would be compiled depending on it, and the two would no longer unfold to `hx`) -/
theorem not_excluded {b : Bool} {r : Option Msg} {m : Msg}
    (hx : (!b && (match r with | some m => !m.hdr.dirty | none => false)) = false) (hr : r = some m) :
    b = true ∨ m.hdr.dirty = true := by
  subst hr
  cases b with
  | true => exact Or.inl rfl
  | false =>
    right
    cases hd : m.hdr.dirty with
    | true => rfl
    | false => simp [hd] at hx

theorem run_encode_wire {o : Origin} {ss : List Setter} {m : Msg} (hr : run o ss = some m) (hx : Excluded o ss = false)
    (hw : WillOk m) (ctr : UInt64) (e : Encoded) (he : encode m ctr m.len = .ok e) :
    e.out = Wire.encode (absMsg e.msg) := by
  rcases not_excluded hx hr with hc | hd
  · obtain ⟨L0, hL0, hV⟩ := originV_of_canonical hc
    exact rinv_encode_wire hL0 (rinv_run hr hV) hw ctr e he
  · exact reachable_dirty_encode_wire ((reachable_iff_run m).mpr ⟨o, ss, hr⟩) hd hw ctr e he

theorem run_round_trip {o : Origin} {ss : List Setter} {m : Msg} (hr : run o ss = some m) (hx : Excluded o ss = false)
    (hw : WillOk m) (ctr : UInt64) (e : Encoded) (he : encode m ctr m.len = .ok e)
    (hwf : Wire.WF (absMsg e.msg)) (rest : Bytes) :
    ∃ d, decodeNew (absMsg e.msg).type (e.out ++ rest) = .ok d ∧ d.n = e.out.length ∧ absMsg d.msg = absMsg e.msg := by
  rw [run_encode_wire hr hx hw ctr e he]
  exact accepts_wf _ hwf rest

/-- a clean message decoded from *an* encoding of the fields the decoder returned (any remaining-length form) is
written as an encoding of its **current** fields, with the remaining-length bytes of the input -/
theorem run_clean_encodes {o : Origin} {ss : List Setter} {m : Msg} (hr : run o ss = some m)
    (hb : o.bodyCanonical = true) (hd : m.hdr.dirty = false) (ctr : UInt64) (e : Encoded)
    (he : encode m ctr m.len = .ok e) : Wire.Encodes e.out (absMsg e.msg) := by
  obtain ⟨V, hV⟩ := originV_of_body hb
  exact (rinv_clean_encodes (rinv_run hr hV) hd ctr e he).2

theorem reachable_dirty_encodes {m : Msg} (hr : Reachable m) (hd : m.hdr.dirty = true) (hw : WillOk m)
    (ctr : UInt64) (e : Encoded) (he : encode m ctr m.len = .ok e) : Wire.Encodes e.out (absMsg e.msg) := by
  obtain ⟨hwire, hle⟩ := encode_wire_le m ctr e hd (shape_reachable hr) hw he
  have hV := getVarint_varint _ hle []
  rw [List.append_nil] at hV
  exact ⟨_, hV, hwire⟩

theorem run_encodes {o : Origin} {ss : List Setter} {m : Msg} (hr : run o ss = some m) (hx : ExcludedV o ss = false)
    (hw : WillOk m) (ctr : UInt64) (e : Encoded) (he : encode m ctr m.len = .ok e) :
    Wire.Encodes e.out (absMsg e.msg) := by
  cases hd : m.hdr.dirty with
  | true => exact reachable_dirty_encodes ((reachable_iff_run m).mpr ⟨o, ss, hr⟩) hd hw ctr e he
  | false =>
    rcases not_excluded hx hr with hb | hd'
    · exact run_clean_encodes hr hb hd ctr e he
    · rw [hd] at hd'; cases hd'

theorem run_round_trip_encodes {o : Origin} {ss : List Setter} {m : Msg} (hr : run o ss = some m)
    (hx : ExcludedV o ss = false) (hw : WillOk m) (ctr : UInt64) (e : Encoded) (he : encode m ctr m.len = .ok e)
    (hwf : Wire.WF (absMsg e.msg)) (rest : Bytes) :
    ∃ d, decodeNew (absMsg e.msg).type (e.out ++ rest) = .ok d ∧ d.n = e.out.length ∧ absMsg d.msg = absMsg e.msg :=
  accepts_encodes _ hwf _ (run_encodes hr hx hw ctr e he) rest

/-- the message `Encode` leaves behind: an identifier is assigned only on the dirty path -/
def assignR (m : Msg) (ctr : UInt64) : Msg := if m.hdr.dirty then assign m ctr else m

theorem reachable_encode_succeeds {m : Msg} (hr : Reachable m) (ctr : UInt64)
    (hwf : m.hdr.dirty = true → Wire.WF (absMsg (assign m ctr))) :
    ∃ e, encode m ctr m.len = .ok e ∧ e.msg = assignR m ctr := by
  have hs := shape_reachable hr
  unfold assignR
  cases hd : m.hdr.dirty with
  | false =>
    obtain ⟨_, h2⟩ := encode_clean m ctr hd
    exact ⟨_, h2, by simp⟩
  | true =>
    exact encode_dirty_succeeds m ctr hd hs (hwf hd)

end Mqtt.Proofs.Codec
