/-
What the refinement theorem gives for C01, C02, C07-C11, each stated on related states `R b s`
about the next event; the property files instantiate them with `reach` / `reachX`.
-/
import Mqtt.Proofs.BrokerRefine

namespace Mqtt.Proofs.BrokerRefine
open Mqtt.Iface.Broker Mqtt.Model.Broker
open Mqtt.Proofs.Topics (good)
open Mqtt.Spec.Match (validName topicMatches)
open Mqtt.Proofs.Broker (HeldInv RetInv specSubHeld)
open Mqtt.Proofs.BrokerQos (toOpen2 specReleaseAll)
open Mqtt.Spec.Broker (Accepts SOut Held addHeld subCode wild pubOf modelGroup)

theorem reach (es : List Ev) (hok : okRun {} es = true) : R (run {} es).1 (specRun {} es).1 :=
  (Broker_refines_spec es hok).1

theorem reach_step_of_R (b : B) (s : Spec.Broker.S) (h : R b s) (e : Ev) (he : okEv b e = true) :
    R (step b e).1 (Spec.Broker.step s e).1 ∧
    Accepts (Spec.Broker.step s e).2 (step b e).2 ∧
    Spec.Broker.step s e = Spec.Broker.step1 s e :=
  ⟨(step_refines _ _ e h he).1, (step_refines _ _ e h he).2, spec_step_eq _ e⟩

theorem reach_step (es : List Ev) (hok : okRun {} es = true) (e : Ev) (he : okEv (run {} es).1 e = true) :
    R (step (run {} es).1 e).1 (Spec.Broker.step (specRun {} es).1 e).1 ∧
    Accepts (Spec.Broker.step (specRun {} es).1 e).2 (step (run {} es).1 e).2 ∧
    Spec.Broker.step (specRun {} es).1 e = Spec.Broker.step1 (specRun {} es).1 e :=
  reach_step_of_R _ _ (reach es hok) e he

theorem publish_copies {b : B} {s : Spec.Broker.S} (h : R b s) (m : Msg)
    (hg : good m.p.topic = true) (hn : validName m.p.topic = true) (hq : m.p.qos ≤ 2)
    (hok : m.p.pktid ≠ 0 ∨ m.dirty = true ∨ m.p.qos = 0) (g : Nat) :
    (((modelGroup g (onPublish b m).2.2.1).filterMap pubOf).map wild).Perm
      ((s.held.filter (fun x => topicMatches x.filter m.p.topic && x.owner == g)).map
        (fun x => mkCopy m.p.topic m.p.payload (min m.p.qos x.qos))) ∧
    (∀ y ∈ (onPublish b m).2.2.1, okOut y = true) := by
  have fan := (R_onPublish h m hg hn hq hok).2.1
  refine ⟨?_, fan.outs⟩
  have := fan.perm g
  rw [spec_accept_snd, copies_fanout, matching_congr s _ (spec_retainStep_held s m.p)] at this
  refine this.trans ?_
  unfold Spec.Broker.matching
  rw [List.filter_filter]
  have : (fun (a : Held) => a.owner == g && topicMatches a.filter m.p.topic) =
      (fun x => topicMatches x.filter m.p.topic && x.owner == g) := by
    funext a; exact Bool.and_comm _ _
  rw [this]

theorem publish_nobody_else {b : B} {s : Spec.Broker.S} (h : R b s) (m : Msg)
    (hg : good m.p.topic = true) (hn : validName m.p.topic = true) (hq : m.p.qos ≤ 2)
    (hok : m.p.pktid ≠ 0 ∨ m.dirty = true ∨ m.p.qos = 0) (g : Nat)
    (hno : ∀ x ∈ s.held, x.owner = g → topicMatches x.filter m.p.topic = false) :
    modelGroup g (onPublish b m).2.2.1 = [] := by
  obtain ⟨hp, houts⟩ := publish_copies h m hg hn hq hok g
  refine run_nil_of_copies_nil (fun y hy => okOut_pub (houts y (mem_modelGroup hy).1)) ?_
  rwa [List.filter_eq_nil_iff.mpr fun x hx hxg => by
    rw [Bool.and_eq_true, beq_iff_eq] at hxg
    rw [hno x hx hxg.2] at hxg; cases hxg.1] at hp

/-- C01: every addressee gets, as a multiset, one copy per matching subscription the reference broker
holds for it (DUP and identifier wildcarded), and nothing if it holds none -/
theorem publish01_refines_of_R (b : B) (s : Spec.Broker.S) (h : R b s) (c : Nat) (p : Pub)
    (hl : b.alive c = true) (hp : pubOk p = true) (hq : p.qos ≤ 1) :
    Accepts (Spec.Broker.step s (.packet c (.publish p))).2 (step b (.packet c (.publish p))).2 ∧
    (step b (.packet c (.publish p))).2 =
      (if p.qos = 1 then [.send c (.puback p.pktid)] else []) ++ (onPublish b ⟨p, false⟩).2.2.1 ∧
    ∀ g,
      (((modelGroup g (onPublish b ⟨p, false⟩).2.2.1).filterMap pubOf).map wild).Perm
        ((s.held.filter (fun x => topicMatches x.filter p.topic && x.owner == g)).map
          (fun x => mkCopy p.topic p.payload (min p.qos x.qos))) ∧
      ((∀ x ∈ s.held, x.owner = g → topicMatches x.filter p.topic = false) →
        modelGroup g (onPublish b ⟨p, false⟩).2.2.1 = []) := by
  obtain ⟨hg, hn, hq2, _⟩ := pubOk_iff p hp
  refine ⟨(step_refines b s (.packet c (.publish p)) h hp).2, ?_, fun g =>
    ⟨(publish_copies h ⟨p, false⟩ hg hn hq2 (pubOk_ready p hp) g).1,
      publish_nobody_else h ⟨p, false⟩ hg hn hq2 (pubOk_ready p hp) g⟩⟩
  obtain ⟨cn, σ, hc, ha, hs⟩ := h.inv.live hl
  have : p.qos = 0 ∨ p.qos = 1 := by omega
  show (packet b c (.publish p)).2 = _
  rcases this with h0 | h1
  · rw [Mqtt.Proofs.BrokerQos.packet_publish0 hc ha hs p h0]; simp [h0]
  · rw [Mqtt.Proofs.BrokerQos.packet_publish1 hc ha hs p h1]; simp [h1]

/-- C07: the request is effective when it is acknowledged - afterwards the trie holds exactly the
subscriptions the reference broker holds -/
theorem subunsub_refines_of_R (b : B) (s : Spec.Broker.S) (h : R b s) (c id : Nat) (hl : b.alive c = true) :
    (∀ ts : List (Bytes × Nat), (∀ tq ∈ ts, good tq.1 = true) →
      Accepts (Spec.Broker.step s (.packet c (.subscribe id ts))).2 (step b (.packet c (.subscribe id ts))).2 ∧
      (∃ rest, (step b (.packet c (.subscribe id ts))).2 =
        .send c (.suback id (ts.map (fun t => subCode t.1 t.2))) :: rest) ∧
      HeldInv (step b (.packet c (.subscribe id ts))).1.topics.sroot
        (Spec.Broker.step s (.packet c (.subscribe id ts))).1.held) ∧
    (∀ ts : List Bytes, (∀ t ∈ ts, good t = true) →
      Accepts (Spec.Broker.step s (.packet c (.unsubscribe id ts))).2 (step b (.packet c (.unsubscribe id ts))).2 ∧
      (step b (.packet c (.unsubscribe id ts))).2 = [.send c (.unsuback id)] ∧
      HeldInv (step b (.packet c (.unsubscribe id ts))).1.topics.sroot
        (Spec.Broker.step s (.packet c (.unsubscribe id ts))).1.held) := by
  constructor
  · intro ts hg
    obtain ⟨r1, r2⟩ := step_refines b s (.packet c (.subscribe id ts)) h (List.all_eq_true.mpr hg)
    exact ⟨r2, ⟨_, subscribe_out h c hl id ts hg⟩, r1.held⟩
  · intro ts hg
    obtain ⟨r1, r2⟩ := step_refines b s (.packet c (.unsubscribe id ts)) h (List.all_eq_true.mpr hg)
    obtain ⟨cn, σ, hc, ha, hs⟩ := h.inv.live hl
    refine ⟨r2, ?_, r1.held⟩
    show (packet b c (.unsubscribe id ts)).2 = _
    rw [Mqtt.Proofs.Broker.packet_unsubscribe b c cn σ id ts hc ha hs]
    exact Mqtt.Proofs.BrokerQos.send_alive hl _

/-- C08: the deliveries after the SUBACK are the retained messages the reference broker demands -/
theorem retained_refines_of_R (b : B) (s : Spec.Broker.S) (h : R b s) (c id : Nat)
    (hl : b.alive c = true) (ts : List (Bytes × Nat)) (hg : ∀ tq ∈ ts, good tq.1 = true) :
    RetInv b.topics.rroot s.rets ∧
    Accepts (Spec.Broker.step s (.packet c (.subscribe id ts))).2 (step b (.packet c (.subscribe id ts))).2 ∧
    ∃ rest, (step b (.packet c (.subscribe id ts))).2 =
        .send c (.suback id (ts.map (fun t => subCode t.1 t.2))) :: rest ∧
      ((rest.filterMap pubOf).map wild).Perm
        ((((ts.zip (ts.map (fun t => subCode t.1 t.2))).filter (fun p => p.2 != 0x80)).map
          (fun p => Spec.Broker.retainedFor s p.1.1 p.2)).flatten) ∧
      ∀ y ∈ rest, ∃ w, y = .send c (.publish w) ∧ w.retain = true := by
  refine ⟨h.rets, (step_refines b s (.packet c (.subscribe id ts)) h (List.all_eq_true.mpr hg)).2,
    _, subscribe_out h c hl id ts hg, ?_, ?_⟩
  · refine (subscribe_retained_perm b.topics s h.rets c ts hg).trans ?_
    have : ((ts.zip (ts.map (fun t => subCode t.1 t.2))).filter (fun p => p.2 != 0x80)).map
        (fun p => (Spec.Broker.retainedFor s p.1.1 p.2).map wild) =
        ((ts.zip (ts.map (fun t => subCode t.1 t.2))).filter (fun p => p.2 != 0x80)).map
        (fun p => Spec.Broker.retainedFor s p.1.1 p.2) :=
      List.map_congr_left (fun p _ => map_wild_retainedFor s p.1.1 p.2)
    rw [this]
  · intro y hy
    obtain ⟨e, he, g, rfl⟩ := mem_retainedOuts h hy
    exact ⟨_, rfl, h.inv.rflag e he⟩

theorem subscribe_refines {b : B} {s : Spec.Broker.S} (h : R b s) (c : Nat) (hl : b.alive c = true) (id : Nat)
    (ts : List (Bytes × Nat)) (hg : ∀ tq ∈ ts, good tq.1 = true) :
    (∃ rest, (step b (.packet c (.subscribe id ts))).2 =
        .send c (.suback id (ts.map (fun t => subCode t.1 t.2))) :: rest ∧
      ((rest.filterMap pubOf).map wild).Perm
        ((((ts.zip (ts.map (fun t => subCode t.1 t.2))).filter (fun p => p.2 != 0x80)).map
          (fun p => Spec.Broker.retainedFor s p.1.1 p.2)).flatten) ∧
      ∀ y ∈ rest, ∃ w, y = .send c (.publish w) ∧ w.retain = true) ∧
    (Spec.Broker.step1 s (.packet c (.subscribe id ts))).1.held = specSubHeld c ts s.held ∧
    HeldInv (step b (.packet c (.subscribe id ts))).1.topics.sroot (specSubHeld c ts s.held) := by
  obtain ⟨_, _, k, _, _, _, hk, _⟩ := h.liveConn hl
  have hheldeq : (Spec.Broker.step1 s (.packet c (.subscribe id ts))).1.held = specSubHeld c ts s.held := by
    simp only [Spec.Broker.step1, hk, Mqtt.Proofs.Broker.specSubHeld_eq]
  exact ⟨(retained_refines_of_R b s h c id hl ts hg).2.2, hheldeq,
    hheldeq ▸ ((subunsub_refines_of_R b s h c id hl).1 ts hg).2.2⟩

theorem unsubscribe_refines {b : B} {s : Spec.Broker.S} (h : R b s) (c : Nat) (hl : b.alive c = true) (id : Nat)
    (ts : List Bytes) (hg : ∀ t ∈ ts, good t = true) :
    (step b (.packet c (.unsubscribe id ts))).2 = [.send c (.unsuback id)] ∧
    (Spec.Broker.step1 s (.packet c (.unsubscribe id ts))).1.held =
      s.held.filter (fun x => !(x.owner == c && ts.contains x.filter)) ∧
    HeldInv (step b (.packet c (.unsubscribe id ts))).1.topics.sroot
      (s.held.filter (fun x => !(x.owner == c && ts.contains x.filter))) := by
  obtain ⟨_, _, k, _, _, _, hk, _⟩ := h.liveConn hl
  have hheldeq : (Spec.Broker.step1 s (.packet c (.unsubscribe id ts))).1.held =
      s.held.filter (fun x => !(x.owner == c && ts.contains x.filter)) := by
    simp only [Spec.Broker.step1, hk]
  obtain ⟨_, h2, h3⟩ := (subunsub_refines_of_R b s h c id hl).2 ts hg
  exact ⟨h2, hheldeq, hheldeq ▸ h3⟩

/-- C09: DISCONNECT closes and publishes nothing; any other end publishes the will of the connection's
own CONNECT (the record `k` of the reference broker carries it) -/
theorem end_accepted_of_R (b : B) (s : Spec.Broker.S) (h : R b s) (c : Nat) (hl : b.alive c = true) :
    (step b (.packet c .disconnect)).2 = [.closed c] ∧
    Accepts (Spec.Broker.step s (.close c)).2 (step b (.close c)).2 ∧
    ∃ σ k, liveSess b c = some σ ∧ Spec.Broker.getConn s c = some k ∧
      σ.willFlag = k.will.isSome ∧ σ.will = k.will.map willMsg ∧
      (k.will = none → (step b (.close c)).2 = [.closed c]) ∧
      (∀ w, k.will = some w →
        (step b (.close c)).2 =
          .closed c :: (onPublish (Mqtt.Proofs.BrokerLife.stopBase b c σ) (willMsg w)).2.2.1 ∧
        (Spec.Broker.step s (.close c)).2 =
          .closed c :: (Spec.Broker.accept (endSpec s c k)
            { qos := w.qos, retain := w.retain, topic := w.topic, payload := w.payload }).2) := by
  obtain ⟨cn, σ, k, hc, ha, hs, hk, hrel⟩ := h.liveConn hl
  refine ⟨Mqtt.Proofs.BrokerLife.packet_disconnect b c cn σ hc ha hs, (step_refines b s (.close c) h rfl).2,
    σ, k, liveSess_eq hc ha hs, hk, hrel.willFlag, hrel.will, ?_, ?_⟩
  · intro hw
    have : σ.willFlag = false := by rw [hrel.willFlag, hw]; rfl
    exact Mqtt.Proofs.BrokerLife.stop_out_nowill b c cn σ hc ha hs this
  · intro w hw
    have hf : σ.willFlag = true := by rw [hrel.willFlag, hw]; rfl
    have hσw : σ.will = some (willMsg w) := by rw [hrel.will, hw]; rfl
    refine ⟨Mqtt.Proofs.BrokerLife.stop_out_will b c cn σ (willMsg w) hc ha hs hf hσw, ?_⟩
    show (Spec.Broker.endConn s c false).2 = _
    rw [spec_endConn_eq s c k false hk, hw]

theorem end_refines {b : B} {s : Spec.Broker.S} (h : R b s) (c : Nat) (hl : b.alive c = true) :
    (step b (.packet c .disconnect)).2 = [.closed c] ∧
    Accepts (Spec.Broker.endConn s c false).2 (step b (.close c)).2 ∧
    ∃ σ k, liveSess b c = some σ ∧ Spec.Broker.getConn s c = some k ∧
      σ.willFlag = k.will.isSome ∧ σ.will = k.will.map willMsg ∧
      (k.will = none → (step b (.close c)).2 = [.closed c]) ∧
      (∀ w, k.will = some w →
        (step b (.close c)).2 = .closed c :: (onPublish (Mqtt.Proofs.BrokerLife.stopBase b c σ) (willMsg w)).2.2.1 ∧
        (Spec.Broker.endConn s c false).2 = .closed c :: (Spec.Broker.accept (endSpec s c k)
          { qos := w.qos, retain := w.retain, topic := w.topic, payload := w.payload }).2) :=
  end_accepted_of_R b s h c hl

/-- C10: SessionPresent is the reference broker's - CleanSession = 0 and a session stored under the
client identifier *after the take-over* (a persistent session taken over is resumed, a clean one is
not); afterwards the trie holds the stored subscriptions again -/
theorem connect_refines {b : B} {s : Spec.Broker.S} (h : R b s) (c : Nat) (req : Connect) (a : Bool)
    (hok : okEv b (.first c (.connect req) a) = true)
    (hacc : Mqtt.Proofs.BrokerLife.accepts (.connect req) a = true) :
    R (takeOver b (.connect req) a).1 (Spec.Broker.takeOver s (.connect req) a).1 ∧
    (step b (.first c (.connect req) a)).2 = (takeOver b (.connect req) a).2 ++
      [.send c (.connack (specPrior (Spec.Broker.takeOver s (.connect req) a).1 c req).isSome 0)] ∧
    (Spec.Broker.step1 s (.first c (.connect req) a)).2 = (Spec.Broker.takeOver s (.connect req) a).2 ++
      [.send c (.connack (specPrior (Spec.Broker.takeOver s (.connect req) a).1 c req).isSome 0)] ∧
    HeldInv (step b (.first c (.connect req) a)).1.topics.sroot
      (((specPrior (Spec.Broker.takeOver s (.connect req) a).1 c req).getD ([], [])).1.foldl
        (fun h p => addHeld h c p.1 p.2) (Spec.Broker.takeOver s (.connect req) a).1.held) := by
  obtain ⟨r0, r1, e1, e2⟩ := connect_accepted_refines h c req a hok hacc
  refine ⟨r0, e1, e2, ?_⟩
  have := r1.held
  rwa [spec_step_first_eq, spec_first_accepted _ c req a ((Mqtt.Proofs.BrokerLife.refusals_nil_iff req a).mpr hacc)] at this

/-- after a take-over the CONNECT finds a session exactly when the connection it took over had
CleanSession = 0 -/
theorem takeOver_prior {b : B} {s : Spec.Broker.S} (h : R b s) (c : Nat) (req : Connect)
    (hne : req.clientId.isEmpty = false) (hreal : realCid req.clientId = true)
    (c0 : Nat) (σ : Sess) (hσ : liveSess b c0 = some σ) (hcid : σ.cid = req.clientId) :
    ∃ k, Spec.Broker.getConn s c0 = some k ∧ k.clean = σ.clean ∧
      (specPrior (Spec.Broker.endConn s c0 false).1 c req).isSome = (!req.clean && !k.clean) := by
  obtain ⟨k, hk, hrel⟩ := h.live c0 σ hσ
  have hkc : k.cid = req.clientId := (hrel.cid.eq (.inl (hcid ▸ hreal))).symm.trans hcid
  refine ⟨k, hk, hrel.clean.symm, ?_⟩
  have hst : (Spec.Broker.endConn s c0 false).1.stored = (endSpec s c0 k).stored := by
    rw [spec_endConn_eq s c0 k false hk]
    cases k.will with
    | none => rfl
    | some w => exact (spec_retainStep_frame _ _).2.1
  unfold specPrior specClean specCid
  simp only [hne, Bool.or_false, Bool.false_eq_true, ↓reduceIte, hst, endSpec, hkc]
  cases req.clean with
  | true => simp
  | false =>
    simp only [Bool.false_eq_true, ↓reduceIte, Bool.not_false, Bool.true_and]
    cases k.clean with
    | true => simp only [↓reduceIte]; rw [List.lookup_filter_self]; rfl
    | false => simp

/-- C10 with the take-over spelled out: it does nothing, or ends the one live connection of the client,
whose CleanSession decides whether there is a session to resume -/
theorem connect_accepted_of_R (b : B) (s : Spec.Broker.S) (h : R b s) (c : Nat) (req : Connect) (a : Bool)
    (he : okEv b (.first c (.connect req) a) = true)
    (hacc : Mqtt.Proofs.BrokerLife.accepts (.connect req) a = true) :
    Accepts (Spec.Broker.step s (.first c (.connect req) a)).2 (step b (.first c (.connect req) a)).2 ∧
    (step b (.first c (.connect req) a)).2 = (takeOver b (.connect req) a).2 ++
      [.send c (.connack (specPrior (Spec.Broker.takeOver s (.connect req) a).1 c req).isSome 0)] ∧
    HeldInv (step b (.first c (.connect req) a)).1.topics.sroot
      (((specPrior (Spec.Broker.takeOver s (.connect req) a).1 c req).getD ([], [])).1.foldl
        (fun h p => addHeld h c p.1 p.2) (Spec.Broker.takeOver s (.connect req) a).1.held) ∧
    ((takeOver b (.connect req) a = (b, []) ∧ Spec.Broker.takeOver s (.connect req) a = (s, [])) ∨
     ∃ c0 σ k, liveSess b c0 = some σ ∧ σ.cid = req.clientId ∧
       Spec.Broker.getConn s c0 = some k ∧ k.clean = σ.clean ∧
       takeOver b (.connect req) a = stop b c0 ∧
       Spec.Broker.takeOver s (.connect req) a = Spec.Broker.endConn s c0 false ∧
       (specPrior (Spec.Broker.takeOver s (.connect req) a).1 c req).isSome = (!req.clean && !k.clean)) := by
  obtain ⟨_, c1, _, c3⟩ := connect_refines h c req a he hacc
  refine ⟨(step_refines b s _ h he).2, c1, c3, ?_⟩
  obtain ⟨_, _, _, hto⟩ := takeOver_refines h c req a hacc (okEv_first he).2.1
  rcases hto with h0 | ⟨c0, σ, fs, fo, hσ, hcid, hne, t1, t2, _⟩
  · exact .inl h0
  · obtain ⟨k, hk, hkc, hp⟩ := takeOver_prior h c req hne (realCid_of_accepts hacc hne) c0 σ hσ hcid
    exact .inr ⟨c0, σ, k, hσ, hcid, hk, hkc, t1, t2, by rw [t2]; exact hp⟩

/-- C11 on related states: the refusal is accepted by the reference broker -/
theorem refusal_accepted_of_R (b : B) (s : Spec.Broker.S) (h : R b s) (c : Nat) (f : First) (a : Bool)
    (he : okEv b (.first c f a) = true) (hacc : Mqtt.Proofs.BrokerLife.accepts f a = false) :
    Accepts (Spec.Broker.step s (.first c f a)).2 (step b (.first c f a)).2 ∧
    (step b (.first c f a)).1 = b ∧
    (Spec.Broker.step s (.first c f a)).1 = s ∧
    ∃ codes, (Spec.Broker.step s (.first c f a)).2 = [.refused c codes] ∧
      codes = reasons f a ∧
      (((step b (.first c f a)).2 = [.closed c] ∧ none ∈ codes) ∨
       ∃ k, k ≠ 0 ∧ some k ∈ codes ∧
         (step b (.first c f a)).2 = [.send c (.connack false k), .closed c]) :=
  ⟨(step_refines b s _ h he).2, refusal_refines c f a hacc s⟩

/-- C02: PUBREC at once and nothing else; on PUBREL the hand-overs the reference broker demands for the
exchanges it releases - the image of the model's queue -, then PUBCOMP -/
theorem qos2_accepted_of_R (b : B) (s : Spec.Broker.S) (h : R b s) (c : Nat) (hl : b.alive c = true) :
    (∀ p : Pub, pubOk p = true →
      Accepts (Spec.Broker.step s (.packet c (.publish p))).2 (step b (.packet c (.publish p))).2) ∧
    (∀ id, Accepts (Spec.Broker.step s (.packet c (.pubrel id))).2 (step b (.packet c (.pubrel id))).2) ∧
    ∃ σ k, liveSess b c = some σ ∧ Spec.Broker.getConn s c = some k ∧
      k.open2 = toOpen2 σ.pub2in ∧
      (∀ p : Pub, p.qos = 2 → (step b (.packet c (.publish p))).2 = [.send c (.pubrec p.pktid)] ∧
        (Spec.Broker.step s (.packet c (.publish p))).2 = [.send c (.pubrec p.pktid)]) ∧
      (∀ id, ∃ outs,
        (step b (.packet c (.pubrel id))).2 = outs ++ [.send c (.pubcomp id)] ∧
        (Spec.Broker.step s (.packet c (.pubrel id))).2 =
          (specReleaseAll (Spec.Broker.setConn s { k with open2 := toOpen2 (q2Acked (q2Ack σ.pub2in id)).1 })
            ((q2Acked (q2Ack σ.pub2in id)).2.map (·.msg))).2 ++ [.send c (.pubcomp id)] ∧
        Fan (specReleaseAll (Spec.Broker.setConn s { k with open2 := toOpen2 (q2Acked (q2Ack σ.pub2in id)).1 })
            ((q2Acked (q2Ack σ.pub2in id)).2.map (·.msg))).2 outs) := by
  obtain ⟨cn, σ, k, hc, ha, hs, hk, hrel⟩ := h.liveConn hl
  refine ⟨fun p hp => (step_refines b s (.packet c (.publish p)) h hp).2, fun id => (step_refines b s (.packet c (.pubrel id)) h rfl).2,
    σ, k, liveSess_eq hc ha hs, hk, hrel.open2, ?_, ?_⟩
  · intro p hq
    constructor
    · show (packet b c (.publish p)).2 = _
      rw [Mqtt.Proofs.BrokerQos.packet_publish2 hc ha hs p hq]
    · exact (Mqtt.Proofs.BrokerQos.spec_publish2 s c k σ.pub2in p hk hrel.open2 hq).1
  · intro id
    have hm : step b (.packet c (.pubrel id)) = _ := Mqtt.Proofs.BrokerQos.packet_pubrel hc ha hs id
    obtain ⟨_, r2⟩ := R_pubrel h hc ha hs hk hrel id
    refine ⟨_, by rw [hm], ?_, r2⟩
    show (Spec.Broker.step1 s (.packet c (.pubrel id))).2 = _
    rw [spec_pubrel_eq s c k σ.pub2in id hk hrel.open2]

theorem qos2_refines {b : B} {s : Spec.Broker.S} (h : R b s) (c : Nat) (hl : b.alive c = true) :
    ∃ σ k, liveSess b c = some σ ∧ Spec.Broker.getConn s c = some k ∧ k.open2 = toOpen2 σ.pub2in ∧
      (∀ p : Pub, p.qos = 2 → (step b (.packet c (.publish p))).2 = [.send c (.pubrec p.pktid)] ∧
        (Spec.Broker.step1 s (.packet c (.publish p))).2 = [.send c (.pubrec p.pktid)]) ∧
      (∀ id, ∃ outs,
        (step b (.packet c (.pubrel id))).2 = outs ++ [.send c (.pubcomp id)] ∧
        (Spec.Broker.step1 s (.packet c (.pubrel id))).2 =
          (specReleaseAll (Spec.Broker.setConn s { k with open2 := toOpen2 (q2Acked (q2Ack σ.pub2in id)).1 })
            ((q2Acked (q2Ack σ.pub2in id)).2.map (·.msg))).2 ++ [.send c (.pubcomp id)] ∧
        Fan (specReleaseAll (Spec.Broker.setConn s { k with open2 := toOpen2 (q2Acked (q2Ack σ.pub2in id)).1 })
            ((q2Acked (q2Ack σ.pub2in id)).2.map (·.msg))).2 outs) :=
  (qos2_accepted_of_R b s h c hl).2.2

end Mqtt.Proofs.BrokerRefine
