/-
Tie between the REGENERATED translation of the length arithmetic of the Go
package `message` (`Mqtt.Generated.Xlate.Message.*`, produced from
/repo/message/{header,connack,puback,publish,suback,subscribe,unsubscribe,
connect,disconnect}.go by extract/cmd/xlate on every check) and the hand-written
model of `Model/Codec.lean` (`hdrLen`, `Msg.msglen`, `Msg.len`, `connectMsglen`,
`pubQoS`, the CONNECT flag accessors, `versionName`).

For every message struct `T` of the Go package:
* `T_msglen_is_source`: the translated `T.msglen` is the model's `Msg.msglen`
  of the abstracted message;
* `T_Len_is_source`: the translated `T.Len` returns the model's `Msg.len` and
  leaves the receiver as `lenHdr` says (unchanged when it is not dirty or when
  the remaining length is out of range, otherwise `remlen := msglen`,
  `dirty := true`).  All `T.Len` have one body up to the struct the header sits in: `Len_shape`.
-/
import Mqtt.Proofs.XlateBasic
import Mqtt.Proofs.XlateValid
import Mqtt.Model.Codec

namespace Mqtt.Proofs.XlateCodec

open Mqtt.Generated
open Mqtt.Generated.Xlate
open Mqtt.Model.Codec
open Mqtt.Proofs.Xlate

/-- the model header of a translated `message.header`.  The model keeps
`mtypeflags[0]` only (`headD 0`: the slice has length 1 after `New…Message`) and
a natural `remlen` (`toNat`: `SetRemainingLength` and `decode` reject negatives).
The alias flags `tfInBuf` / `pidOff` have no counterpart in the translation
(slices are lists there) and keep their defaults. -/
def hdrOf (h : Message.header) : Hdr :=
  { tf := h.mtypeflags.headD 0, pid := h.packetID, remlen := h.remlen.toNat, dbuf := h.dbuf, dirty := h.dirty }

def connectOf (m : Message.ConnectMessage) : ConnectF :=
  { connectFlags := m.connectFlags, version := m.version, keepAlive := m.keepAlive.toNat, protoName := m.protoName, clientID := m.clientID, willTopic := m.willTopic, willMessage := m.willMessage, username := m.username, password := m.password }

def msgOfConnack (m : Message.ConnackMessage) : Msg := .connack (hdrOf m.header) m.sessionPresent m.returnCode
def msgOfPuback (m : Message.PubackMessage) : Msg := .ack (hdrOf m.header)
def msgOfPublish (m : Message.PublishMessage) : Msg := .publish (hdrOf m.header) m.topic m.payload
def msgOfSuback (m : Message.SubackMessage) : Msg := .suback (hdrOf m.header) m.returnCodes
def msgOfSubscribe (m : Message.SubscribeMessage) : Msg := .subscribe (hdrOf m.header) m.topics m.qos
def msgOfUnsubscribe (m : Message.UnsubscribeMessage) : Msg := .unsubscribe (hdrOf m.header) m.topics
def msgOfConnect (m : Message.ConnectMessage) : Msg := .connect (hdrOf m.header) (connectOf m)
def msgOfDisconnect (m : Message.DisconnectMessage) : Msg := .bare (hdrOf m.header)

/-- what `T.Len()` leaves in the receiver's header for a computed remaining
length `ml`: nothing changes when the message is not dirty (the cached `dbuf`
answers) or when `SetRemainingLength` rejects `ml`; otherwise `remlen := ml`
and `dirty := true` (it was already). -/
def lenHdr (h : Message.header) (ml : Nat) : Message.header :=
  if !h.dirty || decide (ml > maxRemainingLength) then h else { h with remlen := (ml : Int), dirty := true }

/-- `((c & 0x0f) >> 1) & 3` as a number: the QoS bits of the flags nibble -/
theorem u8_qos_toNat (c : UInt8) :
    ((((c &&& (15 : UInt8)) >>> (1 : UInt8)) &&& (3 : UInt8))).toNat = c.toNat % 16 / 2 % 4 := by
  rw [and_mask_toNat _ 3 2 rfl, shr_toNat, and15_toNat]
  rfl

theorem u8_qos_ne_zero (c : UInt8) :
    ((((c &&& (15 : UInt8)) >>> (1 : UInt8)) &&& (3 : UInt8)) != (0 : UInt8)) = decide (c.toNat % 16 / 2 % 4 ≠ 0) := by
  rw [u8_bne, u8_qos_toNat]
  exact Bool.eq_iff_iff.mpr (by rw [bne_iff_ne, decide_eq_true_eq]; rfl)

/-- for a negative `remlen` the Go function answers 2 (the first comparison
`remlen <= 127` holds); the model has a natural number there, `hdrOf` maps it
to 0 and `hdrLen 0 = 2` as well -/
theorem header_msglen_neg (h : Message.header) (h0 : h.remlen < 0) :
    Message.header.msglen h = 2 ∧ hdrLen (hdrOf h).remlen = 2 := by
  constructor
  · unfold Message.header.msglen
    simp only [decide_eq_true_eq]
    rw [if_pos (by omega)]
  · rw [show (hdrOf h).remlen = 0 from Int.toNat_eq_zero.mpr (Int.le_of_lt h0)]; rfl

/-- `header.msglen()` is `hdrLen` of the stored remaining length on EVERY header (`h.remlen.toNat` is `(hdrOf h).remlen`) -/
theorem header_msglen_is_source (h : Message.header) : Message.header.msglen h = hdrLen h.remlen.toNat := by
  by_cases h0 : 0 ≤ h.remlen
  · obtain ⟨n, hn⟩ := Int.eq_ofNat_of_zero_le h0
    unfold Message.header.msglen hdrLen msglenT1 msglenT2 msglenT3
    rw [hn, Int.toNat_natCast]
    have le : ∀ k : Nat, decide ((n : Int) ≤ (k : Int)) = true ↔ n ≤ k := fun k => by rw [decide_eq_true_eq, Int.ofNat_le]
    exact ite_tie (1 + ·) (le 127) (fun _ => rfl) fun _ => ite_tie (1 + ·) (le 16383) (fun _ => rfl) fun _ =>
      ite_tie (1 + ·) (le 2097151) (fun _ => rfl) fun _ => rfl
  · have := header_msglen_neg h (by omega)
    exact this.1.trans this.2.symm

/-- `SetRemainingLength`: rejected (receiver untouched, an error made on the
spot) exactly outside `0 … 268435455`, otherwise stored and marked dirty -/
theorem header_SetRemainingLength_spec (h : Message.header) (remlen : Int) :
    Message.header.SetRemainingLength h remlen =
      if remlen > 268435455 ∨ remlen < 0 then (h, Err.dyn)
      else ({ h with remlen := remlen, dirty := true }, Err.nil) := by
  unfold Message.header.SetRemainingLength
  exact ite_rel (· = ·) (by simp only [xlate]) (fun _ => rfl) fun _ => rfl

theorem header_SetRemainingLength_err_iff (h : Message.header) (remlen : Int) :
    Message.header.SetRemainingLength h remlen = (h, Err.dyn) ↔ (remlen > 268435455 ∨ remlen < 0) := by
  rw [header_SetRemainingLength_spec]
  by_cases hc : remlen > 268435455 ∨ remlen < 0
  · rw [if_pos hc]; exact ⟨fun _ => hc, fun _ => rfl⟩
  · rw [if_neg hc]; exact ⟨(fun e => nomatch (congrArg Prod.snd e)), (fun c => absurd c hc)⟩

theorem len_tail (h : Message.header) (ml : Nat) :
    Message.header.SetRemainingLength h ((ml : Nat) : Int) =
      if ml > maxRemainingLength then (h, Err.dyn) else ({ h with remlen := (ml : Int), dirty := true }, Err.nil) := by
  rw [header_SetRemainingLength_spec]
  unfold maxRemainingLength
  exact ite_congr (propext (by omega)) (fun _ => rfl) fun _ => rfl

theorem lenHdr_clean (h : Message.header) (ml : Nat) (hd : h.dirty = false) : lenHdr h ml = h := by
  rw [lenHdr, hd]; rfl

theorem lenHdr_out_of_range (h : Message.header) (ml : Nat) (hgt : ml > maxRemainingLength) : lenHdr h ml = h := by
  rw [lenHdr, decide_eq_true hgt, Bool.or_true]; rfl

theorem lenHdr_stored (h : Message.header) (ml : Nat) (hd : h.dirty = true) (hle : ml ≤ maxRemainingLength) :
    lenHdr h ml = { h with remlen := (ml : Int), dirty := true } := by
  rw [lenHdr, hd, decide_eq_false (Nat.not_lt.mpr hle)]; rfl

/-- the tail shared by every `T.Len()` of a dirty message: `SetRemainingLength(ml)` on the header,
then `0` on error and `header.msglen() + ml` otherwise -/
theorem len_generic (h : Message.header) (ml : Nat) (hd : h.dirty = true) :
    ((Message.header.SetRemainingLength h ((ml : Nat) : Int)).1,
      if ((Message.header.SetRemainingLength h ((ml : Nat) : Int)).2 != Err.nil) then (0 : Nat)
      else Message.header.msglen (Message.header.SetRemainingLength h ((ml : Nat) : Int)).1 + ml)
    = (lenHdr h ml, if ml > maxRemainingLength then 0 else hdrLen ml + ml) := by
  rw [len_tail]
  by_cases hc : ml > maxRemainingLength
  · rw [if_pos hc, if_pos hc, lenHdr_out_of_range h ml hc]; rfl
  · rw [if_neg hc, if_neg hc, lenHdr_stored h ml hd (Nat.le_of_not_lt hc),
      header_msglen_is_source]; rfl

/-- the model's `Msg.len` on header data and a remaining length (every constructor but `.bare`) -/
def lenVal (h : Message.header) (ml : Nat) : Nat :=
  if !h.dirty then h.dbuf.length else if ml > maxRemainingLength then 0 else hdrLen ml + ml

/-- the body of every translated `T.Len()`; `set` puts a header back into the message -/
theorem Len_shape {T : Type} (set : Message.header → T) (h : Message.header) (ml : Nat) :
    (if (!h.dirty) then (set h, h.dbuf.length)
     else if ((Message.header.SetRemainingLength h ((ml : Nat) : Int)).2 != Err.nil) then
       (set (Message.header.SetRemainingLength h ((ml : Nat) : Int)).1, (0 : Nat))
     else
       (set (Message.header.SetRemainingLength h ((ml : Nat) : Int)).1,
         Message.header.msglen (Message.header.SetRemainingLength h ((ml : Nat) : Int)).1 + ml))
    = (set (lenHdr h ml), lenVal h ml) := by
  unfold lenVal
  cases hd : h.dirty
  · rw [lenHdr_clean h ml hd]; rfl
  · have g := len_generic h ml hd
    rw [← (Prod.mk.inj g).1, ← (Prod.mk.inj g).2]
    cases ((Message.header.SetRemainingLength h ((ml : Nat) : Int)).2 != Err.nil) <;> rfl

/-- after a successful `Len()` on a dirty message the stored remaining length is the model's `msglen` -/
theorem hdrOf_lenHdr_remlen (h : Message.header) (ml : Nat) (hd : h.dirty = true) (hle : ml ≤ maxRemainingLength) :
    (hdrOf (lenHdr h ml)).remlen = ml ∧ (hdrOf (lenHdr h ml)).dirty = true := by
  rw [lenHdr_stored h ml hd hle]
  exact ⟨Int.toNat_natCast ml, rfl⟩

theorem ConnackMessage_msglen_is_source (m : Message.ConnackMessage) :
    Message.ConnackMessage.msglen m = (msgOfConnack m).msglen := rfl

theorem ConnackMessage_Len_is_source (m : Message.ConnackMessage) :
    Message.ConnackMessage.Len m =
      ({ m with header := lenHdr m.header (msgOfConnack m).msglen }, (msgOfConnack m).len) := by
  unfold Message.ConnackMessage.Len
  exact Len_shape (fun h => ({ m with header := h } : Message.ConnackMessage)) m.header _

theorem PubackMessage_msglen_is_source (m : Message.PubackMessage) :
    Message.PubackMessage.msglen m = (msgOfPuback m).msglen := rfl

theorem PubackMessage_Len_is_source (m : Message.PubackMessage) :
    Message.PubackMessage.Len m =
      ({ m with header := lenHdr m.header (msgOfPuback m).msglen }, (msgOfPuback m).len) := by
  unfold Message.PubackMessage.Len
  exact Len_shape (fun h => ({ m with header := h } : Message.PubackMessage)) m.header _

theorem SubackMessage_msglen_is_source (m : Message.SubackMessage) :
    Message.SubackMessage.msglen m = (msgOfSuback m).msglen := rfl

theorem SubackMessage_Len_is_source (m : Message.SubackMessage) :
    Message.SubackMessage.Len m =
      ({ m with header := lenHdr m.header (msgOfSuback m).msglen }, (msgOfSuback m).len) := by
  unfold Message.SubackMessage.Len
  exact Len_shape (fun h => ({ m with header := h } : Message.SubackMessage)) m.header _

/-- a `for _, t := range topics { total += f(t) }` loop with the accumulator generalised -/
theorem SubscribeMessage_msglen_loop (m : Message.SubscribeMessage) (total : Nat) (rest : List (List UInt8)) :
    Message.SubscribeMessage.msglen.loop1 m total rest = total + (rest.map (fun t => 2 + t.length + 1)).sum := by
  induction rest generalizing total with
  | nil => rfl
  | cons t rest ih =>
    rw [Message.SubscribeMessage.msglen.loop1, ih, List.map_cons, List.sum_cons, Nat.add_assoc]

theorem SubscribeMessage_msglen_is_source (m : Message.SubscribeMessage) :
    Message.SubscribeMessage.msglen m = (msgOfSubscribe m).msglen :=
  SubscribeMessage_msglen_loop m 2 m.topics

theorem SubscribeMessage_Len_is_source (m : Message.SubscribeMessage) :
    Message.SubscribeMessage.Len m =
      ({ m with header := lenHdr m.header (msgOfSubscribe m).msglen }, (msgOfSubscribe m).len) := by
  unfold Message.SubscribeMessage.Len
  exact (Len_shape (fun h => ({ m with header := h } : Message.SubscribeMessage)) m.header _).trans
    (by rw [SubscribeMessage_msglen_is_source]; rfl)

theorem UnsubscribeMessage_msglen_loop (m : Message.UnsubscribeMessage) (total : Nat) (rest : List (List UInt8)) :
    Message.UnsubscribeMessage.msglen.loop1 m total rest = total + (rest.map (fun t => 2 + t.length)).sum := by
  induction rest generalizing total with
  | nil => rfl
  | cons t rest ih =>
    rw [Message.UnsubscribeMessage.msglen.loop1, ih, List.map_cons, List.sum_cons, Nat.add_assoc]

theorem UnsubscribeMessage_msglen_is_source (m : Message.UnsubscribeMessage) :
    Message.UnsubscribeMessage.msglen m = (msgOfUnsubscribe m).msglen :=
  UnsubscribeMessage_msglen_loop m 2 m.topics

theorem UnsubscribeMessage_Len_is_source (m : Message.UnsubscribeMessage) :
    Message.UnsubscribeMessage.Len m =
      ({ m with header := lenHdr m.header (msgOfUnsubscribe m).msglen }, (msgOfUnsubscribe m).len) := by
  unfold Message.UnsubscribeMessage.Len
  exact (Len_shape (fun h => ({ m with header := h } : Message.UnsubscribeMessage)) m.header _).trans
    (by rw [UnsubscribeMessage_msglen_is_source]; rfl)

theorem ConnectMessage_WillFlag_is_source (m : Message.ConnectMessage) :
    Message.ConnectMessage.WillFlag m = (connectOf m).willFlag := bit_test m.connectFlags 2

theorem ConnectMessage_UsernameFlag_is_source (m : Message.ConnectMessage) :
    Message.ConnectMessage.UsernameFlag m = (connectOf m).usernameFlag := bit_test m.connectFlags 7

theorem ConnectMessage_PasswordFlag_is_source (m : Message.ConnectMessage) :
    Message.ConnectMessage.PasswordFlag m = (connectOf m).passwordFlag := bit_test m.connectFlags 6

theorem ConnectMessage_msglen_is_source (m : Message.ConnectMessage) :
    Message.ConnectMessage.msglen m = (msgOfConnect m).msglen := by
  show _ = connectMsglen (connectOf m)
  unfold Message.ConnectMessage.msglen connectMsglen
  rw [Mqtt.Proofs.XlateValid.SupportedVersions_is_source, ConnectMessage_WillFlag_is_source,
    ConnectMessage_UsernameFlag_is_source, ConnectMessage_PasswordFlag_is_source]
  show _ = match versionName m.version.toNat with
    | none => 0
    | some verstr => _
  cases versionName m.version.toNat with
  | none => rfl
  | some verstr =>
    -- `if c { total += x }` is `total + (if c then x else 0)`
    have hite : ∀ (c : Bool) (t x : Nat), (if c = true then t + x else t) = t + if c = true then x else 0 :=
      fun c t x => by cases c <;> rfl
    simp only [hite, Nat.zero_add]
    rfl

theorem ConnectMessage_Len_is_source (m : Message.ConnectMessage) :
    Message.ConnectMessage.Len m =
      ({ m with header := lenHdr m.header (msgOfConnect m).msglen }, (msgOfConnect m).len) := by
  unfold Message.ConnectMessage.Len
  exact (Len_shape (fun h => ({ m with header := h } : Message.ConnectMessage)) m.header _).trans
    (by rw [ConnectMessage_msglen_is_source]; rfl)

/-- `header.Flags()` reads `mtypeflags[0]`: it panics on an empty slice -/
theorem header_Flags_spec (h : Message.header) :
    Message.header.Flags h =
      if h.mtypeflags = [] then Res.panic else Res.ok ((h.mtypeflags.headD 0) &&& (15 : UInt8)) := by
  unfold Message.header.Flags
  cases h.mtypeflags with
  | nil => rfl
  | cons b rest => simp

/-- `QoS()` is the model's `pubQoS` (as a byte) when `mtypeflags` is not empty -/
theorem PublishMessage_QoS_is_source (m : Message.PublishMessage) (hf : 0 < m.header.mtypeflags.length) :
    ∃ q : UInt8, Message.PublishMessage.QoS m = Res.ok q ∧ q.toNat = pubQoS (hdrOf m.header) := by
  have hne : m.header.mtypeflags ≠ [] := fun h => by rw [h] at hf; exact Nat.lt_irrefl 0 hf
  refine ⟨(((m.header.mtypeflags.headD 0) &&& (15 : UInt8)) >>> (1 : UInt8)) &&& (3 : UInt8), ?_, ?_⟩
  · unfold Message.PublishMessage.QoS
    rw [header_Flags_spec, if_neg hne]
    rfl
  · rw [u8_qos_toNat]
    rfl

theorem PublishMessage_QoS_panics (m : Message.PublishMessage) (hf : m.header.mtypeflags = []) :
    Message.PublishMessage.QoS m = Res.panic := by
  unfold Message.PublishMessage.QoS
  rw [header_Flags_spec, if_pos hf]
  rfl

theorem PublishMessage_msglen_is_source (m : Message.PublishMessage) (hf : 0 < m.header.mtypeflags.length) :
    Message.PublishMessage.msglen m = Res.ok (msgOfPublish m).msglen := by
  obtain ⟨q, hq, hqn⟩ := PublishMessage_QoS_is_source m hf
  unfold Message.PublishMessage.msglen
  rw [hq]
  show Res.ok _ = Res.ok (2 + m.topic.length + m.payload.length + (if pubQoS (hdrOf m.header) ≠ 0 then 2 else 0))
  rw [← hqn]
  congr 1
  by_cases hz : q = 0
  · subst hz; simp
  · have : q.toNat ≠ 0 := fun h => hz (UInt8.toNat_inj.mp h)
    simp [hz, this]

/-- with an empty `mtypeflags` slice (a `PublishMessage{}` literal that did not
go through `NewPublishMessage`) the Go function panics with an index out of range -/
theorem PublishMessage_msglen_panics (m : Message.PublishMessage) (hf : m.header.mtypeflags = []) :
    Message.PublishMessage.msglen m = Res.panic := by
  unfold Message.PublishMessage.msglen
  rw [PublishMessage_QoS_panics m hf]
  rfl

theorem PublishMessage_Len_is_source (m : Message.PublishMessage) (hf : 0 < m.header.mtypeflags.length) :
    Message.PublishMessage.Len m =
      Res.ok ({ m with header := lenHdr m.header (msgOfPublish m).msglen }, (msgOfPublish m).len) := by
  have e := Len_shape (fun h => ({ m with header := h } : Message.PublishMessage)) m.header (msgOfPublish m).msglen
  unfold Message.PublishMessage.Len
  rw [PublishMessage_msglen_is_source m hf]
  dsimp only [Res.bind]
  cases hd : m.header.dirty
  · exact congrArg Res.ok (by rw [hd] at e; exact e)
  · rw [hd] at e
    refine Eq.trans ?_ (congrArg Res.ok e)
    cases ((Message.header.SetRemainingLength m.header ((msgOfPublish m).msglen : Int)).2 != Err.nil) <;> rfl

/-- a message that is not dirty answers from the cached buffer, whatever `mtypeflags` holds -/
theorem PublishMessage_Len_clean (m : Message.PublishMessage) (hd : m.header.dirty = false) :
    Message.PublishMessage.Len m = Res.ok (m, (msgOfPublish m).len) := by
  unfold Message.PublishMessage.Len
  rw [hd]
  simp [Msg.len, msgOfPublish, Msg.hdr, hdrOf, hd]

theorem PublishMessage_Len_panics (m : Message.PublishMessage) (hd : m.header.dirty = true)
    (hf : m.header.mtypeflags = []) : Message.PublishMessage.Len m = Res.panic := by
  unfold Message.PublishMessage.Len
  rw [hd, PublishMessage_msglen_panics m hf]
  rfl

/-- for a negative `remlen` both sides are 2 (`header_msglen_neg`) -/
theorem DisconnectMessage_Len_is_source' (m : Message.DisconnectMessage) :
    Message.DisconnectMessage.Len m = (msgOfDisconnect m).len := by
  unfold Message.DisconnectMessage.Len Message.header.Len
  rw [header_msglen_is_source]
  rfl

theorem DisconnectMessage_Len_is_source (m : Message.DisconnectMessage) (h0 : 0 ≤ m.header.remlen) :
    Message.DisconnectMessage.Len m = (msgOfDisconnect m).len :=
  DisconnectMessage_Len_is_source' m

end Mqtt.Proofs.XlateCodec
