/-
Client role: the primitives.  An event is `connect`, a call (`callOf`: `apiWrite` then `apiRegister`), a
packet (`peer`), or a call followed by a packet (`step_early`).  Each primitive is described once -
`connect` changes `connected` only, `apiWrite` the counter only (closed form: `apiWrite_eq`), `apiRegister` appends to one queue
(`apiRegister_queue`; `callReq` is the form hypotheses about a call are stated in, `regAccepted` the form
`apiRegister_queue` produces), `peer` acts on queue `k` in one of three ways (`peer_kind`) and has one equation
per arm (`peer_publish0` … `peer_pingresp`) - and the facts about events are read off these through `step_elim`
(what an event is, by cases).  What follows for completions is in `ClientCompletions`, for identifiers in
`ClientIds`, for the `Ackqueue` objects in `ClientQueues`, for the trie in `ClientTopics`.

The model has ONE connection and no connection end: no event stands for a lost or closed connection, and a
second successful `Connect` leaves queues, pings and trie as they are (`connect_fst`), whereas
`service.Client.Connect` builds a new session with empty ack queues (the correspondence runs make one
successful connect per episode, so the tie does not see it).
-/
import Mqtt.Model.Client
import Mqtt.Proofs.Basics

namespace Mqtt.Proofs.Client
open Mqtt.Iface.Broker (Pub Packet Bytes)
open Mqtt.Iface.Client
open Mqtt.Model.Client
open Mqtt.Generated

def runState (c : C) (evs : List Ev) : C := evs.foldl (fun c ev => (step c ev).1) c

def runOuts (c : C) : List Ev → List (List Out)
  | [] => []
  | ev :: evs => (step c ev).2 :: runOuts (step c ev).1 evs

theorem runState_cons (c : C) (ev : Ev) (evs : List Ev) :
    runState c (ev :: evs) = runState (step c ev).1 evs := rfl

theorem runState_append (c : C) (a b : List Ev) : runState c (a ++ b) = runState (runState c a) b :=
  List.foldl_append

theorem runOuts_append (c : C) (a b : List Ev) : runOuts c (a ++ b) = runOuts c a ++ runOuts (runState c a) b := by
  induction a generalizing c with
  | nil => rfl
  | cons ev a ih => exact congrArg (_ :: ·) (ih _)

/-- the client a fresh `Client` value stands for -/
def init : C := {}

theorem step_peer (c : C) (hc : c.connected = true) (p : Packet) : step c (.peer p) = peer c p := by
  simp [step, hc]

/-- an API call as `step` runs it: the request is written, then registered -/
def callOf (c : C) (call : Api) : C × List Out :=
  ((apiRegister (apiWrite c call).1 (apiWrite c call).2.2).1,
   (apiWrite c call).2.1 ++ (apiRegister (apiWrite c call).1 (apiWrite c call).2.2).2)

theorem step_api (c : C) (hc : c.connected = true) (call : Api) : step c (.api call) = callOf c call := by
  simp [step, hc, callOf]

/-- before `Connect` has succeeded nothing but `Connect` does anything -/
theorem step_off (c : C) (hc : c.connected = false) (ev : Ev) :
    step c ev = match ev with
      | .connect a => connect c a
      | .peer _ => (c, [])
      | _ => (c, [.apiErr]) := by
  cases ev <;> simp [step, hc]

/-- what an event other than `Connect` answers before `Connect` has succeeded -/
def offOut : Ev → List Out
  | .peer _ => []
  | _ => [.apiErr]

theorem connect_fst (c : C) (a : Answer) : (connect c a).1 = { c with connected := (connect c a).1.connected } := by
  cases a with
  | connack sp code => simp only [connect]; split <;> rfl
  | _ => rfl

inductive Kind where
  | pub1 | pub2 | sub | unsub
deriving DecidableEq, Repr

def queue : Kind → C → Queue
  | .pub1, c => c.pub1ack
  | .pub2, c => c.pub2out
  | .sub, c => c.suback
  | .unsub, c => c.unsuback

/-- everything about a request that is fixed when it is registered -/
def key (r : Req) : Nat × Nat × Option Pub × List (Bytes × Nat) × Nat := (r.id, r.tag, r.pub, r.topics, r.cb)

/-- the non-zero tags (tag 0 = no completion callback) -/
def nz (l : List Nat) : List Nat := l.filter (· != 0)

/-- tags of the completion callbacks invoked in a list of outputs, in order -/
def doneTags : List Out → List Nat
  | [] => []
  | .complete tag _ :: rest => tag :: doneTags rest
  | _ :: rest => doneTags rest

theorem doneTags_append (a b : List Out) : doneTags (a ++ b) = doneTags a ++ doneTags b := by
  induction a with
  | nil => rfl
  | cons x a ih => cases x <;> simp [doneTags, ih]

theorem doneTags_completeOut (tag : Nat) (err : Bool) : doneTags (completeOut tag err) = nz [tag] := by
  unfold completeOut nz
  by_cases h : tag = 0
  · subst h; rfl
  · rw [if_neg (by simpa using h), List.filter_cons_of_pos (by simpa using h)]; rfl

theorem nz_append (a b : List Nat) : nz (a ++ b) = nz a ++ nz b := List.filter_append ..

theorem nz_cons (a : Nat) (l : List Nat) : nz (a :: l) = nz [a] ++ nz l := nz_append [a] l

theorem doneTags_flatMap {α} (f : α → List Out) (tag : α → Nat) (h : ∀ a, doneTags (f a) = nz [tag a])
    (l : List α) : doneTags (l.flatMap f) = nz (l.map tag) := by
  induction l with
  | nil => rfl
  | cons a l ih => rw [List.flatMap_cons, doneTags_append, h, ih, List.map_cons, ← nz_cons]

theorem map_key_tag (l : List Req) : (l.map key).map (fun x => x.2.1) = l.map (·.tag) := by
  rw [List.map_map]; rfl

theorem map_key_id (l : List Req) : (l.map key).map (·.1) = l.map (·.id) := by
  rw [List.map_map]; rfl

theorem ack_map_key (q : Queue) (t id : Nat) (codes : List Nat) : (q.ack t id codes).map key = q.map key := by
  unfold Queue.ack
  rw [List.map_map]
  refine List.map_congr_left fun e _ => ?_
  show key (if _ then _ else _) = _
  split <;> rfl

theorem acked_conservation (q : Queue) : q.acked.2 ++ q.acked.1 = q := List.takeWhile_append_dropWhile

theorem mem_ack (q : Queue) (t id : Nat) (codes : List Nat) (r : Req) (h : r ∈ q.ack t id codes) :
    ∃ e ∈ q, key e = key r ∧ ((e.id = id ∧ r.state = t) ∨ r = e) := by
  obtain ⟨e, he, hr⟩ := List.mem_map.mp h
  refine ⟨e, he, ?_⟩
  split at hr
  · subst hr; exact ⟨rfl, .inl ⟨by simpa using ‹(e.id == id) = true›, rfl⟩⟩
  · subst hr; exact ⟨rfl, .inr rfl⟩

theorem terminal_zero : terminal 0 = false := by decide

theorem terminal_PUBREC : terminal tPUBREC = false := by decide

theorem terminal_PUBACK : terminal tPUBACK = true := by decide

theorem terminal_PUBCOMP : terminal tPUBCOMP = true := by decide

theorem terminal_SUBACK : terminal tSUBACK = true := by decide

theorem terminal_UNSUBACK : terminal tUNSUBACK = true := by decide

theorem terminal_PUBREL : terminal tPUBREL = true := by decide

/-- the released prefix after a terminal acknowledgement `t` for `id`: the longest prefix of
requests each of which either was terminal already or is the one acknowledged now -/
theorem takeWhile_ack (q : Queue) (t id : Nat) (codes : List Nat) (ht : terminal t = true) :
    ((q.ack t id codes).takeWhile (fun e => terminal e.state)).map key =
      (q.takeWhile (fun e => terminal e.state || e.id == id)).map key := by
  induction q with
  | nil => rfl
  | cons e q ih =>
    unfold Queue.ack at ih ⊢
    rw [List.map_cons, List.takeWhile_cons, List.takeWhile_cons]
    by_cases he : (e.id == id) = true
    · simp only [he, ↓reduceIte, ht, Bool.or_true, List.map_cons, ih]
      rfl
    · have he' : (e.id == id) = false := by simpa using he
      simp only [he', Bool.false_eq_true, ↓reduceIte, Bool.or_false]
      cases terminal e.state with
      | true => simp only [↓reduceIte, List.map_cons, ih]
      | false => simp only [Bool.false_eq_true, ↓reduceIte]

/-- the terminal acknowledgement for the oldest request of a queue, whose identifier no other request
in it bears and behind which nothing waits to be released, hands back exactly that request -/
theorem ack_acked_head (r : Req) (rest : Queue) (t : Nat) (codes : List Nat) (ht : terminal t = true)
    (hid : ∀ e ∈ rest, e.id ≠ r.id) (hh : ∀ e, rest.head? = some e → terminal e.state = false) :
    (Queue.ack (r :: rest) t r.id codes).acked = (rest, [{ r with state := t, codes := codes }]) := by
  have hrest : rest.map (fun e => if e.id == r.id then { e with state := t, codes := codes } else e) = rest :=
    List.map_ite_eq_self fun e he hi => absurd (eq_of_beq hi) (hid e he)
  have hstop := List.dropWhile_takeWhile_of_head (p := fun e : Req => terminal e.state) hh
  have ht' : terminal ({ r with state := t, codes := codes } : Req).state = true := ht
  rw [Queue.ack, List.map_cons, if_pos (by simp), hrest, Queue.acked,
    List.dropWhile_cons_of_pos (p := fun e : Req => terminal e.state) ht',
    List.takeWhile_cons_of_pos (p := fun e : Req => terminal e.state) ht', hstop.1, hstop.2]

def reqOf : Kind → Api → Option Req
  | .pub1, .publish p tag => if p.qos == 1 then some { id := p.pktid, tag := tag, pub := some p } else none
  | .pub2, .publish p tag =>
    if p.qos == 0 then none else if p.qos == 1 then none else some { id := p.pktid, tag := tag, pub := some p }
  | .sub, .subscribe id topics tag cb => some { id := id, tag := tag, topics := topics, cb := cb }
  | .unsub, .unsubscribe id topics tag => some { id := id, tag := tag, topics := topics.map (fun t => (t, 0)) }
  | _, _ => none

/-- kind, identifier and completion tag under which an API call asks to be registered -/
def callReq : Api → Option (Kind × Nat × Nat)
  | .publish p tag => if p.qos == 0 then none else if p.qos == 1 then some (.pub1, p.pktid, tag) else some (.pub2, p.pktid, tag)
  | .subscribe id _ tag _ => some (.sub, id, tag)
  | .unsubscribe id _ tag => some (.unsub, id, tag)
  | .ping _ => none

def regAccepted (k : Kind) (c : C) (call : Api) : List Req :=
  match reqOf k call with
  | some r => if (queue k c).any (fun e => e.id == r.id) then [] else [r]
  | none => []

/-- `reqOf` and `callReq` say the same: the request of kind `k` a call registers bears the identifier
and the tag the call asks for, and is registered without an acknowledgement -/
theorem reqOf_callReq (k : Kind) (call : Api) (r : Req) :
    reqOf k call = some r → callReq call = some (k, r.id, r.tag) ∧ r.state = 0 := by
  intro h
  cases call with
  | publish p tag =>
    cases k with
    | pub1 =>
      simp only [reqOf] at h
      split at h
      · cases h; have : p.qos = 1 := by simpa using ‹(p.qos == 1) = true›
        simp [callReq, this]
      · cases h
    | pub2 =>
      simp only [reqOf] at h
      split at h
      · cases h
      · split at h
        · cases h
        · cases h; simp [callReq, *]
    | _ => cases h
  | subscribe id topics tag cb => cases k <;> cases h; exact ⟨rfl, rfl⟩
  | unsubscribe id topics tag => cases k <;> cases h; exact ⟨rfl, rfl⟩
  | ping tag => cases k <;> cases h

theorem reqOf_of_callReq (call : Api) (k : Kind) (a tag : Nat) (h : callReq call = some (k, a, tag)) :
    (∃ r, reqOf k call = some r ∧ r.id = a ∧ r.tag = tag) ∧ ∀ k', k' ≠ k → reqOf k' call = none := by
  refine ⟨?_, fun k' hk => ?_⟩
  · cases call with
    | publish p tag' =>
      simp only [callReq] at h
      split at h
      · cases h
      · split at h <;> cases h
        · exact ⟨_, if_pos ‹_›, rfl, rfl⟩
        · exact ⟨_, (if_neg ‹_›).trans (if_neg ‹_›), rfl, rfl⟩
    | subscribe id topics tag' cb => cases h; exact ⟨_, rfl, rfl, rfl⟩
    | unsubscribe id topics tag' => cases h; exact ⟨_, rfl, rfl, rfl⟩
    | ping tag' => cases h
  · cases hr : reqOf k' call with
    | none => rfl
    | some r => rw [(reqOf_callReq k' call r hr).1] at h; cases h; exact absurd rfl hk

theorem mem_regAccepted {k : Kind} {c : C} {call : Api} {r : Req} :
    r ∈ regAccepted k c call ↔ reqOf k call = some r ∧ ∀ e ∈ queue k c, e.id ≠ r.id := by
  unfold regAccepted
  cases reqOf k call with
  | none => simp
  | some r0 =>
    show (r ∈ if (queue k c).any (fun e => e.id == r0.id) = true then [] else [r0]) ↔ _
    by_cases hany : (queue k c).any (fun e => e.id == r0.id) = true
    · rw [if_pos hany]
      obtain ⟨e, he, hid⟩ := List.any_eq_true.mp hany
      refine ⟨fun h => (by cases h), fun ⟨h, hn⟩ => ?_⟩
      cases h
      exact absurd (by simpa using hid) (hn e he)
    · rw [if_neg hany, List.mem_singleton]
      refine ⟨fun h => ?_, fun ⟨h, _⟩ => (Option.some.inj h).symm⟩
      subst h
      exact ⟨rfl, fun e he hid => hany (List.any_eq_true.mpr ⟨e, he, by simpa using hid⟩)⟩

theorem regAccepted_ids (k : Kind) (c : C) (call : Api) (r : Req) (hr : r ∈ regAccepted k c call) :
    (∃ tag, callReq call = some (k, r.id, tag)) ∧ ∀ e ∈ queue k c, e.id ≠ r.id :=
  ⟨⟨r.tag, (reqOf_callReq k call r (mem_regAccepted.mp hr).1).1⟩, (mem_regAccepted.mp hr).2⟩

theorem regAccepted_nodup (k : Kind) (c : C) (call : Api) : ((regAccepted k c call).map (·.id)).Nodup := by
  unfold regAccepted
  split
  · split <;> simp
  · simp

theorem regAccepted_state (k : Kind) (c : C) (call : Api) : ∀ r ∈ regAccepted k c call, r.state = 0 :=
  fun r hr => (reqOf_callReq k call r (mem_regAccepted.mp hr).1).2

theorem regAccepted_clear (c : C) (call : Api) (k : Kind) (a tag : Nat) (h : callReq call = some (k, a, tag))
    (hq : ∀ e ∈ queue k c, e.id ≠ a) :
    ∃ r, regAccepted k c call = [r] ∧ r.id = a ∧ r.tag = tag := by
  obtain ⟨⟨r, hr, hid, htag⟩, _⟩ := reqOf_of_callReq call k a tag h
  refine ⟨r, ?_, hid, htag⟩
  unfold regAccepted
  rw [hr]
  exact if_neg fun hany => by
    obtain ⟨e, he, heq⟩ := List.any_eq_true.mp hany
    exact hq e he (by rw [← hid]; simpa using heq)

theorem regAccepted_other (c : C) (call : Api) (k : Kind) (a tag : Nat) (h : callReq call = some (k, a, tag))
    (k' : Kind) (hk : k' ≠ k) : regAccepted k' c call = [] := by
  unfold regAccepted
  rw [(reqOf_of_callReq call k a tag h).2 k' hk]

theorem regAccepted_none (c : C) (call : Api) (h : callReq call = none) (k : Kind) : regAccepted k c call = [] := by
  refine List.eq_nil_iff_forall_not_mem.mpr fun r hr => ?_
  obtain ⟨⟨t, hreq⟩, _⟩ := regAccepted_ids k c call r hr
  rw [h] at hreq
  cases hreq

/-- the identifier `Encode` puts into a request: the caller's, or the next identifier of the
process-wide counter (`nextPacketID`: 0 is skipped) -/
def assigned (c : C) (id : Nat) : Nat := if id = 0 then (Mqtt.Model.Broker.nextPacketID c.ctr).1 else id

theorem assignId_eq (c : C) (id : Nat) :
    assignId c id =
      ({ c with ctr := if id == 0 then (Mqtt.Model.Broker.nextPacketID c.ctr).2 else c.ctr }, assigned c id) := by
  unfold assignId assigned
  by_cases h : id = 0
  · subst h; rfl
  · rw [if_neg (by simpa using h), if_neg (by simpa using h), if_neg h]

theorem assignId_of_ne (c : C) (id : Nat) (h : id ≠ 0) : assignId c id = (c, id) := by
  rw [assignId_eq, assigned, if_neg (by simpa using h), if_neg h]

/-- the call draws an identifier: it is a request that needs one and comes without -/
def drawsId (call : Api) : Bool :=
  match callReq call with
  | some (_, id, _) => id == 0
  | none => false

/-- `SubscribeMessage.AddTopic` over the filters of a call: a repeated filter replaces the QoS of its first occurrence -/
def addTopics (topics : List (Bytes × Nat)) : List (Bytes × Nat) :=
  topics.foldl (fun acc t =>
    if acc.any (fun x => x.1 == t.1) then acc.map (fun x => if x.1 == t.1 then (x.1, t.2) else x) else acc ++ [t]) []

/-- the call as `apiRegister` gets it: the identifier `Encode` assigned put in, the filters as `AddTopic` leaves them -/
def stamped (c : C) : Api → Api
  | .publish p tag => .publish (if p.qos == 0 then p else { p with pktid := assigned c p.pktid }) tag
  | .subscribe id topics tag cb => .subscribe (assigned c id) (addTopics topics) tag cb
  | .unsubscribe id topics tag => .unsubscribe (assigned c id) topics.eraseDups tag
  | .ping tag => .ping tag

/-- the packet a stamped call is written as -/
def reqPacket : Api → Packet
  | .publish p _ => .publish (if p.qos == 0 then { p with pktid := 0 } else p)
  | .subscribe id topics _ _ => .subscribe id topics
  | .unsubscribe id topics _ => .unsubscribe id topics
  | .ping _ => .pingreq

/-- **What `apiWrite` does**: the request is written with the identifier `assigned`, the counter moves iff one was
drawn, and the call goes on to the registration under that identifier. -/
theorem apiWrite_eq (c : C) (call : Api) :
    apiWrite c call =
      ({ c with ctr := if drawsId call then (Mqtt.Model.Broker.nextPacketID c.ctr).2 else c.ctr },
        [.wrote (reqPacket (stamped c call))], stamped c call) := by
  cases call with
  | publish p tag =>
    simp only [apiWrite, stamped, reqPacket, drawsId, callReq]
    by_cases h0 : (p.qos == 0) = true
    · simp only [h0, ↓reduceIte, Bool.false_eq_true]
    · simp only [h0, ↓reduceIte, assignId_eq, Bool.false_eq_true]
      cases p.qos == 1 <;> rfl
  | subscribe id topics tag cb => simp only [apiWrite, assignId_eq]; rfl
  | unsubscribe id topics tag => simp only [apiWrite, assignId_eq]; rfl
  | ping tag => rfl

theorem apiWrite_publish (c : C) (p : Pub) (tag : Nat) :
    apiWrite c (.publish p tag) =
      if p.qos == 0 then (c, [.wrote (.publish { p with pktid := 0 })], .publish p tag)
      else ((assignId c p.pktid).1, [.wrote (.publish { p with pktid := assigned c p.pktid })],
        .publish { p with pktid := assigned c p.pktid } tag) := by
  simp only [apiWrite]
  split
  · rfl
  · rw [assignId_eq]

theorem apiWrite_unsubscribe (c : C) (id : Nat) (topics : List Bytes) (tag : Nat) :
    apiWrite c (.unsubscribe id topics tag) =
      ((assignId c id).1, [.wrote (.unsubscribe (assigned c id) topics.eraseDups)],
        .unsubscribe (assigned c id) topics.eraseDups tag) := by
  simp only [apiWrite]
  rw [assignId_eq]

theorem apiWrite_fst (c : C) (call : Api) : (apiWrite c call).1 = { c with ctr := (apiWrite c call).1.ctr } := by
  rw [apiWrite_eq]

theorem apiWrite_queue (k : Kind) (c : C) (call : Api) : queue k (apiWrite c call).1 = queue k c := by
  rw [apiWrite_fst]; cases k <;> rfl

theorem apiWrite_connected (c : C) (call : Api) : (apiWrite c call).1.connected = c.connected := by
  rw [apiWrite_fst]

theorem apiWrite_pings (c : C) (call : Api) : (apiWrite c call).1.pings = c.pings := by
  rw [apiWrite_fst]

theorem callReq_stamped (c : C) (call : Api) :
    callReq (stamped c call) = (callReq call).map fun x => (x.1, assigned c x.2.1, x.2.2) := by
  cases call with
  | publish p tag =>
    simp only [stamped, callReq]
    by_cases h0 : (p.qos == 0) = true
    · simp only [h0, ↓reduceIte]; rfl
    · simp only [h0, ↓reduceIte, Bool.false_eq_true]
      split <;> rfl
  | _ => rfl

theorem callReq_apiWrite (c : C) (call : Api) :
    callReq (apiWrite c call).2.2 = (callReq call).map fun x => (x.1, assigned c x.2.1, x.2.2) := by
  rw [apiWrite_eq]; exact callReq_stamped c call

theorem apiWrite_doneTags (c : C) (call : Api) : doneTags (apiWrite c call).2.1 = [] := by
  rw [apiWrite_eq]; rfl

theorem apiRegister_queue (k : Kind) (c : C) (call : Api) :
    queue k (apiRegister c call).1 = queue k c ++ regAccepted k c call := by
  have h : queue k (apiRegister c call).1 = match reqOf k call with
      | some r => (queue k c).wait r
      | none => queue k c := by
    cases call with
    | publish p tag =>
      by_cases h0 : p.qos = 0
      · cases k <;> simp [apiRegister, reqOf, queue, h0]
      · by_cases h1 : p.qos = 1
        · cases k <;> simp [apiRegister, reqOf, queue, h1]
        · cases k <;> simp [apiRegister, reqOf, queue, h0, h1]
    | subscribe id topics tag cb => cases k <;> rfl
    | unsubscribe id topics tag => cases k <;> rfl
    | ping tag => cases k <;> rfl
  rw [h, regAccepted]
  cases reqOf k call with
  | none => exact (List.append_nil _).symm
  | some r =>
    show Queue.wait _ r = _ ++ if _ then [] else [r]
    unfold Queue.wait
    split
    · exact (List.append_nil _).symm
    · rfl

theorem apiRegister_keeps (c : C) (call : Api) :
    (apiRegister c call).1.connected = c.connected ∧ (apiRegister c call).1.ctr = c.ctr ∧
    (apiRegister c call).1.pings = (c.pings ++ match call with | .ping tag => [(0, tag)] | _ => []) ∧
    (apiRegister c call).2 = match call with
      | .publish p tag => if p.qos == 0 then completeOut tag false else []
      | _ => [] := by
  cases call with
  | publish p tag =>
    simp only [apiRegister]
    split
    · exact ⟨rfl, rfl, (List.append_nil _).symm, rfl⟩
    · split <;> exact ⟨rfl, rfl, (List.append_nil _).symm, rfl⟩
  | ping tag => exact ⟨rfl, rfl, rfl, rfl⟩
  | _ => exact ⟨rfl, rfl, (List.append_nil _).symm, rfl⟩

theorem apiRegister_out_nil (c : C) (call : Api) (k : Kind) (id tag : Nat) (h : callReq call = some (k, id, tag)) :
    (apiRegister c call).2 = [] := by
  rw [(apiRegister_keeps c call).2.2.2]
  cases call with
  | publish p tag' =>
    simp only [callReq] at h
    split at h
    · cases h
    · exact if_neg ‹_›
  | _ => rfl

/-- `c'` is `c` except for the topic trie -/
def Frame (c c' : C) : Prop := c' = { c with topics := c'.topics }

theorem Frame.refl (c : C) : Frame c c := rfl

theorem Frame.trans {a b c : C} (h1 : Frame a b) (h2 : Frame b c) : Frame a c := by
  unfold Frame at *
  rw [h2, h1]

theorem Frame.queue {c c' : C} (h : Frame c c') (k : Kind) : queue k c' = queue k c := by
  unfold Frame at h
  rw [h]; cases k <;> rfl

theorem Frame.connected {c c' : C} (h : Frame c c') : c'.connected = c.connected := by
  unfold Frame at h
  rw [h]

theorem Frame.pings {c c' : C} (h : Frame c c') : c'.pings = c.pings := by
  unfold Frame at h
  rw [h]

theorem Frame.pub2in {c c' : C} (h : Frame c c') : c'.pub2in = c.pub2in := by
  unfold Frame at h
  rw [h]

theorem Frame.ctr {c c' : C} (h : Frame c c') : c'.ctr = c.ctr := by
  unfold Frame at h
  rw [h]

theorem subscribeDone_frame (c : C) (r : Req) : Frame c (subscribeDone c r).1 := by
  unfold subscribeDone
  split <;> rfl

theorem unsubscribeDone_frame (c : C) (r : Req) : Frame c (unsubscribeDone c r).1 := rfl

theorem foldDone_frame (f : C → Req → C × List Out) (hf : ∀ c r, Frame c (f c r).1) (c : C) (rs : List Req) :
    Frame c (foldDone f c rs).1 := by
  induction rs generalizing c with
  | nil => rfl
  | cons r rs ih => exact (hf c r).trans (ih (f c r).1)

theorem subsDone_frame (c : C) (rs : List Req) : Frame c (foldDone subscribeDone c rs).1 :=
  foldDone_frame subscribeDone subscribeDone_frame c rs

theorem unsubsDone_frame (c : C) (rs : List Req) : Frame c (foldDone unsubscribeDone c rs).1 :=
  foldDone_frame unsubscribeDone unsubscribeDone_frame c rs

theorem foldDone_doneTags (f : C → Req → C × List Out) (hf : ∀ c r, doneTags (f c r).2 = nz [r.tag]) (c : C)
    (rs : List Req) : doneTags (foldDone f c rs).2 = nz (rs.map (·.tag)) := by
  induction rs generalizing c with
  | nil => rfl
  | cons r rs ih =>
    simp only [foldDone, doneTags_append, hf, ih, List.map_cons]
    exact (nz_cons _ _).symm

theorem subscribeDone_doneTags (c : C) (r : Req) : doneTags (subscribeDone c r).2 = nz [r.tag] := by
  unfold subscribeDone
  split <;> exact doneTags_completeOut _ _

theorem unsubscribeDone_doneTags (c : C) (r : Req) : doneTags (unsubscribeDone c r).2 = nz [r.tag] :=
  doneTags_completeOut _ _

def ackedQueue : Kind → C → Packet → Option Queue
  | .pub1, c, .puback id => some (c.pub1ack.ack tPUBACK id)
  | .pub2, c, .pubcomp id => some (c.pub2out.ack tPUBCOMP id)
  | .sub, c, .suback id codes => some (c.suback.ack tSUBACK id codes)
  | .unsub, c, .unsuback id => some (c.unsuback.ack tUNSUBACK id)
  | _, _, _ => none

/-- identifier of the terminal acknowledgement of kind `k` carried by a packet -/
def termId : Kind → Packet → Option Nat
  | .pub1, .puback id => some id
  | .pub2, .pubcomp id => some id
  | .sub, .suback id _ => some id
  | .unsub, .unsuback id => some id
  | _, _ => none

/-- requests handed back (completed) while packet `p` is processed -/
def peerReleased (k : Kind) (c : C) (p : Packet) : List Req :=
  match ackedQueue k c p with
  | some q => q.acked.2
  | none => []

theorem peer_publish_fst (c : C) (pub : Pub) :
    (peer c (.publish pub)).1 =
      if pub.qos == 2 then { c with pub2in := c.pub2in.wait { id := pub.pktid, pub := some pub } } else c := by
  simp only [peer]
  split
  · rfl
  · split <;> rfl

theorem peer_keeps (c : C) (p : Packet) :
    (peer c p).1.connected = c.connected ∧ (peer c p).1.ctr = c.ctr ∧
    (p ≠ .pingresp → (peer c p).1.pings = c.pings) := by
  cases p with
  | publish pub => rw [peer_publish_fst]; split <;> exact ⟨rfl, rfl, fun _ => rfl⟩
  | suback id codes => exact ⟨(subsDone_frame _ _).connected, (subsDone_frame _ _).ctr, fun _ => (subsDone_frame _ _).pings⟩
  | unsuback id =>
    exact ⟨(unsubsDone_frame _ _).connected, (unsubsDone_frame _ _).ctr, fun _ => (unsubsDone_frame _ _).pings⟩
  | pingresp => exact ⟨rfl, rfl, fun h => absurd rfl h⟩
  | _ => exact ⟨rfl, rfl, fun _ => rfl⟩

theorem peer_connected (c : C) (p : Packet) : (peer c p).1.connected = c.connected := (peer_keeps c p).1

theorem peer_pings (c : C) (p : Packet) (h : p ≠ .pingresp) : (peer c p).1.pings = c.pings := (peer_keeps c p).2.2 h

/-- **What a packet does to ack queue `k`.**  A terminal acknowledgement of kind `k` marks the request
bearing its identifier and hands back the terminal prefix, whose completions fire in order and are
all that fires; a PUBREC marks a QoS 2 publish without ending its exchange; every other packet
leaves the queue alone. -/
theorem peer_kind (k : Kind) (c : C) (p : Packet) :
    (∃ t id codes, terminal t = true ∧ termId k p = some id ∧
      ackedQueue k c p = some ((queue k c).ack t id codes) ∧
      queue k (peer c p).1 = ((queue k c).ack t id codes).acked.1 ∧
      doneTags (peer c p).2 = nz (((queue k c).ack t id codes).acked.2.map (·.tag))) ∨
    (termId k p = none ∧ ackedQueue k c p = none ∧
      (queue k (peer c p).1 = queue k c ∨ ∃ id, queue k (peer c p).1 = (queue k c).ack tPUBREC id)) := by
  have hfire := doneTags_flatMap (fun r : Req => completeOut r.tag false) (·.tag) (fun _ => doneTags_completeOut _ _)
  cases p with
  | publish pub =>
    refine .inr ⟨by cases k <;> rfl, by cases k <;> rfl, .inl ?_⟩
    rw [peer_publish_fst]; split <;> cases k <;> rfl
  | puback id =>
    cases k with
    | pub1 => exact .inl ⟨_, id, [], terminal_PUBACK, rfl, rfl, rfl, hfire _⟩
    | _ => exact .inr ⟨rfl, rfl, .inl rfl⟩
  | pubcomp id =>
    cases k with
    | pub2 => exact .inl ⟨_, id, [], terminal_PUBCOMP, rfl, rfl, rfl, hfire _⟩
    | _ => exact .inr ⟨rfl, rfl, .inl rfl⟩
  | suback id codes =>
    cases k with
    | sub =>
      exact .inl ⟨_, id, codes, terminal_SUBACK, rfl, rfl, (subsDone_frame _ _).queue .sub,
        foldDone_doneTags _ subscribeDone_doneTags _ _⟩
    | _ => exact .inr ⟨rfl, rfl, .inl ((subsDone_frame _ _).queue _)⟩
  | unsuback id =>
    cases k with
    | unsub =>
      exact .inl ⟨_, id, [], terminal_UNSUBACK, rfl, rfl, (unsubsDone_frame _ _).queue .unsub,
        foldDone_doneTags _ unsubscribeDone_doneTags _ _⟩
    | _ => exact .inr ⟨rfl, rfl, .inl ((unsubsDone_frame _ _).queue _)⟩
  | pubrec id =>
    cases k with
    | pub2 => exact .inr ⟨rfl, rfl, .inr ⟨id, rfl⟩⟩
    | _ => exact .inr ⟨rfl, rfl, .inl rfl⟩
  | pingresp | pubrel id => exact .inr ⟨by cases k <;> rfl, by cases k <;> rfl, .inl (by cases k <;> rfl)⟩
  | _ => exact .inr ⟨by cases k <;> rfl, by cases k <;> rfl, .inl rfl⟩

theorem peer_conservation (k : Kind) (c : C) (p : Packet) :
    (peerReleased k c p ++ queue k (peer c p).1).map key = (queue k c).map key := by
  unfold peerReleased
  rcases peer_kind k c p with ⟨t, id, codes, _, _, ha, hq, _⟩ | ⟨_, ha, hq | ⟨id, hq⟩⟩ <;> rw [ha, hq]
  · exact (congrArg (List.map key) (acked_conservation _)).trans (ack_map_key ..)
  · rfl
  · exact ack_map_key ..

theorem peer_fired (k : Kind) (c : C) (p : Packet) :
    (if (termId k p).isSome then doneTags (peer c p).2 else []) = nz ((peerReleased k c p).map (·.tag)) := by
  unfold peerReleased
  rcases peer_kind k c p with ⟨t, id, codes, _, ht, ha, _, hd⟩ | ⟨ht, ha, _⟩ <;> rw [ht, ha]
  · exact hd
  · rfl

theorem peer_terminal_origin (k : Kind) (c : C) (p : Packet) (r : Req) (hr : r ∈ queue k (peer c p).1)
    (ht : terminal r.state = true) :
    (∃ r0 ∈ queue k c, key r0 = key r ∧ r0.state = r.state) ∨ termId k p = some r.id := by
  rcases peer_kind k c p with ⟨t, id, codes, _, hid, _, hq, _⟩ | ⟨_, _, hq | ⟨id, hq⟩⟩ <;> rw [hq] at hr
  · obtain ⟨e, he, hk, h | h⟩ := mem_ack _ _ _ _ _ ((List.dropWhile_sublist _).subset hr)
    · exact .inr (by rw [hid, ← h.1]; exact congrArg some (congrArg (·.1) hk))
    · exact .inl ⟨e, he, hk, by rw [h]⟩
  · exact .inl ⟨r, hr, rfl, rfl⟩
  · obtain ⟨e, he, hk, h | h⟩ := mem_ack _ _ _ _ _ hr
    · rw [h.2, terminal_PUBREC] at ht; cases ht
    · exact .inl ⟨e, he, hk, by rw [h]⟩

theorem peer_publish0 (c : C) (p : Pub) (hq : p.qos = 0) : peer c (.publish p) = (c, onPublish c p) := by
  simp [peer, hq]

theorem peer_publish1 (c : C) (p : Pub) (hq : p.qos = 1) :
    peer c (.publish p) = (c, .wrote (.puback p.pktid) :: onPublish c p) := by
  simp [peer, hq]

theorem peer_publish2 (c : C) (p : Pub) (hq : p.qos = 2) :
    peer c (.publish p) =
      ({ c with pub2in := c.pub2in.wait { id := p.pktid, pub := some p } }, [.wrote (.pubrec p.pktid)]) := by
  simp [peer, hq]

theorem peer_publish2_new (c : C) (p : Pub) (hq : p.qos = 2) (h : ¬ ∃ e ∈ c.pub2in, e.id = p.pktid) :
    peer c (.publish p) =
      ({ c with pub2in := c.pub2in ++ [{ id := p.pktid, pub := some p }] }, [.wrote (.pubrec p.pktid)]) := by
  have : ¬ c.pub2in.any (fun e => e.id == p.pktid) = true := fun hany => by
    obtain ⟨e, he, hid⟩ := List.any_eq_true.mp hany
    exact h ⟨e, he, by simpa using hid⟩
  rw [peer_publish2 c p hq, Queue.wait, if_neg this]

theorem peer_publish2_dup (c : C) (p : Pub) (hq : p.qos = 2) (h : ∃ e ∈ c.pub2in, e.id = p.pktid) :
    peer c (.publish p) = (c, [.wrote (.pubrec p.pktid)]) := by
  obtain ⟨e, he, hid⟩ := h
  have : c.pub2in.any (fun e => e.id == p.pktid) = true := List.any_eq_true.mpr ⟨e, he, by simpa using hid⟩
  rw [peer_publish2 c p hq, Queue.wait, if_pos this]

/-- a PUBREL: the exchange is marked, the released prefix dispatched in order, the PUBCOMP written (`onPublish`
reads the trie only, so the state it is given may be the one before) -/
theorem peer_pubrel (c : C) (id : Nat) :
    peer c (.pubrel id) =
      ({ c with pub2in := (c.pub2in.ack tPUBREL id).acked.1 },
       (c.pub2in.ack tPUBREL id).acked.2.flatMap (fun r => match r.pub with | some pb => onPublish c pb | none => []) ++
        [.wrote (.pubcomp id)]) := by
  simp only [peer]
  congr 1

theorem peer_suback_head (c : C) (r : Req) (rest : Queue) (hq : c.suback = r :: rest)
    (hid : ∀ e ∈ rest, e.id ≠ r.id) (hh : ∀ e, rest.head? = some e → terminal e.state = false) (codes : List Nat) :
    peer c (.suback r.id codes) =
      subscribeDone { c with suback := rest } { r with state := tSUBACK, codes := codes } := by
  simp only [peer, hq]
  rw [ack_acked_head r rest tSUBACK codes terminal_SUBACK hid hh]
  simp [foldDone]

theorem peer_unsuback_head (c : C) (r : Req) (rest : Queue) (hq : c.unsuback = r :: rest)
    (hid : ∀ e ∈ rest, e.id ≠ r.id) (hh : ∀ e, rest.head? = some e → terminal e.state = false) :
    peer c (.unsuback r.id) =
      unsubscribeDone { c with unsuback := rest } { r with state := tUNSUBACK, codes := [] } := by
  simp only [peer, hq]
  rw [ack_acked_head r rest tUNSUBACK [] terminal_UNSUBACK hid hh]
  simp [foldDone]

theorem peer_pingresp (c : C) :
    peer c .pingresp = ({ c with pings := (pingAcked (pingAck c.pings)).1 },
      (pingAcked (pingAck c.pings)).2.flatMap (fun e => completeOut e.2 false)) := rfl

theorem onPublish_congr (c c' : C) (h : c'.topics = c.topics) (p : Pub) : onPublish c' p = onPublish c p := by
  simp [onPublish, h]

def pingRequested : List Ev → List Nat
  | [] => []
  | .api (.ping tag) :: evs => tag :: pingRequested evs
  | .apiEarlyAck (.ping tag) _ :: evs => tag :: pingRequested evs
  | _ :: evs => pingRequested evs

theorem pingRequested_apiWrite (c : C) (call : Api) :
    pingRequested [.api (apiWrite c call).2.2] = pingRequested [.api call] := by
  rw [apiWrite_eq]; cases call <;> rfl

theorem connect_pings (c : C) (a : Answer) : (connect c a).1.pings = c.pings := by rw [connect_fst]

theorem api_pings (c : C) (call : Api) :
    (callOf c call).1.pings = c.pings ++ (pingRequested [.api call]).map ((0, ·)) := by
  rw [callOf, (apiRegister_keeps _ _).2.2.1, apiWrite_pings, ← pingRequested_apiWrite c call]
  cases (apiWrite c call).2.2 <;> rfl

theorem connect_queue (k : Kind) (c : C) (a : Answer) : queue k (connect c a).1 = queue k c := by
  rw [connect_fst]; cases k <;> rfl

theorem step_connected (c : C) (ev : Ev) (hc : c.connected = true) : (step c ev).1.connected = true := by
  cases ev with
  | connect a =>
    cases a with
    | connack sp code => simp only [step, connect]; split <;> simp [hc]
    | _ => exact hc
  | api call => rw [step_api c hc, callOf, (apiRegister_keeps _ _).1, apiWrite_connected]; exact hc
  | peer p => rw [step_peer c hc, peer_connected]; exact hc
  | apiEarlyAck call ack =>
    simp only [step, hc, Bool.not_true, Bool.false_eq_true, ↓reduceIte]
    rw [peer_connected, (apiRegister_keeps _ _).1, apiWrite_connected]; exact hc

/-- **the acknowledgement inside the window is the call followed by the packet**: `service.ackmu`
makes the acknowledgement wait for the registration, so the composite event is exactly `.api call`
followed by `.peer ack` - state and outputs, connected or not -/
theorem step_early (c : C) (call : Api) (ack : Packet) :
    step c (.apiEarlyAck call ack) =
      ((step (step c (.api call)).1 (.peer ack)).1,
       (step c (.api call)).2 ++ (step (step c (.api call)).1 (.peer ack)).2) := by
  cases hc : c.connected with
  | true =>
    rw [step_peer _ (step_connected c (.api call) hc), step_api c hc]
    simp only [step, callOf, hc, Bool.not_true, Bool.false_eq_true, ↓reduceIte, List.append_assoc]
  | false => simp [step, hc]

/-- **What an event is**: `Connect`; nothing, before `Connect` has succeeded; a call; a packet; a call followed
by a packet.  A statement about `step c ev` - state, event and outputs - follows from its instances at the
three primitives, its instance at the unconnected client (for an event that is not `Connect`: callers that
split the event there anyway ignore that) and the way it composes. -/
theorem step_elim {motive : C → Ev → C × List Out → Prop}
    (hconnect : ∀ c a, motive c (.connect a) (connect c a))
    (hoff : ∀ c ev, c.connected = false → (∀ a, ev ≠ .connect a) → motive c ev (c, offOut ev))
    (hapi : ∀ c call, c.connected = true → motive c (.api call) (callOf c call))
    (hpeer : ∀ c p, c.connected = true → motive c (.peer p) (peer c p))
    (hearly : ∀ c call ack, c.connected = true → (callOf c call).1.connected = true →
      motive c (.api call) (callOf c call) → motive (callOf c call).1 (.peer ack) (peer (callOf c call).1 ack) →
      motive c (.apiEarlyAck call ack)
        ((peer (callOf c call).1 ack).1, (callOf c call).2 ++ (peer (callOf c call).1 ack).2))
    (c : C) (ev : Ev) : motive c ev (step c ev) := by
  cases hc : c.connected with
  | false =>
    cases ev with
    | connect a => exact hconnect c a
    | _ => rw [step_off c hc]; exact hoff c _ hc (fun a h => by cases h)
  | true =>
    have hc1 : ∀ call, (callOf c call).1.connected = true := fun call => by
      have := step_connected c (.api call) hc
      rwa [step_api c hc] at this
    cases ev with
    | connect a => exact hconnect c a
    | api call => rw [step_api c hc]; exact hapi c call hc
    | peer p => rw [step_peer c hc]; exact hpeer c p hc
    | apiEarlyAck call ack =>
      rw [step_early, step_peer _ (step_connected c (.api call) hc), step_api c hc]
      exact hearly c call ack hc (hc1 call) (hapi c call hc) (hpeer _ ack (hc1 call))

theorem step_keeps {P : C → Prop} (hconnect : ∀ c a, P c → P (connect c a).1)
    (hapi : ∀ c call, P c → P (callOf c call).1)
    (hpeer : ∀ c p, P c → P (peer c p).1) (c : C) (ev : Ev) : P c → P (step c ev).1 :=
  step_elim (motive := fun c _ r => P c → P r.1) hconnect (fun _ _ _ _ h => h) (fun c call _ => hapi c call)
    (fun c p _ => hpeer c p) (fun _ _ _ _ _ h1 h2 h => h2 (h1 h)) c ev

theorem run_induction {P : C → Prop} (hstep : ∀ c ev, P c → P (step c ev).1) (c : C) (evs : List Ev) (h : P c) :
    P (runState c evs) := by
  induction evs generalizing c with
  | nil => exact h
  | cons ev evs ih => exact ih _ (hstep c ev h)

theorem runState_connected (c : C) (evs : List Ev) (hc : c.connected = true) : (runState c evs).connected = true :=
  run_induction (P := fun c => c.connected = true) step_connected c evs hc

theorem run_dups (c : C) (hc : c.connected = true) (id : Nat) (h : ∃ e ∈ c.pub2in, e.id = id) (dups : List Pub)
    (hd : ∀ d ∈ dups, d.qos = 2 ∧ d.pktid = id) :
    runState c (dups.map (fun d => Ev.peer (.publish d))) = c ∧
    runOuts c (dups.map (fun d => Ev.peer (.publish d))) = dups.map (fun _ => [Out.wrote (.pubrec id)]) := by
  induction dups with
  | nil => exact ⟨rfl, rfl⟩
  | cons d dups ih =>
    obtain ⟨hq, hid⟩ := hd d (by simp)
    have hs : step c (.peer (.publish d)) = (c, [.wrote (.pubrec id)]) := by
      rw [step_peer c hc, peer_publish2_dup c d hq (by rw [hid]; exact h), hid]
    have ih' := ih (fun x hx => hd x (by simp [hx]))
    simp only [List.map_cons, runState_cons, runOuts, hs, ih'.1, ih'.2, and_self]

end Mqtt.Proofs.Client
