/-
`Broker.Inv` (defined at the end of BrokerOps.lean, with `Inv_init`) is preserved by every event: by every primitive
move (`Inv_prim`), hence by every chain of them (`Inv_step`, `Inv_run`).  It has
a part about the tries, which follows the calls into the topic store, and a part about the tables (every
live connection has a session), which only `setSess`, the closing and the registration of a connection touch.
At the end, which events leave the tries and the connection table alone (`packet_state`, `step_rroot`,
`packet_subscribe_conns`).
-/
import Mqtt.Proofs.BrokerMoves

namespace Mqtt.Proofs.Broker
open Mqtt.Iface.Broker Mqtt.Model.Broker
open Mqtt.Model.Topics (MemTopics RMsg)
open Mqtt.Proofs.Topics (WF RWF absR retain_sroot subscribe_WF unsubscribe_WF subscribe_rroot unsubscribe_rroot)

theorem Inv_of_tries (b b' : B) (h : Inv b) (hc : b'.conns = b.conns) (hs : b'.sess = b.sess)
    (hwf : WF b'.topics.sroot) (hrwf : RWF b'.topics.rroot)
    (hfl : ∀ e ∈ absR b'.topics.rroot, e.2.retain = true) : Inv b' := by
  refine ⟨hwf, hrwf, hfl, fun cn hcn ha => ?_⟩
  rw [getSess_congr b b' hs]
  exact h.sess cn (hc ▸ hcn) ha

theorem Inv_of_frame (b b' : B) (h : Inv b) (hc : b'.conns = b.conns) (hs : b'.sess = b.sess)
    (hwf : WF b'.topics.sroot) (hr : b'.topics.rroot = b.topics.rroot) : Inv b' :=
  Inv_of_tries b b' h hc hs hwf (hr ▸ h.rwf) (hr ▸ h.rflag)

theorem Inv_setSess (b : B) (s : Sess) (h : Inv b) : Inv (b.setSess s) :=
  ⟨h.wf, h.rwf, h.rflag, fun cn hcn ha => getSess_setSess_isSome b s cn.sess (Or.inl (h.sess cn hcn ha))⟩

theorem Inv_storeDel (b : B) (k : Bytes) (h : Inv b) : Inv (b.storeDel k) :=
  Inv_of_frame b _ h rfl rfl h.wf rfl

theorem Inv_storeSet (b : B) (k : Bytes) (r : Nat) (h : Inv b) : Inv (b.storeSet k r) :=
  Inv_of_frame b _ h rfl rfl h.wf rfl

theorem Inv_nextRef (b : B) (n : Nat) (h : Inv b) : Inv { b with nextRef := n } :=
  Inv_of_frame b _ h rfl rfl h.wf rfl

theorem retain_inv (mt : MemTopics) (r : RMsg) (hwf : RWF mt.rroot)
    (hf : ∀ e ∈ absR mt.rroot, e.2.retain = true) (hr : r.retain = true) :
    RWF (mt.retain r).1.rroot ∧ ∀ e ∈ absR (mt.retain r).1.rroot, e.2.retain = true :=
  ⟨(Mqtt.Proofs.Topics.retain_contract mt r hwf).wf, Mqtt.Proofs.Topics.retain_all mt r hwf hf fun _ _ => hr⟩

theorem unsubFold_rroot (c : Nat) (topics : List Bytes) : ∀ ts : MemTopics,
    (topics.foldl (fun ts t => (ts.unsubscribe t (some c)).1) ts).rroot = ts.rroot := by
  induction topics with
  | nil => intro ts; rfl
  | cons t rest ih => intro ts; exact (ih _).trans (unsubscribe_rroot ts t (some c))

theorem unsubAll_eq_fold (c : Nat) (l : List (Bytes × Nat)) : ∀ ts : MemTopics,
    unsubAll ts c l = (l.map (·.1)).foldl (fun ts t => (ts.unsubscribe t (some c)).1) ts := by
  induction l with
  | nil => intro ts; rfl
  | cons tq rest ih => intro ts; obtain ⟨t, q⟩ := tq; simp only [unsubAll, List.map_cons, List.foldl_cons, ih]

theorem unsubAll_rroot (c : Nat) (l : List (Bytes × Nat)) (ts : MemTopics) : (unsubAll ts c l).rroot = ts.rroot := by
  rw [unsubAll_eq_fold]
  exact unsubFold_rroot c _ ts

theorem resubscribe_WF (c : Nat) (l : List (Bytes × Nat)) : ∀ ts : MemTopics, WF ts.sroot →
    WF (resubscribe ts c l).sroot := by
  induction l with
  | nil => exact fun _ h => h
  | cons tq rest ih => exact fun ts h => ih _ (subscribe_WF ts _ tq.1 tq.2 c h)

theorem Inv_markDead (b : B) (c : Nat) (h : Inv b) :
    Inv { b with conns := b.conns.map (fun (x : Conn) => if x.id == c then { x with alive := false } else x) } := by
  refine ⟨h.wf, h.rwf, h.rflag, ?_⟩
  intro cn hcn ha
  obtain ⟨x, hx, rfl⟩ := List.mem_map.mp hcn
  by_cases hxc : (x.id == c) = true
  · simp [hxc] at ha
  · simp only [hxc, Bool.false_eq_true, ↓reduceIte] at ha ⊢
    exact h.sess x hx ha

theorem Inv_prim (b b' : B) (h : Inv b) (hp : Prim b b') : Inv b' := by
  cases hp with
  | sess _ _ => exact Inv_setSess _ _ h
  | fresh s _ _ _ => exact Inv_storeSet _ _ _ (Inv_setSess _ _ (Inv_nextRef b _ h))
  | forget cid => exact Inv_storeDel _ _ h
  | dead c => exact Inv_markDead b c h
  | conn c hs =>
    refine ⟨h.wf, h.rwf, h.rflag, fun cn hcn ha => ?_⟩
    rcases List.mem_append.mp hcn with hcn | hcn
    · exact h.sess cn (List.mem_filter.mp hcn).1 ha
    · rw [List.mem_singleton.mp hcn]; exact Option.isSome_iff_exists.mpr ⟨_, hs⟩
  | sub t q c => exact Inv_of_frame b _ h rfl rfl (subscribe_WF b.topics _ t q c h.wf) (subscribe_rroot b.topics _ t q c)
  | unsub t c => exact Inv_of_frame b _ h rfl rfl (unsubscribe_WF b.topics t _ h.wf) (unsubscribe_rroot b.topics t _)
  | retain r hr =>
    have := retain_inv b.topics r h.rwf h.rflag hr
    exact Inv_of_tries b _ h rfl rfl (by rw [show _ = (b.topics.retain r).1.sroot from rfl, retain_sroot]; exact h.wf)
      this.1 this.2
  | ctr n => exact Inv_of_frame b _ h rfl rfl h.wf rfl

theorem Inv_onPublish {b : B} (h : Inv b) (m : Msg) : Inv (onPublish b m).1 := (onPublish_moves b m).keeps Inv_prim h

theorem Inv_stop {b : B} (h : Inv b) (c : Nat) : Inv (stop b c).1 := (stop_moves b c).keeps Inv_prim h

/-- an event that carries no application message into the broker: everything
except PUBLISH, PUBREL (which releases stored QoS 2 messages), DISCONNECT and
connection end (which may publish the will), a CONNECT with a supplied client
identifier (it ends an existing connection of that client, MQTT-3.1.4-2, whose
will is then published) and the in-process `Publish` -/
def carriesNoMessage : Ev → Bool
  | .first _ (.connect req) _ => req.clientId.isEmpty
  | .first _ _ _ => true
  | .packet _ (.publish _) => false
  | .packet _ (.pubrel _) => false
  | .packet _ .disconnect => false
  | .packet _ _ => true
  | .close _ => false
  | .srvPub _ => false
  | .srvSub _ _ _ => true
  | .srvUnsub _ _ => true

/-- the packets that can change the subscription trie (DISCONNECT: by ending the connection) -/
def changesSubs : Packet → Bool
  | .subscribe _ _ | .unsubscribe _ _ | .disconnect => true
  | _ => false

theorem packet_state (b : B) (c : Nat) (p : Packet) :
    (changesSubs p = false → (packet b c p).1.topics.sroot = b.topics.sroot) ∧
    (carriesNoMessage (.packet c p) = true → (packet b c p).1.topics.rroot = b.topics.rroot) := by
  rcases packet_cases b c p with e | ⟨cn, s, hc, ha, hs, e⟩ <;> rw [e]
  · exact ⟨fun _ => rfl, fun _ => rfl⟩
  cases p with
  | publish pub =>
    simp only [BrokerLife.served]
    cases pub.qos == 2
    · refine ⟨fun _ => ?_, fun h => Bool.noConfusion h⟩
      cases pub.qos == 1 <;> exact (BrokerQos.onPublish_frame b _).sroot
    · exact ⟨fun _ => rfl, fun h => Bool.noConfusion h⟩
  | pubrel id =>
    exact ⟨fun _ => (BrokerQos.releaseAll_frame _ _).sroot, fun h => Bool.noConfusion h⟩
  | subscribe id ts =>
    obtain ⟨_, e⟩ := served_subscribe b c s id ts
    exact ⟨fun h => Bool.noConfusion h, fun _ => e ▸ resubscribe_rroot c ts b.topics⟩
  | unsubscribe id ts => exact ⟨fun h => Bool.noConfusion h, fun _ => unsubFold_rroot c ts b.topics⟩
  | disconnect => exact ⟨fun h => Bool.noConfusion h, fun h => Bool.noConfusion h⟩
  | _ => exact ⟨fun _ => rfl, fun _ => rfl⟩

theorem step_rroot (b : B) (e : Ev) (he : carriesNoMessage e = true) :
    (step b e).1.topics.rroot = b.topics.rroot := by
  cases e with
  | first c f a =>
    have ht : takeOver b f a = (b, []) := by
      rcases Mqtt.Proofs.Connect.takeOver_cases b f a with h0 | ⟨req, rfl, _, _, hne, _⟩
      · exact h0
      · rw [show carriesNoMessage _ = req.clientId.isEmpty from rfl, hne] at he; cases he
    rw [Mqtt.Proofs.Connect.step_first_eq, Mqtt.Proofs.Connect.connect_eq, ht]
    refine BrokerLife.first_state (fun x => x.topics.rroot = b.topics.rroot) rfl c f a fun req _ _ => ?_
    unfold BrokerLife.accepted
    cases BrokerLife.resumed b c req with
    | some s => exact resubscribe_rroot c s.topics _
    | none => rfl
  | packet c p => exact (packet_state b c p).2 he
  | close c => cases he
  | srvPub p => cases he
  | srvSub cb f q =>
    show (srvSub b cb f q).1.topics.rroot = _
    rw [srvSub_fst]
    exact subscribe_rroot _ _ _ _ _
  | srvUnsub cb f =>
    show (srvUnsub b cb f).1.topics.rroot = _
    rw [srvUnsub_fst]
    exact unsubscribe_rroot b.topics f (some cb)

theorem packet_subscribe_conns (b : B) (c id : Nat) (topics : List (Bytes × Nat)) :
    (packet b c (.subscribe id topics)).1.conns = b.conns := by
  rcases packet_cases b c (.subscribe id topics) with e | ⟨cn, s, hc, ha, hs, _⟩
  · rw [e]
  · obtain ⟨_, e⟩ := packet_subscribe_state id topics hc ha hs
    rw [e]; rfl

theorem packet_unsubscribe_conns (b : B) (hinv : Inv b) (c id : Nat) (topics : List Bytes)
    (hl : b.alive c = true) : (packet b c (.unsubscribe id topics)).1.conns = b.conns := by
  obtain ⟨cn, s, hc, ha, hs⟩ := hinv.live hl
  rw [packet_unsubscribe b c cn s id topics hc ha hs]
  rfl

theorem Inv_step {b : B} (h : Inv b) (e : Ev) : Inv (step b e).1 := (step_moves b e).keeps Inv_prim h

theorem Inv_run {b : B} (h : Inv b) (es : List Ev) : Inv (run b es).1 :=
  Mqtt.Proofs.Connect.run_induction (P := Inv) (fun _ e h => Inv_step h e) es h

end Mqtt.Proofs.Broker
