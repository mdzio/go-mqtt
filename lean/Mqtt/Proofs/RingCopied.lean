/-
Length and position lemmas for the model's `ringPut dst src s` (`Model/WriteWrap.lean`: the ring `dst` after
`ringCopy(dst, src, s)`, written out as a list expression).  Plain list facts about the model's function: nothing here
depends on the regenerated translation, so the model side of C17 (`Proofs/WriteWrapRing`) is not built from
`Mqtt.Generated.Xlate`.  That `service.ringCopy` returns `ringPut` is `XlateRingCopy.ringCopy_eq` (translation side).
Namespace: `Mqtt.Proofs.WriteWrap` (the other lemmas about `ringPut` are in `Proofs/WriteWrapRing.lean`).
-/
import Mqtt.Model.WriteWrap

namespace Mqtt.Proofs.WriteWrap
open Mqtt.Model.WriteWrap (ringPut)

theorem ringPut_length (dst src : List UInt8) (s : Nat)
    (hS : src.length ≤ dst.length) (hs : s ≤ dst.length) :
    (ringPut dst src s).length = dst.length := by
  unfold ringPut
  split
  · simp only [List.length_append, List.length_take, List.length_drop]; omega
  · simp only [List.length_append, List.length_take, List.length_drop]; omega

theorem getElem?_append3 {α} (A B C : List α) (p : Nat) :
    (A ++ (B ++ C))[p]? =
      if p < A.length then A[p]? else if p < A.length + B.length then B[p - A.length]?
      else C[p - A.length - B.length]? := by
  rw [List.getElem?_append]
  split
  · rfl
  · rw [List.getElem?_append]
    split
    · rw [if_pos (by omega)]
    · rw [if_neg (by omega)]

theorem add_mod_wrap {s j D : Nat} (hs : s ≤ D) (hj : j < D) :
    (s + j) % D = if s + j < D then s + j else s + j - D := by
  split
  · exact Nat.mod_eq_of_lt ‹_›
  · rw [Nat.mod_eq_sub_mod (by omega), Nat.mod_eq_of_lt (by omega)]

/-- going round the ring from cell `s`: the first `len(src)` cells hold `src`, the others what they held -/
theorem ringPut_round (dst src : List UInt8) (s j : Nat) (hS : src.length ≤ dst.length) (hs : s ≤ dst.length)
    (hj : j < dst.length) :
    (ringPut dst src s)[(s + j) % dst.length]? = if j < src.length then src[j]? else dst[(s + j) % dst.length]? := by
  rw [add_mod_wrap hs hj, ringPut]
  split <;> split
  · rw [getElem?_append3, List.length_take, Nat.min_eq_left hs, if_neg (by omega)]
    split
    · rw [if_pos (by omega), Nat.add_sub_cancel_left]
    · rw [if_neg (by omega), List.getElem?_drop]; congr 1; omega
  · rw [getElem?_append3, List.length_take, Nat.min_eq_left hs, if_pos (by omega), if_neg (by omega),
      List.getElem?_take_of_lt (by omega)]
  · rw [getElem?_append3, List.length_drop, List.length_drop, List.length_take, Nat.min_eq_left hs,
      if_neg (by omega), if_neg (by omega), if_pos (by omega), List.getElem?_take_of_lt (by omega)]
    congr 1; omega
  · rw [getElem?_append3, List.length_drop, List.length_drop, List.length_take, Nat.min_eq_left hs,
      List.getElem?_drop, List.getElem?_drop]
    split
    · rw [if_pos (by omega)]; congr 1; omega
    · rw [if_pos (by omega), if_neg (by omega), List.getElem?_take_of_lt (by omega)]; congr 1; omega

/-- every cell is met on the way round -/
theorem round_onto {s p D : Nat} (hs : s ≤ D) (hp : p < D) : (s + (p + (D - s)) % D) % D = p := by
  rw [Nat.add_mod_mod, show s + (p + (D - s)) = p + D by omega, Nat.add_mod_right, Nat.mod_eq_of_lt hp]

/-- byte `j` of `src` lands at `(s + j) % len(dst)`, every other cell keeps its value -/
theorem ringPut_cells (dst src : List UInt8) (s : Nat) (hS : src.length ≤ dst.length) (hs : s ≤ dst.length) :
    (ringPut dst src s).length = dst.length ∧
    (∀ j : Nat, j < src.length → (ringPut dst src s)[(s + j) % dst.length]? = src[j]?) ∧
    (∀ p : Nat, (∀ j : Nat, j < src.length → p ≠ (s + j) % dst.length) →
      (ringPut dst src s)[p]? = dst[p]?) := by
  refine ⟨ringPut_length dst src s hS hs, fun j hj => ?_, fun p hp => ?_⟩
  · rw [ringPut_round dst src s j hS hs (by omega), if_pos hj]
  · by_cases hpD : p < dst.length
    · have h := ringPut_round dst src s _ hS hs (Nat.mod_lt (p + (dst.length - s)) (by omega))
      rw [round_onto hs hpD] at h
      rw [h, if_neg fun hk => hp _ hk (round_onto hs hpD).symm]
    · rw [List.getElem?_eq_none (by rw [ringPut_length dst src s hS hs]; omega), List.getElem?_eq_none (by omega)]

/-- `ringPut_cells` for a ring of `size` cells written from stream position `pos`: the cell of byte `j` is `(pos + j) % size` -/
theorem ringPut_spec (size : Nat) (hsz : 0 < size) (dst src : List UInt8) (pos : Nat)
    (hlen : dst.length = size) (hS : src.length ≤ size) :
    (ringPut dst src (pos % size)).length = size ∧
    (∀ j : Nat, j < src.length → (ringPut dst src (pos % size))[(pos + j) % size]? = src[j]?) ∧
    (∀ p : Nat, (∀ j : Nat, j < src.length → p ≠ (pos + j) % size) → (ringPut dst src (pos % size))[p]? = dst[p]?) := by
  subst hlen
  obtain ⟨hl, hw, hu⟩ := ringPut_cells dst src (pos % dst.length) hS (Nat.le_of_lt (Nat.mod_lt _ hsz))
  simp only [Nat.mod_add_mod] at hw hu
  exact ⟨hl, hw, hu⟩

end Mqtt.Proofs.WriteWrap
