/-
Client role: the client-side topic trie (callback ids as subscribers) against the abstract subscription store of
core B.  `TI mt store`: the trie holds exactly `store` (`Topics.Inv`) and `store` names each pair (callback, filter)
once.  The wrappers of a completed Subscribe / Unsubscribe keep it, with `grantStore` / `dropStore` as the store
afterwards (`ti_subscribeDone`, `ti_unsubscribeDone`).  From it the counting theorems: `onPublish` invokes a callback
exactly once if one of the filters it holds matches the topic, however many of them do, and not at all otherwise
(`deliveries_count`); the acknowledgements of a QoS 2 exchange add no delivery (`deliveriesTo_exchange`).
-/
import Mqtt.Proofs.Client
import Mqtt.Proofs.TopicsHistory

namespace Mqtt.Proofs.Client
open Mqtt.Iface.Broker (Pub Bytes)
open Mqtt.Iface.Client
open Mqtt.Model.Client
open Mqtt.Model.Topics (MemTopics)
open Mqtt.Generated
open Mqtt.Proofs.Topics (Inv good specSubs specAnswer inv_step modelStep_fst subscribers_refines)
open Mqtt.Spec.Match (validFilter validName topicMatches dollar)
open Mqtt.Spec.TopicStore (Sub)

/-- bridge: the maximum QoS the client's `Subscribe` wrapper passes to the topic store is the protocol's -/
theorem facts_maxQos : maxQosAllowed = 2 := rfl

/-- the (callback, filter) pairs an abstract store names -/
def keysS (store : List Sub) : List (Nat × Bytes) := store.map (fun e => (e.sub, e.filter))

def KeysNodup (store : List Sub) : Prop := (store.map (fun e => (e.sub, e.filter))).Nodup

/-- the trie holds exactly the abstract store `store` -/
structure TI (mt : MemTopics) (store : List Sub) : Prop where
  inv : Inv mt.sroot store
  nodup : KeysNodup store

theorem ti_new : TI MemTopics.new [] :=
  ⟨⟨Mqtt.Proofs.Topics.WF_empty, by simp [MemTopics.new, Mqtt.Proofs.Topics.abs_empty, Mqtt.Proofs.Topics.absS],
    by simp⟩, by simp [KeysNodup]⟩

theorem keysNodup_filter (store : List Sub) (p : Sub → Bool) (h : KeysNodup store) : KeysNodup (store.filter p) :=
  h.sublist ((List.filter_sublist).map _)

/-- a Subscribe names the pair (callback, filter) once: `k` is named afterwards iff it was before, or
is the new pair and the Subscribe is granted -/
theorem keysS_sub (store : List Sub) (f : Bytes) (q cb : Nat) (hd : dollar f = false) (k : Nat × Bytes) :
    k ∈ keysS (specSubs store (.sub f q cb)) ↔
      k ∈ keysS store ∨ (k = (cb, f) ∧ q ≤ 2 ∧ validFilter f = true) := by
  simp only [specSubs, hd, Bool.false_eq_true, ↓reduceIte]
  by_cases hq : q > 2
  · rw [if_pos hq]
    exact ⟨.inl, fun h => h.resolve_right fun ⟨_, h, _⟩ => absurd h (by omega)⟩
  · rw [if_neg hq]
    cases hv : validFilter f with
    | false => simp
    | true =>
      simp only [Bool.not_true, Bool.false_eq_true, ↓reduceIte, keysS, List.map_append, List.mem_append,
        List.map_cons, List.map_nil, List.mem_singleton, List.mem_map, List.mem_filter]
      constructor
      · rintro (⟨e, ⟨he, _⟩, rfl⟩ | h)
        · exact .inl ⟨e, he, rfl⟩
        · exact .inr ⟨h, by omega, trivial⟩
      · rintro (⟨e, he, rfl⟩ | ⟨h, _, _⟩)
        · by_cases hk : (e.sub, e.filter) = (cb, f)
          · exact .inr hk
          · refine .inl ⟨e, ⟨he, ?_⟩, rfl⟩
            rw [Prod.mk.injEq, not_and] at hk
            by_cases hs : e.sub = cb
            · simp [hs, hk hs]
            · simp [hs]
        · exact .inr h

theorem keysNodup_sub (store : List Sub) (f : List UInt8) (q cb : Nat) (h : KeysNodup store) :
    KeysNodup (specSubs store (.sub f q cb)) := by
  show KeysNodup (if dollar f then store else if q > 2 then store else if !validFilter f then store else _)
  by_cases h1 : dollar f = true
  · rw [if_pos h1]; exact h
  rw [if_neg h1]
  by_cases h2 : q > 2
  · rw [if_pos h2]; exact h
  rw [if_neg h2]
  by_cases h3 : (!validFilter f) = true
  · rw [if_pos h3]; exact h
  rw [if_neg h3]
  -- the old entry of this (callback, filter) pair is filtered out before the new one is appended
  have h1 := keysNodup_filter store (fun e => !(e.sub == cb && e.filter == f)) h
  unfold KeysNodup at *
  rw [List.map_append, List.nodup_append]
  refine ⟨h1, List.nodup_cons.mpr ⟨List.not_mem_nil, List.nodup_nil⟩, ?_⟩
  intro a ha b hb
  rw [List.mem_singleton.mp hb]
  obtain ⟨e, he, rfl⟩ := List.mem_map.mp ha
  intro heq
  have := (List.mem_filter.mp he).2
  rw [(Prod.mk.inj heq).1, (Prod.mk.inj heq).2, beq_self_eq_true, beq_self_eq_true] at this
  cases this

theorem ti_subscribe (mt : MemTopics) (store : List Sub) (f : List UInt8) (q s : Nat) (hg : good f = true)
    (h : TI mt store) : TI (mt.subscribe maxQosAllowed f q s).1 (specSubs store (.sub f q s)) := by
  have hi := inv_step mt store (.sub f q s) hg h.inv
  rw [modelStep_fst] at hi
  exact ⟨hi, keysNodup_sub _ _ _ _ h.nodup⟩

theorem ti_unsubscribeAll (mt : MemTopics) (store : List Sub) (f : List UInt8) (hg : good f = true)
    (h : TI mt store) : TI (mt.unsubscribe f none).1 (specSubs store (.unsubAll f)) := by
  have hi := inv_step mt store (.unsubAll f) hg h.inv
  rw [modelStep_fst] at hi
  exact ⟨hi, keysNodup_filter _ _ h.nodup⟩

/-- the abstract store after the wrapper of a completed Subscribe has installed callback `cb` -/
def grantStore (cb : Nat) (store : List Sub) : List ((Bytes × Nat) × Nat) → List Sub
  | [] => store
  | tc :: rest => grantStore cb (if tc.2 == 0x80 then store else specSubs store (.sub tc.1.1 tc.2 cb)) rest

/-- the abstract store after the wrapper of a completed Unsubscribe -/
def dropStore (store : List Sub) : List (Bytes × Nat) → List Sub
  | [] => store
  | t :: rest => dropStore (specSubs store (.unsubAll t.1)) rest

def subFold (cb : Nat) (acc : MemTopics × Bool) (tc : (Bytes × Nat) × Nat) : MemTopics × Bool :=
  if tc.2 == 0x80 then (acc.1, true)
  else match acc.1.subscribe maxQosAllowed tc.1.1 tc.2 cb with
    | (ts, some _) => (ts, acc.2)
    | (ts, none) => (ts, true)

theorem subFold_fst (cb : Nat) (acc : MemTopics × Bool) (tc : (Bytes × Nat) × Nat) :
    (subFold cb acc tc).1 = if tc.2 == 0x80 then acc.1 else (acc.1.subscribe maxQosAllowed tc.1.1 tc.2 cb).1 := by
  unfold subFold
  split
  · rfl
  · split <;> simp_all

theorem ti_subFold (cb : Nat) (tcs : List ((Bytes × Nat) × Nat)) (hg : ∀ tc ∈ tcs, good tc.1.1 = true) :
    ∀ (acc : MemTopics × Bool) (store : List Sub), TI acc.1 store →
      TI (tcs.foldl (subFold cb) acc).1 (grantStore cb store tcs) := by
  induction tcs with
  | nil => intro acc store h; exact h
  | cons tc tcs ih =>
    intro acc store h
    rw [List.foldl_cons, grantStore]
    apply ih (fun x hx => hg x (List.mem_cons_of_mem _ hx))
    rw [subFold_fst]
    split
    · exact h
    · exact ti_subscribe _ _ _ _ _ (hg tc List.mem_cons_self) h

theorem ti_subscribeDone (c : C) (r : Req) (store : List Sub) (hg : ∀ t ∈ r.topics, good t.1 = true)
    (h : TI c.topics store) :
    TI (subscribeDone c r).1.topics
      (if r.topics.length != r.codes.length then store else grantStore r.cb store (r.topics.zip r.codes)) := by
  unfold subscribeDone
  split
  · exact h
  · exact ti_subFold r.cb _ (fun tc htc => hg tc.1 (List.of_mem_zip htc).1) (c.topics, false) store h

def unsubFold (acc : MemTopics × Bool) (t : Bytes × Nat) : MemTopics × Bool :=
  ((acc.1.unsubscribe t.1 none).1, acc.2 || !(acc.1.unsubscribe t.1 none).2)

theorem ti_unsubFold (ts : List (Bytes × Nat)) (hg : ∀ t ∈ ts, good t.1 = true) :
    ∀ (acc : MemTopics × Bool) (store : List Sub), TI acc.1 store →
      TI (ts.foldl unsubFold acc).1 (dropStore store ts) := by
  induction ts with
  | nil => intro acc store h; exact h
  | cons t ts ih =>
    intro acc store h
    rw [List.foldl_cons, dropStore]
    exact ih (fun x hx => hg x (List.mem_cons_of_mem _ hx)) _ _ (ti_unsubscribeAll _ _ _ (hg t List.mem_cons_self) h)

theorem dropStore_eq (ts : List (Bytes × Nat)) : ∀ store : List Sub,
    dropStore store ts = store.filter (fun e => !(ts.map (·.1)).contains e.filter) := by
  induction ts with
  | nil => exact fun store => (List.filter_eq_self.mpr (fun _ _ => rfl)).symm
  | cons t ts ih =>
    intro store
    rw [dropStore, ih]
    show List.filter _ (List.filter (fun e => !(e.filter == t.1)) store) = _
    rw [List.filter_filter]
    refine List.filter_congr fun e _ => ?_
    rw [List.map_cons, List.contains_cons, Bool.not_or, Bool.and_comm]

theorem ti_unsubscribeDone (c : C) (r : Req) (store : List Sub) (hg : ∀ t ∈ r.topics, good t.1 = true)
    (h : TI c.topics store) :
    TI (unsubscribeDone c r).1.topics (store.filter (fun e => !(r.topics.map (·.1)).contains e.filter)) := by
  rw [← dropStore_eq]
  exact ti_unsubFold r.topics hg (c.topics, false) store h

/-- what `onPublish` hands to the callbacks: of the (callback, filter) entries of the abstract store
whose filter matches the topic (`r`, in trie order), the first entry of every callback -/
theorem onPublish_perm (c : C) (store : List Sub) (h : TI c.topics store) (p : Pub) (hg : good p.topic = true)
    (hn : validName p.topic = true) (hq : p.qos ≤ 2) :
    ∃ r : List (Nat × Nat), onPublish c p = (firstPerCb [] r).map (fun s => Out.deliver s.1 { p with qos := s.2 }) ∧
      r.Perm (specAnswer store p.topic p.qos) := by
  obtain ⟨r, hr, hp⟩ := subscribers_refines c.topics store p.topic p.qos h.inv hg hn hq
  exact ⟨r, by simp [onPublish, hr], hp⟩

/-- the QoS the loop picks is that of one of the callback's entries -/
theorem maxQos_mem (cb : Nat) (rest : List (Nat × Nat)) : ∀ q : Nat,
    maxQos cb q rest = q ∨ (cb, maxQos cb q rest) ∈ rest := by
  induction rest with
  | nil => intro q; exact Or.inl rfl
  | cons x rest ih =>
    intro q
    rw [maxQos]
    split
    · rename_i hx
      have hx1 : x.1 = cb := by
        simp only [Bool.and_eq_true, beq_iff_eq] at hx; exact hx.1
      rcases ih x.2 with h | h
      · right; rw [h, ← hx1]; exact List.mem_cons_self
      · right; exact List.mem_cons_of_mem _ h
    · exact (ih q).imp id (List.mem_cons_of_mem _)

theorem maxQos_ge (cb : Nat) (rest : List (Nat × Nat)) : ∀ q : Nat,
    q ≤ maxQos cb q rest ∧ ∀ x ∈ rest, x.1 = cb → x.2 ≤ maxQos cb q rest := by
  induction rest with
  | nil => intro q; exact ⟨Nat.le_refl _, fun x hx => by cases hx⟩
  | cons y rest ih =>
    intro q
    rw [maxQos]
    split
    · rename_i hy
      have hy2 : y.2 > q := by
        simp only [Bool.and_eq_true, decide_eq_true_eq] at hy; exact hy.2
      obtain ⟨h1, h2⟩ := ih y.2
      refine ⟨by omega, fun x hx hcb => ?_⟩
      rcases List.mem_cons.mp hx with rfl | hx'
      · exact h1
      · exact h2 x hx' hcb
    · rename_i hy
      obtain ⟨h1, h2⟩ := ih q
      refine ⟨h1, fun x hx hcb => ?_⟩
      rcases List.mem_cons.mp hx with rfl | hx'
      · have : ¬ x.2 > q := fun hgt => hy (by simp [hcb, hgt])
        omega
      · exact h2 x hx' hcb

theorem firstPerCb_subset (l : List (Nat × Nat)) : ∀ seen, ∀ s ∈ firstPerCb seen l, s ∈ l := by
  induction l with
  | nil => intro seen s hs; cases hs
  | cons a l ih =>
    intro seen s hs
    rw [firstPerCb] at hs
    split at hs
    · exact List.mem_cons_of_mem _ (ih seen s hs)
    · rcases List.mem_cons.mp hs with rfl | hs'
      · rcases maxQos_mem a.1 l a.2 with h | h
        · rw [h]; exact List.mem_cons_self
        · exact List.mem_cons_of_mem _ h
      · exact List.mem_cons_of_mem _ (ih _ s hs')

theorem mem_firstPerCb_cb (l : List (Nat × Nat)) : ∀ (seen : List Nat) (cb : Nat),
    cb ∈ (firstPerCb seen l).map (·.1) ↔ cb ∈ l.map (·.1) ∧ cb ∉ seen := by
  induction l with
  | nil => intro seen cb; simp [firstPerCb]
  | cons a l ih =>
    intro seen cb
    rw [firstPerCb]
    by_cases hs : seen.contains a.1 = true
    · have ha : a.1 ∈ seen := List.contains_iff_mem.mp hs
      rw [if_pos hs, ih, List.map_cons, List.mem_cons]
      exact ⟨fun ⟨h1, h2⟩ => ⟨.inr h1, h2⟩, fun ⟨h1, h2⟩ => ⟨h1.resolve_left fun h => h2 (h ▸ ha), h2⟩⟩
    · have ha : a.1 ∉ seen := fun h => hs (List.contains_iff_mem.mpr h)
      rw [if_neg hs, List.map_cons, List.mem_cons, List.map_cons, List.mem_cons, ih, List.mem_cons]
      constructor
      · rintro (h | ⟨h1, h2⟩)
        · exact ⟨.inl h, h ▸ ha⟩
        · exact ⟨.inr h1, fun h => h2 (.inr h)⟩
      · rintro ⟨h1 | h1, h2⟩
        · exact .inl h1
        · by_cases hc : cb = a.1
          · exact .inl hc
          · exact .inr ⟨h1, fun h => h.elim hc h2⟩

theorem firstPerCb_nodup (l : List (Nat × Nat)) : ∀ seen : List Nat, ((firstPerCb seen l).map (·.1)).Nodup := by
  induction l with
  | nil => intro seen; exact List.nodup_nil
  | cons a l ih =>
    intro seen
    rw [firstPerCb]
    split
    · exact ih seen
    · rw [List.map_cons, List.nodup_cons, mem_firstPerCb_cb]
      exact ⟨fun ⟨_, h⟩ => h List.mem_cons_self, ih _⟩

/-- the QoS an invoked callback gets is the highest among its entries - whatever their order -/
theorem firstPerCb_max (l : List (Nat × Nat)) : ∀ (seen : List Nat) (s : Nat × Nat), s ∈ firstPerCb seen l →
    ∀ x ∈ l, x.1 = s.1 → x.2 ≤ s.2 := by
  induction l with
  | nil => intro seen s hs; cases hs
  | cons a l ih =>
    intro seen s hs x hx hcb
    -- an entry invoked from the rest has a callback that is neither seen nor that of `a`
    have hrest : ∀ seen', s ∈ firstPerCb seen' l → s.1 ∉ seen' := fun seen' h =>
      ((mem_firstPerCb_cb l seen' s.1).mp (List.mem_map.mpr ⟨s, h, rfl⟩)).2
    rw [firstPerCb] at hs
    split at hs
    · rename_i hsn
      rcases List.mem_cons.mp hx with rfl | hx'
      · exact absurd (hcb ▸ List.contains_iff_mem.mp hsn) (hrest _ hs)
      · exact ih seen s hs x hx' hcb
    · rcases List.mem_cons.mp hs with rfl | hs'
      · obtain ⟨h1, h2⟩ := maxQos_ge a.1 l a.2
        rcases List.mem_cons.mp hx with rfl | hx'
        · exact h1
        · exact h2 x hx' hcb
      · rcases List.mem_cons.mp hx with rfl | hx'
        · exact absurd (hcb ▸ List.mem_cons_self) (hrest _ hs')
        · exact ih _ s hs' x hx' hcb

theorem length_filter_nodup_key (l : List (Nat × Nat)) (cb : Nat) (hn : (l.map (·.1)).Nodup) :
    (l.filter (fun s => s.1 == cb)).length = if cb ∈ l.map (·.1) then 1 else 0 := by
  induction l with
  | nil => rfl
  | cons a l ih =>
    rw [List.map_cons, List.nodup_cons] at hn
    have ih' := ih hn.2
    simp only [List.filter_cons, List.map_cons, List.mem_cons]
    by_cases ha : a.1 = cb
    · have hnot : cb ∉ l.map (·.1) := ha ▸ hn.1
      simp only [hnot, ↓reduceIte] at ih'
      simp [ha, ih']
    · have hor : (cb = a.1 ∨ cb ∈ l.map (·.1)) ↔ cb ∈ l.map (·.1) :=
        ⟨fun h => h.resolve_left fun e => ha e.symm, Or.inr⟩
      simp only [ha, beq_iff_eq, ↓reduceIte, ih']
      exact ite_congr (propext hor).symm (fun _ => rfl) (fun _ => rfl)

def deliveriesTo (cb : Nat) : List Out → List Pub
  | [] => []
  | .deliver cb' p :: rest => if cb' = cb then p :: deliveriesTo cb rest else deliveriesTo cb rest
  | _ :: rest => deliveriesTo cb rest

theorem deliveriesTo_map (cb : Nat) (p : Pub) (r : List (Nat × Nat)) :
    deliveriesTo cb (r.map (fun s => Out.deliver s.1 { p with qos := s.2 })) =
      (r.filter (fun s => s.1 == cb)).map (fun s => { p with qos := s.2 }) := by
  induction r with
  | nil => rfl
  | cons s r ih =>
    simp only [List.map_cons, deliveriesTo, List.filter_cons, ih]
    by_cases h : s.1 = cb <;> simp [h]

def heldBy (cb : Nat) (store : List Sub) : List Bytes := (store.filter (fun e => e.sub == cb)).map (·.filter)

/-- does the SUBACK grant the filter of this (filter, requested QoS, return code) triple? -/
def isGranted (tc : (Bytes × Nat) × Nat) : Bool := tc.2 != 0x80 && decide (tc.2 ≤ 2) && validFilter tc.1.1

def grantedOf (tcs : List ((Bytes × Nat) × Nat)) : List Bytes := (tcs.filter isGranted).map (·.1.1)

theorem mem_heldBy (cb : Nat) (store : List Sub) (f : Bytes) :
    f ∈ heldBy cb store ↔ ∃ e ∈ store, e.sub = cb ∧ e.filter = f := by
  simp [heldBy, List.mem_map, List.mem_filter, and_assoc]

theorem mem_heldBy_keys (cb : Nat) (store : List Sub) (f : Bytes) : f ∈ heldBy cb store ↔ (cb, f) ∈ keysS store := by
  rw [mem_heldBy, keysS, List.mem_map]
  exact ⟨fun ⟨e, he, hs, hf⟩ => ⟨e, he, by rw [hs, hf]⟩, fun ⟨e, he, h⟩ => ⟨e, he, (Prod.mk.inj h).1, (Prod.mk.inj h).2⟩⟩

theorem mem_grantedOf_cons (f : Bytes) (tc : (Bytes × Nat) × Nat) (tcs : List ((Bytes × Nat) × Nat)) :
    f ∈ grantedOf (tc :: tcs) ↔ (isGranted tc = true ∧ f = tc.1.1) ∨ f ∈ grantedOf tcs := by
  unfold grantedOf
  rw [List.filter_cons]
  cases isGranted tc
  · exact ⟨.inr, fun h => h.resolve_left fun h => Bool.noConfusion h.1⟩
  · exact List.mem_cons.trans (or_congr_left ⟨fun h => ⟨rfl, h⟩, fun h => h.2⟩)

/-- the pairs the wrapper of a completed Subscribe names: those named before, and the callback
with each filter the SUBACK grants -/
theorem keysS_grantStore (cb : Nat) (tcs : List ((Bytes × Nat) × Nat)) (hg : ∀ tc ∈ tcs, good tc.1.1 = true)
    (k : Nat × Bytes) : ∀ store : List Sub,
      k ∈ keysS (grantStore cb store tcs) ↔ k ∈ keysS store ∨ (k.1 = cb ∧ k.2 ∈ grantedOf tcs) := by
  induction tcs with
  | nil => exact fun store => ⟨.inl, fun h => h.resolve_right fun h => nomatch h.2⟩
  | cons tc tcs ih =>
    intro store
    have hd : dollar tc.1.1 = false := Mqtt.Proofs.Topics.good_not_dollar _ (hg tc List.mem_cons_self)
    have hgr : isGranted tc = true ↔ tc.2 ≠ 128 ∧ tc.2 ≤ 2 ∧ validFilter tc.1.1 = true := by
      simp [isGranted, and_assoc]
    rw [grantStore, ih (fun x hx => hg x (List.mem_cons_of_mem _ hx)), mem_grantedOf_cons, hgr]
    by_cases h80 : tc.2 = 128
    · rw [if_pos (beq_iff_eq.mpr h80)]
      exact or_congr_right (and_congr_right fun _ => ⟨.inr, fun h => h.resolve_left fun h => h.1.1 h80⟩)
    · rw [if_neg (fun h => h80 (beq_iff_eq.mp h)), keysS_sub store tc.1.1 tc.2 cb hd k, Prod.ext_iff]
      constructor
      · rintro ((h | ⟨⟨h1, h2⟩, h3, h4⟩) | ⟨h1, h2⟩)
        · exact .inl h
        · exact .inr ⟨h1, .inl ⟨⟨h80, h3, h4⟩, h2⟩⟩
        · exact .inr ⟨h1, .inr h2⟩
      · rintro (h | ⟨h1, ⟨⟨_, h3, h4⟩, h2⟩ | h2⟩)
        · exact .inl (.inl h)
        · exact .inl (.inr ⟨⟨h1, h2⟩, h3, h4⟩)
        · exact .inr ⟨h1, h2⟩

theorem heldBy_grantStore (cb : Nat) (tcs : List ((Bytes × Nat) × Nat)) (hg : ∀ tc ∈ tcs, good tc.1.1 = true)
    (f : Bytes) (store : List Sub) :
    f ∈ heldBy cb (grantStore cb store tcs) ↔ f ∈ heldBy cb store ∨ f ∈ grantedOf tcs := by
  rw [mem_heldBy_keys, mem_heldBy_keys, keysS_grantStore cb tcs hg]
  exact or_congr_right ⟨fun h => h.2, fun h => ⟨rfl, h⟩⟩

theorem heldBy_filter (cb : Nat) (store : List Sub) (P : Bytes → Bool) :
    heldBy cb (store.filter (fun e => P e.filter)) = (heldBy cb store).filter P := by
  unfold heldBy
  rw [List.filter_filter, List.filter_map]
  congr 1
  rw [List.filter_filter]
  exact List.filter_congr fun e _ => Bool.and_comm _ _

theorem mem_invoked {store : List Sub} {r : List (Nat × Nat)} {t : Bytes} {q : Nat}
    (hp : r.Perm (specAnswer store t q)) (cb : Nat) :
    cb ∈ (firstPerCb [] r).map (·.1) ↔ ∃ e ∈ store, e.sub = cb ∧ topicMatches e.filter t = true := by
  rw [mem_firstPerCb_cb]
  simp only [List.not_mem_nil, not_false_eq_true, and_true, List.mem_map]
  constructor
  · rintro ⟨s, hs, rfl⟩
    have := hp.subset hs
    simp only [specAnswer, List.mem_map, List.mem_filter] at this
    obtain ⟨e, ⟨he, hm⟩, rfl⟩ := this
    exact ⟨e, he, rfl, hm⟩
  · rintro ⟨e, he, rfl, hm⟩
    have : (e.sub, min q e.qos) ∈ specAnswer store t q := by
      simp only [specAnswer, List.mem_map, List.mem_filter]
      exact ⟨e, ⟨he, hm⟩, rfl⟩
    exact ⟨_, hp.symm.subset this, rfl⟩

/-- how often `onPublish` invokes callback `cb`: exactly once if a filter held for `cb` matches the
topic - however many of them do -, not at all otherwise -/
theorem deliveries_count (c : C) (store : List Sub) (h : TI c.topics store) (p : Pub) (hg : good p.topic = true)
    (hn : validName p.topic = true) (hq : p.qos ≤ 2) (cb : Nat) :
    (deliveriesTo cb (onPublish c p)).length =
      (if (heldBy cb store).any (fun f => topicMatches f p.topic) then 1 else 0) ∧
    ∀ m ∈ deliveriesTo cb (onPublish c p), m.topic = p.topic ∧ m.payload = p.payload ∧ m.qos ≤ p.qos := by
  obtain ⟨r, hr, hp⟩ := onPublish_perm c store h p hg hn hq
  rw [hr, deliveriesTo_map]
  refine ⟨?_, ?_⟩
  · rw [List.length_map, length_filter_nodup_key _ cb (firstPerCb_nodup r [])]
    refine ite_congr (propext ?_) (fun _ => rfl) (fun _ => rfl)
    rw [mem_invoked hp]
    simp only [List.any_eq_true, mem_heldBy]
    exact ⟨fun ⟨e, he, hs, hm⟩ => ⟨e.filter, ⟨e, he, hs, rfl⟩, hm⟩, fun ⟨f, ⟨e, he, hs, hf⟩, hm⟩ => ⟨e, he, hs, hf ▸ hm⟩⟩
  · intro m hm
    obtain ⟨s, hs, rfl⟩ := List.mem_map.mp hm
    refine ⟨rfl, rfl, ?_⟩
    have := hp.subset (firstPerCb_subset r [] s (List.mem_filter.mp hs).1)
    simp only [specAnswer, List.mem_map] at this
    obtain ⟨e, _, rfl⟩ := this
    exact Nat.min_le_left _ _

theorem ti_step_suback_head (c : C) (store : List Sub) (r : Req) (rest : Queue) (codes : List Nat)
    (hc : c.connected = true) (hti : TI c.topics store) (hq : c.suback = r :: rest)
    (hid : ∀ e ∈ rest, e.id ≠ r.id) (hh : ∀ e, rest.head? = some e → terminal e.state = false)
    (hlen : r.topics.length = codes.length) (hgood : ∀ t ∈ r.topics, good t.1 = true) :
    TI (step c (.peer (.suback r.id codes))).1.topics (grantStore r.cb store (r.topics.zip codes)) := by
  rw [step_peer c hc, peer_suback_head c r rest hq hid hh codes]
  have hti' := ti_subscribeDone { c with suback := rest } { r with state := tSUBACK, codes := codes } store hgood hti
  rwa [if_neg (by simp [hlen])] at hti'

theorem ti_step_unsuback_head (c : C) (store : List Sub) (r : Req) (rest : Queue)
    (hc : c.connected = true) (hti : TI c.topics store) (hq : c.unsuback = r :: rest)
    (hid : ∀ e ∈ rest, e.id ≠ r.id) (hh : ∀ e, rest.head? = some e → terminal e.state = false)
    (hgood : ∀ t ∈ r.topics, good t.1 = true) :
    TI (step c (.peer (.unsuback r.id))).1.topics
      (store.filter (fun e => !(r.topics.map (·.1)).contains e.filter)) := by
  rw [step_peer c hc, peer_unsuback_head c r rest hq hid hh]
  exact ti_unsubscribeDone { c with unsuback := rest } { r with state := tUNSUBACK, codes := [] } store hgood hti

theorem any_heldBy_grantStore_fresh (cb : Nat) (tcs : List ((Bytes × Nat) × Nat)) (hg : ∀ tc ∈ tcs, good tc.1.1 = true)
    (store : List Sub) (hfresh : ∀ e ∈ store, e.sub ≠ cb) (P : Bytes → Bool) :
    (heldBy cb (grantStore cb store tcs)).any P = (grantedOf tcs).any P := by
  have hmem : ∀ f, f ∈ heldBy cb (grantStore cb store tcs) ↔ f ∈ grantedOf tcs := by
    intro f
    rw [heldBy_grantStore cb _ hg f store]
    exact or_iff_right fun h => by
      obtain ⟨e, he, hs, _⟩ := (mem_heldBy cb store f).mp h
      exact hfresh e he hs
  rw [Bool.eq_iff_iff, List.any_eq_true, List.any_eq_true]
  exact ⟨fun ⟨f, hf, hm⟩ => ⟨f, (hmem f).mp hf, hm⟩, fun ⟨f, hf, hm⟩ => ⟨f, (hmem f).mpr hf, hm⟩⟩

theorem deliveries_count_filter (c : C) (store : List Sub) (P : Bytes → Bool)
    (h : TI c.topics (store.filter (fun e => P e.filter))) (p : Pub) (hg : good p.topic = true)
    (hn : validName p.topic = true) (hq : p.qos ≤ 2) (cb : Nat) :
    (deliveriesTo cb (onPublish c p)).length =
      (if (heldBy cb store).any (fun f => P f && topicMatches f p.topic) then 1 else 0) ∧
    ((∀ f ∈ heldBy cb store, P f = false) → deliveriesTo cb (onPublish c p) = []) := by
  have hcount : (deliveriesTo cb (onPublish c p)).length =
      (if (heldBy cb store).any (fun f => P f && topicMatches f p.topic) then 1 else 0) := by
    rw [(deliveries_count _ _ h p hg hn hq cb).1, heldBy_filter cb store P, List.any_filter]
  refine ⟨hcount, fun hall => ?_⟩
  rw [show (heldBy cb store).any (fun f => P f && topicMatches f p.topic) = false from
    List.any_eq_false.mpr fun f hf => by rw [hall f hf]; simp] at hcount
  exact List.length_eq_zero_iff.mp hcount

theorem deliveriesTo_append (cb : Nat) (a b : List Out) :
    deliveriesTo cb (a ++ b) = deliveriesTo cb a ++ deliveriesTo cb b := by
  induction a with
  | nil => rfl
  | cons x a ih =>
    cases x with
    | deliver cb' p =>
      simp only [List.cons_append, deliveriesTo]
      split <;> simp [ih]
    | _ => simpa [deliveriesTo] using ih

theorem deliveriesTo_exchange {α} (cb id : Nat) (dups : List α) (X : List Out) :
    deliveriesTo cb (([Out.wrote (.pubrec id)] :: dups.map (fun _ => [Out.wrote (.pubrec id)]) ++
      [X ++ [Out.wrote (.pubcomp id)]]).flatten) = deliveriesTo cb X := by
  have h1 : ∀ l : List α, deliveriesTo cb ((l.map (fun _ => [Out.wrote (.pubrec id)])).flatten) = [] := by
    intro l
    induction l with
    | nil => rfl
    | cons a l ih => simpa [deliveriesTo] using ih
  simp only [List.cons_append, List.flatten_cons, List.flatten_append, List.flatten_nil, List.append_nil,
    deliveriesTo_append, h1, deliveriesTo, List.nil_append, List.append_nil]

end Mqtt.Proofs.Client
