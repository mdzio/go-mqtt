/-
Where the refinement starts: the abstraction relation `R` between the code-shaped broker model
(`Model.Broker.B`) and the reference broker (`Spec.Broker.S`), the decidable side condition `okEv` of the
refinement theorem (Proofs/BrokerRefine.lean), and `Refines b s e`, what every per-event lemma states.  See
NOTES-brefine.md.  Then the two views `R` reads the model's sessions through (`liveSess`, `resumable`), the
reference broker's connection table, and that generated client identifiers are not suppliable and injective.
-/
import Mqtt.Proofs.BrokerFanoutHistory
import Mqtt.Proofs.BrokerQosSpec
import Mqtt.Spec.BrokerAccepts

namespace Mqtt.Proofs.BrokerRefine
open Mqtt.Iface.Broker Mqtt.Model.Broker
open Mqtt.Model.Topics (MemTopics RNode)
open Mqtt.Proofs.Topics (good absR)
open Mqtt.Spec.Match (split validName validFilter)
open Mqtt.Proofs.Broker (HeldInv RetInv Moves)
open Mqtt.Proofs.BrokerQos (toOpen2)
open Mqtt.Spec.Broker (Accepts)

/-- the session object of a live connection -/
def liveSess (b : B) (c : Nat) : Option Sess :=
  match b.getConn c with
  | some cn => if cn.alive then b.getSess cn.sess else none
  | none => none

/-- a client identifier a CONNECT can carry and be accepted with -/
def realCid (x : Bytes) : Bool := !x.isEmpty && x.all Spec.Broker.printable

/-- the identifier the reference broker files an anonymous client under -/
def anonSpec (c : Nat) : Bytes := "\x00anon".toUTF8.toList ++ (toString c).toUTF8.toList

/-- client identifier of a live connection: model side `m`, specification side `k` -/
def CidRel (c : Nat) (m k : Bytes) (clean : Bool) : Prop :=
  (m = k ∧ realCid k = true) ∨ (m = anonId c ∧ k = anonSpec c ∧ clean = true)

/-- the message object `Session.Init/Update` builds of a will with a valid topic -/
def willMsg (w : Will) : Msg :=
  ⟨{ qos := w.qos, retain := w.retain, topic := w.topic, payload := w.payload }, true⟩

def willOk (w : Will) : Bool := good w.topic && validName w.topic && decide (w.qos ≤ 2)

/-- an inbound PUBLISH: topic name without empty level / leading '$' / wildcard,
QoS ≤ 2, an identifier unless QoS 0 -/
def pubOk (p : Pub) : Bool :=
  good p.topic && validName p.topic && decide (p.qos ≤ 2) && (p.qos == 0 || p.pktid != 0)

/-- a subscription a session holds -/
def subOk (p : Bytes × Nat) : Bool := good p.1 && validFilter p.1 && decide (p.2 ≤ 2)

/-- `Session.topics` against the subscriptions the reference broker holds / stores for the client -/
structure TopicsRel (ts subs : List (Bytes × Nat)) : Prop where
  perm : ts.Perm subs
  nodup : (ts.map (·.1)).Nodup
  ok : ∀ p ∈ ts, subOk p = true

structure LiveRel (b : B) (s : Spec.Broker.S) (c : Nat) (σ : Sess) (k : Spec.Broker.Conn) : Prop where
  cid : CidRel c σ.cid k.cid k.clean
  clean : σ.clean = k.clean
  willFlag : σ.willFlag = k.will.isSome
  will : σ.will = k.will.map willMsg
  willOk : ∀ w, k.will = some w → willOk w = true
  open2 : k.open2 = toOpen2 σ.pub2in
  q2ok : ∀ e ∈ σ.pub2in, pubOk e.msg = true
  topics : TopicsRel σ.topics (Spec.Broker.heldOf s c)
  store : b.storeGet σ.cid = some σ.ref

/-- the session object a CleanSession=0 CONNECT under identifier `x` would resume -/
def resumable (b : B) (x : Bytes) : Option Sess :=
  ((b.storeGet x).bind b.getSess).filter (fun s => !s.clean)

structure StoredRel (b : B) (s : Spec.Broker.S) (x : Bytes) : Prop where
  some : ∀ σ, resumable b x = some σ → ∃ subs o2, s.stored.lookup x = some (subs, o2) ∧
    TopicsRel σ.topics subs ∧ o2 = toOpen2 σ.pub2in ∧ ∀ e ∈ σ.pub2in, pubOk e.msg = true
  none : resumable b x = none → s.stored.lookup x = none

/-- every stored retained message has an identifier unless its QoS is 0 -/
def IdsOk (root : RNode) : Prop := ∀ e ∈ absR root, e.2.qos = 0 ∨ e.2.pktid ≠ 0

structure R (b : B) (s : Spec.Broker.S) : Prop where
  inv : Mqtt.Proofs.Broker.Inv b
  linv : Mqtt.Proofs.BrokerLife.Inv b
  qinv : Mqtt.Proofs.BrokerQos.BInv b
  held : HeldInv b.topics.sroot s.held
  heldGood : ∀ h ∈ s.held, good h.filter = true
  owners : ∀ h ∈ s.held, h.owner < cbBase → b.alive h.owner = true
  rets : RetInv b.topics.rroot s.rets
  retsOk : ∀ r ∈ s.rets, validName r.topic = true
  retIds : IdsOk b.topics.rroot
  connLt : ∀ c, b.alive c = true → c < cbBase
  mconns : (b.conns.map (·.id)).Nodup
  sconns : (s.conns.map (·.id)).Nodup
  connsIff : ∀ c, (Spec.Broker.getConn s c).isSome = b.alive c
  live : ∀ c σ, liveSess b c = some σ → ∃ k, Spec.Broker.getConn s c = some k ∧ LiveRel b s c σ k
  cidUniq : ∀ c c' σ σ', liveSess b c = some σ → liveSess b c' = some σ' → σ.cid = σ'.cid → c = c'
  stored : ∀ x, realCid x = true → (∀ c σ, liveSess b c = some σ → σ.cid ≠ x) → StoredRel b s x

/-- no live connection uses client identifier `cid` -/
def cidFree (b : B) (cid : Bytes) : Bool :=
  b.conns.all (fun cn => !cn.alive || (match b.getSess cn.sess with | some σ => σ.cid != cid | none => true))

/-- the events the refinement theorem speaks of, in state `b` -/
def okEv (b : B) : Ev → Bool
  | .first c f a =>
    decide (c < cbBase) && !b.alive c &&
    (match f with
     | .connect req =>
       !Mqtt.Proofs.BrokerLife.accepts (.connect req) a ||
         (match req.will with | some w => willOk w | none => true)
     | _ => true)
  | .packet _ (.publish p) => pubOk p
  | .packet _ (.subscribe _ ts) => ts.all (fun tq => good tq.1)
  | .packet _ (.unsubscribe _ ts) => ts.all (fun t => good t)
  | .packet _ _ => true
  | .close _ => true
  | .srvPub p => good p.topic && validName p.topic && decide (p.qos ≤ 2)
  | .srvSub cb f _ => decide (cbBase ≤ cb) && good f
  | .srvUnsub cb f => decide (cbBase ≤ cb) && good f

/-- what `okEv` demands of a first packet: an unused connection number below `cbBase`, and of an
acceptable CONNECT a will the reference broker can publish as sent -/
theorem okEv_first {b : B} {c : Nat} {f : First} {a : Bool} (h : okEv b (.first c f a) = true) :
    c < cbBase ∧ b.alive c = false ∧
    ∀ req, f = .connect req → Mqtt.Proofs.BrokerLife.accepts (.connect req) a = true →
      ∀ w, req.will = some w → willOk w = true := by
  simp only [okEv, Bool.and_eq_true, decide_eq_true_eq, Bool.not_eq_true'] at h
  refine ⟨h.1.1, h.1.2, ?_⟩
  rintro req rfl hacc w hw
  simpa [hacc, hw] using h.2

def okRun (b : B) : List Ev → Bool
  | [] => true
  | e :: es => okEv b e && okRun (step b e).1 es

def specRun (s : Spec.Broker.S) : List Ev → Spec.Broker.S × List (List Spec.Broker.SOut)
  | [] => (s, [])
  | e :: es =>
    let r := Spec.Broker.step s e
    let rs := specRun r.1 es
    (rs.1, r.2 :: rs.2)

inductive AcceptsAll : List (List Spec.Broker.SOut) → List (List Out) → Prop
  | nil : AcceptsAll [] []
  | cons {so : List Spec.Broker.SOut} {o : List Out} {sos : List (List Spec.Broker.SOut)} {os : List (List Out)} :
      Spec.Broker.Accepts so o → AcceptsAll sos os → AcceptsAll (so :: sos) (o :: os)

def Refines (b : B) (s : Spec.Broker.S) (e : Ev) : Prop :=
  R (step b e).1 (Spec.Broker.step1 s e).1 ∧ Accepts (Spec.Broker.step1 s e).2 (step b e).2

/-- the three invariants of the model's own state -/
abbrev Invs (b : B) : Prop :=
  Mqtt.Proofs.Broker.Inv b ∧ Mqtt.Proofs.BrokerLife.Inv b ∧ Mqtt.Proofs.BrokerQos.BInv b

theorem R.moves {b b' : B} {s : Spec.Broker.S} (h : R b s) (hm : Moves b b') : Invs b' :=
  ⟨hm.keeps Mqtt.Proofs.Broker.Inv_prim h.inv, hm.keeps Mqtt.Proofs.Broker.linv_prim h.linv,
   hm.keeps Mqtt.Proofs.Broker.binv_prim h.qinv⟩

theorem R.step_invs {b : B} {s : Spec.Broker.S} (h : R b s) (e : Ev) :
    Mqtt.Proofs.Broker.Inv (step b e).1 ∧ Mqtt.Proofs.BrokerLife.Inv (step b e).1 ∧
    Mqtt.Proofs.BrokerQos.BInv (step b e).1 :=
  h.moves (Mqtt.Proofs.Broker.step_moves b e)

theorem spec_step_eq (s : Spec.Broker.S) (e : Ev) :
    Spec.Broker.step s e = Spec.Broker.step1 s e := rfl

theorem liveSess_eq {b : B} {c : Nat} {cn : Conn} {σ : Sess} (hc : b.getConn c = some cn) (ha : cn.alive = true)
    (hs : b.getSess cn.sess = some σ) : liveSess b c = some σ := by
  simp [liveSess, hc, ha, hs]

theorem liveSess_some {b : B} {c : Nat} {σ : Sess} (h : liveSess b c = some σ) :
    ∃ cn, b.getConn c = some cn ∧ cn.alive = true ∧ b.getSess cn.sess = some σ := by
  unfold liveSess at h
  cases hc : b.getConn c with
  | none => simp [hc] at h
  | some cn =>
    simp only [hc] at h
    cases ha : cn.alive with
    | false => simp [ha] at h
    | true => simp only [ha, ↓reduceIte] at h; exact ⟨cn, rfl, ha, h⟩

theorem liveSess_alive {b : B} {c : Nat} {σ : Sess} (h : liveSess b c = some σ) : b.alive c = true := by
  obtain ⟨cn, hc, ha, _⟩ := liveSess_some h
  exact (Mqtt.Proofs.BrokerLife.alive_true_iff b c).mpr ⟨cn, hc, ha⟩

theorem liveSess_of_alive {b : B} (hinv : Mqtt.Proofs.Broker.Inv b) {c : Nat} (h : b.alive c = true) :
    ∃ σ, liveSess b c = some σ := by
  obtain ⟨cn, σ, hc, ha, hs⟩ := hinv.live h
  exact ⟨σ, liveSess_eq hc ha hs⟩

theorem liveSess_dead {b : B} {c : Nat} (h : b.alive c = false) : liveSess b c = none := by
  unfold B.alive at h
  unfold liveSess
  cases hc : b.getConn c with
  | none => rfl
  | some cn => simp only [hc] at h; simp [h]

theorem liveSess_ref {b : B} {c : Nat} {σ : Sess} (h : liveSess b c = some σ) : b.getSess σ.ref = some σ := by
  obtain ⟨cn, _, _, hs⟩ := liveSess_some h
  have := Mqtt.Proofs.BrokerLife.getSess_ref hs
  rw [this]; exact hs

theorem liveSess_congr {b b' : B} (hc : b'.conns = b.conns) (hs : b'.sess = b.sess) (c : Nat) :
    liveSess b' c = liveSess b c := by
  unfold liveSess B.getConn B.getSess
  rw [hc, hs]

theorem resumable_congr {b b' : B} (hst : b'.store = b.store) (hs : b'.sess = b.sess) (x : Bytes) :
    resumable b' x = resumable b x := by
  unfold resumable B.storeGet B.getSess
  rw [hst, hs]

theorem storeGet_congr {b b' : B} (hst : b'.store = b.store) (x : Bytes) : b'.storeGet x = b.storeGet x := by
  unfold B.storeGet; rw [hst]

theorem liveSess_isSome {b : B} (hinv : Mqtt.Proofs.Broker.Inv b) (c : Nat) : (liveSess b c).isSome = b.alive c := by
  cases hal : b.alive c with
  | false => rw [liveSess_dead hal]; rfl
  | true => obtain ⟨σ, hσ⟩ := liveSess_of_alive hinv hal; rw [hσ]; rfl

theorem resumable_some_iff {b : B} {x : Bytes} {τ : Sess} :
    resumable b x = some τ ↔ ∃ r, b.storeGet x = some r ∧ b.getSess r = some τ ∧ τ.clean = false := by
  simp only [resumable, Option.filter_eq_some_iff, Option.bind_eq_some_iff, Bool.not_eq_true']
  exact ⟨fun ⟨⟨r, h1, h2⟩, h3⟩ => ⟨r, h1, h2, h3⟩, fun ⟨r, h1, h2, h3⟩ => ⟨⟨r, h1, h2⟩, h3⟩⟩

theorem R.refUniq {b : B} {s : Spec.Broker.S} (h : R b s) {c c' : Nat} {σ σ' : Sess}
    (h1 : liveSess b c = some σ) (h2 : liveSess b c' = some σ') (hr : σ.ref = σ'.ref) : c = c' := by
  have e1 := liveSess_ref h1
  have e2 := liveSess_ref h2
  rw [hr, e2] at e1
  cases e1
  exact h.cidUniq c c' _ _ h1 h2 rfl

theorem R.others_free {b : B} {s : Spec.Broker.S} (h : R b s) {c : Nat} {σ : Sess} (hl : liveSess b c = some σ) :
    ∀ c' τ, c' ≠ c → liveSess b c' = some τ → τ.cid ≠ σ.cid :=
  fun c' τ he ht e => he (h.cidUniq c' c τ σ ht hl e)

theorem R.retTop {b : B} {s : Spec.Broker.S} (h : R b s) : ∀ e ∈ absR b.topics.rroot, e.2.topic ≠ [] := by
  intro e he
  have hm : Mqtt.Proofs.Broker.retOf e ∈ (absR b.topics.rroot).map Mqtt.Proofs.Broker.retOf :=
    List.mem_map.mpr ⟨e, he, rfl⟩
  obtain ⟨r, hr, hre⟩ := List.mem_map.mp (h.rets.perm.mem_iff.mp hm)
  have hn := h.retsOk r hr
  have ht : r.topic = e.2.topic := by
    have := congrArg (fun x => x.2.topic) hre
    simpa [Mqtt.Proofs.Broker.retOf] using this
  intro h0
  rw [ht, h0] at hn
  exact absurd hn (by decide)

theorem spec_getConn_mem {s : Spec.Broker.S} {c : Nat} {k : Spec.Broker.Conn} (h : Spec.Broker.getConn s c = some k) :
    k ∈ s.conns ∧ k.id = c := by
  unfold Spec.Broker.getConn at h
  exact ⟨List.mem_of_find?_eq_some h, by simpa using List.find?_some h⟩

theorem spec_getConn_congr {s s' : Spec.Broker.S} (h : s'.conns = s.conns) (c : Nat) :
    Spec.Broker.getConn s' c = Spec.Broker.getConn s c := by
  unfold Spec.Broker.getConn; rw [h]

theorem spec_getConn_setConn_ne (s : Spec.Broker.S) (k : Spec.Broker.Conn) (c : Nat) (h : k.id ≠ c) :
    Spec.Broker.getConn (Spec.Broker.setConn s k) c = Spec.Broker.getConn s c := by
  unfold Spec.Broker.getConn Spec.Broker.setConn
  have hk : (k.id == c) = false := beq_false_of_ne h
  rw [List.find?_append, List.find?_filter_key_ne (·.id) s.conns h, List.find?_cons, hk]
  cases s.conns.find? (fun x => x.id == c) <;> rfl

theorem nodup_filter_append {α} (f : α → Nat) (l : List α) (x : α) (h : (l.map f).Nodup) :
    ((l.filter (fun y => f y != f x) ++ [x]).map f).Nodup := by
  simp only [List.map_append, List.map_cons, List.map_nil]
  rw [List.nodup_append]
  refine ⟨h.sublist ((List.filter_sublist).map _), by simp, ?_⟩
  intro a ha b hb
  simp only [List.mem_singleton] at hb
  subst hb
  simp only [List.mem_map, List.mem_filter, bne_iff_ne, ne_eq] at ha
  obtain ⟨y, ⟨_, hy⟩, rfl⟩ := ha
  exact hy

theorem spec_setConn_nodup (s : Spec.Broker.S) (k : Spec.Broker.Conn) (h : (s.conns.map (·.id)).Nodup) :
    ((Spec.Broker.setConn s k).conns.map (·.id)).Nodup :=
  nodup_filter_append Spec.Broker.Conn.id s.conns k h

theorem spec_getConn_setConn_if (s : Spec.Broker.S) (k' : Spec.Broker.Conn) (c : Nat) (hkid : k'.id = c) (c' : Nat) :
    Spec.Broker.getConn (Spec.Broker.setConn s k') c' = if c' = c then some k' else Spec.Broker.getConn s c' := by
  by_cases he : c' = c
  · rw [if_pos he, he, ← hkid]; exact Mqtt.Proofs.BrokerQos.spec_getConn_setConn s k'
  · rw [if_neg he]; exact spec_getConn_setConn_ne s k' c' (by rw [hkid]; exact Ne.symm he)

theorem spec_getConn_same {s : Spec.Broker.S} {c : Nat} {k : Spec.Broker.Conn} (hk : Spec.Broker.getConn s c = some k)
    (c' : Nat) : Spec.Broker.getConn s c' = if c' = c then some k else Spec.Broker.getConn s c' := by
  split
  · rename_i he; rw [he, hk]
  · rfl

theorem find?_of_nodup {α} (f : α → Nat) (l : List α) (hn : (l.map f).Nodup) (k : α) (hk : k ∈ l) :
    l.find? (fun x => f x == f k) = some k := by
  induction l with
  | nil => cases hk
  | cons x xs ih =>
    simp only [List.map_cons, List.nodup_cons] at hn
    rw [List.find?_cons]
    rcases List.mem_cons.mp hk with rfl | hk'
    · simp
    · have hne : (f x == f k) = false := by
        rw [beq_eq_false_iff_ne]
        intro he
        exact hn.1 (he ▸ List.mem_map.mpr ⟨k, hk', rfl⟩)
      rw [hne]
      exact ih hn.2 hk'

theorem R.spec_getConn_of_mem {b : B} {s : Spec.Broker.S} (h : R b s) {k : Spec.Broker.Conn} (hk : k ∈ s.conns) :
    Spec.Broker.getConn s k.id = some k :=
  find?_of_nodup Spec.Broker.Conn.id s.conns h.sconns k hk

theorem anon0_bytes : "\x00anon".toUTF8.toList = [0, 97, 110, 111, 110] := by decide +kernel

theorem anonId_not_real (c : Nat) : realCid (anonId c) = false := by
  unfold realCid anonId
  simp [Spec.Broker.printable]

theorem anonSpec_not_real (c : Nat) : realCid (anonSpec c) = false := by
  unfold realCid anonSpec
  rw [anon0_bytes]
  simp [Spec.Broker.printable]

theorem CidRel.eq {c : Nat} {m k : Bytes} {cl : Bool} (h : CidRel c m k cl) (hr : realCid m = true ∨ realCid k = true) :
    m = k := by
  rcases h with ⟨e, _⟩ | ⟨e1, e2, _⟩
  · exact e
  · rcases hr with hr | hr
    · rw [e1, anonId_not_real] at hr; cases hr
    · rw [e2, anonSpec_not_real] at hr; cases hr

theorem anonSpec_inj_anonId {c c' : Nat} (h : anonSpec c = anonSpec c') : anonId c = anonId c' := by
  unfold anonSpec at h
  have := List.append_cancel_left h
  unfold anonId
  rw [this]

theorem byteArray_loop_eq (bs : ByteArray) (i : Nat) (r : List UInt8) :
    ByteArray.toList.loop bs i r = r.reverse ++ bs.data.toList.drop i := by
  fun_induction ByteArray.toList.loop bs i r with
  | case1 i r hi ih =>
    have hi' : i < bs.data.toList.length := hi
    have hg : bs.get! i = bs.data.toList[i] := by
      show bs.data[i]! = _
      rw [getElem!_pos bs.data i hi]
      simp
    rw [ih, List.drop_eq_getElem_cons hi', List.reverse_cons, List.append_assoc, hg]
    rfl
  | case2 i r hi =>
    have : bs.data.toList.drop i = [] :=
      List.drop_eq_nil_of_le (by have : bs.size = bs.data.toList.length := rfl; omega)
    rw [this, List.append_nil]

theorem byteArray_toList_eq (bs : ByteArray) : bs.toList = bs.data.toList := by
  unfold ByteArray.toList
  rw [byteArray_loop_eq bs 0 []]
  simp

theorem byteArray_toList_inj {a b : ByteArray} (h : a.toList = b.toList) : a = b := by
  rw [byteArray_toList_eq, byteArray_toList_eq] at h
  apply ByteArray.ext
  exact Array.toList_inj.mp h

theorem toString_bytes_inj {a b : Nat} (h : (toString a).toUTF8.toList = (toString b).toUTF8.toList) : a = b := by
  have h1 := byteArray_toList_inj h
  have h2 : toString a = toString b := String.toByteArray_inj.mp h1
  have h3 : (toString a).toList = (toString b).toList := by rw [h2]
  have e : ∀ n : Nat, (toString n).toList = Nat.toDigits 10 n := fun n => by
    rw [Nat.toString_eq_ofList_toDigits, String.toList_ofList]
  rw [e, e] at h3
  have := congrArg (fun l => Nat.ofDigitChars 10 l 0) h3
  simpa [Nat.ofDigitChars_ten_toDigits] using this

theorem anonId_inj {a b : Nat} (h : anonId a = anonId b) : a = b := by
  unfold anonId at h
  exact toString_bytes_inj (List.append_cancel_left (List.cons.inj h).2)

theorem R_init : R {} {} where
  inv := Mqtt.Proofs.Broker.Inv_init
  linv := Mqtt.Proofs.BrokerLife.linv_init
  qinv := Mqtt.Proofs.BrokerQos.binv_init
  held := Mqtt.Proofs.Broker.HeldInv_empty
  heldGood := by simp
  owners := by simp
  rets := Mqtt.Proofs.Broker.RetInv_empty
  retsOk := by simp
  retIds := fun e he => by simp [MemTopics.new, Mqtt.Proofs.Topics.absR_empty] at he
  connLt := fun c h => by simp [B.alive, B.getConn] at h
  mconns := by simp
  sconns := by simp
  connsIff := fun c => by simp [Spec.Broker.getConn, B.alive, B.getConn]
  live := fun c σ h => by simp [liveSess, B.getConn] at h
  cidUniq := fun c c' σ σ' h => by simp [liveSess, B.getConn] at h
  stored := fun x _ _ => ⟨fun σ h => by simp [resumable, B.storeGet] at h, fun _ => rfl⟩

theorem R.anon_free {b : B} {s : Spec.Broker.S} (h : R b s) {c : Nat} (hdead : b.alive c = false) :
    ∀ c' τ, liveSess b c' = some τ → τ.cid ≠ anonId c := by
  intro c' τ hτ he
  obtain ⟨k, _, hrel⟩ := h.live c' τ hτ
  rcases hrel.cid with ⟨e1, hr⟩ | ⟨e1, _, _⟩
  · rw [← e1, he, anonId_not_real] at hr; cases hr
  · rw [e1] at he
    have := anonId_inj he
    subst this
    rw [liveSess_alive hτ] at hdead; cases hdead

end Mqtt.Proofs.BrokerRefine
