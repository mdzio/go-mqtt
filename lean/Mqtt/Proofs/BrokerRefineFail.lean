/-
A handshake whose answer cannot be written (`connectFail`: the peer has gone after sending its first
packet): the take-over has happened, `getSession` has run (`R_failed`), no connection exists; the
reference broker keeps a persistent session exactly as it was.  `EvX`/`stepX`/`runX` extend the
histories by such events; `BrokerX_refines_spec` is the refinement theorem for them.
-/
import Mqtt.Proofs.BrokerRefine

namespace Mqtt.Proofs.BrokerRefine
open Mqtt.Iface.Broker Mqtt.Model.Broker
open Mqtt.Spec.Match (split)
open Mqtt.Proofs.BrokerLife (effCid effClean resumed updSess newSess)
open Mqtt.Spec.Broker (Accepts)

theorem firstFail_accepted (b : B) (c : Nat) (req : Connect) (a : Bool)
    (h : Mqtt.Proofs.BrokerLife.accepts (.connect req) a = true) :
    firstFail b c (.connect req) a = (failed b c req, [.closed c]) := by
  simp only [Mqtt.Proofs.BrokerLife.accepts, Bool.and_eq_true, Bool.not_eq_true'] at h
  obtain ⟨⟨⟨h1, h2⟩, h3⟩, h4⟩ := h
  simp only [firstFail]
  rw [Mqtt.Proofs.BrokerLife.connectDecode_eq]
  simp only [h1, h2, h3, h4, Bool.not_true, Bool.false_eq_true, ↓reduceIte]
  unfold failed resumed updSess newSess effClean effCid
  by_cases he : req.clientId.isEmpty = true
  · simp only [he, ↓reduceIte]
  · simp only [he, Bool.false_eq_true, ↓reduceIte]
    split <;> rename_i hr <;> simp only [hr]

theorem firstFail_refused (b : B) (c : Nat) (f : First) (a : Bool)
    (h : Mqtt.Proofs.BrokerLife.accepts f a = false) : firstFail b c f a = (b, [.closed c]) := by
  cases f with
  | garbage => rfl
  | other t => rfl
  | connect req =>
    simp only [firstFail]
    rw [Mqtt.Proofs.BrokerLife.connectDecode_eq]
    by_cases h1 : Mqtt.Proofs.BrokerLife.levelOk req = true
    · by_cases h2 : Mqtt.Proofs.BrokerLife.flagsBad req = true
      · simp [h1, h2]
      · by_cases h3 : Mqtt.Proofs.BrokerLife.idBad req = true
        · simp [h1, h2, h3]
        · cases a
          · simp [h1, h2, h3]
          · simp [Mqtt.Proofs.BrokerLife.accepts, h1, h2, h3] at h
    · simp [h1]

theorem connectFail_eq (b : B) (c : Nat) (f : First) (a : Bool) :
    connectFail b c f a =
      ((firstFail (takeOver b f a).1 c f a).1, (takeOver b f a).2 ++ (firstFail (takeOver b f a).1 c f a).2) := rfl

/-- a handshake whose answer cannot be written registers no connection, subscribes nothing and only closes -/
theorem firstFail_frame (b : B) (c : Nat) (f : First) (a : Bool) :
    (firstFail b c f a).1.conns = b.conns ∧ (firstFail b c f a).1.topics = b.topics ∧
    (firstFail b c f a).2 = [.closed c] := by
  cases h : Mqtt.Proofs.BrokerLife.accepts f a with
  | false => rw [firstFail_refused b c f a h]; exact ⟨rfl, rfl, rfl⟩
  | true =>
    cases f with
    | connect req => rw [firstFail_accepted b c req a h]; exact ⟨failed_conns b c req, failed_topics b c req, rfl⟩
    | _ => cases h

theorem spec_firstFail_accepted (s : Spec.Broker.S) (c : Nat) (req : Connect) (a : Bool)
    (h : Spec.Broker.refusals req a = []) :
    Spec.Broker.firstFail s c (.connect req) a =
      ({ s with stored := failStored s c req }, [.closed c]) := by
  unfold failStored specClean specCid anonSpec
  cases hcl : (req.clean || req.clientId.isEmpty) with
  | true =>
    simp only [Spec.Broker.firstFail, h, List.isEmpty_nil, Bool.not_true, Bool.false_eq_true, ↓reduceIte, hcl]
  | false =>
    simp only [Spec.Broker.firstFail, h, List.isEmpty_nil, Bool.not_true, Bool.false_eq_true, ↓reduceIte, hcl]

theorem spec_firstFail_refused (s : Spec.Broker.S) (c : Nat) (f : First) (a : Bool)
    (hacc : Mqtt.Proofs.BrokerLife.accepts f a = false) : Spec.Broker.firstFail s c f a = (s, [.closed c]) := by
  cases f with
  | garbage => rfl
  | other t => rfl
  | connect req => simp only [Spec.Broker.firstFail, refusals_nonempty hacc, ↓reduceIte]

theorem spec_connectFail_eq (s : Spec.Broker.S) (c : Nat) (f : First) (a : Bool) :
    Spec.Broker.connectFail s c f a =
      ((Spec.Broker.firstFail (Spec.Broker.takeOver s f a).1 c f a).1,
       (Spec.Broker.takeOver s f a).2 ++ (Spec.Broker.firstFail (Spec.Broker.takeOver s f a).1 c f a).2) := rfl

theorem firstFail_refused_refines {b : B} {s : Spec.Broker.S} (h : R b s) (c : Nat) (f : First) (a : Bool)
    (hacc : Mqtt.Proofs.BrokerLife.accepts f a = false) :
    R (firstFail b c f a).1 (Spec.Broker.firstFail s c f a).1 ∧
    Accepts (Spec.Broker.firstFail s c f a).2 (firstFail b c f a).2 := by
  rw [firstFail_refused b c f a hacc, spec_firstFail_refused s c f a hacc]
  exact ⟨h, accepts_lits (.cons (.closed c) .nil)⟩

/-- a persistent session is kept as it was on both sides, and both sides only close -/
theorem firstFail_accepted_refines {b : B} {s : Spec.Broker.S} (h : R b s) (c : Nat) (req : Connect) (a : Bool)
    (hacc : Mqtt.Proofs.BrokerLife.accepts (.connect req) a = true)
    (hcf : ∀ c' τ, liveSess b c' = some τ → τ.cid ≠ effCid c req) :
    R (firstFail b c (.connect req) a).1 (Spec.Broker.firstFail s c (.connect req) a).1 ∧
    (firstFail b c (.connect req) a).2 = [.closed c] ∧
    (Spec.Broker.firstFail s c (.connect req) a).2 = [.closed c] := by
  rw [firstFail_accepted b c req a hacc,
    spec_firstFail_accepted s c req a ((Mqtt.Proofs.BrokerLife.refusals_nil_iff req a).mpr hacc)]
  exact ⟨R_failed h c req (realCid_of_accepts hacc) hcf, rfl, rfl⟩

theorem connectFail_refines {b : B} {s : Spec.Broker.S} (h : R b s) (c : Nat) (f : First) (a : Bool)
    (hok : okEv b (.first c f a) = true) :
    R (connectFail b c f a).1 (Spec.Broker.connectFail s c f a).1 ∧
    Accepts (Spec.Broker.connectFail s c f a).2 (connectFail b c f a).2 := by
  have hdead := (okEv_first hok).2.1
  rw [connectFail_eq, spec_connectFail_eq]
  cases hacc : Mqtt.Proofs.BrokerLife.accepts f a with
  | false =>
    rw [Mqtt.Proofs.BrokerLife.takeOver_refused b f a hacc, spec_takeOver_refused s f a hacc]
    simpa using firstFail_refused_refines h c f a hacc
  | true =>
    cases f with
    | garbage => simp [Mqtt.Proofs.BrokerLife.accepts] at hacc
    | other t => simp [Mqtt.Proofs.BrokerLife.accepts] at hacc
    | connect req =>
      obtain ⟨r0, _, hcf0, _⟩ := takeOver_refines h c req a hacc hdead
      obtain ⟨r1, e1, e2⟩ := firstFail_accepted_refines r0 c req a hacc hcf0
      rw [e1, e2]
      exact ⟨r1, takeOver_accepts h c req a hacc hdead (.cons (.closed c) .nil)⟩

/-- an event of the broker, or a first packet whose answer cannot be written -/
inductive EvX where
  | ev (e : Ev)
  | failFirst (c : Nat) (f : First) (a : Bool)

def stepX (b : B) : EvX → B × List Out
  | .ev e => step b e
  | .failFirst c f a => connectFail b c f a

def specStepX (s : Spec.Broker.S) : EvX → Spec.Broker.S × List Spec.Broker.SOut
  | .ev e => Spec.Broker.step s e
  | .failFirst c f a => Spec.Broker.connectFail s c f a

def okEvX (b : B) : EvX → Bool
  | .ev e => okEv b e
  | .failFirst c f a => okEv b (.first c f a)

def runX (b : B) : List EvX → B × List (List Out)
  | [] => (b, [])
  | e :: es =>
    let (b1, o) := stepX b e
    let (b2, os) := runX b1 es
    (b2, o :: os)

def okRunX (b : B) : List EvX → Bool
  | [] => true
  | e :: es => okEvX b e && okRunX (stepX b e).1 es

def specRunX (s : Spec.Broker.S) : List EvX → Spec.Broker.S × List (List Spec.Broker.SOut)
  | [] => (s, [])
  | e :: es =>
    let r := specStepX s e
    let rs := specRunX r.1 es
    (rs.1, r.2 :: rs.2)

theorem stepX_refines (b : B) (s : Spec.Broker.S) (e : EvX) (h : R b s) (hok : okEvX b e = true) :
    R (stepX b e).1 (specStepX s e).1 ∧ Accepts (specStepX s e).2 (stepX b e).2 := by
  cases e with
  | ev e => exact step_refines b s e h hok
  | failFirst c f a => exact connectFail_refines h c f a hok

theorem runX_refines (es : List EvX) : ∀ (b : B) (s : Spec.Broker.S), R b s → okRunX b es = true →
    R (runX b es).1 (specRunX s es).1 ∧ AcceptsAll (specRunX s es).2 (runX b es).2 := by
  induction es with
  | nil => intro b s h _; exact ⟨h, .nil⟩
  | cons e rest ih =>
    intro b s h hok
    simp only [okRunX, Bool.and_eq_true] at hok
    obtain ⟨r1, a1⟩ := stepX_refines b s e h hok.1
    obtain ⟨r2, a2⟩ := ih (stepX b e).1 (specStepX s e).1 r1 hok.2
    exact ⟨r2, .cons a1 a2⟩

/-- **The broker model refines the reference broker, failed handshakes included**: as
`Broker_refines_spec`, along histories that also contain first packets whose answer cannot be written. -/
theorem BrokerX_refines_spec (es : List EvX) (hok : okRunX {} es = true) :
    R (runX {} es).1 (specRunX {} es).1 ∧ AcceptsAll (specRunX {} es).2 (runX {} es).2 :=
  runX_refines es {} {} R_init hok

end Mqtt.Proofs.BrokerRefine
