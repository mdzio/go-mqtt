/-
Core F — the will flag without a DISCONNECT in the stream (`NoDisc`), and the receiver's exit (`InvR`): the receiver
closes the socket when its read has failed (`WF c`: `Cfg.recvCloses = true`), so a receiver that has called
`wgStopped.Done()` has left a closed socket behind; and a fired read deadline is seen by the receiver, which is
inside that read or already past its loop.  (Used by C16 and C19.)
-/
import Mqtt.Proofs.LifecycleStop

namespace Mqtt.Proofs.Lifecycle
open Mqtt.Model.Lifecycle

/-- the receiver has executed its `conn.Close()` (one step later than `RPc.closedRing`) -/
def RPc.sockClosed : RPc → Bool
  | .wgDone => true | .exited => true | _ => false

structure InvR (s : St) : Prop where
  rsock : RPc.sockClosed s.recv = true → s.sh.sock = .closed
  tmo : s.sh.timeout = true → s.recv = .read ∨ RPc.pastLoop s.recv = true

theorem invR_init (c : Cfg) (s : St) (h : Init c s) : InvR s :=
  ⟨by rw [h.recv]; nofun, by rw [h.noTimeout]; nofun⟩

/-- outside `.read` and before the end of its loop the receiver has seen no deadline fire -/
theorem InvR.no_timeout {s : St} (hi : InvR s) (h1 : s.recv ≠ .read) (h2 : RPc.pastLoop s.recv = false) : s.sh.timeout = false := by
  cases hto : s.sh.timeout with
  | false => rfl
  | true => rcases hi.tmo hto with h | h; exact absurd h h1; rw [h2] at h; cases h

theorem TStep.invR {c : Cfg} {s s' : St} {t : Tid} {k : Nat} (hi : InvR s) (h : TStep c s t k s') : InvR s' := by
  have hf := h.frameE.1
  cases h with
  | recv hpc h =>
    cases h with
    | space => exact ⟨nofun, fun hx => by rw [hi.no_timeout (by rw [hpc]; nofun) (by rw [hpc]; rfl)] at hx; cases hx⟩
    | read hs ht' _ => exact ⟨nofun, fun hx => by rw [ht'] at hx; cases hx⟩
    | commit => exact ⟨nofun, fun hx => by rw [hi.no_timeout (by rw [hpc]; nofun) (by rw [hpc]; rfl)] at hx; cases hx⟩
    | connClose => exact ⟨fun _ => rfl, fun _ => .inr rfl⟩
    | wgDone => exact ⟨fun _ => hi.rsock (by rw [hpc]; rfl), fun _ => .inr rfl⟩
    | _ => exact ⟨nofun, fun _ => .inr rfl⟩
  | _ => exact ⟨fun hr => hf.sockc (hi.rsock hr), fun ht => hi.tmo (hf.timeout ▸ ht)⟩

/-- the read deadline fires only on a pending read; the peer cannot re-open a socket the broker has closed -/
theorem EStep.invR {c : Cfg} {s s' : St} {e : Env} (hi : InvR s) (h : EStep c s e s') : InvR s' := by
  cases h with
  | peerClose h => exact ⟨fun hr => (by have := hi.rsock hr; rcases h with h | h <;> rw [h] at this <;> cases this), hi.tmo⟩
  | peerShut h => exact ⟨fun hr => (by have := hi.rsock hr; rw [h] at this; cases this), hi.tmo⟩
  | kaExpire hr hs => exact ⟨hi.rsock, fun _ => .inl hr⟩
  | _ => exact ⟨hi.rsock, hi.tmo⟩

theorem PStep.will {c : Cfg} {sh sh' : Sh} {pc pc' : PPc} (h : PStep c sh pc sh' pc')
    (hn : ∀ p, p ∈ sh.stream → p.kind ≠ .disconnect) :
    sh'.willFlag = sh.willFlag ∧ ∀ p, p ∈ sh'.stream → p.kind ≠ .disconnect := by
  cases h with
  | stop k k' sh' h => exact ⟨h.frame.willFlag, h.frame.stream ▸ hn⟩
  | msgDisc p tl hst hk => exact absurd hk (hn p (hst ▸ List.mem_cons_self))
  | commit p tl hst => exact ⟨rfl, fun q hq => hn q (hst ▸ List.mem_cons_of_mem _ hq)⟩
  | _ => exact ⟨rfl, hn⟩

/-- no DISCONNECT among the packets the processor has still to consume -/
def NoDisc (s : St) : Prop := ∀ p, p ∈ s.sh.stream → p.kind ≠ .disconnect

theorem TStep.noDisc {c : Cfg} {s s' : St} {t : Tid} {k : Nat} (h : TStep c s t k s') (hn : NoDisc s) :
    NoDisc s' ∧ s'.sh.willFlag = s.sh.willFlag := by
  cases h with
  | recv hpc h => exact ⟨fun p hp => hn p (h.keeps.stream ▸ hp), h.keeps.willFlag⟩
  | send hpc h => exact ⟨fun p hp => hn p (h.keeps.1.stream ▸ hp), h.keeps.1.willFlag⟩
  | proc hpc h => exact ⟨(h.will hn).2, (h.will hn).1⟩
  | k hpc h => exact ⟨fun p hp => hn p (h.frame.stream ▸ hp), h.frame.willFlag⟩
  | w hpc h => exact ⟨fun p hp => hn p (h.keeps.1.stream ▸ hp), h.keeps.1.willFlag⟩

end Mqtt.Proofs.Lifecycle
