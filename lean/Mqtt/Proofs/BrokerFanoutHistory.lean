/-
Histories.  Which message the specification's retained store holds for a topic after any list of
accepted PUBLISHes (`specRets_char`); the model's retained trie against that store along any
interleaving with events that carry no message (`acts_refine`); the subscription trie against the
specification's held subscriptions along any history of SUBSCRIBE / UNSUBSCRIBE / publish events
(`held_run`).
-/
import Mqtt.Proofs.BrokerFanoutGen

namespace Mqtt.Proofs.Broker
open Mqtt.Iface.Broker Mqtt.Model.Broker
open Mqtt.Proofs.Topics (good)
open Mqtt.Spec.Match (validName validFilter)
open Mqtt.Spec.Broker (Ret Held addHeld)

/-- the specification's retained store after accepting the messages `ps` in order -/
def specRets (rets : List Ret) (ps : List Pub) : List Ret :=
  (ps.foldl (fun s p => Mqtt.Spec.Broker.retainStep s p) ({ rets := rets } : Mqtt.Spec.Broker.S)).rets

theorem specRets_nil (rets : List Ret) : specRets rets [] = rets := rfl

theorem retainStep_rets_only (s : Mqtt.Spec.Broker.S) (p : Pub) :
    (Mqtt.Spec.Broker.retainStep s p).rets = (Mqtt.Spec.Broker.retainStep { rets := s.rets } p).rets := by
  unfold Mqtt.Spec.Broker.retainStep
  split
  · rfl
  · split <;> rfl

theorem foldl_rets_only (ps : List Pub) : ∀ s : Mqtt.Spec.Broker.S,
    (ps.foldl (fun s p => Mqtt.Spec.Broker.retainStep s p) s).rets = specRets s.rets ps := by
  induction ps with
  | nil => intro s; rfl
  | cons p rest ih =>
    intro s
    simp only [List.foldl_cons, specRets]
    rw [ih, ih, retainStep_rets_only]

theorem specRets_cons (rets : List Ret) (p : Pub) (ps : List Pub) :
    specRets rets (p :: ps) = specRets (Mqtt.Spec.Broker.retainStep { rets := rets } p).rets ps :=
  foldl_rets_only ps _

theorem specRets_snoc (rets : List Ret) (ps : List Pub) (p : Pub) :
    specRets rets (ps ++ [p]) = (Mqtt.Spec.Broker.retainStep { rets := specRets rets ps } p).rets := by
  simp only [specRets, List.foldl_append, List.foldl_cons, List.foldl_nil]
  rw [retainStep_rets_only]

/-- what a retained PUBLISH leaves the store holding for its topic -/
def retOf1 (p : Pub) : List Ret := if p.payload.isEmpty then [] else [⟨p.topic, p.qos, p.payload⟩]

theorem specStep_topic (rets : List Ret) (p : Pub) (T : Bytes) :
    (Mqtt.Spec.Broker.retainStep { rets := rets } p).rets.filter (fun r => r.topic == T) =
      if p.retain && p.topic == T then retOf1 p else rets.filter (fun r => r.topic == T) := by
  have hkeep : ∀ h : p.topic ≠ T, (rets.filter (fun r => r.topic != p.topic)).filter (fun r => r.topic == T) =
      rets.filter (fun r => r.topic == T) := by
    intro h
    rw [List.filter_filter]
    apply List.filter_congr
    intro r _
    cases hr : (r.topic == T) with
    | false => rfl
    | true => rw [Bool.true_and, beq_iff_eq.mp hr]; exact bne_iff_ne.mpr (Ne.symm h)
  have hdrop : (rets.filter (fun r => r.topic != p.topic)).filter (fun r => r.topic == p.topic) = [] := by
    rw [List.filter_filter, List.filter_eq_nil_iff]
    intro r _
    rw [bne, Bool.and_not_self]
    exact Bool.false_ne_true
  unfold Mqtt.Spec.Broker.retainStep retOf1
  cases p.retain with
  | false => rfl
  | true =>
    simp only [Bool.not_true, Bool.false_eq_true, ↓reduceIte, Bool.true_and]
    by_cases ht : p.topic = T
    · subst ht
      rw [beq_self_eq_true, if_pos rfl]
      cases p.payload.isEmpty with
      | true => exact hdrop
      | false => simp only [Bool.false_eq_true, ↓reduceIte, List.filter_append, hdrop, List.filter_cons,
          beq_self_eq_true, List.filter_nil, List.nil_append]
    · rw [beq_eq_false_iff_ne.mpr ht, if_neg Bool.false_ne_true]
      cases p.payload.isEmpty with
      | true => exact hkeep ht
      | false => simp only [Bool.false_eq_true, ↓reduceIte, List.filter_append, hkeep ht, List.filter_cons,
          beq_eq_false_iff_ne.mpr ht, List.filter_nil, List.append_nil]

/-- what the store holds for topic `T` in terms of the last retained PUBLISH on `T` -/
def lastRetained (T : Bytes) (ps : List Pub) : List Ret :=
  match (ps.filter (fun p => p.retain && p.topic == T)).getLast? with
  | some p => if p.payload.isEmpty then [] else [⟨T, p.qos, p.payload⟩]
  | none => []

theorem specRets_char (T : Bytes) (ps : List Pub) :
    (specRets [] ps).filter (fun r => r.topic == T) = lastRetained T ps := by
  refine List.snoc_ind (P := fun ps => (specRets [] ps).filter (fun r => r.topic == T) = lastRetained T ps)
    rfl ?_ ps
  intro qs p ih
  rw [specRets_snoc, specStep_topic]
  unfold lastRetained at ih ⊢
  rw [List.filter_append]
  cases hm : (p.retain && p.topic == T) with
  | false => simp only [List.filter_cons, hm, Bool.false_eq_true, ↓reduceIte, List.filter_nil, List.append_nil]; exact ih
  | true =>
    rw [List.filter_cons, if_pos hm, List.filter_nil, List.getLast?_append, List.getLast?_singleton, Option.some_or]
    rw [Bool.and_eq_true, beq_iff_eq] at hm
    simp only [retOf1, hm.2, ↓reduceIte]

/-- one move of a history: an event that carries no application message into
the broker, or the acceptance of a message (`onPublish`: what a QoS 0/1 PUBLISH,
a released QoS 2 PUBLISH, a will and the in-process `Publish` all end in) -/
inductive Act where
  | ev (e : Ev)
  | pub (m : Msg)

def Act.ok : Act → Bool
  | .ev e => carriesNoMessage e
  | .pub m => good m.p.topic && validName m.p.topic

def actStep (b : B) : Act → B
  | .ev e => (step b e).1
  | .pub m => (onPublish b m).1

def pubsOf : List Act → List Pub
  | [] => []
  | .ev _ :: rest => pubsOf rest
  | .pub m :: rest => m.p :: pubsOf rest

theorem acts_refine (acts : List Act) : ∀ (b : B) (rets : List Ret), Inv b → RetInv b.topics.rroot rets →
    (∀ a ∈ acts, a.ok = true) →
    Inv (acts.foldl actStep b) ∧ RetInv (acts.foldl actStep b).topics.rroot (specRets rets (pubsOf acts)) := by
  induction acts with
  | nil => intro b rets hi hr _; exact ⟨hi, hr⟩
  | cons a rest ih =>
    intro b rets hi hr hok
    have hrest : ∀ x ∈ rest, x.ok = true := fun x hx => hok x (List.mem_cons_of_mem _ hx)
    have ha := hok a (List.mem_cons_self ..)
    cases a with
    | ev e => exact ih _ rets (Inv_step hi e) (step_rroot b e ha ▸ hr) hrest
    | pub m =>
      simp only [Act.ok, Bool.and_eq_true] at ha
      simp only [List.foldl_cons, actStep, pubsOf]
      rw [specRets_cons]
      exact ih _ _ (Inv_onPublish hi m) (onPublish_topics b m ▸ retainStep_refines b m rets hr ha.1 ha.2) hrest

/-- the events of a subscribe/unsubscribe/publish history: SUBSCRIBE and
UNSUBSCRIBE packets and the in-process Subscribe/Unsubscribe with good filters,
and everything that does not end or begin a connection -/
def heldOk : Ev → Bool
  | .packet _ (.subscribe _ topics) => topics.all (fun tq => good tq.1)
  | .packet _ (.unsubscribe _ topics) => topics.all (fun t => good t)
  | .packet _ .disconnect => false
  | .packet _ _ => true
  | .srvSub _ f _ => good f
  | .srvUnsub _ f => good f
  | .srvPub _ => true
  | .first _ _ _ => false
  | .close _ => false

/-- the specification's held set after one such event (`b`: the model state, for
the liveness of the connection a packet arrives on) -/
def heldNext (b : B) (held : List Held) : Ev → List Held
  | .packet c (.subscribe _ topics) => if b.alive c then specSubHeld c topics held else held
  | .packet c (.unsubscribe _ topics) =>
      if b.alive c then held.filter (fun h => !(h.owner == c && topics.contains h.filter)) else held
  | .srvSub cb f q =>
      if (!validFilter f || decide (q > 2)) = true then held else addHeld held cb f (min q Mqtt.Spec.Broker.maxQos)
  | .srvUnsub cb f => held.filter (fun h => !(h.owner == cb && h.filter == f))
  | _ => held

def heldRun (b : B) (held : List Held) : List Ev → List Held
  | [] => held
  | e :: es => heldRun (step b e).1 (heldNext b held e) es

theorem heldNext_other (b : B) (held : List Held) (c : Nat) (p : Packet) (hp : changesSubs p = false) :
    heldNext b held (.packet c p) = held := by
  cases p with
  | subscribe _ _ | unsubscribe _ _ | disconnect => cases hp
  | _ => rfl

theorem held_step (b : B) (held : List Held) (e : Ev) (hinv : Inv b) (hh : HeldInv b.topics.sroot held)
    (hok : heldOk e = true) : HeldInv (step b e).1.topics.sroot (heldNext b held e) := by
  cases e with
  | first c f a => cases hok
  | close c => cases hok
  | srvPub p =>
    show HeldInv (srvPub b p).1.topics.sroot held
    rw [srvPub_fst, (BrokerQos.onPublish_frame b _).sroot]
    exact hh
  | srvSub cb f q => exact srvSub_held b hinv cb f q hok held hh
  | srvUnsub cb f => exact srvUnsub_held b hinv cb f hok held hh
  | packet c p =>
    show HeldInv (packet b c p).1.topics.sroot _
    cases hp : changesSubs p with
    | false => rw [(packet_state b c p).1 hp, heldNext_other b held c p hp]; exact hh
    | true =>
      cases p with
      | subscribe id topics =>
        show HeldInv _ (if b.alive c then _ else _)
        cases hl : b.alive c with
        | false => rw [packet_dead b c _ hl]; exact hh
        | true => exact packet_subscribe_held b hinv c id hl held hh topics (fun tq h => List.all_eq_true.mp hok tq h)
      | unsubscribe id topics =>
        show HeldInv _ (if b.alive c then _ else _)
        cases hl : b.alive c with
        | false => rw [packet_dead b c _ hl]; exact hh
        | true => exact packet_unsubscribe_held b hinv c id hl held hh topics (fun t h => List.all_eq_true.mp hok t h)
      | disconnect => cases hok
      | _ => cases hp

theorem held_run (es : List Ev) : ∀ (b : B) (held : List Held), Inv b → HeldInv b.topics.sroot held →
    (∀ e ∈ es, heldOk e = true) →
    Inv (run b es).1 ∧ HeldInv (run b es).1.topics.sroot (heldRun b held es) := by
  induction es with
  | nil => intro b held hi hh _; exact ⟨hi, hh⟩
  | cons e rest ih =>
    intro b held hi hh hok
    unfold run heldRun
    exact ih _ _ (Inv_step hi e) (held_step b held e hi hh (hok e (List.mem_cons_self ..)))
      (fun x hx => hok x (List.mem_cons_of_mem _ hx))

end Mqtt.Proofs.Broker
