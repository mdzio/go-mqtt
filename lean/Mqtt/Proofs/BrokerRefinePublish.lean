/-
`onPublish` of the broker model against `accept` of the reference broker: the
retained stores stay related (`RetInv`, and every stored message keeps an
identifier when its QoS is not 0), and the outputs are a fan-out (`Fan`) of the
`deliver` items the reference broker demands.
-/
import Mqtt.Proofs.BrokerRefineFanout
import Mqtt.Proofs.BrokerRefineDefs
import Mqtt.Proofs.TopicsContract

namespace Mqtt.Proofs.BrokerRefine
open Mqtt.Iface.Broker Mqtt.Model.Broker
open Mqtt.Spec.Broker (Held)
open Mqtt.Model.Topics (MemTopics)
open Mqtt.Proofs.Topics (WF RWF good)
open Mqtt.Spec.Match (split validName topicMatches)
open Mqtt.Proofs.Broker (HeldInv RetInv)

theorem retainStep_ids (b : B) (m : Msg) (hwf : RWF b.topics.rroot) (hf : IdsOk b.topics.rroot)
    (ht : m.p.topic ≠ []) (hok : m.p.pktid ≠ 0 ∨ m.dirty = true ∨ m.p.qos = 0) :
    IdsOk (retainStep b m).1.topics.rroot ∧
    ((retainStep b m).2.p.pktid ≠ 0 ∨ (retainStep b m).2.dirty = true ∨ (retainStep b m).2.p.qos = 0) := by
  rcases Mqtt.Proofs.Broker.retainStep_cases b m with ⟨_, e⟩ | ⟨p, m', ctr, hst⟩
  · rw [e]; exact ⟨hf, hok⟩
  rw [hst.eq]
  rcases hst.src with ⟨hp, hm', hno⟩ | he
  · -- nothing is stored
    rw [hp, hm']
    refine ⟨Mqtt.Proofs.Topics.retain_all _ _ hwf hf fun hpl hl => ?_, hok⟩
    rcases hno with h | h
    · rw [show (toRMsg m.p).payload = m.p.payload from rfl, h] at hpl; cases hpl
    · rw [show (toRMsg m.p).topic = m.p.topic from rfl, h] at hl; cases hl
  · obtain ⟨i, ctr', he', h1, h2⟩ := encode_spec m b.ctr ht
    rw [he'] at he; cases he
    -- the stored copy is what was written
    refine ⟨Mqtt.Proofs.Topics.retain_all _ _ hwf hf
      (fun _ _ => idOk_or (idOk_wire { m.p with pktid := i } (encode_ready hok h1 h2))), ?_⟩
    rcases hok with h | h | h
    · exact .inl (by rw [show i = m.p.pktid from h1 (.inl h)]; exact h)
    · exact .inr (.inl h)
    · exact .inr (.inr h)

theorem spec_retainStep_frame (s : Spec.Broker.S) (p : Pub) :
    (Spec.Broker.retainStep s p).held = s.held ∧ (Spec.Broker.retainStep s p).stored = s.stored ∧
    (Spec.Broker.retainStep s p).conns = s.conns := by
  unfold Spec.Broker.retainStep
  split
  · exact ⟨rfl, rfl, rfl⟩
  · split <;> exact ⟨rfl, rfl, rfl⟩

theorem spec_retainStep_held (s : Spec.Broker.S) (p : Pub) : (Spec.Broker.retainStep s p).held = s.held :=
  (spec_retainStep_frame s p).1

theorem spec_accept_fst (s : Spec.Broker.S) (p : Pub) : (Spec.Broker.accept s p).1 = Spec.Broker.retainStep s p := rfl

theorem spec_accept_snd (s : Spec.Broker.S) (p : Pub) :
    (Spec.Broker.accept s p).2 = Spec.Broker.fanout (Spec.Broker.retainStep s p) p.topic p.payload p.qos := rfl

theorem matching_congr (s s' : Spec.Broker.S) (h : s'.held = s.held) (t : Bytes) :
    Spec.Broker.matching s' t = Spec.Broker.matching s t := by
  unfold Spec.Broker.matching; rw [h]

theorem subscribers_held (mt : MemTopics) (held : List Held) (hh : HeldInv mt.sroot held) (hwf : WF mt.sroot)
    (t : Bytes) (q : Nat) (hg : good t = true) (hn : validName t = true) (hq : q ≤ 2) :
    ∃ subs, mt.subscribers t q = some subs ∧
      subs.Perm ((held.filter (fun h => topicMatches h.filter t)).map (fun h => (h.owner, min q h.qos))) := by
  obtain ⟨subs, h1, h2⟩ := Mqtt.Proofs.Broker.subscribers_char mt t q hwf hg hn hq
  refine ⟨subs, h1, h2.trans ?_⟩
  have := ((hh.perm.filter (fun e => Mqtt.Spec.Match.matchLevels e.1 (split t))).map (fun e => (e.2.1, min q e.2.2)))
  refine this.trans ?_
  rw [List.filter_map, List.map_map]
  exact List.Perm.refl _

theorem onPublish_refines (b : B) (m : Msg) (s : Spec.Broker.S)
    (hwf : WF b.topics.sroot) (hh : HeldInv b.topics.sroot s.held)
    (hal : ∀ h ∈ s.held, h.owner < cbBase → b.alive h.owner = true)
    (hret : RetInv b.topics.rroot s.rets) (hids : IdsOk b.topics.rroot)
    (hg : good m.p.topic = true) (hn : validName m.p.topic = true) (hq : m.p.qos ≤ 2)
    (hok : m.p.pktid ≠ 0 ∨ m.dirty = true ∨ m.p.qos = 0) :
    (onPublish b m).2.2.2 = true ∧
    RetInv (onPublish b m).1.topics.rroot (Spec.Broker.accept s m.p).1.rets ∧
    IdsOk (onPublish b m).1.topics.rroot ∧
    Fan (Spec.Broker.accept s m.p).2 (onPublish b m).2.2.1 := by
  have ht : m.p.topic ≠ [] := by
    intro h0; rw [h0] at hn; exact absurd hn (by decide)
  obtain ⟨_, m2, m3, m4, _⟩ := Mqtt.Proofs.Broker.retainStep_msg b m
  obtain ⟨i1, i2⟩ := retainStep_ids b m hret.wf hids ht hok
  have hr1 : RetInv (retainStep b m).1.topics.rroot (Spec.Broker.accept s m.p).1.rets := by
    rw [spec_accept_fst, Mqtt.Proofs.Broker.retainStep_rets_only]
    exact Mqtt.Proofs.Broker.retainStep_refines b m s.rets hret hg hn
  obtain ⟨subs, hsubs, hperm⟩ := subscribers_held b.topics s.held hh hwf m.p.topic m.p.qos hg hn hq
  have hmem : ∀ sq ∈ subs, ∃ h ∈ s.held, sq = (h.owner, min m.p.qos h.qos) := by
    intro sq hsq
    have := hperm.mem_iff.mp hsq
    simp only [List.mem_map, List.mem_filter] at this
    obtain ⟨h, ⟨hh', _⟩, rfl⟩ := this
    exact ⟨h, hh', rfl⟩
  rw [Mqtt.Proofs.Broker.onPublish_topics, Mqtt.Proofs.Broker.onPublish_eq, hsubs]
  refine ⟨rfl, hr1, i1, ?_⟩
  -- the loop runs on the object as the retain step left it, RETAIN cleared
  have ho := fanout_outsFor subs (retainStep b m).1
    ⟨{ (retainStep b m).2.p with retain := false }, (retainStep b m).2.dirty⟩ rfl (m2 ▸ ht)
    (i2.imp id (.imp id (fun h sq hsq => by
      obtain ⟨h', _, rfl⟩ := hmem sq hsq
      rw [m4] at h
      simp only [h]; omega)))
    (fun sq hsq hlt => by
      obtain ⟨h', hh', rfl⟩ := hmem sq hsq
      rw [Mqtt.Proofs.Broker.alive_congr b _ (Mqtt.Proofs.Broker.retainStep_frame b m).2.1]
      exact hal h' hh' hlt)
  rw [spec_accept_snd]
  refine fan_of_outsFor _ _ _ _ subs _ (m2 ▸ m3 ▸ ho) ?_
  rw [matching_congr s (Spec.Broker.retainStep s m.p) (spec_retainStep_held s m.p)]
  exact hperm

end Mqtt.Proofs.BrokerRefine
