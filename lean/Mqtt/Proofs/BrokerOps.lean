/-
The broker model one operation at a time (the laws of the tables: BrokerTables.lean): what a packet does on a
live connection (`served`), the calls into the topic store and the grant decision, the SUBSCRIBE loop in
closed form (`subscribeLoop_eq`), and what `packet` and `stop` reduce to once the lookups they begin with are
decided: `packet_cases` / `served`, `stop_cases` / `stop_live` (the first packet: `first_cases` / `accepted`,
BrokerLife.lean).  Before the grant decision the tie of its constant to the regenerated facts (`facts_maxQos`; `cbBase_eq`
for the number that separates callbacks from connections).  The file ends with the invariant of the fan-out tower,
`Broker.Inv` (the tries well-formed, every live connection has a session object: `Inv.live`, from `live_of`, which the
other two towers' invariants use as well) and `Inv_init`; that every event keeps it is BrokerFanoutInv.lean.
Two namespaces: `BrokerLife` holds `served`, `reply`, `packet_live`, `stopBase`, `stop_live`, `packet_disconnect`; `Broker` everything else.
-/
import Mqtt.Model.Broker
import Mqtt.Spec.Broker
import Mqtt.Proofs.TopicsRetainedHistory
import Mqtt.Proofs.TopicsContract
import Mqtt.Proofs.BrokerTables

namespace Mqtt.Proofs.BrokerLife
open Mqtt.Iface.Broker Mqtt.Model.Broker

/-- the answer to a packet that changes nothing -/
def reply (b : B) (c : Nat) : Packet → List Out
  | .pubrec id => send b c (.pubrel id)
  | .pingreq => send b c .pingresp
  | _ => []

/-- what a packet does on a live connection `c` served by session object `s` -/
def served (b : B) (c : Nat) (s : Sess) : Packet → B × List Out
  | .publish pub =>
    if pub.qos == 2 then (b.setSess { s with pub2in := q2Wait s.pub2in pub }, send b c (.pubrec pub.pktid))
    else if pub.qos == 1 then
      ((onPublish b ⟨pub, false⟩).1, send b c (.puback pub.pktid) ++ (onPublish b ⟨pub, false⟩).2.2.1)
    else ((onPublish b ⟨pub, false⟩).1, (onPublish b ⟨pub, false⟩).2.2.1)
  | .pubrel id =>
    let r := releaseAll (b.setSess { s with pub2in := (q2Acked (q2Ack s.pub2in id)).1 }) (q2Acked (q2Ack s.pub2in id)).2
    (r.1, r.2 ++ send r.1 c (.pubcomp id))
  | .subscribe id topics =>
    let l := subscribeLoop b c s topics [] []
    let r := sendRetained (l.1.setSess l.2.1) c l.2.2.2
    (r.1, send (l.1.setSess l.2.1) c (.suback id l.2.2.1) ++ r.2)
  | .unsubscribe id topics =>
    (({ b with topics := topics.foldl (fun ts t => (ts.unsubscribe t (some c)).1) b.topics }).setSess
      { s with topics := s.topics.filter (fun p => !topics.contains p.1) }, send b c (.unsuback id))
  | .disconnect => stop (b.setSess { s with willFlag := false }) c
  | p => (b, reply b c p)

theorem packet_live {b : B} {c : Nat} {cn : Conn} {s : Sess}
    (hc : b.getConn c = some cn) (ha : cn.alive = true) (hs : b.getSess cn.sess = some s) (p : Packet) :
    packet b c p = served b c s p := by
  unfold packet
  rw [hc]
  dsimp only
  rw [ha, hs]
  cases p <;> rfl

theorem packet_nosess {b : B} {c : Nat} {cn : Conn} (hc : b.getConn c = some cn) (hs : b.getSess cn.sess = none)
    (p : Packet) : packet b c p = (b, []) := by
  unfold packet
  simp only [hc, hs]
  split <;> rfl

/-- state in which `stop` publishes the will: `c` marked closed, its session's topics unsubscribed -/
def stopBase (b : B) (c : Nat) (s : Sess) : B :=
  { markDead b c with topics := unsubAll b.topics c s.topics }

/-- The session keeps the will's message object as `onPublish` left it.  With the flag set and no will (`Init`
never builds that) neither the publication nor the deletion happens. -/
theorem stop_live (b : B) (c : Nat) (cn : Conn) (s : Sess)
    (hc : b.getConn c = some cn) (ha : cn.alive = true) (hs : b.getSess cn.sess = some s) :
    stop b c =
      if s.willFlag then
        match s.will with
        | none => (stopBase b c s, [.closed c])
        | some w =>
          let r := onPublish (stopBase b c s) w
          let b3 := r.1.setSess { s with will := some r.2.1 }
          (if s.clean then b3.storeDel s.cid else b3, .closed c :: r.2.2.1)
      else (if s.clean then (stopBase b c s).storeDel s.cid else stopBase b c s, [.closed c]) := by
  have hs' : (markDead b c).getSess cn.sess = some s := hs
  unfold stop stopBase markDead at *
  simp only [hc, ha, Bool.not_true, Bool.false_eq_true, ↓reduceIte, hs']
  cases s.willFlag
  · rfl
  · cases s.will <;> rfl

theorem packet_disconnect_eq (b : B) (c : Nat) (cn : Conn) (s : Sess)
    (hc : b.getConn c = some cn) (ha : cn.alive = true) (hs : b.getSess cn.sess = some s) :
    packet b c .disconnect = stop (b.setSess { s with willFlag := false }) c :=
  packet_live hc ha hs .disconnect

/-- a DISCONNECT clears the will flag first: the connection ends without a will -/
theorem packet_disconnect (b : B) (c : Nat) (cn : Conn) (s : Sess)
    (hc : b.getConn c = some cn) (ha : cn.alive = true) (hs : b.getSess cn.sess = some s) :
    (packet b c .disconnect).2 = [.closed c] := by
  rw [packet_disconnect_eq b c cn s hc ha hs]
  have hs' : (b.setSess { s with willFlag := false }).getSess cn.sess = some { s with willFlag := false } := by
    rw [← getSess_ref hs]; exact getSess_setSess b { s with willFlag := false }
  rw [stop_live (b.setSess { s with willFlag := false }) c cn _ hc ha hs']
  rfl

end Mqtt.Proofs.BrokerLife

namespace Mqtt.Proofs.Broker
open Mqtt.Iface.Broker Mqtt.Model.Broker
open Mqtt.Proofs.BrokerLife (markDead served packet_live alive_true_iff)
open Mqtt.Model.Topics (MemTopics RMsg validQos)
open Mqtt.Proofs.Topics (WF RWF absR good entryLevels subscribe_rroot)
open Mqtt.Spec.Match (validFilter dollar)
open Mqtt.Spec.Broker (subCode)

/-! the constant extracted from the Go source (`Generated/Facts.lean`) is the protocol's, and model and specification
separate connections from callbacks at the same number -/

theorem facts_maxQos : Mqtt.Generated.maxQosAllowed = Mqtt.Spec.Broker.maxQos := rfl
theorem cbBase_eq : Mqtt.Model.Broker.cbBase = Mqtt.Spec.Broker.cbBase := rfl

/-! The grant decision for a requested (filter, QoS byte).  The model's words are `accepts t q` (granted or not)
and `modelCode t q` (the SUBACK code); both are functions of the pair alone: no state enters.  The store's own
answer `(mt.subscribe …).2` is reduced to them (`subscribe_eq`, `modelCode_eq`), and from them the specification's
`subCode` is reached for filters that do not begin with '$' (`accepts_not_dollar`, `modelCode_not_dollar`,
`ite_accepts`; `subCode_granted` reads `subCode` itself).  Properties/C07 states the codes with `grantCode` (the
store's answer: `modelCode_eq`), Properties/C10 with `validQos`, `entryLevels` and `grant` (`accepts` unfolded;
`Topics.grant_eq_min`). -/

/-- `Subscribe` accepts (filter, QoS byte): the QoS byte is 0, 1 or 2, the
filter does not begin with '$' and its level walk ends without error
(`entryLevels t = levels t` unless `checkTopic t` - the topic is empty or begins
with '$' -, and then it is `([], false)`) -/
def accepts (t : Bytes) (q : Nat) : Bool := validQos q && (entryLevels t).2

theorem accepts_levels (t : Bytes) (q : Nat) (h : accepts t q = true) : (entryLevels t).2 = true :=
  (Bool.and_eq_true _ _ ▸ h).2

theorem subscribe_eq (mt : MemTopics) (mq : Nat) (t : Bytes) (q c : Nat) :
    mt.subscribe mq t q c =
      ({ mt with sroot := if validQos q then mt.sroot.sinsertL (entryLevels t).1 (entryLevels t).2 c (min q mq)
                          else mt.sroot },
       if accepts t q then some (min q mq) else none) :=
  Mqtt.Proofs.Topics.subscribe_eq mt mq t q c

def modelCode (t : Bytes) (q : Nat) : Nat := if accepts t q then min q Mqtt.Generated.maxQosAllowed else 0x80

theorem modelCode_eq (mt : MemTopics) (c : Nat) (t : Bytes) (q : Nat) :
    (match (mt.subscribe Mqtt.Generated.maxQosAllowed t q c).2 with
      | some _ => min q Mqtt.Generated.maxQosAllowed
      | none => 0x80) = modelCode t q := by
  rw [subscribe_eq]
  unfold modelCode
  cases accepts t q <;> rfl

/-- acceptance for every filter that does not begin with '$' - empty levels
(finding B3) and the empty filter (finding B6) included: the store
accepts exactly the valid filters -/
theorem accepts_not_dollar (t : Bytes) (q : Nat) (hd : dollar t = false) :
    accepts t q = (validFilter t && decide (q ≤ 2)) := by
  unfold accepts
  rw [Mqtt.Proofs.Topics.validQos_eq, Mqtt.Proofs.Topics.entryLevels_ok t, hd]
  cases validFilter t <;> cases decide (q ≤ 2) <;> rfl

theorem accepts_good (t : Bytes) (q : Nat) (hg : good t = true) :
    accepts t q = (validFilter t && decide (q ≤ 2)) :=
  accepts_not_dollar t q (Mqtt.Proofs.Topics.good_not_dollar t hg)

theorem subCode_granted (t : Bytes) (q : Nat) :
    (subCode t q != 0x80) = (validFilter t && decide (q ≤ 2)) ∧
    ((validFilter t && decide (q ≤ 2)) = true → subCode t q = min q Mqtt.Generated.maxQosAllowed) := by
  unfold subCode
  cases (validFilter t && decide (q ≤ 2)) with
  | false => exact ⟨rfl, fun h => Bool.noConfusion h⟩
  | true =>
    exact ⟨bne_iff_ne.mpr (Nat.ne_of_lt (Nat.lt_of_le_of_lt (Nat.min_le_right q 2) (by decide))), fun _ => rfl⟩

theorem subCode_valid (t : Bytes) (q : Nat) (h : subCode t q ≠ 0x80) : validFilter t = true := by
  have := (subCode_granted t q).1
  rw [show (subCode t q != 0x80) = true by simpa using h] at this
  exact (Bool.and_eq_true _ _ ▸ this.symm).1

theorem modelCode_not_dollar (t : Bytes) (q : Nat) (hd : dollar t = false) :
    modelCode t q = subCode t q := by
  unfold modelCode subCode
  rw [accepts_not_dollar t q hd, facts_maxQos]

theorem modelCode_good (t : Bytes) (q : Nat) (hg : good t = true) :
    modelCode t q = subCode t q :=
  modelCode_not_dollar t q (Mqtt.Proofs.Topics.good_not_dollar t hg)

/-- granted or refused, in the specification's terms (`X`: what is done with the granted QoS) -/
theorem ite_accepts {α : Type} (t : Bytes) (q : Nat) (hg : good t = true) (X : Nat → α) (Y : α) :
    (if accepts t q then X (min q Mqtt.Generated.maxQosAllowed) else Y) =
      if subCode t q = 0x80 then Y else X (subCode t q) := by
  obtain ⟨c1, c2⟩ := subCode_granted t q
  rw [accepts_good t q hg]
  cases hcond : (validFilter t && decide (q ≤ 2)) with
  | false => rw [if_pos (show subCode t q = 0x80 by simpa [hcond] using c1)]; rfl
  | true => rw [if_neg (show ¬ subCode t q = 0x80 by simpa [hcond] using c1), c2 hcond]; rfl

/-- what `Retained(filter)` returns (nothing on error) -/
def retainedOf (mt : MemTopics) (t : Bytes) : List RMsg := (mt.retained t).getD []

theorem retained_congr (ts mt : MemTopics) (t : Bytes) (h : ts.rroot = mt.rroot) :
    ts.retained t = mt.retained t := by
  unfold MemTopics.retained; rw [h]

theorem subscribers_congr {t t' : MemTopics} (h : t'.sroot = t.sroot) (topic : Bytes) (qos : Nat) :
    t'.subscribers topic qos = t.subscribers topic qos := by
  unfold MemTopics.subscribers; rw [h]

/-- `Clone` + `SetQoS` of a stored message for a subscription granted at `rq` -/
def conv (rq : Nat) (r : RMsg) : Msg :=
  if r.qos > rq then (⟨ofRMsg r, false⟩ : Msg).setQoS rq else ⟨ofRMsg r, false⟩

theorem subscribeLoop_cons (b : B) (c : Nat) (s : Sess) (t : Bytes) (q : Nat) (rest : List (Bytes × Nat))
    (codes : List Nat) (rms : List Msg) :
    subscribeLoop b c s ((t, q) :: rest) codes rms =
      subscribeLoop { b with topics := (b.topics.subscribe Mqtt.Generated.maxQosAllowed t q c).1 } c
        (if accepts t q then { s with topics := (t, q) :: s.topics.filter (fun p => p.1 != t) } else s) rest
        (codes ++ [modelCode t q])
        (rms ++ if accepts t q then (retainedOf b.topics t).map (conv (min q Mqtt.Generated.maxQosAllowed))
                else []) := by
  rw [subscribeLoop, subscribe_eq]
  unfold modelCode retainedOf
  cases accepts t q
  · simp only [Bool.false_eq_true, ↓reduceIte, List.append_nil]
  · simp only [↓reduceIte]
    show subscribeLoop _ c _ rest _ (rms ++ match b.topics.retained t with | none => [] | some l => _) = _
    cases b.topics.retained t <;> rfl

theorem resubscribe_rroot (c : Nat) (l : List (Bytes × Nat)) :
    ∀ ts : MemTopics, (resubscribe ts c l).rroot = ts.rroot := by
  induction l with
  | nil => intro ts; rfl
  | cons tq rest ih => intro ts; rw [resubscribe, ih, subscribe_rroot]

/-- `Session.topics` after the SUBSCRIBE loop: each accepted filter replaces an entry of the same filter -/
def subTopics (topics ts : List (Bytes × Nat)) : List (Bytes × Nat) :=
  topics.foldl (fun ts tq => if accepts tq.1 tq.2 then (tq.1, tq.2) :: ts.filter (fun p => p.1 != tq.1) else ts) ts

/-- the per-filter loop of `processSubscribe` in closed form; the pending retained messages are looked up in
the store as it was BEFORE the loop (no `Subscribe` call touches the retained trie) -/
theorem subscribeLoop_eq (c : Nat) (topics : List (Bytes × Nat)) :
    ∀ (b : B) (s : Sess) (codes : List Nat) (rms : List Msg),
      subscribeLoop b c s topics codes rms =
        ({ b with topics := resubscribe b.topics c topics }, { s with topics := subTopics topics s.topics },
         codes ++ topics.map (fun tq => modelCode tq.1 tq.2),
         rms ++ topics.flatMap (fun tq =>
           if accepts tq.1 tq.2 then (retainedOf b.topics tq.1).map (conv (min tq.2 Mqtt.Generated.maxQosAllowed))
           else [])) := by
  induction topics with
  | nil => intro b s codes rms; simp [subscribeLoop, resubscribe, subTopics]
  | cons tq rest ih =>
    intro b s codes rms
    rw [subscribeLoop_cons, ih]
    refine Prod.ext rfl (Prod.ext ?_ (Prod.ext ?_ ?_))
    · show ({ (if accepts tq.1 tq.2 then _ else s) with topics := _ } : Sess) = _
      simp only [subTopics, List.foldl_cons]
      split <;> rfl
    · simp [List.append_assoc]
    · simp only [List.flatMap_cons, List.append_assoc, retainedOf, retained_congr _ _ _ (subscribe_rroot _ _ _ _ _)]

def isPublishTo (c : Nat) : Out → Bool
  | .send d (.publish _) => d == c
  | _ => false

theorem sendRetained_out (c : Nat) (rms : List Msg) :
    ∀ b : B, ∀ o ∈ (sendRetained b c rms).2, isPublishTo c o = true := by
  induction rms with
  | nil => exact fun _ _ ho => (List.not_mem_nil ho).elim
  | cons m rest ih =>
    intro b
    unfold sendRetained
    cases b.alive c with
    | false => exact fun _ ho => (List.not_mem_nil ho).elim
    | true =>
      cases m.encode b.ctr with
      | none => exact fun _ ho => (List.not_mem_nil ho).elim
      | some r =>
        intro o ho
        rcases List.mem_cons.mp ho with rfl | ho
        · exact beq_self_eq_true c
        · exact ih _ o ho

theorem sendRetained_ctr (c : Nat) (rms : List Msg) :
    ∀ b : B, (sendRetained b c rms).1 = { b with ctr := (sendRetained b c rms).1.ctr } := by
  induction rms with
  | nil => exact fun b => rfl
  | cons m rest ih =>
    intro b
    unfold sendRetained
    split
    · rfl
    · split
      · rfl
      · exact (ih _).trans rfl

/-- the state after a SUBSCRIBE on a live connection: the session's topic list and the trie, nothing else but
the packet-identifier counter -/
theorem served_subscribe (b : B) (c : Nat) (s : Sess) (id : Nat) (topics : List (Bytes × Nat)) :
    ∃ ctr, (served b c s (.subscribe id topics)).1 =
      { b.setSess { s with topics := subTopics topics s.topics } with
        topics := resubscribe b.topics c topics, ctr := ctr } := by
  simp only [served, subscribeLoop_eq]
  exact ⟨_, (sendRetained_ctr c _ _).trans rfl⟩

theorem packet_dead (b : B) (c : Nat) (p : Packet) (h : b.alive c = false) : packet b c p = (b, []) := by
  unfold B.alive at h
  unfold packet
  cases hc : b.getConn c with
  | none => rfl
  | some cn => rw [hc] at h; simp only [h, Bool.not_false, ↓reduceIte]

theorem packet_cases (b : B) (c : Nat) (p : Packet) :
    packet b c p = (b, []) ∨
    ∃ cn s, b.getConn c = some cn ∧ cn.alive = true ∧ b.getSess cn.sess = some s ∧ packet b c p = served b c s p := by
  cases hl : b.alive c with
  | false => exact .inl (packet_dead b c p hl)
  | true =>
    obtain ⟨cn, hc, ha⟩ := (alive_true_iff b c).mp hl
    cases hs : b.getSess cn.sess with
    | none => exact .inl (BrokerLife.packet_nosess hc hs p)
    | some s => exact .inr ⟨cn, s, hc, ha, hs, packet_live hc ha hs p⟩

theorem packet_unsubscribe (b : B) (c : Nat) (cn : Conn) (s : Sess) (id : Nat) (topics : List Bytes)
    (hc : b.getConn c = some cn) (ha : cn.alive = true) (hs : b.getSess cn.sess = some s) :
    packet b c (.unsubscribe id topics) =
      (({ b with topics := topics.foldl (fun ts t => (ts.unsubscribe t (some c)).1) b.topics }).setSess
          { s with topics := s.topics.filter (fun p => !topics.contains p.1) },
       send b c (.unsuback id)) :=
  packet_live hc ha hs _

theorem packet_subscribe_state {b : B} {c : Nat} {cn : Conn} {s : Sess} (id : Nat) (topics : List (Bytes × Nat))
    (hc : b.getConn c = some cn) (ha : cn.alive = true) (hs : b.getSess cn.sess = some s) :
    ∃ ctr, (packet b c (.subscribe id topics)).1 =
      { b.setSess { s with topics := subTopics topics s.topics } with
        topics := resubscribe b.topics c topics, ctr := ctr } :=
  packet_live hc ha hs _ ▸ served_subscribe b c s id topics

theorem packet_subscribe_snd {b : B} {c : Nat} {cn : Conn} {s : Sess} (id : Nat) (topics : List (Bytes × Nat))
    (hc : b.getConn c = some cn) (ha : cn.alive = true) (hs : b.getSess cn.sess = some s) :
    (packet b c (.subscribe id topics)).2 =
      Out.send c (.suback id (topics.map fun tq => modelCode tq.1 tq.2)) ::
      (sendRetained (({ b with topics := resubscribe b.topics c topics } : B).setSess
          { s with topics := subTopics topics s.topics }) c
        (topics.flatMap fun tq =>
          if accepts tq.1 tq.2 then (retainedOf b.topics tq.1).map (conv (min tq.2 Mqtt.Generated.maxQosAllowed))
          else [])).2 := by
  have hal : ((({ b with topics := resubscribe b.topics c topics } : B).setSess
      { s with topics := subTopics topics s.topics })).alive c = true := alive_of_getConn b c cn hc ha
  rw [packet_live hc ha hs]
  simp only [served, subscribeLoop_eq, List.nil_append, send, hal, ↓reduceIte, List.singleton_append]

theorem stop_idle (b : B) (c : Nat) (h : b.alive c = false) : stop b c = (b, []) := by
  unfold B.alive at h
  unfold stop
  cases hc : b.getConn c with
  | none => rfl
  | some cn => rw [hc] at h; simp only [h, Bool.not_false, ↓reduceIte]

theorem stop_nosess (b : B) (c : Nat) (cn : Conn)
    (hc : b.getConn c = some cn) (ha : cn.alive = true) (hs : b.getSess cn.sess = none) :
    stop b c = (markDead b c, [.closed c]) := by
  have hs' : (markDead b c).getSess cn.sess = none := hs
  unfold stop markDead at *
  simp only [hc, ha, Bool.not_true, Bool.false_eq_true, ↓reduceIte, hs']

theorem stop_cases (b : B) (c : Nat) :
    (b.alive c = false ∧ stop b c = (b, [])) ∨ stop b c = (markDead b c, [.closed c]) ∨
    ∃ cn s, b.getConn c = some cn ∧ cn.alive = true ∧ b.getSess cn.sess = some s := by
  cases hl : b.alive c with
  | false => exact .inl ⟨rfl, stop_idle b c hl⟩
  | true =>
    obtain ⟨cn, hc, ha⟩ := (alive_true_iff b c).mp hl
    cases hs : b.getSess cn.sess with
    | some s => exact .inr (.inr ⟨cn, s, hc, ha, hs⟩)
    | none => exact .inr (.inl (stop_nosess b c cn hc ha hs))

theorem srvPub_fst (b : B) (p : Pub) : (srvPub b p).1 = (onPublish b ⟨p, true⟩).1 := by
  unfold srvPub
  generalize onPublish b ⟨p, true⟩ = r
  rfl

theorem srvUnsub_fst (b : B) (cb : Nat) (f : Bytes) :
    (srvUnsub b cb f).1 = { b with topics := (b.topics.unsubscribe f (some cb)).1 } := by
  unfold srvUnsub
  generalize b.topics.unsubscribe f (some cb) = r
  rfl

theorem srvSub_fst (b : B) (cb : Nat) (f : Bytes) (q : Nat) :
    (srvSub b cb f q).1 = { b with topics := (b.topics.subscribe Mqtt.Generated.maxQosAllowed f q cb).1 } := by
  unfold srvSub
  generalize b.topics.subscribe Mqtt.Generated.maxQosAllowed f q cb = r
  obtain ⟨ts, o⟩ := r
  cases o <;> rfl

/-- Representation invariant of the broker model: both tries have unique map
keys at every node (they are Go maps) and one entry per subscriber and node;
every stored retained message has its RETAIN flag set; every live connection's
session reference resolves to a session object. -/
structure Inv (b : B) : Prop where
  wf : WF b.topics.sroot
  rwf : RWF b.topics.rroot
  rflag : ∀ e ∈ absR b.topics.rroot, e.2.retain = true
  sess : ∀ cn ∈ b.conns, cn.alive = true → (b.getSess cn.sess).isSome = true

theorem Inv_init : Inv {} :=
  ⟨Mqtt.Proofs.Topics.WF_empty, Mqtt.Proofs.Topics.RWF_empty,
   by intro e h; simp [MemTopics.new, Mqtt.Proofs.Topics.absR_empty] at h, by intro cn h; cases h⟩

/-- a live connection has a session object, whenever the references of live connections resolve (as each
invariant of the tables says in its own words) -/
theorem live_of {b : B} (h : ∀ cn ∈ b.conns, cn.alive = true → (b.getSess cn.sess).isSome = true) {c : Nat}
    (hl : b.alive c = true) :
    ∃ cn s, b.getConn c = some cn ∧ cn.alive = true ∧ b.getSess cn.sess = some s := by
  obtain ⟨cn, hc, ha⟩ := (alive_true_iff b c).mp hl
  obtain ⟨s, hs⟩ := Option.isSome_iff_exists.mp (h cn (List.mem_of_find?_eq_some hc) ha)
  exact ⟨cn, s, hc, ha, hs⟩

theorem Inv.live {b : B} (h : Inv b) {c : Nat} (hl : b.alive c = true) :
    ∃ cn s, b.getConn c = some cn ∧ cn.alive = true ∧ b.getSess cn.sess = some s :=
  live_of h.sess hl

end Mqtt.Proofs.Broker
