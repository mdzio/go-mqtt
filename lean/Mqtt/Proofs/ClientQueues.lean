/-
Bridge from the client model's ack queues (`Model/Client.lean`: `Queue := List Req`
with `Queue.wait` / `Queue.ack` / `Queue.acked`, and the ping FIFO
`pings : List (Nat × Nat)` with `pingAck` / `pingAcked`) to the FIFO
specification of an ack queue (`Spec/Fifo.lean`) that `Properties/C13` proves
the ring-based `sessions.Ackqueue` refines.

The client role uses six `Ackqueue` objects of its session:

  `Pub1ack`   `Wait`(QoS 1 PUBLISH, onComplete)  `Ack`(PUBACK)             `Acked`
  `Pub2out`   `Wait`(QoS 2 PUBLISH, onComplete)  `Ack`(PUBREC | PUBCOMP)   `Acked` (after PUBCOMP only)
  `Pub2in`    `Wait`(QoS 2 PUBLISH, nil)         `Ack`(PUBREL)             `Acked`
  `Suback`    `Wait`(SUBSCRIBE, closure)         `Ack`(SUBACK)             `Acked`
  `Unsuback`  `Wait`(UNSUBSCRIBE, closure)       `Ack`(UNSUBACK)           `Acked`
  `Pingack`   `Wait`(PINGREQ, onComplete)        `Ack`(PINGRESP)           `Acked`

Under the projection `proj cd k` of a request of the client model to a FIFO
entry the list operations are `Fifo.register`, `Fifo.ackId`, `Fifo.collect`
(`pproj`, `Fifo.answerPing`, `Fifo.collectPings` for the pings): `sim_run`, `psim_run`.

Then which calls a history of the client model makes on which queue (`histOps`, `run_qof`; `run_pings_ops` for the
pings), and the way back through the bytes that `processAcked` decodes (`RoundTrip`, `unproj_proj`).
-/
import Mqtt.Proofs.Client
import Mqtt.Proofs.AckQueue

namespace Mqtt.Proofs.ClientQueues
open Mqtt.Iface.Broker (Pub Packet Bytes)
open Mqtt.Iface.Client
open Mqtt.Iface.AckQ
open Mqtt.Model.Client
open Mqtt.Proofs.Client
open Mqtt.Generated
open Mqtt.Spec
open Mqtt.Proofs.Fifo (register_map ackId_map collect_map fifo_run_sim)

/-- the five identifier-keyed ack queues of a client session -/
inductive QKind where
  | pub1ack | pub2out | pub2in | suback | unsuback
deriving DecidableEq, Repr

def qof : QKind → C → Queue
  | .pub1ack, c => c.pub1ack
  | .pub2out, c => c.pub2out
  | .pub2in, c => c.pub2in
  | .suback, c => c.suback
  | .unsuback, c => c.unsuback

/-- the four queues of the sending side are the `Kind`s of `Proofs/Client` -/
def ofKind : Kind → QKind
  | .pub1 => .pub1ack
  | .pub2 => .pub2out
  | .sub => .suback
  | .unsub => .unsuback

theorem qof_ofKind (k : Kind) (c : C) : qof (ofKind k) c = queue k c := by cases k <;> rfl

/-- packet type of the requests a queue holds (`AckMsg.Mtype`) -/
def QKind.mtype : QKind → Nat
  | .pub1ack | .pub2out | .pub2in => Fifo.PUBLISH
  | .suback => Fifo.SUBSCRIBE
  | .unsuback => Fifo.UNSUBSCRIBE

/-- What the real queue stores in another form than the client model:
* `enc id pub topics` - the bytes of the request as written (`Msgbuf`), a function of what is fixed
  at registration (identifier, PUBLISH fields, filters);
* `ackb t id codes` - the bytes of the acknowledgement of type `t` bearing identifier `id` (and, for a
  SUBACK, the return codes) (`Ackbuf`);
* `clo tag cb` - the `OnComplete` value: the caller's completion callback `tag` itself for publishes
  (`cb = 0`), the closure `onc` that `subscribe` / `unsubscribe` build around `tag` (and the message
  callback `cb`). -/
structure Coding where
  enc  : Nat → Option Pub → List (Bytes × Nat) → List UInt8
  ackb : Nat → Nat → List Nat → List UInt8
  clo  : Nat → Nat → Nat

def proj (cd : Coding) (k : QKind) (r : Req) : Fifo.Entry :=
  ⟨k.mtype, r.state, r.id, cd.enc r.id r.pub r.topics,
   if r.state == 0 then [] else cd.ackb r.state r.id r.codes, cd.clo r.tag r.cb⟩

/-- the request as the client model registers it (`state := 0`, no return codes) -/
def mkReq (id tag : Nat) (pub : Option Pub) (topics : List (Bytes × Nat)) (cb : Nat) : Req :=
  { id := id, tag := tag, pub := pub, topics := topics, cb := cb }

inductive COp where
  | wait (id tag : Nat) (pub : Option Pub) (topics : List (Bytes × Nat)) (cb : Nat)   -- `Queue.wait (mkReq …)`
  | ack (t id : Nat) (codes : List Nat)                                               -- `Queue.ack t id codes`
  | acked                                                                             -- `Queue.acked`
deriving Repr

def cstep (q : Queue) : COp → Queue × List Req
  | .wait id tag pub topics cb => (q.wait (mkReq id tag pub topics cb), [])
  | .ack t id codes => (q.ack t id codes, [])
  | .acked => q.acked

def crun (q : Queue) : List COp → Queue × List (List Req)
  | [] => (q, [])
  | op :: ops =>
    let (q1, r) := cstep q op
    let (q2, rs) := crun q1 ops
    (q2, r :: rs)

/-- what `Wait` is handed for a request of queue `k`: the dynamic type of the message, the QoS
`sendPublish` / `processPublish` select the queue by, identifier and bytes -/
def waitMsg (k : QKind) (id : Nat) (bytes : List UInt8) : WaitMsg :=
  match k with
  | .pub1ack => .publish 1 id (some bytes)
  | .pub2out | .pub2in => .publish 2 id (some bytes)
  | .suback => .subscribe id (some bytes)
  | .unsuback => .unsubscribe id (some bytes)

def toOp (cd : Coding) (k : QKind) : COp → Op
  | .wait id tag pub topics cb => .wait (waitMsg k id (cd.enc id pub topics)) (cd.clo tag cb)
  | .ack t id codes => .ack t id (cd.ackb t id codes)
  | .acked => .acked

def cout (cd : Coding) (k : QKind) (rel : List Req) : COp → Fifo.SOut
  | .acked => .released (rel.map (proj cd k))
  | _ => .ok true

/-- the acknowledgement types `Ackqueue.Ack` looks up by identifier (every `Ack` of the client role
on these five queues bears one of them: `evOps_ok`).  For other types the two sides differ:
`Queue.ack 13 id` marks the request bearing `id`, `Ackqueue.Ack` of a PINGRESP marks a ping. -/
def okOp : COp → Bool
  | .ack t _ _ => Fifo.isIdAck t
  | _ => true

def OkOps (ops : List COp) : Prop := ops.all okOp = true

instance (ops : List COp) : Decidable (OkOps ops) := by unfold OkOps; infer_instance

/-- return codes are kept with a SUBACK only (every `Ack` of the client role: `evOps_ok`) -/
def tidyOp : COp → Bool
  | .ack t _ codes => t == tSUBACK || codes.isEmpty
  | _ => true

def TidyOps (ops : List COp) : Prop := ops.all tidyOp = true

instance (ops : List COp) : Decidable (TidyOps ops) := by unfold TidyOps; infer_instance

section sim
variable (cd : Coding) (k : QKind)

/-- a duplicate registration is dropped on both sides: the list's `any` test, `insert`'s `emap` test -/
theorem sim_register (q : Queue) (pg : List Fifo.Entry) (id tag : Nat) (pub : Option Pub)
    (topics : List (Bytes × Nat)) (cb : Nat) :
    Fifo.register ⟨q.map (proj cd k), pg⟩ ⟨k.mtype, 0, id, cd.enc id pub topics, [], cd.clo tag cb⟩ =
      ⟨(q.wait (mkReq id tag pub topics cb)).map (proj cd k), pg⟩ :=
  register_map (proj cd k) (·.id) (fun _ => rfl) q pg (mkReq id tag pub topics cb)

theorem isIdAck_ne_zero {t : Nat} (h : Fifo.isIdAck t = true) : (t == 0) = false := by
  cases ht : t == 0
  · rfl
  · have : t = 0 := by simpa using ht
    subst this
    exact absurd h (by decide)

/-- of an acknowledgement the model keeps the type and, of a SUBACK, the return codes; `ackb` makes the bytes -/
theorem sim_ackId (q : Queue) (pg : List Fifo.Entry) (t id : Nat) (codes : List Nat)
    (ht : Fifo.isIdAck t = true) :
    Fifo.ackId ⟨q.map (proj cd k), pg⟩ t id (cd.ackb t id codes) =
      ⟨(q.ack t id codes).map (proj cd k), pg⟩ :=
  ackId_map (proj cd k) (·.id) (fun _ => rfl) _ t id _
    (fun e he => by simp only [proj, isIdAck_ne_zero ht, he]; rfl) q pg

theorem sim_collect (q : Queue) (pg : List Fifo.Entry) :
    Fifo.collect ⟨q.map (proj cd k), pg⟩ =
      (⟨q.acked.1.map (proj cd k), pg⟩, q.acked.2.map (proj cd k)) :=
  collect_map (proj cd k) _ q (fun e _ => (Mqtt.Proofs.AckQueue.facts_terminal e.state).symm) pg

theorem step_waitMsg (s : Fifo.S) (id : Nat) (bytes : List UInt8) (tag : Nat) :
    Fifo.step s (.wait (waitMsg k id bytes) tag) = (Fifo.register s ⟨k.mtype, 0, id, bytes, [], tag⟩, .ok true) := by
  cases k <;> rfl

theorem sim_step (q : Queue) (op : COp) (hop : okOp op = true) :
    Fifo.step ⟨q.map (proj cd k), []⟩ (toOp cd k op) =
      (⟨(cstep q op).1.map (proj cd k), []⟩, cout cd k (cstep q op).2 op) := by
  cases op with
  | wait id tag pub topics cb => rw [toOp, step_waitMsg, sim_register]; rfl
  | ack t id codes =>
    have ht : Fifo.isIdAck t = true := hop
    simp only [toOp, Fifo.step, ht, ↓reduceIte, cstep, cout]
    rw [sim_ackId cd k q [] t id codes ht]
  | acked =>
    simp only [toOp, Fifo.step, cstep, cout, Fifo.collectPings, List.dropWhile_nil, List.takeWhile_nil,
      List.nil_append]
    rw [sim_collect cd k q]

theorem sim_run (q : Queue) (ops : List COp) (hops : OkOps ops) :
    (Fifo.run ⟨q.map (proj cd k), []⟩ (ops.map (toOp cd k))).1 =
      ⟨(crun q ops).1.map (proj cd k), []⟩ ∧
    (Fifo.run ⟨q.map (proj cd k), []⟩ (ops.map (toOp cd k))).2 =
      (List.zip (crun q ops).2 ops).map (fun x => cout cd k x.1 x.2) :=
  have := fifo_run_sim cstep crun (fun _ => rfl) (fun _ _ _ => rfl) (fun q => ⟨q.map (proj cd k), []⟩) (toOp cd k)
    (cout cd k) (fun _ => True) okOp (fun q op _ h => ⟨trivial, sim_step cd k q op h⟩) q trivial ops hops
  ⟨this.1, this.2.1⟩

end sim

theorem crun_append (q : Queue) (a b : List COp) :
    (crun q (a ++ b)).1 = (crun (crun q a).1 b).1 ∧
    (crun q (a ++ b)).2 = (crun q a).2 ++ (crun (crun q a).1 b).2 := by
  induction a generalizing q with
  | nil => exact ⟨rfl, rfl⟩
  | cons op a ih =>
    obtain ⟨i1, i2⟩ := ih (cstep q op).1
    simp only [List.cons_append, crun, i1, i2, and_self]

inductive POp where
  | ping (tag : Nat)     -- `apiRegister (.ping tag)`: `Pingack.Wait(pingreq, onComplete)`
  | resp                 -- `pingAck`: `Pingack.Ack(pingresp)`
  | acked                -- `pingAcked`: `Pingack.Acked()`
deriving Repr

def pstep (l : List (Nat × Nat)) : POp → List (Nat × Nat) × List (Nat × Nat)
  | .ping tag => (l ++ [(0, tag)], [])
  | .resp => (pingAck l, [])
  | .acked => pingAcked l

def prun (l : List (Nat × Nat)) : List POp → List (Nat × Nat) × List (List (Nat × Nat))
  | [] => (l, [])
  | op :: ops =>
    let (l1, r) := pstep l op
    let (l2, rs) := prun l1 ops
    (l2, r :: rs)

/-- The FIFO entry a ping of the client model `(state, tag)` stands for: `preq` are the bytes of a
PINGREQ, `presp` those of a PINGRESP (neither has fields, so there is one byte string each); the
`OnComplete` value is the caller's callback itself (`ping` registers no closure). -/
def pproj (preq presp : List UInt8) (e : Nat × Nat) : Fifo.Entry :=
  ⟨Fifo.PINGREQ, e.1, 0, preq, if e.1 == Fifo.PINGRESP then presp else [], e.2⟩

def toPOp (preq presp : List UInt8) : POp → Op
  | .ping tag => .wait (.pingreq preq) tag
  | .resp => .ack Fifo.PINGRESP 0 presp
  | .acked => .acked

def pout (preq presp : List UInt8) (rel : List (Nat × Nat)) : POp → Fifo.SOut
  | .acked => .released (rel.map (pproj preq presp))
  | _ => .ok true

section psim
variable (preq presp : List UInt8)

/-- `pingAck` is `Fifo.answerPing`: the oldest ping without a PINGRESP takes it; with none
outstanding nothing changes -/
theorem sim_answerPing (l : List (Nat × Nat)) :
    Fifo.answerPing presp (l.map (pproj preq presp)) = (pingAck l).map (pproj preq presp) := by
  induction l with
  | nil => rfl
  | cons e l ih =>
    rw [List.map_cons, Fifo.answerPing, pingAck]
    show (if (e.1 == tPINGRESP) = true then _ else _) =
      List.map _ (if (!(e.1 == tPINGRESP)) = true then _ else _)
    cases e.1 == tPINGRESP
    · rfl
    · exact congrArg (_ :: ·) ih

/-- `pingAcked` is `Fifo.collectPings`: the leading pings that have their PINGRESP -/
theorem sim_collectPings (l : List (Nat × Nat)) :
    (l.map (pproj preq presp)).dropWhile (fun e => e.state == Fifo.PINGRESP) =
      (pingAcked l).1.map (pproj preq presp) ∧
    (l.map (pproj preq presp)).takeWhile (fun e => e.state == Fifo.PINGRESP) =
      (pingAcked l).2.map (pproj preq presp) := by
  rw [List.dropWhile_map, List.takeWhile_map]
  exact ⟨rfl, rfl⟩

theorem psim_step (l : List (Nat × Nat)) (op : POp) :
    Fifo.step ⟨[], l.map (pproj preq presp)⟩ (toPOp preq presp op) =
      (⟨[], (pstep l op).1.map (pproj preq presp)⟩, pout preq presp (pstep l op).2 op) := by
  cases op with
  | ping tag =>
    simp only [toPOp, Fifo.step, pstep, pout, List.map_append, List.map_cons, List.map_nil, pproj]
    rfl
  | resp =>
    have h1 : Fifo.isIdAck Fifo.PINGRESP = false := by decide
    simp only [toPOp, Fifo.step, h1, Bool.false_eq_true, ↓reduceIte, BEq.rfl, pstep, pout, sim_answerPing]
  | acked =>
    obtain ⟨h1, h2⟩ := sim_collectPings preq presp l
    simp only [toPOp, Fifo.step, pstep, pout, Fifo.collectPings, Fifo.collect, h1, h2, List.dropWhile_nil,
      List.takeWhile_nil, List.append_nil]

theorem psim_run (l : List (Nat × Nat)) (ops : List POp) :
    (Fifo.run ⟨[], l.map (pproj preq presp)⟩ (ops.map (toPOp preq presp))).1 =
      ⟨[], (prun l ops).1.map (pproj preq presp)⟩ ∧
    (Fifo.run ⟨[], l.map (pproj preq presp)⟩ (ops.map (toPOp preq presp))).2 =
      (List.zip (prun l ops).2 ops).map (fun x => pout preq presp x.1 x.2) :=
  have := fifo_run_sim pstep prun (fun _ => rfl) (fun _ _ _ => rfl) (fun l => ⟨[], l.map (pproj preq presp)⟩)
    (toPOp preq presp) (pout preq presp) (fun _ => True) (fun _ => true)
    (fun l op _ _ => ⟨trivial, psim_step preq presp l op⟩) l trivial ops (List.all_eq_true.mpr fun _ _ => rfl)
  ⟨this.1, this.2.1⟩

end psim

theorem prun_append (l : List (Nat × Nat)) (a b : List POp) :
    (prun l (a ++ b)).1 = (prun (prun l a).1 b).1 ∧
    (prun l (a ++ b)).2 = (prun l a).2 ++ (prun (prun l a).1 b).2 := by
  induction a generalizing l with
  | nil => exact ⟨rfl, rfl⟩
  | cons op a ih =>
    obtain ⟨i1, i2⟩ := ih (pstep l op).1
    simp only [List.cons_append, prun, i1, i2, and_self]

/-! ## which calls a client event makes on which queue

`peerOps k p`: the calls `processIncoming` makes on queue `k` for packet `p`; `regOps k call`: the
`Wait` that ends an API call (the call as it is after `apiWrite`: identifier assigned);
`evOps k c ev`: those of one event of the client model (nothing before `Connect` has succeeded),
`histOps`: along a history. -/

def peerOps : QKind → Packet → List COp
  | .pub2in, .publish pub => if pub.qos == 2 then [.wait pub.pktid 0 (some pub) [] 0] else []
  | .pub2in, .pubrel id => [.ack tPUBREL id [], .acked]
  | .pub1ack, .puback id => [.ack tPUBACK id [], .acked]
  | .pub2out, .pubrec id => [.ack tPUBREC id []]
  | .pub2out, .pubcomp id => [.ack tPUBCOMP id [], .acked]
  | .suback, .suback id codes => [.ack tSUBACK id codes, .acked]
  | .unsuback, .unsuback id => [.ack tUNSUBACK id [], .acked]
  | _, _ => []

def regOps : QKind → Api → List COp
  | .pub1ack, .publish p tag => if p.qos == 1 then [.wait p.pktid tag (some p) [] 0] else []
  | .pub2out, .publish p tag => if p.qos == 0 || p.qos == 1 then [] else [.wait p.pktid tag (some p) [] 0]
  | .suback, .subscribe id topics tag cb => [.wait id tag none topics cb]
  | .unsuback, .unsubscribe id topics tag => [.wait id tag none (topics.map (fun t => (t, 0))) 0]
  | _, _ => []

def evOps (k : QKind) (c : C) : Ev → List COp
  | .connect _ => []
  | .api call => if c.connected then regOps k (apiWrite c call).2.2 else []
  | .peer p => if c.connected then peerOps k p else []
  | .apiEarlyAck call ack => if c.connected then regOps k (apiWrite c call).2.2 ++ peerOps k ack else []

def histOps (k : QKind) (c : C) : List Ev → List COp
  | [] => []
  | ev :: evs => evOps k c ev ++ histOps k (step c ev).1 evs

/-- every call the client role makes on one of the five queues is answered by identifier, and passes
return codes with a SUBACK only (`tidyOp`) -/
theorem peerOps_ok (k : QKind) (p : Packet) : (peerOps k p).all okOp = true ∧ (peerOps k p).all tidyOp = true := by
  cases k <;> cases p <;> first | exact ⟨rfl, rfl⟩ | (simp only [peerOps]; split <;> exact ⟨rfl, rfl⟩)

theorem regOps_ok (k : QKind) (call : Api) : (regOps k call).all okOp = true ∧ (regOps k call).all tidyOp = true := by
  cases k <;> cases call <;> first | exact ⟨rfl, rfl⟩ | (simp only [regOps]; split <;> exact ⟨rfl, rfl⟩)

theorem evOps_all {f : COp → Bool} (hp : ∀ k p, (peerOps k p).all f = true)
    (hr : ∀ k call, (regOps k call).all f = true) (k : QKind) (c : C) (ev : Ev) :
    (evOps k c ev).all f = true := by
  cases ev <;> simp only [evOps] <;> (try split) <;> simp [hp, hr]

theorem histOps_all {f : COp → Bool} (hp : ∀ k p, (peerOps k p).all f = true)
    (hr : ∀ k call, (regOps k call).all f = true) (k : QKind) (c : C) (evs : List Ev) :
    (histOps k c evs).all f = true := by
  induction evs generalizing c with
  | nil => rfl
  | cons ev evs ih => rw [histOps, List.all_append, ih, evOps_all hp hr, Bool.and_true]

theorem evOps_ok (k : QKind) (c : C) (ev : Ev) : OkOps (evOps k c ev) ∧ TidyOps (evOps k c ev) :=
  ⟨evOps_all (fun k p => (peerOps_ok k p).1) (fun k call => (regOps_ok k call).1) k c ev,
   evOps_all (fun k p => (peerOps_ok k p).2) (fun k call => (regOps_ok k call).2) k c ev⟩

theorem histOps_ok (k : QKind) (c : C) (evs : List Ev) : OkOps (histOps k c evs) ∧ TidyOps (histOps k c evs) :=
  ⟨histOps_all (fun k p => (peerOps_ok k p).1) (fun k call => (regOps_ok k call).1) k c evs,
   histOps_all (fun k p => (peerOps_ok k p).2) (fun k call => (regOps_ok k call).2) k c evs⟩

/-! `Proofs/Client` speaks of the four sending queues (`Kind`, `queue`, `reqOf`, `peerReleased`), this
file of all five as lists of `Ackqueue` calls (`QKind`, `qof`, `regOps`, `peerOps`, `relOf`).  On the
four they agree: `qof_ofKind` for the queue, `peerReleased_eq_relOf` for what a packet releases;
`apiRegister_queue` and `apiRegister_qof` both say the registration is one `wait`.  The lemmas below
repeat `Frame.queue`, `apiWrite_queue`, `connect_queue` for `qof` because the inbound queue `pub2in`
is no `Kind`. -/

theorem frame_qof {c c' : C} (h : Frame c c') (k : QKind) : qof k c' = qof k c := by
  unfold Frame at h
  rw [h]; cases k <;> rfl

theorem apiWrite_qof (k : QKind) (c : C) (call : Api) : qof k (apiWrite c call).1 = qof k c := by
  rw [apiWrite_fst]; cases k <;> rfl

/-- the registration that ends an API call is one `Wait` on the queue of the request's kind
(QoS 0 and `ping` touch none of the five queues) -/
theorem apiRegister_qof (k : QKind) (c : C) (call : Api) :
    qof k (apiRegister c call).1 = (crun (qof k c) (regOps k call)).1 := by
  cases call with
  | publish p tag =>
    cases k <;> dsimp only [apiRegister, regOps] <;> generalize p.qos = q <;>
      match q with
      | 0 | 1 | q + 2 => rfl
  | _ => cases k <;> rfl

/-- what `processIncoming` does to queue `k` for one packet is `peerOps k p`: one `Wait` (inbound
QoS 2 PUBLISH), one `Ack` (PUBREC), or one `Ack` followed by `Acked` -/
theorem peer_qof (k : QKind) (c : C) (p : Packet) :
    qof k (peer c p).1 = (crun (qof k c) (peerOps k p)).1 := by
  cases p with
  | publish pub =>
    rw [peer_publish_fst]
    cases k with
    | pub2in =>
      show qof .pub2in (if pub.qos == 2 then _ else c) = (crun c.pub2in (if pub.qos == 2 then _ else [])).1
      cases pub.qos == 2 <;> rfl
    | _ => cases pub.qos == 2 <;> rfl
  | suback id codes => refine (frame_qof (subsDone_frame _ _) k).trans ?_; cases k <;> rfl
  | unsuback id => refine (frame_qof (unsubsDone_frame _ _) k).trans ?_; cases k <;> rfl
  | _ => cases k <;> rfl

theorem connect_qof (k : QKind) (c : C) (a : Answer) : qof k (connect c a).1 = qof k c := by
  rw [connect_fst]; cases k <;> rfl

theorem step_qof (k : QKind) (c : C) (ev : Ev) :
    qof k (step c ev).1 = (crun (qof k c) (evOps k c ev)).1 := by
  refine step_elim (motive := fun c ev r => qof k r.1 = (crun (qof k c) (evOps k c ev)).1)
    (fun c a => connect_qof k c a) (fun c ev hc _ => by cases ev <;> simp [evOps, hc, crun]) ?_ ?_ ?_ c ev
  · intro c call hc
    simp only [evOps, hc, ↓reduceIte, callOf, apiRegister_qof, apiWrite_qof]
  · intro c p hc
    simp only [evOps, hc, ↓reduceIte, peer_qof]
  · intro c call ack hc hc1 h1 h2
    simp only [evOps, hc, hc1, ↓reduceIte] at h1 h2 ⊢
    rw [(crun_append _ _ _).1, ← h1, h2]

theorem run_qof (k : QKind) (c : C) (evs : List Ev) :
    qof k (runState c evs) = (crun (qof k c) (histOps k c evs)).1 := by
  induction evs generalizing c with
  | nil => rfl
  | cons ev evs ih => rw [runState_cons, ih, step_qof, histOps, (crun_append _ _ _).1]

def regPOps : Api → List POp
  | .ping tag => [.ping tag]
  | _ => []

def peerPOps : Packet → List POp
  | .pingresp => [.resp, .acked]
  | _ => []

def evPOps (c : C) : Ev → List POp
  | .connect _ => []
  | .api call => if c.connected then regPOps call else []
  | .peer p => if c.connected then peerPOps p else []
  | .apiEarlyAck call ack => if c.connected then regPOps call ++ peerPOps ack else []

def histPOps (c : C) : List Ev → List POp
  | [] => []
  | ev :: evs => evPOps c ev ++ histPOps (step c ev).1 evs

theorem api_pings_ops (c : C) (call : Api) :
    (callOf c call).1.pings = (prun c.pings (regPOps call)).1 := by
  rw [api_pings]
  cases call with
  | ping tag => rfl
  | _ => exact List.append_nil _

theorem peer_pings_ops (c : C) (p : Packet) : (peer c p).1.pings = (prun c.pings (peerPOps p)).1 := by
  by_cases h : p = .pingresp
  · subst h; rfl
  · rw [peer_pings c p h]
    cases p with
    | pingresp => exact absurd rfl h
    | _ => rfl

theorem step_pings_ops (c : C) (ev : Ev) : (step c ev).1.pings = (prun c.pings (evPOps c ev)).1 := by
  refine step_elim (motive := fun c ev r => r.1.pings = (prun c.pings (evPOps c ev)).1)
    (fun c a => connect_pings c a) (fun c ev hc _ => by cases ev <;> simp [evPOps, hc, prun]) ?_ ?_ ?_ c ev
  · intro c call hc
    simp only [evPOps, hc, ↓reduceIte, api_pings_ops]
  · intro c p hc
    simp only [evPOps, hc, ↓reduceIte, peer_pings_ops]
  · intro c call ack hc hc1 h1 h2
    simp only [evPOps, hc, hc1, ↓reduceIte] at h1 h2 ⊢
    rw [(prun_append _ _ _).1, ← h1, h2]

theorem run_pings_ops (c : C) (evs : List Ev) :
    (runState c evs).pings = (prun c.pings (histPOps c evs)).1 := by
  induction evs generalizing c with
  | nil => rfl
  | cons ev evs ih =>
    rw [runState_cons, ih, step_pings_ops]
    simp only [histPOps, (prun_append _ _ _).1]

/-! ## what is handed back

The requests `processAcked` gets from `Acked()` while packet `p` is processed: the outputs of the
calls `peerOps k p` (only an `acked` call has any). -/

def relOf (k : QKind) (c : C) (p : Packet) : List Req := (crun (qof k c) (peerOps k p)).2.flatten

def pingRelOf (c : C) (p : Packet) : List (Nat × Nat) := (prun c.pings (peerPOps p)).2.flatten

/-- The two descriptions of what a packet releases from a sending queue agree.  Only the four
terminal acknowledgements have an `acked` call in `peerOps`; its one output is `q.acked.2 ++ []`. -/
theorem peerReleased_eq_relOf (k : Kind) (c : C) (p : Packet) :
    peerReleased k c p = relOf (ofKind k) c p := by
  cases p with
  | puback id | pubcomp id | suback id codes | unsuback id => cases k <;> exact (List.append_nil _).symm
  | _ => cases k <;> rfl

/-! ## back through the bytes

`processAcked` does not get the request and its acknowledgement, it gets `Msgbuf` and `Ackbuf` and
decodes them (`Mtype.New()`, `Decode`, `State.New()`, `Decode`); the completion wrapper of
`subscribe` reads the filters from the decoded SUBSCRIBE and the return codes from the decoded
SUBACK.  The client model keeps the decoded values.  `Decoding` names the decoders, `RoundTrip`
what is assumed of them - and nothing else is. -/

structure Decoding where
  dec   : List UInt8 → Nat × Option Pub × List (Bytes × Nat)   -- identifier, PUBLISH fields, filters of `Msgbuf`
  ackd  : List UInt8 → List Nat                                -- SUBACK return codes of `Ackbuf` (none for other types)
  unclo : Nat → Nat × Nat                                      -- the callbacks an `OnComplete` value was built from

/-- **The round-trip hypothesis.**  Decoding the bytes of a request gives back what was encoded;
decoding the bytes of a SUBACK gives back its return codes, an acknowledgement of another type has
none; an `OnComplete` value determines the callbacks it was made of.  (For `message.*.Encode` /
`Decode` this is C03's round trip, `C03.decode_encode`, stated there on the codec model's `Msg`,
not on the fields kept here: the tie between the two is by the correspondence runs only.) -/
structure RoundTrip (cd : Coding) (dc : Decoding) : Prop where
  req    : ∀ id pub topics, dc.dec (cd.enc id pub topics) = (id, pub, topics)
  suback : ∀ id codes, dc.ackd (cd.ackb tSUBACK id codes) = codes
  other  : ∀ t id, t ≠ tSUBACK → dc.ackd (cd.ackb t id []) = []
  clo    : ∀ tag cb, dc.unclo (cd.clo tag cb) = (tag, cb)

def unproj (dc : Decoding) (e : Fifo.Entry) : Req :=
  { id := e.id, state := e.state, tag := (dc.unclo e.tag).1, pub := (dc.dec e.req).2.1,
    topics := (dc.dec e.req).2.2, cb := (dc.unclo e.tag).2,
    codes := if e.state == 0 then [] else dc.ackd e.ack }

def Tidy (q : Queue) : Prop := ∀ r ∈ q, r.state ≠ tSUBACK → r.codes = []

theorem tidy_cstep {q : Queue} (h : Tidy q) (op : COp) (hop : tidyOp op = true) :
    Tidy (cstep q op).1 ∧ Tidy (cstep q op).2 := by
  cases op with
  | wait id tag pub topics cb =>
    refine ⟨?_, by intro r hr; cases hr⟩
    simp only [cstep, Queue.wait]
    split
    · exact h
    · intro r hr
      rcases List.mem_append.mp hr with h1 | h1
      · exact h r h1
      · simp only [List.mem_singleton] at h1; subst h1; intro _; rfl
  | ack t id codes =>
    refine ⟨?_, by intro r hr; cases hr⟩
    intro r hr
    simp only [cstep, Queue.ack] at hr
    obtain ⟨x, hx, hxr⟩ := List.mem_map.mp hr
    split at hxr
    · subst hxr
      intro hne
      simp only [tidyOp, Bool.or_eq_true, beq_iff_eq, List.isEmpty_iff] at hop
      rcases hop with h1 | h1
      · exact absurd h1 hne
      · exact h1
    · subst hxr; exact h x hx
  | acked =>
    have hc := acked_conservation q
    constructor
    · intro r hr
      exact h r (by rw [← hc]; exact List.mem_append_right _ hr)
    · intro r hr
      exact h r (by rw [← hc]; exact List.mem_append_left _ hr)

theorem tidy_crun {q : Queue} (h : Tidy q) (ops : List COp) (hops : TidyOps ops) :
    Tidy (crun q ops).1 ∧ ∀ l ∈ (crun q ops).2, Tidy l := by
  induction ops generalizing q with
  | nil => exact ⟨h, by intro l hl; cases hl⟩
  | cons op ops ih =>
    unfold TidyOps at hops
    rw [List.all_cons, Bool.and_eq_true] at hops
    obtain ⟨s1, s2⟩ := tidy_cstep h op hops.1
    obtain ⟨i1, i2⟩ := ih s1 hops.2
    refine ⟨i1, ?_⟩
    intro l hl
    simp only [crun, List.mem_cons] at hl
    rcases hl with rfl | hl
    · exact s2
    · exact i2 l hl

theorem unproj_proj {cd : Coding} {dc : Decoding} (rt : RoundTrip cd dc) (k : QKind) (r : Req)
    (hr : r.state ≠ tSUBACK → r.codes = []) : unproj dc (proj cd k r) = r := by
  obtain ⟨id, state, tag, pub, topics, cb, codes⟩ := r
  simp only [unproj, proj, rt.req, rt.clo, Req.mk.injEq, true_and]
  by_cases h0 : state = 0
  · subst h0
    exact (hr (show (0 : Nat) ≠ 9 by decide)).symm
  · have h0' : (state == 0) = false := by simpa using h0
    simp only [h0', Bool.false_eq_true, ↓reduceIte]
    by_cases h9 : state = tSUBACK
    · subst h9; exact rt.suback id codes
    · have hc : codes = [] := hr h9
      subst hc
      exact rt.other state id h9

theorem map_unproj_proj {cd : Coding} {dc : Decoding} (rt : RoundTrip cd dc) (k : QKind) (l : List Req)
    (hl : Tidy l) : (l.map (proj cd k)).map (unproj dc) = l := by
  induction l with
  | nil => rfl
  | cons r l ih =>
    simp only [List.map_cons, unproj_proj rt k r (hl r List.mem_cons_self),
      ih (fun x hx => hl x (List.mem_cons_of_mem _ hx))]

end Mqtt.Proofs.ClientQueues
