/-
Core F — `stop()` (`InvK`).  One winner of the CAS, how far it got
(what is closed once its program counter has passed the statement), effects exactly once and in order.
-/
import Mqtt.Proofs.LifecycleInv

namespace Mqtt.Proofs.Lifecycle
open Mqtt.Model.Lifecycle

/-- statements of `stop()` executed (100 = returned).  The numbers 1 … 9 here and below are positions in `stopProgram`
(6 = `Wait`, 7 … 9 the effects); `.run 5` is a caller waiting in `Wait` -/
def stage : KPc → Nat
  | .idle => 0
  | .run i => i
  | .finished => 100

def kOf (s : St) : Tid → Option KPc
  | .proc => match s.proc with
    | .stop k => some k
    | _ => none
  | .k i => s.ks[i]?
  | _ => none

def effAt (sh : Sh) (n : Nat) : List Eff :=
  (if 7 ≤ n then [.unsub] else []) ++ (if 8 ≤ n ∧ sh.willFlag = true then [.will] else []) ++
  (if 9 ≤ n ∧ sh.clean = true then [.sessDel] else [])

structure KInvN (sh : Sh) (me : Tid) (n : Nat) : Prop where
  prog : 1 ≤ n → n < 100 → sh.winner = some me
  won : sh.winner = some me →
    1 ≤ n ∧ (2 ≤ n → sh.doneCh = true) ∧ (3 ≤ n → sh.sock = .closed) ∧ (4 ≤ n → sh.inR.done = true) ∧
    (5 ≤ n → sh.outR.done = true) ∧ (6 ≤ n → sh.wg = 0) ∧ sh.effects = effAt sh n
  fin : n = 100 → sh.closed = true
  bound : n ≤ 9 ∨ n = 100

/-- nobody has won the CAS (`opn`) or the winner is a caller (`cls`); `pidle`: `PPc.stop` carries a `KPc`, whose `.idle` is
for external callers only -/
structure InvK (s : St) : Prop where
  opn : s.sh.closed = false → s.sh.winner = none ∧ s.sh.effects = []
  cls : s.sh.closed = true → ∃ t k, s.sh.winner = some t ∧ kOf s t = some k
  nil : s.sh.ringsNil = false
  ks : ∀ t k, kOf s t = some k → KInvN s.sh t (stage k)
  runs : ∀ t i, kOf s t = some (.run i) → i ≤ 9
  pidle : kOf s .proc ≠ some .idle

theorem invK_init (c : Cfg) (s : St) (h : Init c s) : InvK s := by
  have hidle : ∀ t k, kOf s t = some k → k = .idle := by
    intro t k hk
    cases t <;> simp [kOf, h.proc] at hk
    exact h.ks k (List.mem_iff_getElem?.mpr ⟨_, hk⟩)
  refine ⟨fun _ => ⟨h.winner, h.effects⟩, ?_, h.ringsNil, ?_, ?_, ?_⟩
  rotate_left 2
  · intro t i hk; have := hidle t _ hk; cases this
  · simp [kOf, h.proc]
  · intro hc; rw [h.closed] at hc; cases hc
  · intro t k hk
    rw [hidle t k hk]
    exact ⟨nofun, fun hw => (by rw [h.winner] at hw; cases hw), nofun, .inl (Nat.zero_le _)⟩

theorem effAt_early (sh : Sh) {n : Nat} (h : n < 7) : effAt sh n = [] := by
  have h7 : ¬ 7 ≤ n := Nat.not_le_of_lt h
  have h8 : ¬ 8 ≤ n := fun h' => h7 (Nat.le_of_succ_le h')
  have h9 : ¬ 9 ≤ n := fun h' => h8 (Nat.le_of_succ_le h')
  simp only [effAt, h7, h8, h9, false_and, if_false, List.append_nil]

theorem kinvN_frame (sh sh' : Sh) (hf : FrameK sh sh') (me : Tid) (n : Nat) (h : KInvN sh me n) :
    KInvN sh' me n := by
  refine ⟨fun h1 h2 => hf.winner ▸ h.prog h1 h2, fun hw => ?_, fun hn => hf.closed ▸ h.fin hn, h.bound⟩
  obtain ⟨a, b, c, d, e, f, g⟩ := h.won (hf.winner ▸ hw)
  refine ⟨a, fun x => hf.doneCh (b x), fun x => hf.sock (c x), fun x => hf.inDone (d x),
    fun x => hf.outDone (e x), fun x => hf.wg (f x), ?_⟩
  rw [hf.effects, g]
  rcases hf.willFlag with hwf | hwg
  · simp only [effAt, hwf, hf.clean]
  · -- the will flag may change only before `Wait` has returned, when no effect depends on it yet
    have hn : n < 7 := Nat.lt_succ_of_lt (Nat.lt_of_not_le fun h6 => hwg (f h6))
    rw [effAt_early _ hn, effAt_early _ hn]

theorem invK_winner_closed (s : St) (hi : InvK s) (t : Tid) (h : s.sh.winner = some t) : s.sh.closed = true := by
  cases hc : s.sh.closed with
  | true => rfl
  | false => have := (hi.opn hc).1; rw [this] at h; cases h

theorem invK_frame (s s' : St) (hf : FrameK s.sh s'.sh)
    (hk : ∀ t, kOf s' t = kOf s t ∨ (kOf s' t = some (.run 0) ∧ (kOf s t = none ∨ kOf s t = some .idle)))
    (hi : InvK s) : InvK s' := by
  refine ⟨fun hc => ?_, fun hc => ?_, hf.nil ▸ hi.nil, fun t k' hk' => ?_, fun t i hk' => ?_, fun hk' => ?_⟩
  · rw [hf.winner, hf.effects]; exact hi.opn (hf.closed ▸ hc)
  · obtain ⟨t, k, h1, h2⟩ := hi.cls (hf.closed ▸ hc)
    rcases hk t with h | ⟨h, _⟩
    · exact ⟨t, k, hf.winner ▸ h1, h ▸ h2⟩
    · exact ⟨t, _, hf.winner ▸ h1, h⟩
  · rcases hk t with h | ⟨h, h1⟩
    · exact kinvN_frame _ _ hf t _ (hi.ks t k' (h ▸ hk'))
    · rw [h] at hk'; cases hk'
      rcases h1 with h1 | h1
      · refine ⟨nofun, fun hw => ?_, nofun, .inl (Nat.zero_le _)⟩
        -- the winner is a thread inside stop(); this one was not
        rw [hf.winner] at hw
        obtain ⟨t', k, h3, h4⟩ := hi.cls (invK_winner_closed s hi t hw)
        rw [hw] at h3; cases h3
        rw [h1] at h4; cases h4
      · exact kinvN_frame _ _ hf t _ (hi.ks t .idle h1)
  · rcases hk t with h | ⟨h, _⟩
    · exact hi.runs t i (h ▸ hk')
    · rw [h] at hk'; cases hk'; exact Nat.zero_le _
  · rcases hk .proc with h | ⟨h, _⟩
    · exact hi.pidle (h ▸ hk')
    · rw [h] at hk'; cases hk'

/-- the conclusion of `KInvN.won` -/
def Won (sh : Sh) (n : Nat) : Prop :=
  1 ≤ n ∧ (2 ≤ n → sh.doneCh = true) ∧ (3 ≤ n → sh.sock = .closed) ∧ (4 ≤ n → sh.inR.done = true) ∧
  (5 ≤ n → sh.outR.done = true) ∧ (6 ≤ n → sh.wg = 0) ∧ sh.effects = effAt sh n

theorem Won.pos {sh : Sh} {n : Nat} (w : Won sh n) : 1 ≤ n := w.1
theorem Won.sock {sh : Sh} {n : Nat} (w : Won sh n) : 3 ≤ n → sh.sock = .closed := w.2.2.1
theorem Won.inDone {sh : Sh} {n : Nat} (w : Won sh n) : 4 ≤ n → sh.inR.done = true := w.2.2.2.1
theorem Won.outDone {sh : Sh} {n : Nat} (w : Won sh n) : 5 ≤ n → sh.outR.done = true := w.2.2.2.2.1
theorem Won.wg {sh : Sh} {n : Nat} (w : Won sh n) : 6 ≤ n → sh.wg = 0 := w.2.2.2.2.2.1
theorem Won.effects {sh : Sh} {n : Nat} (w : Won sh n) : sh.effects = effAt sh n := w.2.2.2.2.2.2

/-- once the CAS is won the shared state is what the winner's program counter says -/
theorem InvK.winner {s : St} (hi : InvK s) (hc : s.sh.closed = true) :
    ∃ t k, s.sh.winner = some t ∧ kOf s t = some k ∧ Won s.sh (stage k) := by
  obtain ⟨t, k, hwin, hk⟩ := hi.cls hc
  exact ⟨t, k, hwin, hk, (hi.ks t k hk).won hwin⟩

/-- past `Wait` the remaining statements only add effects -/
theorem Won.late {sh sh' : Sh} {n m : Nat} (w : Won sh n) (h6 : 6 ≤ n) (hm : 1 ≤ m) (hd : sh'.doneCh = sh.doneCh)
    (hs : sh'.sock = sh.sock) (hi : sh'.inR = sh.inR) (ho : sh'.outR = sh.outR) (hg : sh'.wg = sh.wg)
    (he : sh'.effects = effAt sh' m) : Won sh' m := by
  obtain ⟨-, w2, w3, w4, w5, w6, -⟩ := w
  have le6 : ∀ {j}, j ≤ 6 → j ≤ n := fun hj => Nat.le_trans hj h6
  exact ⟨hm, fun _ => hd ▸ w2 (le6 (by decide)), fun _ => hs ▸ w3 (le6 (by decide)), fun _ => hi ▸ w4 (le6 (by decide)),
    fun _ => ho ▸ w5 (le6 (by decide)), fun _ => hg ▸ w6 h6, he⟩

/-- a statement after the CAS: the winner's next stage -/
theorem KStep.won {c : Cfg} {sh sh' : Sh} {me : Tid} {k k' : KPc} (h : KStep c sh me k sh' k') (w : Won sh (stage k))
    (h9 : ∀ i, k = .run i → i ≤ 9) : Won sh' (stage k') ∧ sh'.winner = sh.winner ∧ sh'.closed = sh.closed := by
  obtain ⟨w1, w2, w3, w4, w5, w6, w7⟩ := id w
  have no : ∀ {P : Prop} {a b : Nat}, a ≤ b → b < a → P := fun h h' => absurd h (Nat.not_le_of_gt h')
  cases h with
  | casLost => cases w1
  | casWon => cases w1
  | closeDone =>
    exact ⟨⟨by decide, fun _ => rfl, (no · (by decide)), (no · (by decide)), (no · (by decide)), (no · (by decide)),
      w7⟩, rfl, rfl⟩
  | connClose =>
    exact ⟨⟨by decide, fun _ => w2 (by decide), fun _ => rfl, (no · (by decide)), (no · (by decide)), (no · (by decide)),
      w7⟩, rfl, rfl⟩
  | inClose =>
    exact ⟨⟨by decide, fun _ => w2 (by decide), fun _ => w3 (by decide), fun _ => rfl, (no · (by decide)),
      (no · (by decide)), w7⟩, rfl, rfl⟩
  | outClose =>
    exact ⟨⟨by decide, fun _ => w2 (by decide), fun _ => w3 (by decide), fun _ => w4 (by decide), fun _ => rfl,
      (no · (by decide)), w7⟩, rfl, rfl⟩
  | wgWait h =>
    exact ⟨⟨by decide, fun _ => w2 (by decide), fun _ => w3 (by decide), fun _ => w4 (by decide), fun _ => w5 (by decide),
      fun _ => h, w7⟩, rfl, rfl⟩
  | unsub =>
    exact ⟨w.late (by decide) (by decide) rfl rfl rfl rfl rfl (by simp [effAt, stage] at w7 ⊢; simp [w7]), rfl, rfl⟩
  | will h | noWill h | sessDel h | noSessDel h =>
    exact ⟨w.late (by decide) (by decide) rfl rfl rfl rfl rfl (by simp [effAt, stage, h] at w7 ⊢; simp [w7]), rfl, rfl⟩
  | ret i hi =>
    cases Nat.le_antisymm (h9 i rfl) hi
    exact ⟨w.late (by decide) (by decide) rfl rfl rfl rfl rfl (by simp [effAt, stage] at w7 ⊢; simp [w7]), rfl, rfl⟩

theorem KStep.run_le {c : Cfg} {sh sh' : Sh} {me : Tid} {k k' : KPc} (h : KStep c sh me k sh' k') (j : Nat)
    (e : k' = .run j) : j ≤ 9 := by
  cases h <;> cases e <;> decide

theorem KStep.invK {c : Cfg} {s s' : St} {me : Tid} {k k' : KPc} {sh' : Sh} (h : KStep c s.sh me k sh' k')
    (hsh : s'.sh = sh') (hk : kOf s me = some k) (hk' : kOf s' me = some k')
    (hoth : ∀ t, t ≠ me → kOf s' t = kOf s t) (hi : InvK s) : InvK s' := by
  have hme := hi.ks me k hk
  have pidle : k' ≠ .idle → kOf s' .proc ≠ some .idle := fun hne hp => by
    by_cases htm : Tid.proc = me
    · subst htm; rw [hk'] at hp; cases hp; exact hne rfl
    · rw [hoth .proc htm] at hp; exact hi.pidle hp
  have runs : (∀ j, k' = .run j → j ≤ 9) → ∀ t j, kOf s' t = some (.run j) → j ≤ 9 := fun hr t j hkj => by
    by_cases htm : t = me
    · subst htm; rw [hk'] at hkj; cases hkj; exact hr j rfl
    · rw [hoth t htm] at hkj; exact hi.runs t j hkj
  cases k with
  | idle => cases h
  | finished => cases h
  | run i =>
    have h9 := hi.runs me i hk
    rcases i with _ | i
    · cases h with
      | ret _ h => cases h
      | casLost hc =>
        have hne : s.sh.winner ≠ some me := fun hwm => by have := (hme.won hwm).1; cases this
        refine ⟨?_, fun _ => ?_, ?_, fun t kk hkk => ?_, runs nofun, pidle nofun⟩ <;> rw [hsh]
        · exact hi.opn
        · obtain ⟨t, kk, h1, h2⟩ := hi.cls hc
          exact ⟨t, kk, h1, by rw [hoth t (fun e => hne (e ▸ h1))]; exact h2⟩
        · exact hi.nil
        · by_cases htm : t = me
          · subst htm; rw [hk'] at hkk; cases hkk
            exact ⟨nofun, fun hwm => absurd hwm hne, fun _ => hc, .inr rfl⟩
          · exact hi.ks t kk (hoth t htm ▸ hkk)
      | casWon hc =>
        obtain ⟨hwn, heff⟩ := hi.opn hc
        refine ⟨?_, fun _ => ?_, ?_, fun t kk hkk => ?_, runs (fun j hj => by cases hj; decide), pidle nofun⟩ <;> rw [hsh]
        · nofun
        · exact ⟨me, _, rfl, hk'⟩
        · exact hi.nil
        · by_cases htm : t = me
          · subst htm; rw [hk'] at hkk; cases hkk
            exact ⟨fun _ _ => rfl, fun _ => by simp [stage, heff, effAt], nofun, .inl (by decide)⟩
          · have old := hi.ks t kk (hoth t htm ▸ hkk)
            refine ⟨fun h1 h2 => ?_, fun hwm => absurd (Option.some.inj hwm).symm htm, fun _ => rfl, old.bound⟩
            have := old.prog h1 h2; rw [hwn] at this; cases this
    · -- after the CAS `me` is the winner, and nothing changes for the other callers
      have hwin : s.sh.winner = some me := hme.prog (Nat.succ_pos i) (by simp only [stage]; omega)
      have hcl := invK_winner_closed s hi me hwin
      obtain ⟨won', hw', hc'⟩ := h.won (hme.won hwin) (fun j hj => by cases hj; exact h9)
      rw [← hsh] at won' hw' hc'
      refine ⟨fun hc => ?_, fun _ => ⟨me, _, hw' ▸ hwin, hk'⟩, ?_, fun t kk hkk => ?_, runs h.run_le, pidle h.frameE.2⟩
      · rw [hc', hcl] at hc; cases hc
      · rw [hsh, h.frame.nil]; exact hi.nil
      · by_cases htm : t = me
        · subst htm; rw [hk'] at hkk; cases hkk
          refine ⟨fun _ _ => hw'.trans hwin, fun _ => won', fun _ => hc'.trans hcl, ?_⟩
          cases k' with
          | run j => exact .inl (h.run_le j rfl)
          | idle => exact .inl (by decide)
          | finished => exact .inr rfl
        · have old := hi.ks t kk (hoth t htm ▸ hkk)
          refine ⟨fun h1 h2 => ?_, fun hw => ?_, fun hn => hc' ▸ old.fin hn, old.bound⟩
          · have := old.prog h1 h2; rw [hwin] at this; exact absurd (Option.some.inj this).symm htm
          · rw [hw', hwin] at hw; exact absurd (Option.some.inj hw).symm htm

theorem kOf_proc {s : St} {k : KPc} (h : kOf s .proc = some k) : s.proc = .stop k := by
  simp only [kOf] at h
  split at h
  next k' hk' => cases h; exact hk'
  next => cases h

theorem kOf_ks_set (s : St) (sh' : Sh) (i : Nat) (k k' : KPc) (hk : s.ks[i]? = some k) :
    kOf s (.k i) = some k ∧ kOf { s with sh := sh', ks := s.ks.set i k' } (.k i) = some k' ∧
    ∀ t, t ≠ .k i → kOf { s with sh := sh', ks := s.ks.set i k' } t = kOf s t := by
  have hlt : i < s.ks.length := (List.getElem?_eq_some_iff.mp hk).1
  refine ⟨hk, by simp only [kOf, List.getElem?_set_self hlt], fun t ht => ?_⟩
  cases t with
  | k j => simp only [kOf, List.getElem?_set_ne (fun e => ht (congrArg Tid.k e.symm))]
  | _ => rfl

/-- the wait-group accounting of `InvA` is what keeps a DISCONNECT from changing the will flag under a `stop()` past its `Wait` -/
theorem TStep.invK {c : Cfg} {s s' : St} {t : Tid} {k : Nat} (hA : InvA c s) (hi : InvK s) (h : TStep c s t k s') :
    InvK s' := by
  cases h with
  | recv hpc h => exact invK_frame s _ h.frameK (fun t => .inl (by cases t <;> rfl)) hi
  | send hpc h => exact invK_frame s _ h.frameK (fun t => .inl (by cases t <;> rfl)) hi
  | w hpc h => exact invK_frame s _ h.frameK (fun t => .inl (by cases t <;> rfl)) hi
  | k hpc h =>
    obtain ⟨h1, h2, h3⟩ := kOf_ks_set s _ _ _ _ hpc
    exact h.invK rfl h1 h2 h3 hi
  | @proc _ pc pc' sh' hpc h =>
    cases hp : PPc.past pc with
    | true =>
      cases h with
      | stop k k' sh' h =>
        exact h.invK rfl (by simp only [kOf, hpc]) rfl (fun t ht => by cases t <;> first | rfl | exact absurd rfl ht) hi
      | _ => cases hp
    | false =>
      have hwg : s.sh.wg ≠ 0 := hA.wg_ne_zero (hpc ▸ hp)
      have hk0 : kOf s .proc = none := by
        cases hk : kOf s .proc with
        | none => rfl
        | some k => rw [hpc.symm.trans (kOf_proc hk)] at hp; cases hp
      refine invK_frame s _ (h.frameK hp hwg) (fun t => ?_) hi
      cases t with
      | proc =>
        -- only `wgDone` makes the processor a caller of stop(), at its first statement
        rcases h.frameA.2 with ⟨rfl, -, -⟩ | ⟨-, hp'⟩
        · cases h; exact .inr ⟨rfl, .inl hk0⟩
        · rw [hp] at hp'
          exact .inl (by rw [hk0]; cases pc' <;> first | rfl | cases hp')
      | _ => exact .inl rfl

theorem EStep.invK {c : Cfg} {s s' : St} {e : Env} (hi : InvK s) (h : EStep c s e s') : InvK s' := by
  cases h with
  | serverClose i h =>
    obtain ⟨h1, h2, h3⟩ := kOf_ks_set s s.sh i _ (.run 0) h
    refine invK_frame s _ .of (fun t => ?_) hi
    by_cases ht : t = .k i
    · subst ht; exact .inr ⟨h2, .inr h1⟩
    · exact .inl (h3 t ht)
  | peerClose h =>
    refine invK_frame s _ (.of (sock := fun hc => ?_)) (fun t => .inl (by cases t <;> rfl)) hi
    rcases h with h | h <;> rw [h] at hc <;> cases hc
  | peerShut h =>
    refine invK_frame s _ (.of (sock := fun hc => ?_)) (fun t => .inl (by cases t <;> rfl)) hi
    rw [h] at hc; cases hc
  | preClose => exact invK_frame s _ (.of (outDone := fun _ => rfl)) (fun t => .inl (by cases t <;> rfl)) hi
  | _ => exact invK_frame s _ .of (fun t => .inl (by cases t <;> rfl)) hi

end Mqtt.Proofs.Lifecycle
