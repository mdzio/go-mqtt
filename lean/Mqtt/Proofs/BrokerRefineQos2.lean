/-
Refinement step: the inbound QoS 2 exchange - PUBLISH with QoS 2 (registered,
PUBREC) and PUBREL (hand-over of the released messages in order of opening,
PUBCOMP).
-/
import Mqtt.Proofs.BrokerRefineUpdate

namespace Mqtt.Proofs.BrokerRefine
open Mqtt.Iface.Broker Mqtt.Model.Broker
open Mqtt.Proofs.BrokerQos (toOpen2 specReleaseAll)

theorem spec_setConn_frame (s : Spec.Broker.S) (k : Spec.Broker.Conn) :
    (Spec.Broker.setConn s k).held = s.held ∧ (Spec.Broker.setConn s k).rets = s.rets ∧
    (Spec.Broker.setConn s k).stored = s.stored :=
  ⟨rfl, rfl, rfl⟩

theorem R_setQueue {b : B} {s : Spec.Broker.S} (h : R b s) {c : Nat} {cn : Conn} {σ : Sess} {k : Spec.Broker.Conn}
    (hc : b.getConn c = some cn) (ha : cn.alive = true) (hs : b.getSess cn.sess = some σ)
    (hk : Spec.Broker.getConn s c = some k) (hrel : LiveRel b s c σ k) (q : List QEntry)
    (hq : Mqtt.Proofs.BrokerQos.QInv q) (hqok : ∀ e ∈ q, pubOk e.msg = true) :
    R (b.setSess { σ with pub2in := q }) (Spec.Broker.setConn s { k with open2 := toOpen2 q }) := by
  have hl := liveSess_eq hc ha hs
  have hσ := liveSess_ref hl
  refine R_update (σ' := { σ with pub2in := q }) (k' := { k with open2 := toOpen2 q }) h hl
    ⟨Mqtt.Proofs.Broker.Inv_setSess b _ h.inv, Mqtt.Proofs.BrokerLife.linv_setSess h.linv hσ rfl rfl (h.linv.wills _ σ hσ),
     Mqtt.Proofs.BrokerQos.BInv.setSess h.qinv (s := σ) hσ hq⟩
    (hc := rfl) (hst := rfl) (hs := rfl) (href := rfl) (hcid := rfl) (hrr := rfl)
    (hheld := h.held) (hat := .refl c s.held) (hrets := rfl) (hstored := rfl)
    (hnd := spec_setConn_nodup s _ h.sconns)
    (hgc := spec_getConn_setConn_if s _ c (show k.id = c from Mqtt.Proofs.BrokerQos.spec_getConn_id hk))
    (hrel := ?_)
  exact { hrel with open2 := rfl, q2ok := hqok }

theorem mem_q2Wait {q : List QEntry} {p : Pub} {e : QEntry} (h : e ∈ q2Wait q p) : e ∈ q ∨ e.msg = p := by
  unfold q2Wait at h
  split at h
  · exact .inl h
  · rcases List.mem_append.mp h with h | h
    · exact .inl h
    · simp only [List.mem_singleton] at h; subst h; exact .inr rfl

theorem mem_q2Ack {q : List QEntry} {id : Nat} {e : QEntry} (h : e ∈ q2Ack q id) : ∃ e0 ∈ q, e.msg = e0.msg := by
  unfold q2Ack at h
  obtain ⟨e0, he0, rfl⟩ := List.mem_map.mp h
  exact ⟨e0, he0, by split <;> rfl⟩

theorem mem_q2Acked {q : List QEntry} {e : QEntry} (h : e ∈ (q2Acked q).1 ∨ e ∈ (q2Acked q).2) : e ∈ q := by
  unfold q2Acked at h
  rcases h with h | h
  · exact (List.dropWhile_sublist _).subset h
  · exact (List.takeWhile_sublist _).subset h

theorem step_publish2 {b : B} {s : Spec.Broker.S} (h : R b s) (c : Nat) (hl : b.alive c = true) (p : Pub)
    (hp : pubOk p = true) (hq : p.qos = 2) :
    Refines b s (.packet c (.publish p)) := by
  unfold Refines
  obtain ⟨cn, σ, k, hc, ha, hs, hk, hrel⟩ := h.liveConn hl
  have hm : step b (.packet c (.publish p)) =
      (b.setSess { σ with pub2in := q2Wait σ.pub2in p }, [.send c (.pubrec p.pktid)]) :=
    Mqtt.Proofs.BrokerQos.packet_publish2 hc ha hs p hq
  have hsp : Spec.Broker.step1 s (.packet c (.publish p)) =
      (Spec.Broker.setConn s { k with open2 := toOpen2 (q2Wait σ.pub2in p) }, [.send c (.pubrec p.pktid)]) := by
    simp only [Spec.Broker.step1, hk, hq]
    rw [hrel.open2, Mqtt.Proofs.BrokerQos.open2_wait]
    rfl
  rw [hm, hsp]
  refine ⟨R_setQueue h hc ha hs hk hrel _ (Mqtt.Proofs.BrokerQos.qInv_wait (h.queue hs) p) ?_,
    accepts_lits (.cons (.send c _ rfl) .nil)⟩
  intro e he
  rcases mem_q2Wait he with h1 | h1
  · exact hrel.q2ok e h1
  · rw [h1]; exact hp

theorem R_releaseAll (rel : List QEntry) : ∀ {b : B} {s : Spec.Broker.S}, R b s → (∀ e ∈ rel, pubOk e.msg = true) →
    R (releaseAll b rel).1 (specReleaseAll s (rel.map (·.msg))).1 ∧
    Fan (specReleaseAll s (rel.map (·.msg))).2 (releaseAll b rel).2 := by
  induction rel with
  | nil => intro b s h _; exact ⟨h, Fan.nil⟩
  | cons e rest ih =>
    intro b s h hok
    obtain ⟨hg, hn, hq2, _⟩ := pubOk_iff e.msg (hok e (List.mem_cons_self ..))
    obtain ⟨r1, r2, _⟩ := R_onPublish h ⟨e.msg, false⟩ hg hn hq2 (pubOk_ready _ (hok e (List.mem_cons_self ..)))
    obtain ⟨q1, q2⟩ := ih r1 (fun e' he' => hok e' (List.mem_cons_of_mem _ he'))
    have hm : releaseAll b (e :: rest) =
        ((releaseAll (onPublish b ⟨e.msg, false⟩).1 rest).1,
         (onPublish b ⟨e.msg, false⟩).2.2.1 ++ (releaseAll (onPublish b ⟨e.msg, false⟩).1 rest).2) := rfl
    have hsp : specReleaseAll s ((e :: rest).map (·.msg)) =
        ((specReleaseAll (Spec.Broker.accept s e.msg).1 (rest.map (·.msg))).1,
         (Spec.Broker.accept s e.msg).2 ++ (specReleaseAll (Spec.Broker.accept s e.msg).1 (rest.map (·.msg))).2) := rfl
    rw [hm, hsp]
    exact ⟨q1, r2.append q2⟩

theorem spec_pubrel_eq (s : Spec.Broker.S) (c : Nat) (k : Spec.Broker.Conn) (q : List QEntry) (id : Nat)
    (hk : Spec.Broker.getConn s c = some k) (ho : k.open2 = toOpen2 q) :
    Spec.Broker.step1 s (.packet c (.pubrel id)) =
      ((specReleaseAll (Spec.Broker.setConn s { k with open2 := toOpen2 (q2Acked (q2Ack q id)).1 })
          ((q2Acked (q2Ack q id)).2.map (·.msg))).1,
       (specReleaseAll (Spec.Broker.setConn s { k with open2 := toOpen2 (q2Acked (q2Ack q id)).1 })
          ((q2Acked (q2Ack q id)).2.map (·.msg))).2 ++ [.send c (.pubcomp id)]) := by
  simp only [Spec.Broker.step1, hk]
  rw [ho, Mqtt.Proofs.BrokerQos.open2_mark, (Mqtt.Proofs.BrokerQos.open2_release _).1,
    (Mqtt.Proofs.BrokerQos.open2_release _).2, Mqtt.Proofs.BrokerQos.spec_foldl_release,
    Mqtt.Proofs.BrokerQos.toOpen2_msgs]
  simp

theorem R_pubrel {b : B} {s : Spec.Broker.S} (h : R b s) {c : Nat} {cn : Conn} {σ : Sess} {k : Spec.Broker.Conn}
    (hc : b.getConn c = some cn) (ha : cn.alive = true) (hs : b.getSess cn.sess = some σ)
    (hk : Spec.Broker.getConn s c = some k) (hrel : LiveRel b s c σ k) (id : Nat) :
    R (releaseAll (b.setSess { σ with pub2in := (q2Acked (q2Ack σ.pub2in id)).1 }) (q2Acked (q2Ack σ.pub2in id)).2).1
      (specReleaseAll (Spec.Broker.setConn s { k with open2 := toOpen2 (q2Acked (q2Ack σ.pub2in id)).1 })
        ((q2Acked (q2Ack σ.pub2in id)).2.map (·.msg))).1 ∧
    Fan (specReleaseAll (Spec.Broker.setConn s { k with open2 := toOpen2 (q2Acked (q2Ack σ.pub2in id)).1 })
        ((q2Acked (q2Ack σ.pub2in id)).2.map (·.msg))).2
      (releaseAll (b.setSess { σ with pub2in := (q2Acked (q2Ack σ.pub2in id)).1 }) (q2Acked (q2Ack σ.pub2in id)).2).2 := by
  have hmsg : ∀ e, e ∈ (q2Acked (q2Ack σ.pub2in id)).1 ∨ e ∈ (q2Acked (q2Ack σ.pub2in id)).2 → pubOk e.msg = true := by
    intro e he
    obtain ⟨e0, he0, hmm⟩ := mem_q2Ack (mem_q2Acked he)
    rw [hmm]; exact hrel.q2ok e0 he0
  exact R_releaseAll _ (R_setQueue h hc ha hs hk hrel _ (Mqtt.Proofs.BrokerQos.qInv_pubrel (h.queue hs) id)
    (fun e he => hmsg e (.inl he))) (fun e he => hmsg e (.inr he))

theorem step_pubrel {b : B} {s : Spec.Broker.S} (h : R b s) (c : Nat) (hl : b.alive c = true) (id : Nat) :
    Refines b s (.packet c (.pubrel id)) := by
  unfold Refines
  obtain ⟨cn, σ, k, hc, ha, hs, hk, hrel⟩ := h.liveConn hl
  have hm : step b (.packet c (.pubrel id)) = _ := Mqtt.Proofs.BrokerQos.packet_pubrel hc ha hs id
  rw [hm, spec_pubrel_eq s c k σ.pub2in id hk hrel.open2]
  obtain ⟨r1, r2⟩ := R_pubrel h hc ha hs hk hrel id
  exact ⟨r1, by simpa using accepts_shape .nil r2 (.cons (.send c (.pubcomp id) rfl) .nil)⟩

end Mqtt.Proofs.BrokerRefine
