/-
The first packet of a connection as an event: before `first`, the take-over of [MQTT-3.1.4-2] ends the live
connection that carries the client identifier, on both sides (`takeOver_refines`); then the accepted CONNECT
(`connect_accepted_refines`, over Proofs/BrokerRefineFirst.lean) or a refusal (`refusal_refines`); `step_first`.
-/
import Mqtt.Proofs.BrokerRefineFirst

namespace Mqtt.Proofs.BrokerRefine
open Mqtt.Iface.Broker Mqtt.Model.Broker
open Mqtt.Proofs.BrokerLife (effCid)
open Mqtt.Spec.Broker (Accepts SOut)
theorem refusals_nonempty {req : Connect} {a : Bool} (hacc : Mqtt.Proofs.BrokerLife.accepts (.connect req) a = false) :
    (!(Spec.Broker.refusals req a).isEmpty) = true := by
  cases hr : Spec.Broker.refusals req a with
  | nil => rw [(Mqtt.Proofs.BrokerLife.refusals_nil_iff req a).mp hr] at hacc; cases hacc
  | cons _ _ => rfl

theorem spec_first_refused (s : Spec.Broker.S) (c : Nat) (req : Connect) (a : Bool)
    (hacc : Mqtt.Proofs.BrokerLife.accepts (.connect req) a = false) :
    Spec.Broker.first s c (.connect req) a = (s, [.refused c (Spec.Broker.refusals req a)]) := by
  simp only [Spec.Broker.first]
  rw [if_pos (refusals_nonempty hacc)]

theorem mgetConn_of_mem {b : B} (hn : (b.conns.map (·.id)).Nodup) {cn : Conn} (hm : cn ∈ b.conns) :
    b.getConn cn.id = some cn :=
  find?_of_nodup Conn.id b.conns hn cn hm

theorem mem_sameClient {b : B} (hn : (b.conns.map (·.id)).Nodup) {X : Bytes} {c0 : Nat} :
    c0 ∈ sameClient b X ↔ ∃ σ, liveSess b c0 = some σ ∧ σ.cid = X := by
  unfold sameClient
  rw [List.mem_map]
  constructor
  · rintro ⟨cn, hcn, rfl⟩
    obtain ⟨hm, hp⟩ := List.mem_filter.mp hcn
    rw [Bool.and_eq_true] at hp
    cases hs : b.getSess cn.sess with
    | none => rw [hs] at hp; cases hp.2
    | some σ =>
      rw [hs] at hp
      exact ⟨σ, liveSess_eq (mgetConn_of_mem hn hm) hp.1 hs, by simpa using hp.2⟩
  · rintro ⟨σ, hσ, hcid⟩
    obtain ⟨cn, hc, ha, hs⟩ := liveSess_some hσ
    unfold B.getConn at hc
    exact ⟨cn, List.mem_filter.mpr ⟨List.mem_of_find?_eq_some hc, by simp [ha, hs, hcid]⟩,
      by simpa using List.find?_some hc⟩

theorem sameClient_cases {b : B} {s : Spec.Broker.S} (h : R b s) (X : Bytes) :
    (sameClient b X = [] ∧ ∀ c' τ, liveSess b c' = some τ → τ.cid ≠ X) ∨
    (∃ c0 σ, sameClient b X = [c0] ∧ liveSess b c0 = some σ ∧ σ.cid = X) := by
  have hnd : (sameClient b X).Nodup := h.mconns.sublist ((List.filter_sublist).map _)
  cases hL : sameClient b X with
  | nil =>
    refine .inl ⟨rfl, fun c' τ hτ he => ?_⟩
    have := (mem_sameClient h.mconns).mpr ⟨τ, hτ, he⟩
    rw [hL] at this; cases this
  | cons c0 rest =>
    obtain ⟨σ, hσ, hcid⟩ := (mem_sameClient h.mconns).mp (hL ▸ List.mem_cons_self ..)
    refine .inr ⟨c0, σ, ?_, hσ, hcid⟩
    cases rest with
    | nil => rfl
    | cons c1 rest2 =>
      -- a second one would be the same connection
      obtain ⟨σ1, hσ1, hcid1⟩ := (mem_sameClient h.mconns).mp (hL ▸ List.mem_cons_of_mem _ (List.mem_cons_self ..))
      rw [hL, h.cidUniq c1 c0 σ1 σ hσ1 hσ (by rw [hcid1, hcid])] at hnd
      simp at hnd

/-- the reference broker's search by client identifier finds the record of that one connection -/
theorem spec_find_cid {b : B} {s : Spec.Broker.S} (h : R b s) (X : Bytes) (hX : realCid X = true) :
    ((∀ c' τ, liveSess b c' = some τ → τ.cid ≠ X) → s.conns.find? (fun x => x.cid == X) = none) ∧
    (∀ c0 σ, liveSess b c0 = some σ → σ.cid = X →
      ∃ k, s.conns.find? (fun x => x.cid == X) = some k ∧ k.id = c0) := by
  have hback : ∀ k ∈ s.conns, k.cid = X → ∃ τ, liveSess b k.id = some τ ∧ τ.cid = X := by
    intro k hk hkc
    have hg := h.spec_getConn_of_mem hk
    have hal : b.alive k.id = true := by rw [← h.connsIff, hg]; rfl
    obtain ⟨τ, hτ⟩ := liveSess_of_alive h.inv hal
    obtain ⟨k1, hk1, hrel⟩ := h.live k.id τ hτ
    rw [hg] at hk1; cases hk1
    exact ⟨τ, hτ, (hrel.cid.eq (.inr (hkc ▸ hX))).trans hkc⟩
  constructor
  · intro hfree
    rw [List.find?_eq_none]
    intro k hk hkc
    simp only [beq_iff_eq] at hkc
    obtain ⟨τ, hτ, hc⟩ := hback k hk hkc
    exact hfree _ τ hτ hc
  · intro c0 σ hσ hcid
    obtain ⟨k0, hk0, hrel⟩ := h.live c0 σ hσ
    have hk0c : k0.cid = X := (hrel.cid.eq (.inl (hcid ▸ hX))).symm.trans hcid
    have hk0m := (spec_getConn_mem hk0).1
    cases hf : s.conns.find? (fun x => x.cid == X) with
    | none =>
      rw [List.find?_eq_none] at hf
      exact absurd (by simpa using hk0c) (hf k0 hk0m)
    | some k =>
      refine ⟨k, rfl, ?_⟩
      have hkm := List.mem_of_find?_eq_some hf
      have hkc : k.cid = X := by simpa using List.find?_some hf
      obtain ⟨τ, hτ, hc⟩ := hback k hkm hkc
      exact h.cidUniq _ _ _ _ hτ hσ (by rw [hc, hcid])

theorem spec_step_first_eq (s : Spec.Broker.S) (c : Nat) (f : First) (a : Bool) :
    Spec.Broker.step1 s (.first c f a) =
      ((Spec.Broker.first (Spec.Broker.takeOver s f a).1 c f a).1,
       (Spec.Broker.takeOver s f a).2 ++ (Spec.Broker.first (Spec.Broker.takeOver s f a).1 c f a).2) := rfl

theorem spec_takeOver_refused (s : Spec.Broker.S) (f : First) (a : Bool)
    (hacc : Mqtt.Proofs.BrokerLife.accepts f a = false) : Spec.Broker.takeOver s f a = (s, []) := by
  cases f with
  | garbage => rfl
  | other t => rfl
  | connect req => simp only [Spec.Broker.takeOver, refusals_nonempty hacc, Bool.true_or, ↓reduceIte]

theorem spec_takeOver_accepted (s : Spec.Broker.S) (req : Connect) (a : Bool)
    (hacc : Mqtt.Proofs.BrokerLife.accepts (.connect req) a = true) :
    Spec.Broker.takeOver s (.connect req) a =
      if req.clientId.isEmpty then (s, []) else
        match s.conns.find? (fun x => x.cid == req.clientId) with
        | some old => Spec.Broker.endConn s old.id false
        | none => (s, []) := by
  have href : Spec.Broker.refusals req a = [] := (Mqtt.Proofs.BrokerLife.refusals_nil_iff req a).mpr hacc
  unfold Spec.Broker.takeOver
  simp only [href, List.isEmpty_nil, Bool.not_true, Bool.false_or]
  rfl

/-- take-over: an acceptable CONNECT ends the live connection that carries its client identifier (there
is at most one) on both sides, not gracefully - the model by `stop`, the reference broker by
`endConn` -, and afterwards no live connection uses the identifier -/
theorem takeOver_refines {b : B} {s : Spec.Broker.S} (h : R b s) (c : Nat) (req : Connect) (a : Bool)
    (hacc : Mqtt.Proofs.BrokerLife.accepts (.connect req) a = true) (hdead : b.alive c = false) :
    R (takeOver b (.connect req) a).1 (Spec.Broker.takeOver s (.connect req) a).1 ∧
    (takeOver b (.connect req) a).1.alive c = false ∧
    (∀ c' τ, liveSess (takeOver b (.connect req) a).1 c' = some τ → τ.cid ≠ effCid c req) ∧
    ((takeOver b (.connect req) a = (b, []) ∧ Spec.Broker.takeOver s (.connect req) a = (s, [])) ∨
     ∃ c0 σ fs fo, liveSess b c0 = some σ ∧ σ.cid = req.clientId ∧ req.clientId.isEmpty = false ∧
       takeOver b (.connect req) a = stop b c0 ∧
       Spec.Broker.takeOver s (.connect req) a = Spec.Broker.endConn s c0 false ∧
       (Spec.Broker.endConn s c0 false).2 = .closed c0 :: fs ∧ (stop b c0).2 = .closed c0 :: fo ∧ Fan fs fo) := by
  rw [Mqtt.Proofs.BrokerLife.takeOver_accepted b req a hacc, spec_takeOver_accepted s req a hacc]
  cases hemp : req.clientId.isEmpty with
  | true =>
    simp only [↓reduceIte]
    refine ⟨h, hdead, ?_, .inl ⟨trivial, trivial⟩⟩
    unfold effCid; simp only [hemp, ↓reduceIte]; exact h.anon_free hdead
  | false =>
    simp only [Bool.false_eq_true, ↓reduceIte]
    have hX : effCid c req = req.clientId := by unfold effCid; simp [hemp]
    obtain ⟨hfind0, hfind1⟩ := spec_find_cid h req.clientId (realCid_of_accepts hacc hemp)
    rcases sameClient_cases h req.clientId with ⟨hnil, hfree⟩ | ⟨c0, σ, hone, hσ, hcid⟩
    · rw [hnil, hfind0 hfree]
      simp only [Mqtt.Proofs.Connect.stopAll_nil]
      exact ⟨h, hdead, by rw [hX]; exact hfree, .inl ⟨trivial, trivial⟩⟩
    · obtain ⟨k, hk, hkid⟩ := hfind1 c0 σ hσ hcid
      have hstopAll : stopAll b [c0] = stop b c0 := by
        simp only [Mqtt.Proofs.Connect.stopAll_cons, Mqtt.Proofs.Connect.stopAll_nil, List.append_nil]
      rw [hone, hk, hstopAll]
      simp only [hkid]
      have hal0 := liveSess_alive hσ
      obtain ⟨r0, hls, fs, fo, e1, e2, fan⟩ := stop_refines h c0 hal0
      have hne : c ≠ c0 := by intro e; rw [e, hal0] at hdead; cases hdead
      refine ⟨r0, ?_, ?_, .inr ⟨c0, σ, fs, fo, hσ, hcid, trivial, rfl, rfl, e1, e2, fan⟩⟩
      · rw [Mqtt.Proofs.BrokerLife.stop_alive_ne b c0 c hne.symm]; exact hdead
      · intro c' τ hτ hc
        rw [hls] at hτ
        by_cases he : c' = c0
        · rw [if_pos he] at hτ; cases hτ
        · rw [if_neg he] at hτ
          exact he (h.cidUniq _ _ _ _ hτ hσ (by rw [hc, hX, hcid]))

theorem takeOver_accepts {b : B} {s : Spec.Broker.S} (h : R b s) (c : Nat) (req : Connect) (a : Bool)
    (hacc : Mqtt.Proofs.BrokerLife.accepts (.connect req) a = true) (hdead : b.alive c = false)
    {tS : List SOut} {tO : List Out} (hl : Lits tS tO) :
    Accepts ((Spec.Broker.takeOver s (.connect req) a).2 ++ tS) ((takeOver b (.connect req) a).2 ++ tO) := by
  obtain ⟨_, _, _, hto⟩ := takeOver_refines h c req a hacc hdead
  rcases hto with ⟨t1, t2⟩ | ⟨c0, σ, fs, fo, _, _, _, t1, t2, o1, o2, fan⟩
  · rw [t1, t2]
    exact accepts_lits hl
  · rw [t1, t2, o1, o2]
    simpa using accepts_shape (.cons (.closed c0) .nil) fan hl

/-- an accepted CONNECT: the take-over, then `first` in the states it leaves; SessionPresent is the reference
broker's, looked up after the take-over -/
theorem connect_accepted_refines {b : B} {s : Spec.Broker.S} (h : R b s) (c : Nat) (req : Connect) (a : Bool)
    (hok : okEv b (.first c (.connect req) a) = true)
    (hacc : Mqtt.Proofs.BrokerLife.accepts (.connect req) a = true) :
    R (takeOver b (.connect req) a).1 (Spec.Broker.takeOver s (.connect req) a).1 ∧
    R (step b (.first c (.connect req) a)).1 (Spec.Broker.step1 s (.first c (.connect req) a)).1 ∧
    (step b (.first c (.connect req) a)).2 = (takeOver b (.connect req) a).2 ++
      [.send c (.connack (specPrior (Spec.Broker.takeOver s (.connect req) a).1 c req).isSome 0)] ∧
    (Spec.Broker.step1 s (.first c (.connect req) a)).2 = (Spec.Broker.takeOver s (.connect req) a).2 ++
      [.send c (.connack (specPrior (Spec.Broker.takeOver s (.connect req) a).1 c req).isSome 0)] := by
  obtain ⟨hclt, hdead, hwill⟩ := okEv_first hok
  have hwok := hwill req rfl hacc
  obtain ⟨r0, hd0, hcf0, _⟩ := takeOver_refines h c req a hacc hdead
  obtain ⟨r1, e1, e2⟩ := first_accepted_refines r0 c req a hacc hclt hd0 hwok hcf0
  rw [Mqtt.Proofs.Connect.step_first_eq, Mqtt.Proofs.Connect.connect_eq, spec_step_first_eq, e1, e2]
  exact ⟨r0, r1, rfl, rfl⟩

/-- the reference broker's reasons to refuse a first packet -/
def reasons (f : First) (a : Bool) : List (Option Nat) :=
  match f with
  | .connect req => Spec.Broker.refusals req a
  | _ => [none]

/-- C11: a refusal changes nothing, and the answer is one the reference broker's list of reasons allows
(`none`: close without CONNACK) -/
theorem refusal_refines {b : B} (c : Nat) (f : First) (a : Bool)
    (hacc : Mqtt.Proofs.BrokerLife.accepts f a = false) (s : Spec.Broker.S) :
    (step b (.first c f a)).1 = b ∧ (Spec.Broker.step1 s (.first c f a)).1 = s ∧
    ∃ codes, (Spec.Broker.step1 s (.first c f a)).2 = [.refused c codes] ∧
      codes = reasons f a ∧
      (((step b (.first c f a)).2 = [.closed c] ∧ none ∈ codes) ∨
       ∃ k, k ≠ 0 ∧ some k ∈ codes ∧ (step b (.first c f a)).2 = [.send c (.connack false k), .closed c]) := by
  cases f with
  | garbage => exact ⟨rfl, rfl, [none], rfl, rfl, .inl ⟨rfl, by simp⟩⟩
  | other t => exact ⟨rfl, rfl, [none], rfl, rfl, .inl ⟨rfl, by simp⟩⟩
  | connect req =>
    have hsp : Spec.Broker.step1 s (.first c (.connect req) a) = (s, [.refused c (Spec.Broker.refusals req a)]) := by
      rw [spec_step_first_eq, spec_takeOver_refused s _ a hacc, spec_first_refused s c req a hacc]
      rfl
    have hstep : step b (.first c (.connect req) a) = first b c (.connect req) a := by
      rw [Mqtt.Proofs.Connect.step_first_eq, Mqtt.Proofs.Connect.connect_eq,
        Mqtt.Proofs.BrokerLife.takeOver_refused b _ a hacc]
      simp
    rcases Mqtt.Proofs.BrokerLife.first_table b c req a hacc with ⟨h1, h2⟩ | ⟨k, hk, h2, h1⟩
    · rw [hstep, h1, hsp]
      exact ⟨rfl, rfl, _, rfl, rfl, .inl ⟨rfl, h2⟩⟩
    · rw [hstep, h1, hsp]
      exact ⟨rfl, rfl, _, rfl, rfl, .inr ⟨k, hk, h2, rfl⟩⟩

theorem step_first {b : B} {s : Spec.Broker.S} (h : R b s) (c : Nat) (f : First) (a : Bool)
    (hok : okEv b (.first c f a) = true) :
    Refines b s (.first c f a) := by
  unfold Refines
  cases hacc : Mqtt.Proofs.BrokerLife.accepts f a with
  | false =>
    obtain ⟨e1, e2, codes, e3, _, hout⟩ := refusal_refines (b := b) c f a hacc s
    rw [e1, e2, e3]
    rcases hout with ⟨o, hn⟩ | ⟨k, _, hk, o⟩ <;> rw [o]
    · exact ⟨h, accepts_refused_plain c _ hn⟩
    · exact ⟨h, accepts_refused_code c _ k hk⟩
  | true =>
    cases f with
    | garbage => simp [Mqtt.Proofs.BrokerLife.accepts] at hacc
    | other t => simp [Mqtt.Proofs.BrokerLife.accepts] at hacc
    | connect req =>
      obtain ⟨_, r1, e1, e2⟩ := connect_accepted_refines h c req a hok hacc
      rw [e1, e2]
      exact ⟨r1, takeOver_accepts h c req a hacc (okEv_first hok).2.1 (.cons (.send c _ rfl) .nil)⟩

end Mqtt.Proofs.BrokerRefine
