/-
Core B: histories.  The subscription trie reached by any list of operations (the driver's
`modelStep`, what the differential runs execute) holds, up to permutation, the entries of the
abstract store reached by the specification's `step`, for `admitted` topics.  The argument is by
what `entryLevels` hands the trie: its walk succeeds exactly on the valid filters not beginning
with '$', and then walks the specification's levels; when it fails both sides stay.
-/
import Mqtt.Proofs.TopicsContract
import Mqtt.Driver.Topics

namespace Mqtt.Proofs.Topics
open Shortcuts
open Mqtt.Model.Topics Mqtt.Iface.Topics
open Mqtt.Spec.Match (split validFilter validName topicMatches dollar)
open Mqtt.Spec.TopicStore (S Sub step maxQos)
open Mqtt.Driver.Topics (modelStep)

def opTopic : Op → List UInt8
  | .sub f _ _ => f
  | .unsub f _ => f
  | .unsubAll f => f
  | .subs t _ => t
  | .retain t _ _ => t
  | .retained f => f

/-- the model after a history (the function the driver folds over the op lines) -/
def mrun (ops : List Op) : MemTopics := ops.foldl (fun mt op => (modelStep mt op).1) MemTopics.new
def srun (ops : List Op) : S := ops.foldl (fun s op => (step s op).1) Mqtt.Spec.TopicStore.empty

/-- the abstract store's subscriptions as trie entries -/
def absS (subs : List Sub) : List Entry := subs.map (fun e => (split e.filter, e.sub, e.qos))

structure Inv (root : SNode) (subs : List Sub) : Prop where
  wf : WF root
  perm : (abs root).Perm (absS subs)
  valid : ∀ e ∈ subs, validFilter e.filter = true

/-- the driver's step is a call of the entry point, its answer printed -/
theorem modelStep_fst (mt : MemTopics) (op : Op) :
    (modelStep mt op).1 =
      match op with
      | .sub f q s => (mt.subscribe 2 f q s).1
      | .unsub f s => (mt.unsubscribe f (some s)).1
      | .unsubAll f => (mt.unsubscribe f none).1
      | .retain t q p => (mt.retain { topic := t, qos := q, payload := p }).1
      | _ => mt := by
  cases op with
  | sub f q s =>
    show (modelStep mt (.sub f q s)).1 = (mt.subscribe 2 f q s).1
    rw [modelStep]
    cases mt.subscribe 2 f q s with | mk a o => cases o <;> rfl
  | unsub f s => rfl
  | unsubAll f => rfl
  | subs t q => rw [modelStep]; cases mt.subscribers t q <;> rfl
  | retain t q p => rfl
  | retained f => rw [modelStep]; cases mt.retained f <;> rfl

/-- the subscriptions the abstract store holds after one operation -/
def specSubs (subs : List Sub) : Op → List Sub
  | .sub f q sub =>
      if dollar f then subs
      else if q > 2 then subs
      else if !validFilter f then subs
      else subs.filter (fun e => !(e.sub == sub && e.filter == f)) ++ [⟨sub, f, min q maxQos⟩]
  | .unsub f sub => if dollar f then subs else subs.filter (fun e => !(e.sub == sub && e.filter == f))
  | .unsubAll f => subs.filter (fun e => !(e.filter == f))
  | _ => subs

theorem filter_self_of_not_any {α} (l : List α) (p : α → Bool) (h : ¬ l.any p = true) :
    l.filter (fun e => !p e) = l :=
  List.filter_eq_self.mpr fun a ha => by
    cases hp : p a with
    | false => rfl
    | true => exact absurd (List.any_eq_true.mpr ⟨a, ha, hp⟩) h

theorem step_subs (s : S) (op : Op) : (step s op).1.subs = specSubs s.subs op := by
  cases op with
  | unsub f sub =>
    rw [step, specSubs]
    cases dollar f with
    | true => rfl
    | false =>
      rw [if_neg Bool.false_ne_true, if_neg Bool.false_ne_true]
      split
      · rfl
      · rename_i h
        exact (filter_self_of_not_any s.subs (fun e => e.sub == sub && e.filter == f) h).symm
  | unsubAll f => rfl
  | sub f q sub => simp only [step, specSubs, apply_ite (fun x : S × Mqtt.Spec.TopicStore.Out => x.1.subs)]
  | subs t q => simp only [step, specSubs, apply_ite (fun x : S × Mqtt.Spec.TopicStore.Out => x.1.subs), ite_self]
  | retain t q p => simp only [step, specSubs, apply_ite (fun x : S × Mqtt.Spec.TopicStore.Out => x.1.subs), ite_self]
  | retained f => simp only [step, specSubs, apply_ite (fun x : S × Mqtt.Spec.TopicStore.Out => x.1.subs), ite_self]

theorem absS_filter (subs : List Sub) (f : List UInt8) (sub : Option Nat) :
    (absS subs).filter (fun e => !hit (split f) sub e) =
      absS (subs.filter (fun e => !(subHit sub e.sub && e.filter == f))) := by
  rw [absS, absS, List.filter_map]
  refine congrArg _ (List.filter_congr fun e _ => congrArg Bool.not ?_)
  show (split e.filter == split f && subHit sub e.sub) = (subHit sub e.sub && e.filter == f)
  rw [split_beq, Bool.and_comm]

theorem validFilter_nil : validFilter [] = false := by decide

/-- the specification's `sub` in the store's terms -/
theorem specSubs_sub (subs : List Sub) (f : List UInt8) (q sub : Nat) :
    specSubs subs (.sub f q sub) =
      if validQos q && (entryLevels f).2 then
        subs.filter (fun e => !(e.sub == sub && e.filter == f)) ++ [⟨sub, f, min q maxQos⟩]
      else subs := by
  rw [specSubs, validQos_eq, entryLevels_ok]
  by_cases hq : q ≤ 2
  · rw [decide_eq_true hq, if_neg (Nat.not_lt.mpr hq)]
    cases dollar f <;> cases validFilter f <;> rfl
  · rw [decide_eq_false hq, if_pos (Nat.lt_of_not_le hq)]
    cases dollar f <;> rfl

theorem remove_inv {mt : MemTopics} {subs : List Sub} (h : Inv mt.sroot subs) (f : List UInt8) (sub : Option Nat)
    (hg : admitted f = true) (hns : (entryLevels f).2 = false → ∀ e ∈ subs, (e.filter == f) = false) :
    Inv (mt.unsubscribe f sub).1.sroot (subs.filter fun e => !(subHit sub e.sub && e.filter == f)) := by
  obtain ⟨hwf, hp, _⟩ := unsubscribe_contract mt f sub h.wf
  cases hok : (entryLevels f).2 with
  | false =>
    rw [hok] at hp
    rw [List.filter_eq_self.mpr fun e he => by rw [hns hok e he, Bool.and_false]; rfl]
    exact ⟨hwf, hp.trans h.perm, h.valid⟩
  | true =>
    rw [(entryLevels_of_ok f hg hok).2.2] at hp
    exact ⟨hwf, hp.trans ((h.perm.filter _).trans (.of_eq (absS_filter subs f sub))),
      fun e he => h.valid e (List.mem_filter.mp he).1⟩

/-- One operation on an admitted topic keeps the refinement, provided the abstract store
holds no filter on which the walk fails. -/
theorem inv_step_of (mt : MemTopics) (subs : List Sub) (op : Op) (hg : admitted (opTopic op) = true)
    (h : Inv mt.sroot subs)
    (hns : (entryLevels (opTopic op)).2 = false → ∀ e ∈ subs, (e.filter == opTopic op) = false) :
    Inv (modelStep mt op).1.sroot (specSubs subs op) := by
  rw [modelStep_fst]
  cases op with
  | subs t q => exact h
  | retained f => exact h
  | retain t q p => dsimp only; rw [retain_sroot]; exact h
  | sub f q sub =>
    dsimp only
    obtain ⟨hwf, hp, _⟩ := subscribe_contract mt 2 f q sub h.wf
    rw [specSubs_sub]
    by_cases ha : (validQos q && (entryLevels f).2) = true
    · -- accepted: a valid filter not beginning with '$', walked as the specification's levels
      rw [if_pos ha] at hp ⊢
      obtain ⟨hv, _, he⟩ := entryLevels_of_ok f hg (Bool.and_eq_true_iff.mp ha).2
      rw [he] at hp
      refine ⟨hwf, hp.trans ?_, List.forall_mem_append.mpr
        ⟨fun e he => h.valid e (List.mem_filter.mp he).1, List.forall_mem_singleton.mpr hv⟩⟩
      rw [absS, List.map_append]
      exact ((h.perm.filter _).trans (.of_eq (absS_filter subs f (some sub)))).append_right _
    · rw [if_neg ha] at hp ⊢
      exact ⟨hwf, hp.trans h.perm, h.valid⟩
  | unsub f sub =>
    dsimp only
    have hns : (entryLevels f).2 = false → ∀ e ∈ subs, (e.filter == f) = false := hns
    have hi := remove_inv h f (some sub) hg hns
    rw [specSubs]
    split
    · -- '$': the walk fails, so nothing is stored under `f` and the filter drops nothing
      rename_i hd
      have hok : (entryLevels f).2 = false := by rw [entryLevels_ok, hd]; exact Bool.and_false _
      rwa [List.filter_eq_self.mpr fun e he => by rw [hns hok e he, Bool.and_false]; rfl] at hi
    · exact hi
  | unsubAll f => exact remove_inv h f none hg hns

theorem inv_step (mt : MemTopics) (subs : List Sub) (op : Op) (hg : good (opTopic op) = true)
    (h : Inv mt.sroot subs) : Inv (modelStep mt op).1.sroot (specSubs subs op) := by
  refine inv_step_of mt subs op (good_admitted _ hg) h fun hok e he => beq_eq_false_iff_ne.mpr fun hf => ?_
  -- a good topic on which the walk fails is an invalid filter; the stored ones are valid
  rw [entryLevels_ok, ← hf, h.valid e he, hf, good_not_dollar _ hg] at hok
  cases hok

/-! On a topic beginning with '$', and on the empty topic, the walk fails and the trie's entries
stay; the specification ignores the one and rejects the other as an invalid filter.  Both sides
agree provided the abstract store holds no such filter (the hypothesis of `inv_step_of`): it holds
valid filters only (`Inv.valid`) and none beginning with '$' (kept below). -/

theorem specSubs_no_dollar (subs : List Sub) (op : Op) (hnd : ∀ e ∈ subs, dollar e.filter = false) :
    ∀ e ∈ specSubs subs op, dollar e.filter = false := by
  have hf : ∀ p : Sub → Bool, ∀ e ∈ subs.filter p, dollar e.filter = false :=
    fun p e he => hnd e (List.mem_filter.mp he).1
  cases op with
  | sub f q sub =>
    rw [specSubs]
    cases hd : dollar f with
    | true => exact hnd
    | false =>
      rw [if_neg Bool.false_ne_true]
      split
      · exact hnd
      · split
        · exact hnd
        · exact List.forall_mem_append.mpr ⟨hf _, List.forall_mem_singleton.mpr hd⟩
  | unsub f sub =>
    rw [specSubs]
    split
    · exact hnd
    · exact hf _
  | unsubAll f => exact hf _
  | subs t q => exact hnd
  | retain t q p => exact hnd
  | retained f => exact hnd

theorem inv_step_any (mt : MemTopics) (subs : List Sub) (op : Op) (hg : admitted (opTopic op) = true)
    (h : Inv mt.sroot subs) (hnd : ∀ e ∈ subs, dollar e.filter = false) :
    Inv (modelStep mt op).1.sroot (specSubs subs op) ∧ ∀ e ∈ specSubs subs op, dollar e.filter = false := by
  refine ⟨inv_step_of mt subs op hg h fun hok e he => beq_eq_false_iff_ne.mpr fun hf => ?_,
    specSubs_no_dollar subs op hnd⟩
  -- the walk fails on filters that are invalid or begin with '$'; no stored filter is either
  rw [entryLevels_ok, ← hf, h.valid e he, hnd e he] at hok
  cases hok

theorem inv_run_any (ops : List Op) (hg : ∀ op ∈ ops, admitted (opTopic op) = true) :
    Inv (mrun ops).sroot (srun ops).subs :=
  (List.foldl_rel (f := fun mt op => (modelStep mt op).1) (g := fun s op => (step s op).1)
    (a := MemTopics.new) (b := Mqtt.Spec.TopicStore.empty)
    (r := fun mt s => Inv mt.sroot s.subs ∧ ∀ e ∈ s.subs, dollar e.filter = false)
    ⟨⟨WF_empty, .refl _, fun _ he => nomatch he⟩, fun _ he => nomatch he⟩
    fun op hop mt s hi => by rw [step_subs]; exact inv_step_any mt s.subs op (hg op hop) hi.1 hi.2).1

theorem run_inv (ops : List Op) (hg : ∀ op ∈ ops, good (opTopic op) = true) :
    Inv (mrun ops).sroot (srun ops).subs :=
  inv_run_any ops fun op hop => good_admitted _ (hg op hop)

/-- the specification's answer to `subscribers t q` -/
def specAnswer (subs : List Sub) (t : List UInt8) (q : Nat) : List (Nat × Nat) :=
  (subs.filter (fun e => topicMatches e.filter t)).map (fun e => (e.sub, min q e.qos))

theorem pick_absS (subs : List Sub) (t : List UInt8) (q : Nat) :
    pick (walk · (split t)) (atQos q) (absS subs) = specAnswer subs t q := by
  rw [pick_eq, absS, List.filter_map, List.map_map]
  exact congrArg (List.map _) (List.filter_congr fun e _ => walk_eq_matchLevels _ _)

theorem subscribers_refines (mt : MemTopics) (subs : List Sub) (t : List UInt8) (q : Nat)
    (h : Inv mt.sroot subs) (hg : good t = true) (hn : validName t = true) (hq : q ≤ 2) :
    ∃ r, mt.subscribers t q = some r ∧ r.Perm (specAnswer subs t q) := by
  obtain ⟨e1, e2⟩ := entryLevels_valid t hg (validName_validFilter t hn)
  obtain ⟨r, hr, hp⟩ := subscribers_contract mt t q h.wf (by rw [validQos_eq, decide_eq_true hq, e2]; rfl)
  simp only [← walk_eq_matchLevels, e1] at hp
  exact ⟨r, hr, hp.trans ((pick_perm _ _ h.perm).trans (.of_eq (pick_absS subs t q)))⟩

theorem subscribe_outcome (mt : MemTopics) (f : List UInt8) (q s : Nat) (hg : good f = true) :
    (mt.subscribe 2 f q s).2 = if q ≤ 2 ∧ validFilter f = true then some q else none := by
  rw [subscribe_snd, validQos_eq, entryLevels_ok, good_not_dollar f hg, Bool.not_false, Bool.and_true]
  by_cases hq : q ≤ 2
  · rw [decide_eq_true hq, Bool.true_and, Nat.min_eq_left hq]
    cases validFilter f
    · exact (if_neg fun h => Bool.false_ne_true h.2).symm
    · exact (if_pos ⟨hq, rfl⟩).symm
  · rw [decide_eq_false hq, Bool.false_and, if_neg Bool.false_ne_true, if_neg fun h => hq h.1]

theorem unsubscribe_outcome (mt : MemTopics) (subs : List Sub) (f : List UInt8) (s : Nat)
    (h : Inv mt.sroot subs) (hg : good f = true) :
    (mt.unsubscribe f (some s)).2 = subs.any (fun e => e.sub == s && e.filter == f) := by
  rw [(unsubscribe_contract mt f (some s) h.wf).answer s rfl]
  cases hv : validFilter f with
  | false =>
    rw [entryLevels_invalid f hv, Bool.false_and]
    exact (List.any_eq_false.mpr fun e he => by
      have : e.filter ≠ f := fun x => by rw [← x, h.valid e he] at hv; cases hv
      rw [beq_eq_false_iff_ne.mpr this, Bool.and_false]; exact Bool.false_ne_true).symm
  | true =>
    obtain ⟨e1, e2⟩ := entryLevels_valid f hg hv
    rw [e1, e2, Bool.true_and, h.perm.any_eq, absS, List.any_map]
    refine congrArg (List.any subs) (funext fun e => ?_)
    show (split e.filter == split f && e.sub == s) = (e.sub == s && e.filter == f)
    rw [split_beq, Bool.and_comm]

end Mqtt.Proofs.Topics
