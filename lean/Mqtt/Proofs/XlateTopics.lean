/-
Tie between the REGENERATED translation of `topics.nextTopicLevel`
(`Mqtt.Generated.Xlate`, produced from /repo's Go source by extract/cmd/xlate on
every check) and the hand-written level splitter of `Model/Topics.lean`.
-/
import Mqtt.Proofs.XlateBasic
import Mqtt.Model.Topics

namespace Mqtt.Proofs.XlateTopics

open Mqtt.Model.Topics
open Mqtt.Generated.Xlate
open Mqtt.Proofs.Xlate (ite_tie)

/-- what the Go function returns for a model outcome: an error made by
`fmt.Errorf` with nil slices, or (level, remainder, nil).  The model's `remNil`
flag (Go returned a *nil* remainder) has no counterpart: the translation does
not distinguish nil from empty slices. -/
def ntlToSource : NTL → Res (List UInt8 × List UInt8 × Err)
  | .err => .ok ([], [], .dyn)
  | .ok l r _ => .ok (l, r, .nil)

/-- the byte values of `stateCHR`, `stateMWC`, `stateSWC`, `stateSYS` in the Go source (`stateSYS` is declared there and never
entered, see `Model.Topics.LState`; with it the loops agree from every state) -/
def stCode : LState → UInt8
  | .chr => 0
  | .mwc => 1
  | .swc => 2
  | .sys => 4

theorem take_rev_length (pre : List UInt8) (rest : List UInt8) :
    (pre.reverse ++ rest).take pre.length = pre.reverse := by
  rw [← List.length_reverse, List.take_left]

theorem drop_rev_length_succ (pre : List UInt8) (c : UInt8) (rest : List UInt8) :
    (pre.reverse ++ c :: rest).drop (pre.length + 1) = rest := by
  rw [← List.length_reverse, ← List.drop_drop, List.drop_left]
  rfl

/-- the loop of the translation, started in the middle of the topic, is the
model's loop (`pre` = the bytes already visited, reversed): one case per `case` of the `switch`, and
for '/' per state and per "is this the first byte" -/
theorem loop_eq (rest : List UInt8) : ∀ (pre : List UInt8) (s : LState),
    Topics.nextTopicLevel.loop1 (pre.reverse ++ rest) (stCode s) pre.length rest
      = ntlToSource (ntlLoop pre s rest) := by
  induction rest with
  | nil =>
    intro pre s
    rw [Topics.nextTopicLevel.loop1, ntlLoop, List.append_nil]
    rfl
  | cons c rest ih =>
    intro pre s
    have ih' : ∀ s' : LState,
        Topics.nextTopicLevel.loop1 (pre.reverse ++ c :: rest) (stCode s') (pre.length + 1) rest
          = ntlToSource (ntlLoop (c :: pre) s' rest) := fun s' => by
      have := ih (c :: pre) s'
      rwa [List.reverse_cons, List.append_assoc, List.length_cons] at this
    have hlen : (pre.length == 0) = pre.isEmpty := by cases pre <;> rfl
    have hlen' : (pre.length != 0) = !pre.isEmpty := congrArg (!·) hlen
    rw [Topics.nextTopicLevel.loop1, ntlLoop, hlen, hlen']
    -- both sides switch on the same tests of `c`
    refine ite_tie ntlToSource Iff.rfl (fun _ => ?_) fun _ => ite_tie ntlToSource Iff.rfl (fun _ => ?_) fun _ =>
      ite_tie ntlToSource Iff.rfl (fun _ => ?_) fun _ => ?_
    · -- '/': the level ends here
      have hb : decide (pre.length + 1 ≤ (pre.reverse ++ c :: rest).length) = true := by
        rw [decide_eq_true_eq, List.length_append, List.length_reverse, List.length_cons]; omega
      have hb' : decide (pre.length ≤ (pre.reverse ++ c :: rest).length) = true := by
        rw [decide_eq_true_eq, List.length_append, List.length_reverse]; omega
      rw [hb, hb', take_rev_length, drop_rev_length_succ]
      cases s with
      | mwc => rfl
      | sys => cases pre <;> rfl
      | chr => cases pre <;> rfl
      | swc => cases pre <;> rfl
    · cases pre.isEmpty
      · rfl
      · exact ih' .mwc
    · cases pre.isEmpty
      · rfl
      · exact ih' .swc
    · -- `default:`
      cases s with
      | chr => exact ih' .chr
      | mwc => rfl
      | swc => rfl
      | sys => exact ih' .chr

/-- **the regenerated `nextTopicLevel` is the model's level splitter** (on every
input; in particular the Go function never panics on a slice bound) -/
theorem nextTopicLevel_is_source (bs : List UInt8) :
    Topics.nextTopicLevel bs = ntlToSource (Mqtt.Model.Topics.nextTopicLevel bs) :=
  loop_eq bs [] .chr

end Mqtt.Proofs.XlateTopics
