/-
The operations of `sessions/ackqueue.go` as REGENERATED by extract/cmd/xlate
(`Mqtt.Generated.Xlate.Sessions.Ackqueue.{insert, Wait, Ack, Acked}`) are the
hand-written model's (`Model/AckQueue.lean`: `Q.insert`, `Q.wait`, `Q.ack`,
`Q.acked`): proved for `Rep aq q` (`XlateAckqGrow.lean`), `q` a variable, as `…_rep` with the conclusion
`∃ aq' …, call = .ok … ∧ Rep aq' q' ∧ rest`.  `grow` and `removeHead` enter through `grow_rep` / `removeHead_rep`.

The statements over `absQ` / `GWf` are the instances `q := absQ aq`, taken in `Properties/C13Source.lean` (`C13_…_is_source`);
three stand in `Proofs/` and are cited there: `grow_is_source`, `removeHead_is_source`, `Acked_is_source`.  The branches that
ask nothing of the queue (`Wait_ping_is_source`, `Ack_ping_is_source`, `Ack_other_is_source`) are stated over `absQ` directly:
a `Rep` form would add a hypothesis that the statements of `C13Source.lean` do not have, which is also why `Ack` has no
single `_rep`.  Namespace of the three ack-queue modules: `Mqtt.Proofs.XlateAckq`.
-/
import Mqtt.Proofs.XlateAckqGrow

namespace Mqtt.Proofs.XlateAckq

open Mqtt.Generated
open Mqtt.Generated.Xlate
open Mqtt.Model.AckQueue
open Mqtt.Proofs.AckQueue (Inv)
open Mqtt.Iface.AckQ
open Mqtt.Proofs.Xlate

/-- the part of the model's `Q.insert` after the optional `grow`: a copy of its text, kept in step by `insert_eq_insertJoin := rfl` -/
def insertJoin (q : Q) (mtype pktid : Nat) (enc : Option (List UInt8)) (tag : Nat) : Q :=
  match emapGet q.emap pktid with
  | some _ => q
  | none =>
    match enc with
    | none => q
    | some bytes =>
      let am : AckMsg := ⟨mtype, 0, pktid, bytes, [], tag⟩
      { q with ring := q.ring.set q.tail am,
               emap := emapSet q.emap pktid q.tail,
               tail := q.increment q.tail,
               count := q.count + 1 }

theorem insert_eq_insertJoin (q : Q) (mtype pktid : Nat) (enc : Option (List UInt8)) (tag : Nat) :
    q.insert mtype pktid enc tag = insertJoin (if q.full then q.grow else q) mtype pktid enc tag := rfl

/-- the error `insert` returns (`Wait` ignores it): `known` = the identifier is already in the map -/
def insertErr (known : Bool) (msg : Message.Message) : Err :=
  if known then
    (if msg.dyn = "*message.PublishMessage" then (if msg.Dup then Err.dyn else Err.nil) else Err.dyn)
  else (msg.Encode (List.replicate msg.Len.toNat 0)).2.2

variable {aq : Sessions.Ackqueue} {q : Q}

theorem insert_join1 (r : Rep aq q) (hi : Inv q) (hsz : q.size ≤ 2 ^ 62) (pktid : UInt16) (msg : Message.Message)
    (tag : Nat) (hid : msg.PacketID = pktid) (hlen : 0 ≤ msg.Len) :
    ∃ aq', Sessions.Ackqueue.insert.join1 aq pktid msg tag
        = .ok (aq', insertErr (emapGet q.emap pktid.toNat).isSome msg) ∧
      Rep aq' (insertJoin q msg.Type_.toNat pktid.toNat (encOf msg) tag) ∧ aq'.ackdone = aq.ackdone := by
  subst hid
  unfold Sessions.Ackqueue.insert.join1 insertJoin insertErr encOf
  rw [← r.emap, absMap_get, r.tail, r.count]
  cases hg : Go.mapGet aq.emap msg.PacketID with
  | some i =>
    refine ⟨aq, ?_, r, rfl⟩
    show (if (!(msg.dyn == "*message.PublishMessage")) = true then Res.ok (aq, Err.dyn)
          else if msg.Dup = true then Res.ok (aq, Err.dyn) else Res.ok (aq, Err.nil)) =
        Res.ok (aq, if msg.dyn = "*message.PublishMessage" then (if msg.Dup = true then Err.dyn else Err.nil) else Err.dyn)
    by_cases hd : msg.dyn = "*message.PublishMessage"
    · rw [if_pos hd, if_neg (by rw [hd]; decide)]
      cases msg.Dup <;> rfl
    · rw [if_neg hd, if_pos (by rw [beq_eq_false_iff_ne.mpr hd]; rfl)]
  | none =>
    extract_lets look ok ml am obs am2 err a1 a2 a3 a4 pm ok1 am3
    rw [if_pos (show (!ok) = true from rfl), if_pos (decide_eq_true hlen)]
    have ht := Mqtt.Proofs.AckQueue.tail_lt hi
    by_cases he : am3.2.2 = Err.nil
    · rw [if_neg (by show ¬ (am3.2.2 != Err.nil) = true; rw [he]; decide), if_pos (r.in_range hi ht), if_pos he]
      exact ⟨a4, congrArg (fun e => Res.ok (a4, e)) he.symm,
        { r with
          ring := (List.map_set ..).trans (r.ring ▸ rfl)
          emap := absMap_set ..
          nonneg := mapSet_nonneg r.nonneg _ (Int.natCast_nonneg _)
          tail := r.increment hi hsz q.tail ⟨Int.natCast_nonneg _, by omega⟩
          count := rfl }, rfl⟩
    · rw [if_pos (by show (am3.2.2 != Err.nil) = true; rw [bne_iff_ne]; exact he), if_neg he]
      exact ⟨aq, rfl, r, rfl⟩

/-- **`insert` is the model's `Q.insert`.**  The error returned (`insertErr`, ignored by `Wait`): the
`fmt.Errorf` values of the duplicate branch / nil when the identifier is already in the map (after the optional
`grow`), else the error of `msg.Encode`. -/
theorem insert_rep (r : Rep aq q) (hi : Inv q) (hsz : q.size ≤ 2 ^ 61) (pktid : UInt16) (msg : Message.Message) (tag : Nat)
    (hid : msg.PacketID = pktid) (hlen : 0 ≤ msg.Len) :
    ∃ aq', Sessions.Ackqueue.insert aq pktid msg tag
        = .ok (aq', insertErr (emapGet (if q.full then q.grow else q).emap pktid.toNat).isSome msg) ∧
      Rep aq' (q.insert msg.Type_.toNat pktid.toNat (encOf msg) tag) ∧ aq'.ackdone = aq.ackdone := by
  unfold Sessions.Ackqueue.insert
  rw [insert_eq_insertJoin, r.full]
  cases hf : q.full
  · rw [if_neg Bool.false_ne_true, if_neg Bool.false_ne_true]
    exact insert_join1 r hi (by omega) pktid msg tag hid hlen
  · obtain ⟨aq1, hg, r1, hd1⟩ := grow_rep r hi hsz
    obtain ⟨aq', h1, h2, h3⟩ := insert_join1 r1 (Mqtt.Proofs.AckQueue.grow_inv hi (beq_iff_eq.mp hf))
      (show q.size * 2 ≤ _ by omega) pktid msg tag hid hlen
    rw [if_pos rfl, if_pos rfl, hg]
    exact ⟨aq', h1, h2, h3.trans hd1⟩

/-- the observations are those of a message made by `New…Message()` / `Decode`: the dynamic type
fixes `Type()` (a zero value `&message.PublishMessage{}` answers `RESERVED` = 0 instead) -/
def DynTyped (msg : Message.Message) : Prop :=
  (msg.dyn = "*message.PublishMessage" → msg.Type_ = 3) ∧
  (msg.dyn = "*message.SubscribeMessage" → msg.Type_ = 8) ∧
  (msg.dyn = "*message.UnsubscribeMessage" → msg.Type_ = 10)

/-- the PINGREQ branch of `Wait`: appends to `pings`; no hypothesis at all -/
theorem Wait_ping_is_source (aq : Sessions.Ackqueue) (msg : Message.Message) (tag : Nat)
    (hd : msg.dyn = "*message.PingreqMessage") :
    ∃ aq', Sessions.Ackqueue.Wait aq msg tag = .ok (aq', Err.nil) ∧
      absQ aq' = ((absQ aq).wait (waitMsgOf msg) tag).1 ∧
      ((absQ aq).wait (waitMsgOf msg) tag).2 = true ∧
      (GWf aq → GWf aq') ∧ aq'.ackdone = aq.ackdone := by
  unfold Sessions.Ackqueue.Wait waitMsgOf
  simp only [hd, String.reduceBEq, String.reduceEq, Bool.false_eq_true, ↓reduceIte, Q.wait]
  exact ⟨_, rfl, congrArg (fun p => { absQ aq with pings := p }) (List.map_append ..), trivial,
    fun hw => hw.same, rfl⟩

/-- the three branches of `Wait` that call `insert` -/
theorem Wait_insert (r : Rep aq q) (hi : Inv q) (hsz : q.size ≤ 2 ^ 61) (msg : Message.Message) (tag : Nat) (t : Nat)
    (hlen : 0 ≤ msg.Len) (ht : msg.Type_.toNat = t) :
    ∃ aq' e, (Res.bind (Sessions.Ackqueue.insert aq msg.PacketID msg tag) fun out =>
        Res.ok (out.1, Err.nil)) = .ok (aq', e) ∧
      Rep aq' (q.insert t msg.PacketID.toNat (encOf msg) tag) ∧
      (e = Err.nil ↔ true = true) ∧ (e = Err.nil ∨ e = Err.var "errWaitMessage") ∧ aq'.ackdone = aq.ackdone := by
  obtain ⟨aq', h1, h2, h3⟩ := insert_rep r hi hsz msg.PacketID msg tag rfl hlen
  exact ⟨aq', _, by rw [h1]; rfl, ht ▸ h2, ⟨fun _ => rfl, fun _ => rfl⟩, Or.inl rfl, h3⟩

theorem Wait_rep (r : Rep aq q) (hi : Inv q) (hsz : q.size ≤ 2 ^ 61) (msg : Message.Message) (tag : Nat)
    (hty : DynTyped msg) (hlen : 0 ≤ msg.Len) :
    ∃ aq' e, Sessions.Ackqueue.Wait aq msg tag = .ok (aq', e) ∧
      Rep aq' (q.wait (waitMsgOf msg) tag).1 ∧
      (e = Err.nil ↔ (q.wait (waitMsgOf msg) tag).2 = true) ∧
      (e = Err.nil ∨ e = Err.var "errWaitMessage") ∧ aq'.ackdone = aq.ackdone := by
  have refused : ∃ aq' e, Res.ok (aq, Err.var "errWaitMessage") = Res.ok (aq', e) ∧ Rep aq' q ∧
      (e = Err.nil ↔ false = true) ∧ (e = Err.nil ∨ e = Err.var "errWaitMessage") ∧ aq'.ackdone = aq.ackdone :=
    ⟨aq, _, rfl, r, ⟨(fun h => nomatch h), (fun h => nomatch h)⟩, Or.inr rfl, rfl⟩
  unfold Sessions.Ackqueue.Wait waitMsgOf
  -- one branch per dynamic type, on both sides
  let P : Res (Sessions.Ackqueue × Err) → WaitMsg → Prop := fun x w =>
    ∃ aq' e, x = .ok (aq', e) ∧ Rep aq' (q.wait w tag).1 ∧
      (e = Err.nil ↔ (q.wait w tag).2 = true) ∧ (e = Err.nil ∨ e = Err.var "errWaitMessage") ∧
      aq'.ackdone = aq.ackdone
  refine ite_rel P beq_iff_eq (fun hp => ?_) fun _ =>
    ite_rel P beq_iff_eq (fun hs => Wait_insert r hi hsz msg tag tSUBSCRIBE hlen (by rw [hty.2.1 hs]; rfl)) fun _ =>
    ite_rel P beq_iff_eq (fun hu => Wait_insert r hi hsz msg tag tUNSUBSCRIBE hlen (by rw [hty.2.2 hu]; rfl)) fun _ =>
    ite_rel P beq_iff_eq (fun _ => ⟨_, Err.nil, rfl, { r with pings := (List.map_append ..).trans (r.pings ▸ rfl) },
      ⟨fun _ => rfl, fun _ => rfl⟩, Or.inl rfl, rfl⟩) fun _ => refused
  show ∃ aq' e, _
  rw [Q.wait, show (msg.QoS.toNat == 0) = (msg.QoS == 0) from (u8_beq _ 0).symm]
  cases (msg.QoS == 0)
  · exact Wait_insert r hi hsz msg tag tPUBLISH hlen (by rw [hty.1 hp]; rfl)
  · exact refused

theorem Acked_release_test (t : UInt8) :
    ((t == (4 : UInt8)) || (t == (6 : UInt8)) || (t == (7 : UInt8)) || (t == (9 : UInt8)) || (t == (11 : UInt8)))
      = ackedReleaseStates.contains t.toNat := by
  simp only [u8_beq t, ackedReleaseStates, List.contains_cons, List.contains_nil, Bool.or_false, Bool.or_assoc]
  rfl

theorem Ack_id_test (t : UInt8) :
    ((t == (4 : UInt8)) || (t == (5 : UInt8)) || (t == (6 : UInt8)) || (t == (7 : UInt8)) || (t == (9 : UInt8)) || (t == (11 : UInt8)))
      = ackIdTypes.contains t.toNat := by
  simp only [u8_beq t, ackIdTypes, List.contains_cons, List.contains_nil, Bool.or_false, Bool.or_assoc]
  rfl

/-- `Acked.loop1` pops the leading pings whose state is PINGRESP, then enters `loop2` -/
theorem Acked_loop1 (fuel : Nat) (l : List Sessions.AckMsg) :
    ∀ (fuel1 : Nat) (aq : Sessions.Ackqueue), aq.pings = l → l.length < fuel1 →
      Sessions.Ackqueue.Acked.loop1 fuel fuel1 aq
        = Sessions.Ackqueue.Acked.loop2 fuel
            { aq with ackdone := aq.ackdone ++ l.takeWhile (fun a => a.State == (13 : UInt8)), pings := l.dropWhile (fun a => a.State == (13 : UInt8)) } := by
  induction l with
  | nil =>
    intro fuel1 aq hp hf
    obtain ⟨f, rfl⟩ : ∃ f, fuel1 = f + 1 := ⟨fuel1 - 1, by omega⟩
    unfold Sessions.Ackqueue.Acked.loop1
    rw [hp]
    -- after `rw [hp]` the ping list is a literal, so every bound check of the unfolded body computes: `rfl` reaches the
    -- call that is left (here and in the two branches below)
    refine Eq.trans (b := Sessions.Ackqueue.Acked.loop2 fuel aq) rfl ?_
    rw [List.takeWhile_nil, List.append_nil, List.dropWhile_nil, ← hp]
  | cons a l ih =>
    intro fuel1 aq hp hf
    obtain ⟨f, rfl⟩ : ∃ f, fuel1 = f + 1 := ⟨fuel1 - 1, by omega⟩
    unfold Sessions.Ackqueue.Acked.loop1
    rw [hp, List.takeWhile_cons, List.dropWhile_cons, List.getD_cons_zero]
    cases hs : (a.State == (13 : UInt8))
    · refine Eq.trans (b := Sessions.Ackqueue.Acked.loop2 fuel aq) rfl ?_
      rw [if_neg Bool.false_ne_true, if_neg Bool.false_ne_true, List.append_nil, ← hp]
    · refine Eq.trans
        (b := Sessions.Ackqueue.Acked.loop1 fuel f { aq with ackdone := aq.ackdone ++ [a], pings := l }) rfl ?_
      rw [ih f _ rfl (Nat.lt_of_succ_lt_succ hf), List.append_assoc]
      rfl

/-- `Acked.loop2` is the model's `Q.drain`; the accumulator is `ackdone` -/
theorem Acked_loop2 (n : Nat) :
    ∀ (fuel : Nat) {aq : Sessions.Ackqueue} {q : Q}, Rep aq q → Inv q → q.size ≤ 2 ^ 61 → q.count ≤ n → n < fuel →
      ∃ aq', Sessions.Ackqueue.Acked.loop2 fuel aq = .ok (aq', aq'.ackdone) ∧
        Rep aq' (Q.drain n q (aq.ackdone.map absMsg)).1 ∧
        aq'.ackdone.map absMsg = (Q.drain n q (aq.ackdone.map absMsg)).2 := by
  induction n with
  | zero =>
    intro fuel aq q r hi hsz hc hf
    obtain ⟨f, rfl⟩ : ∃ f, fuel = f + 1 := ⟨fuel - 1, by omega⟩
    have he : q.empty = true := beq_iff_eq.mpr (Nat.le_zero.mp hc)
    refine ⟨aq, ?_, r, rfl⟩
    rw [Sessions.Ackqueue.Acked.loop2, r.empty, he]
    rfl
  | succ n ih =>
    intro fuel aq q r hi hsz hc hf
    obtain ⟨f, rfl⟩ : ∃ f, fuel = f + 1 := ⟨fuel - 1, by omega⟩
    rw [Sessions.Ackqueue.Acked.loop2, Q.drain, r.empty, r.head]
    cases he : q.empty
    · have hb := r.in_range hi hi.head
      rw [if_pos (show (!false) = true from rfl), if_pos hb, if_neg Bool.false_ne_true]
      extract_lets tag0 aq1 h
      have hh : h = absMsg (aq.ring.getD q.head Sessions.AckMsg.zero) := r.get _
      have hst : ackedReleaseStates.contains h.state =
          (tag0 == 4 || tag0 == 6 || tag0 == 7 || tag0 == 9 || tag0 == 11) :=
        (Acked_release_test tag0).symm ▸ congrArg (fun m => ackedReleaseStates.contains (AckMsg.state m)) hh
      rw [hst]
      cases (tag0 == 4 || tag0 == 6 || tag0 == 7 || tag0 == 9 || tag0 == 11)
      · exact ⟨aq, rfl, r, rfl⟩
      · -- the step: append the head to `ackdone`, `removeHead`, go on
        have hpos : 0 < q.count := Nat.pos_of_ne_zero (beq_eq_false_iff_ne.mp he)
        -- `aq1` is printed after `rw [r.head]`: its `head` is `↑q.head` literally
        obtain ⟨aq3, h1, r3, h4⟩ := removeHead_rep (aq := aq1) { r with head := rfl } hi (by omega)
        obtain ⟨aq', g1, g2, g3⟩ := ih f r3 (Mqtt.Proofs.AckQueue.removeHead_refines hi hpos).1
          (by rw [Mqtt.Proofs.AckQueue.removeHead_eq hpos]; exact hsz)
          (by rw [Mqtt.Proofs.AckQueue.removeHead_count hpos]; omega) (by omega)
        rw [if_pos (show true = true from rfl), if_pos hb, h1]
        rw [h4, List.map_append] at g2 g3
        rw [hh]
        exact ⟨aq', g1, g2, g3⟩
    · exact ⟨aq, rfl, r, rfl⟩

/-- "has its PINGRESP", asked of an entry of the model and of the translated one -/
theorem state_is_pingresp :
    (fun a => (absMsg a).state == tPINGRESP) = fun a : Sessions.AckMsg => a.State == (13 : UInt8) :=
  funext fun a => (u8_beq a.State 13).symm

/-- **`Acked` is the model's `Q.acked`.**  Fuel: `loop1` needs one more than the number of leading
answered pings, `loop2` one more than the number of released entries; both get `fuel`. -/
theorem Acked_rep (r : Rep aq q) (hi : Inv q) (hsz : q.size ≤ 2 ^ 61) (fuel : Nat)
    (hf1 : aq.pings.length < fuel) (hf2 : q.count < fuel) :
    ∃ aq' l, Sessions.Ackqueue.Acked fuel aq = .ok (aq', l) ∧
      Rep aq' q.acked.1 ∧ l.map absMsg = q.acked.2 ∧ aq'.ackdone = l := by
  unfold Sessions.Ackqueue.Acked
  simp only [Nat.le_refl, decide_true, Nat.zero_le, Bool.and_self, ↓reduceIte, List.drop_zero,
    Nat.sub_self, List.take_zero]
  rw [Acked_loop1 fuel aq.pings fuel { aq with ackdone := [] } rfl hf1]
  -- `aq1`: the queue after the first loop, `ackdone` holding the answered pings
  generalize haq1 : Sessions.Ackqueue.mk _ _ _ _ _ _ _ _ _ = aq1
  have r1 : Rep aq1 { q with pings := q.pings.dropWhile (fun a => a.state == tPINGRESP) } :=
    haq1 ▸ { r with pings := by rw [← r.pings, List.dropWhile_map, ← state_is_pingresp]; rfl }
  have hdone : aq1.ackdone.map absMsg = q.pings.takeWhile (fun a => a.state == tPINGRESP) :=
    haq1 ▸ (by rw [← r.pings, List.takeWhile_map, ← state_is_pingresp]; rfl)
  obtain ⟨aq', g1, g2, g3⟩ := Acked_loop2 q.count fuel r1 (hi.with_pings _) hsz (Nat.le_refl _) hf2
  rw [hdone] at g2 g3
  exact ⟨aq', aq'.ackdone, g1, g2, g3, rfl⟩

theorem Acked_is_source (fuel : Nat) (aq : Sessions.Ackqueue)
    (hw : GWf aq) (hi : Inv (absQ aq)) (hsz : aq.size ≤ 2 ^ 61)
    (hf1 : aq.pings.length < fuel) (hf2 : (absQ aq).count < fuel) :
    ∃ aq' l, Sessions.Ackqueue.Acked fuel aq = .ok (aq', l) ∧
      absQ aq' = ((absQ aq).acked).1 ∧ l.map absMsg = ((absQ aq).acked).2 ∧
      GWf aq' ∧ aq'.ackdone = l := by
  obtain ⟨aq', l, h1, r, h3, h4⟩ := Acked_rep (.of_wf hw) hi (by show aq.size.toNat ≤ _; omega) fuel hf1 hf2
  exact ⟨aq', l, h1, r.abs, h3, r.wf, h4⟩

theorem Acked_is_source' (hrm : RemoveHeadSpec) (fuel : Nat) (aq : Sessions.Ackqueue)
    (hw : GWf aq) (hi : Inv (absQ aq)) (hsz : aq.size ≤ 2 ^ 61)
    (hf : aq.pings.length + (absQ aq).count + 2 ≤ fuel) :
    ∃ aq' l, Sessions.Ackqueue.Acked fuel aq = .ok (aq', l) ∧
      absQ aq' = ((absQ aq).acked).1 ∧ l.map absMsg = ((absQ aq).acked).2 ∧
      GWf aq' ∧ aq'.ackdone = l :=
  Acked_is_source fuel aq hw hi hsz (by omega) (by omega)

/-- the error `Ack` returns for an identifier-keyed acknowledgement: the encoder's, when the identifier is known -/
def ackIdErr (known : Bool) (msg : Message.Message) : Err :=
  if known then (msg.Encode (List.replicate msg.Len.toNat 0)).2.2 else Err.nil

theorem Ack_id_rep (r : Rep aq q) (hi : Inv q) (msg : Message.Message)
    (ht : ackIdTypes.contains msg.Type_.toNat = true) (hlen : 0 ≤ msg.Len) :
    ∃ aq', Sessions.Ackqueue.Ack aq msg
        = .ok (aq', ackIdErr (emapGet q.emap msg.PacketID.toNat).isSome msg) ∧
      Rep aq' (q.ack msg.Type_.toNat msg.PacketID.toNat (msg.Encode (List.replicate msg.Len.toNat 0)).1).1 ∧
      (q.ack msg.Type_.toNat msg.PacketID.toNat (msg.Encode (List.replicate msg.Len.toNat 0)).1).2 = true ∧
      ((msg.Encode (List.replicate msg.Len.toNat 0)).2.2 = Err.nil →
        ackIdErr (emapGet q.emap msg.PacketID.toNat).isSome msg = Err.nil) ∧
      aq'.ackdone = aq.ackdone := by
  unfold Sessions.Ackqueue.Ack Q.ack
  simp only [Ack_id_test, ht, ↓reduceIte]
  cases hg : Go.mapGet aq.emap msg.PacketID with
  | none =>
    have hget : emapGet q.emap msg.PacketID.toNat = none := r.emap ▸ absMap_get_none hg
    refine ⟨aq, ?_, ?_, ?_, ?_, rfl⟩ <;> simp [hget, ackIdErr, r]
  | some i =>
    have hget : emapGet q.emap msg.PacketID.toNat = some i.toNat := r.emap ▸ absMap_get_some hg
    have hi0 : 0 ≤ i := mapGet_nonneg r.nonneg hg
    obtain ⟨j, hj, hij, _⟩ := hi.sound _ _ hget
    have hil : i.toNat < aq.ring.length := by rw [r.len hi, hij]; exact Mqtt.Proofs.AckQueue.slot_lt hi j
    simp only [hget, Option.isSome_some, ↓reduceIte, ackIdErr, Option.getD_some, hi0, decide_true,
      hil, Bool.and_self, List.length_set, hlen, getD_set_self, List.set_set]
    refine ⟨{ aq with ring := aq.ring.set i.toNat { (aq.ring.getD i.toNat Sessions.AckMsg.zero) with State := msg.Type_, Ackbuf := (msg.Encode (List.replicate msg.Len.toNat 0)).1 } },
      ?_, { r with ring := ?_ }, trivial, id, rfl⟩
    · by_cases he : (msg.Encode (List.replicate msg.Len.toNat 0)).2.2 = Err.nil
      · simp [he]
      · simp [he]
    · rw [List.map_set, r.ring, r.get]; rfl

def markPingGen (bytes : List UInt8) : List Sessions.AckMsg → List Sessions.AckMsg
  | [] => []
  | a :: rest =>
    if a.State != (13 : UInt8) then { a with State := (13 : UInt8), Ackbuf := bytes } :: rest
    else a :: markPingGen bytes rest

theorem markPingGen_map (bytes : List UInt8) (l : List Sessions.AckMsg) :
    (markPingGen bytes l).map absMsg = markPing bytes (l.map absMsg) := by
  induction l with
  | nil => rfl
  | cons a l ih =>
    have hs : ((absMsg a).state != tPINGRESP) = (a.State != (13 : UInt8)) :=
      congrArg (!·) (congrFun state_is_pingresp a)
    simp only [markPingGen, List.map_cons, markPing, hs]
    split
    · rfl
    · simp only [List.map_cons, ih]

/-- `Ack.loop1`: the entries before position `pre.length` are left alone, the first of `rest`
whose state is not PINGRESP takes the acknowledgement -/
theorem Ack_loop1 (msg : Message.Message) (rest : List Sessions.AckMsg) :
    ∀ (pre : List Sessions.AckMsg) (aq : Sessions.Ackqueue), aq.pings = pre ++ rest →
      Sessions.Ackqueue.Ack.loop1 aq msg pre.length rest
        = .ok ({ aq with pings := pre ++ markPingGen (msg.Encode (List.replicate 2 0)).1 rest }, Err.nil) := by
  induction rest with
  | nil =>
    intro pre aq hp
    unfold Sessions.Ackqueue.Ack.loop1 Sessions.Ackqueue.Ack.loop1_after
    simp only [markPingGen, ← hp]
  | cons a rest ih =>
    intro pre aq hp
    unfold Sessions.Ackqueue.Ack.loop1
    have hlt : pre.length < (pre ++ a :: rest).length := by simp
    by_cases hs : (a.State != (13 : UInt8)) = true
    · simp only [decide_true, ↓reduceIte, hp, getD_mid, hs, set_mid, List.length_append,
        List.length_cons, Nat.lt_add_right_iff_pos, Nat.zero_lt_succ,
        Sessions.Ackqueue.Ack.loop1_after, markPingGen]
    · simp only [hlt, decide_true, ↓reduceIte, hp, getD_mid, hs, Bool.false_eq_true, markPingGen]
      have := ih (pre ++ [a]) aq (by rw [hp]; simp)
      simp only [List.length_append, List.length_cons, List.length_nil, Nat.zero_add] at this
      rw [this]
      simp only [List.append_assoc, List.singleton_append]

/-- **the PINGRESP branch of `Ack` is the model's `markPing`**; no hypothesis on the queue -/
theorem Ack_ping_is_source (aq : Sessions.Ackqueue) (msg : Message.Message) (id : Nat)
    (ht : msg.Type_ = (13 : UInt8)) :
    ∃ aq', Sessions.Ackqueue.Ack aq msg = .ok (aq', Err.nil) ∧
      absQ aq' = ((absQ aq).ack msg.Type_.toNat id (msg.Encode (List.replicate 2 0)).1).1 ∧
      ((absQ aq).ack msg.Type_.toNat id (msg.Encode (List.replicate 2 0)).1).2 = true ∧
      (GWf aq → GWf aq') ∧ aq'.ackdone = aq.ackdone := by
  -- with the type fixed every test of the `switch` and of `Q.ack` is a closed term
  rw [Sessions.Ackqueue.Ack, ht]
  exact ⟨_, Ack_loop1 msg aq.pings [] aq rfl, congrArg (fun p => { absQ aq with pings := p }) (markPingGen_map _ _), rfl,
    fun hw => hw.same, rfl⟩

/-- every other type: `errAckMessage`, nothing changes; the model answers `false` -/
theorem Ack_other_is_source (aq : Sessions.Ackqueue) (msg : Message.Message) (id : Nat)
    (bytes : List UInt8)
    (h1 : ackIdTypes.contains msg.Type_.toNat = false) (h2 : msg.Type_ ≠ (13 : UInt8)) :
    Sessions.Ackqueue.Ack aq msg = .ok (aq, Err.var "errAckMessage") ∧
      (absQ aq).ack msg.Type_.toNat id bytes = (absQ aq, false) := by
  have h13 : (msg.Type_ == (13 : UInt8)) = false := beq_eq_false_iff_ne.mpr h2
  constructor
  · rw [Sessions.Ackqueue.Ack, Ack_id_test, h1, h13]; rfl
  · rw [Q.ack, h1, show (msg.Type_.toNat == ackPingType) = false from (u8_beq _ 13).symm.trans h13]; rfl

/-! ## The hypotheses are needed: concrete inputs -/

def opsQ2 : Sessions.Ackqueue := ⟨2, 1, 0, 0, 0, [], [Sessions.AckMsg.zero, Sessions.AckMsg.zero], [], []⟩

/-- a message record; `Encode` leaves the buffer alone and reports `err` -/
def opsMsg (dyn : String) (len : Int) (t : UInt8) (id : UInt16) (err : Err) : Message.Message :=
  ⟨dyn, len, t, id, fun b => (b, 0, err), false, 1⟩

theorem opsQ2_wf : GWf opsQ2 := ⟨by decide, by decide, by decide, by decide, by decide, by simp [opsQ2]⟩

theorem opsQ2_inv : Inv (absQ opsQ2) where
  pow := Exists.intro 1 rfl
  mask := rfl
  len := rfl
  cnt := by decide
  head := by decide
  tail := rfl
  sound := fun _ _ h => by cases h
  compl := fun j hj => absurd hj (Nat.not_lt_zero j)

/-- `DynTyped` is needed: a `*message.PublishMessage` whose `Type()` is 0 (the zero value
`&message.PublishMessage{}`) is stored with `Mtype = 0` by the code, with `tPUBLISH` by the model -/
theorem Wait_differs_untyped :
    ∃ aq' e, Sessions.Ackqueue.Wait opsQ2 (opsMsg "*message.PublishMessage" 0 0 1 Err.nil) 0 = .ok (aq', e) ∧
      absQ aq' ≠ ((absQ opsQ2).wait (waitMsgOf (opsMsg "*message.PublishMessage" 0 0 1 Err.nil)) 0).1 := by
  refine ⟨_, _, rfl, ?_⟩
  decide

/-- `0 ≤ msg.Len` is needed: `make([]byte, ml)` panics (the model has no such outcome) -/
theorem insert_panics_negative_len :
    Sessions.Ackqueue.insert opsQ2 1 (opsMsg "*message.SubscribeMessage" (-1) 8 1 Err.nil) 0 = .panic := by
  rfl

/-- a queue of two slots holding one PUBLISH with identifier 7 -/
def opsQ2one : Sessions.Ackqueue :=
  ⟨2, 1, 1, 0, 1, [], [⟨3, 0, 7, [], [], 0⟩, Sessions.AckMsg.zero], [(7, 0)], []⟩

/-- what `Ack_id_rep` leaves out: when the identifier is known and `msg.Encode`
fails, the code returns that error (after having updated state and buffer), the model answers
`true` — it is handed the encoded bytes and has no failing `Encode` -/
theorem Ack_flag_differs_on_encode_error :
    ∃ aq', Sessions.Ackqueue.Ack opsQ2one (opsMsg "*message.PubackMessage" 4 4 7 Err.dyn) = .ok (aq', Err.dyn) ∧
      ((absQ opsQ2one).ack 4 7 [0, 0, 0, 0]).2 = true ∧
      absQ aq' = ((absQ opsQ2one).ack 4 7 [0, 0, 0, 0]).1 := by
  refine ⟨_, rfl, ?_, ?_⟩ <;> decide

/-- `msg.PacketID = pktid` is needed: the code keys the map by the parameter but stores
`msg.PacketID()` in the entry; the model uses the parameter for both -/
theorem insert_differs_on_foreign_id :
    ∃ aq' e, Sessions.Ackqueue.insert opsQ2 2 (opsMsg "*message.SubscribeMessage" 0 8 1 Err.nil) 0 = .ok (aq', e) ∧
      absQ aq' ≠ (absQ opsQ2).insert 8 2 (encOf (opsMsg "*message.SubscribeMessage" 0 8 1 Err.nil)) 0 := by
  refine ⟨_, _, rfl, ?_⟩
  decide

end Mqtt.Proofs.XlateAckq
