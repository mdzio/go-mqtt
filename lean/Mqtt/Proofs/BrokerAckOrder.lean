/-
The statement order of `processSubscribe` / `processUnsubscribe` as extracted from the Go
source (extract/facts_broker.go, section `brokerack`) against what the model assumes.  The broker
model (`Model/Broker.packet`) performs the effects of a SUBSCRIBE / UNSUBSCRIBE on
the subscription store and the session and emits the acknowledgement in ONE step;
for the code that is right only if the acknowledgement is written after the last
effect (an acknowledgement that leaves the broker first opens a window in which a
PUBLISH from another connection still sees the old subscriptions - no event order
of the sequential model describes that).
-/
import Mqtt.Generated.Facts

namespace Mqtt.Proofs.Broker

/-- in both functions every `writeMessage(resp)` comes after the last
`topicsMgr.Subscribe/Unsubscribe` / `sess.AddTopic/RemoveTopic` call -/
theorem facts_ack_after_effects :
    Mqtt.Generated.subscribeAckAfterEffects = true ∧ Mqtt.Generated.unsubscribeAckAfterEffects = true := by
  decide

end Mqtt.Proofs.Broker
