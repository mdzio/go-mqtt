/-
The fan-out characterised.  The loop, run over an object with RETAIN = 1, hands the flag to
in-process callbacks and clears it for good at the first dead connection (`fanoutOuts`); the live fan-out
of `onPublish` clears the flag before the loop, so every reachable subscriber gets exactly one forward
with RETAIN = 0 per matching entry of the trie (`onPublish_char_gen`).  All of it for objects from which the encoder
draws no identifier (`hid`; a decoded PUBLISH); for the others (`Server.Publish`, a will): `BrokerRefine.fanout_outsFor`.
-/
import Mqtt.Proofs.BrokerFanoutSub

namespace Mqtt.Proofs.Broker
open Mqtt.Iface.Broker Mqtt.Model.Broker
open Mqtt.Proofs.Topics (abs good)
open Mqtt.Spec.Match (split validName matchLevels)

/-- what a connection is sent for message `p` at effective QoS `q`: the
publisher's DUP bit and packet identifier (none at QoS 0), RETAIN cleared,
topic and payload as received -/
def fwdConn (p : Pub) (q : Nat) : Pub :=
  { dup := p.dup, qos := q, retain := false, topic := p.topic, pktid := if q = 0 then 0 else p.pktid, payload := p.payload }

/-- what the loop hands subscriber `sq.1` for a message object with fields `p`
at effective QoS `sq.2`: a connection is sent `fwdConn`; an in-process callback
is called with the object as it is at that moment (the live fan-out clears the
RETAIN flag before the loop: `fanoutLive_char`) -/
def fwd (p : Pub) (sq : Nat × Nat) : Out :=
  if sq.1 < cbBase then .send sq.1 (.publish (fwdConn p sq.2)) else .call sq.1 { p with qos := sq.2 }

theorem fwd_qos (p : Pub) (q : Nat) (sq : Nat × Nat) : fwd { p with qos := q } sq = fwd p sq := rfl

theorem setQoS_p (m : Msg) (q : Nat) : (m.setQoS q).p = { m.p with qos := q } := rfl

/-- is subscriber `s` reachable: an in-process callback, or a live connection -/
def reachable (b : B) (s : Nat) : Bool := decide (cbBase ≤ s) || b.alive s

theorem reachable_conn (b : B) {s : Nat} (hs : s < cbBase) : reachable b s = b.alive s := by
  rw [reachable, decide_eq_false (Nat.not_le.mpr hs), Bool.false_or]

theorem reachable_cb (b : B) {s : Nat} (hs : ¬ s < cbBase) : reachable b s = true := by
  rw [reachable, decide_eq_true (Nat.le_of_not_lt hs), Bool.true_or]

theorem reachable_of_alive (b : B) (s : Nat) (h : s < cbBase → b.alive s = true) : reachable b s = true := by
  by_cases hs : s < cbBase
  · rw [reachable_conn b hs, h hs]
  · exact reachable_cb b hs

theorem deliverConn_char (b : B) (d : Nat) (m : Msg) (ht : m.p.topic ≠ []) (hid : m.p.pktid ≠ 0 ∨ m.p.qos = 0) :
    deliverConn b d m =
      if b.alive d then (b, m, [.send d (.publish (fwdConn m.p m.p.qos))]) else (b, m.setRetain false, []) := by
  rw [deliverConn_eq, List.isEmpty_eq_false_iff.mpr ht, Bool.and_false, Bool.not_false, Bool.and_true, encId, encCtr,
    draws_clean fun _ => hid.symm, wire_eq]
  rfl

/-- the outputs of the loop; `r` is the RETAIN flag the message object carries at this point -/
def fanoutOuts (b : B) (p : Pub) : Bool → List (Nat × Nat) → List Out
  | _, [] => []
  | r, (s, q) :: rest =>
    if s < cbBase then
      if b.alive s then .send s (.publish (fwdConn p q)) :: fanoutOuts b p r rest
      else fanoutOuts b p false rest
    else .call s { p with qos := q, retain := r } :: fanoutOuts b p r rest

theorem fanoutOuts_congr (b : B) (p : Pub) (q0 : Nat) (x : Bool) (subs : List (Nat × Nat)) :
    ∀ r, fanoutOuts b { p with qos := q0, retain := x } r subs = fanoutOuts b p r subs := by
  induction subs with
  | nil => intro r; rfl
  | cons sq rest ih =>
    intro r
    simp only [fanoutOuts, ih]
    rfl

/-- the loop, dead connections in the list allowed: they are skipped, and RETAIN of the object is cleared
once one was met.  The identifier is non-zero or every grant is QoS 0: otherwise the encoder would assign
an identifier, and the counter of the state would move. -/
theorem fanout_char_gen (subs : List (Nat × Nat)) :
    ∀ (b : B) (m : Msg), m.p.topic ≠ [] → (m.p.pktid ≠ 0 ∨ ∀ sq ∈ subs, sq.2 = 0) →
      (fanout b m subs).1 = b ∧
      (fanout b m subs).2.1.p = { m.p with qos := subs.foldl (fun _ sq => sq.2) m.p.qos,
                                           retain := subs.all (fun sq => reachable b sq.1) && m.p.retain } ∧
      (fanout b m subs).2.2 = fanoutOuts b m.p m.p.retain subs := by
  induction subs with
  | nil => intro b m _ _; exact ⟨rfl, rfl, rfl⟩
  | cons sq rest ih =>
    intro b m ht hid
    obtain ⟨s, eqos⟩ := sq
    have hid' : ∀ m' : Msg, m'.p.pktid = m.p.pktid → (m'.p.pktid ≠ 0 ∨ ∀ sq ∈ rest, sq.2 = 0) := fun m' e =>
      hid.imp (e ▸ ·) (fun h sq hsq => h sq (List.mem_cons_of_mem _ hsq))
    rw [fanout]
    by_cases hs : s < cbBase
    · have hr := reachable_conn b hs
      simp only [hs, ↓reduceIte, deliverConn_char b s (m.setQoS eqos) ht (hid.imp id (· (s, eqos) (by simp))),
        fanoutOuts, List.all_cons, hr, List.foldl_cons]
      cases b.alive s with
      | true =>
        obtain ⟨h1, h2, h3⟩ := ih b (m.setQoS eqos) ht (hid' _ rfl)
        simp only [↓reduceIte]
        exact ⟨h1, h2, by rw [h3]; exact congrArg _ (fanoutOuts_congr b m.p eqos m.p.retain rest m.p.retain)⟩
      | false =>
        obtain ⟨h1, h2, h3⟩ := ih b ((m.setQoS eqos).setRetain false) ht (hid' _ rfl)
        simp only [Bool.false_eq_true, ↓reduceIte]
        refine ⟨h1, h2.trans ?_, by rw [h3]; exact fanoutOuts_congr b m.p eqos false rest false⟩
        show ({ m.p with qos := _, retain := (rest.all _) && false } : Pub) = _
        rw [Bool.and_false]
        rfl
    · have hr := reachable_cb b hs
      obtain ⟨h1, h2, h3⟩ := ih b (m.setQoS eqos) ht (hid' _ rfl)
      simp only [hs, ↓reduceIte, fanoutOuts, List.all_cons, hr, List.foldl_cons]
      exact ⟨h1, h2, by rw [h3]; exact congrArg _ (fanoutOuts_congr b m.p eqos m.p.retain rest m.p.retain)⟩

theorem fanoutOuts_eq (b : B) (p : Pub) (r : Bool) (subs : List (Nat × Nat))
    (h : r = false ∨ ∀ sq ∈ subs, reachable b sq.1 = true) :
    fanoutOuts b p r subs = (subs.filter (fun sq => reachable b sq.1)).map (fwd { p with retain := r }) := by
  induction subs with
  | nil => rfl
  | cons sq rest ih =>
    obtain ⟨s, q⟩ := sq
    have ih' := ih (h.imp id (fun h sq hsq => h sq (List.mem_cons_of_mem _ hsq)))
    by_cases hs : s < cbBase
    · have hr := reachable_conn b hs
      cases hal : b.alive s with
      | true => simp only [fanoutOuts, hs, hal, ↓reduceIte, List.filter_cons, hr, List.map_cons, ih', fwd]; rfl
      | false =>
        rcases h with rfl | h
        · simp only [fanoutOuts, hs, hal, ↓reduceIte, List.filter_cons, hr, Bool.false_eq_true, ih']
        · rw [← hr, h (s, q) (List.mem_cons_self ..)] at hal; cases hal
    · have hr := reachable_cb b hs
      simp only [fanoutOuts, hs, ↓reduceIte, List.filter_cons, hr, List.map_cons, ih', fwd]

theorem fanout_char (subs : List (Nat × Nat)) (b : B) (m : Msg) (ht : m.p.topic ≠ [])
    (hid : m.p.pktid ≠ 0 ∨ ∀ sq ∈ subs, sq.2 = 0) (hal : ∀ sq ∈ subs, sq.1 < cbBase → b.alive sq.1 = true) :
    (fanout b m subs).1 = b ∧
    (fanout b m subs).2.1.p = { m.p with qos := subs.foldl (fun _ sq => sq.2) m.p.qos } ∧
    (fanout b m subs).2.2 = subs.map (fwd m.p) := by
  have hall : ∀ sq ∈ subs, reachable b sq.1 = true := fun sq hsq => reachable_of_alive b sq.1 (hal sq hsq)
  obtain ⟨h1, h2, h3⟩ := fanout_char_gen subs b m ht hid
  refine ⟨h1, ?_, ?_⟩
  · rw [h2, List.all_eq_true.mpr hall]; rfl
  · rw [h3, fanoutOuts_eq b m.p m.p.retain subs (.inr hall), List.filter_eq_self.mpr hall]

theorem fanoutLive_char (subs : List (Nat × Nat)) (b : B) (m : Msg) (ht : m.p.topic ≠ [])
    (hid : m.p.pktid ≠ 0 ∨ ∀ sq ∈ subs, sq.2 = 0)
    (hal : ∀ sq ∈ subs, sq.1 < cbBase → b.alive sq.1 = true) :
    (fanoutLive b m subs).1 = b ∧
    (fanoutLive b m subs).2.1.p = { m.p with qos := subs.foldl (fun _ sq => sq.2) m.p.qos } ∧
    (fanoutLive b m subs).2.2 = subs.map (fwd { m.p with retain := false }) := by
  obtain ⟨h1, h2, h3⟩ := fanout_char subs b ⟨{ m.p with retain := false }, m.dirty⟩ ht hid hal
  unfold fanoutLive
  simp only
  rw [loopMsg_eq]
  refine ⟨h1, ?_, h3⟩
  obtain ⟨⟨dup, qos, retain, topic, pktid, payload⟩, dirty⟩ := m
  cases retain with
  | false => simp only [Bool.false_eq_true, ↓reduceIte]; rw [h2]
  | true => simp only [↓reduceIte, Msg.setRetain]; rw [h2]

theorem onPublish_char_gen (b : B) (p : Pub) (hinv : Inv b)
    (hg : good p.topic = true) (hn : validName p.topic = true) (hq : p.qos ≤ 2)
    (hid : p.pktid ≠ 0 ∨ p.qos = 0) :
    (onPublish b ⟨p, false⟩).2.2.2 = true ∧
    (onPublish b ⟨p, false⟩).2.2.1.Perm
      (((abs b.topics.sroot).filter (fun e => matchLevels e.1 (split p.topic) && reachable b e.2.1)).map
        (fun e => fwd { p with retain := false } (e.2.1, min p.qos e.2.2))) := by
  have ht : p.topic ≠ [] := by
    intro h0; rw [h0] at hn; exact absurd hn (by decide)
  obtain ⟨hm, _⟩ := retainStep_clean b ⟨p, false⟩ rfl
  obtain ⟨subs, hsubs, hperm⟩ := subscribers_char b.topics p.topic p.qos hinv.wf hg hn hq
  have hfan := fanout_char_gen subs (retainStep b ⟨p, false⟩).1 ⟨{ p with retain := false }, false⟩ ht
    (hid.imp id (fun h sq hsq => by
      obtain ⟨e, _, rfl⟩ := List.mem_map.mp (hperm.mem_iff.mp hsq)
      show min p.qos e.2.2 = 0
      rw [h]; exact Nat.min_eq_left (Nat.zero_le _)))
  rw [onPublish_eq, hsubs, hm]
  refine ⟨rfl, ?_⟩
  show List.Perm (fanout _ _ subs).2.2 _
  rw [hfan.2.2, fanoutOuts_eq _ _ _ _ (.inl rfl)]
  have hre : (fun sq : Nat × Nat => reachable (retainStep b ⟨p, false⟩).1 sq.1) = fun sq => reachable b sq.1 :=
    funext fun sq => congrArg (decide (cbBase ≤ sq.1) || ·) (alive_congr b _ (retainStep_frame b ⟨p, false⟩).2.1 sq.1)
  rw [hre]
  refine ((hperm.filter (fun sq => reachable b sq.1)).map (fwd { p with retain := false })).trans (.of_eq ?_)
  rw [List.filter_map, List.map_map, List.filter_filter]
  simp only [Function.comp_def, Bool.and_comm]

/-- what subscriber `s`, holding a matching subscription granted at QoS `g`,
is handed for the accepted PUBLISH `p`: same topic, same payload, QoS
`min(p.qos, g)`, RETAIN = 0; a connection gets the publisher's identifier
(none at QoS 0) on the wire, an in-process callback the message object with
its RETAIN flag cleared -/
def delivery (p : Pub) (s g : Nat) : Out :=
  if s < cbBase then
    .send s (.publish { dup := p.dup, qos := min p.qos g, retain := false, topic := p.topic,
                        pktid := if min p.qos g = 0 then 0 else p.pktid, payload := p.payload })
  else .call s { p with qos := min p.qos g, retain := false }

theorem delivery_eq (p : Pub) (s g : Nat) : delivery p s g = fwd { p with retain := false } (s, min p.qos g) := rfl

/-- the subscriber an output is addressed to -/
def target : Out → Option Nat
  | .send c _ => some c
  | .call cb _ => some cb
  | _ => none

theorem target_delivery (p : Pub) (s g : Nat) : target (delivery p s g) = some s := by
  unfold delivery; split <;> rfl

theorem onPublish_target (b : B) (p : Pub) (hinv : Inv b)
    (hg : good p.topic = true) (hn : validName p.topic = true) (hq : p.qos ≤ 2) (hid : p.pktid ≠ 0 ∨ p.qos = 0)
    (o : Out) (ho : o ∈ (onPublish b ⟨p, false⟩).2.2.1) (c : Nat) (htc : target o = some c) :
    ∃ e ∈ abs b.topics.sroot, e.2.1 = c ∧ matchLevels e.1 (split p.topic) = true ∧ reachable b c = true ∧
      o = delivery p c e.2.2 := by
  obtain ⟨e, he, rfl⟩ := List.mem_map.mp ((onPublish_char_gen b p hinv hg hn hq hid).2.mem_iff.mp ho)
  obtain ⟨he1, he2⟩ := List.mem_filter.mp he
  rw [Bool.and_eq_true] at he2
  have hce : e.2.1 = c := Option.some.inj ((target_delivery p e.2.1 e.2.2).symm.trans htc)
  exact ⟨e, he1, hce, he2.1, hce ▸ he2.2, hce ▸ rfl⟩

end Mqtt.Proofs.Broker
