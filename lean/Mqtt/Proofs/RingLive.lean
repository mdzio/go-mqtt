/-
Core D — liveness invariants of the ring program (layer 2):
lock discipline (`LInv`: a mutex is held exactly by the thread inside its
critical section) and no lost wake-up (`NLWC`, `NLWP`; proved once as `NLW`, for the
waiter on either condition variable).  Neither needs the safety invariant: of the stepping thread only its typing `ThOK`.
-/
import Mqtt.Proofs.Ring

namespace Mqtt.Proofs.Ring
open Mqtt.Model.Ring Mqtt.Iface.Ring

/-- the program counters at which a thread holds mutex `m` (inside its critical section) -/
def holds : Pc → Mx → Bool
  | .x12, .pL | .x13, .pL => true
  | .s33 _ _, .pL | .s34 _ _, .pL | .s35 _ _, .pL | .s36 _ _, .pL | .s37 _ _, .pL | .s38 _ _ _, .pL => true
  | .r66 _ _ _, .pL | .r67 _ _ _, .pL | .k104 _, .pL | .k105 _, .pL => true
  | .x15, .cL | .x16, .cL | .w44 _, .cL | .w45 _, .cL | .c52 _, .cL | .c53 _, .cL => true
  | .r74 _ _, .cL | .r75 _ _, .cL | .r75r _ _, .cL | .r76 _ _, .cL | .r77 _ _, .cL | .r78 _ _, .cL | .r79 _, .cL => true
  | .p83 _ _ _, .cL | .p84 _ _ _, .cL | .p84r _ _ _, .cL | .p85 _ _ _, .cL | .p86 _ _ _, .cL | .p87 _ _ _, .cL | .p88 _ _ _ _, .cL => true
  | _, _ => false

/-! `holds` annotates the program counters with the mutexes held there.  That the annotation fits the program
is a fact about the control-flow graph (`holds_edge`: along every edge it changes as the lock operation of
the source says; `holds_needs`: an unlock, broadcast or park stands where its mutex is held); that the
shared state follows suit is a fact about the six lock operations (`Does.owner`). -/

/-- what "the thread holds `m`" becomes by a lock operation -/
def LockOp.after (m : Mx) (b : Bool) : LockOp → Bool
  | .lock m' | .resume m' => b || m == m'
  | .unlock m' | .park m' => b && m != m'
  | _ => b

/-- the mutex a lock operation presupposes the thread to hold -/
def LockOp.needs : LockOp → Option Mx
  | .unlock m | .bcast m | .park m => some m
  | _ => none

theorem holds_edge {p q : Pc} (h : Edge p q) (m : Mx) : holds q m = (lockOp p).after m (holds p m) := by
  cases h <;> cases m <;> rfl

theorem holds_needs (pc : Pc) (m : Mx) (h : (lockOp pc).needs = some m) : holds pc m = true := by
  cases pc <;> cases h <;> rfl

theorem Does.owner {me : Tid} {op : LockOp} {d sh' : Sh} (h : Does me op d sh')
    (hn : ∀ m, op.needs = some m → d.owner m = some me) (hc : d.crash = false) :
    (∀ m, sh'.owner m = some me ↔ op.after m (decide (d.owner m = some me)) = true) ∧
    (∀ m t, t ≠ me → (sh'.owner m = some t ↔ d.owner m = some t)) ∧ sh'.crash = false := by
  -- the mutex operated on changes hands between `me` and nobody; the other one is left alone
  have other : ∀ (m' m : Mx) (o : Option Tid) (t : Tid), t ≠ me → (d.owner m' = none ∨ d.owner m' = some me) →
      (o = none ∨ o = some me) → ((if m' = m then o else d.owner m) = some t ↔ d.owner m = some t) := by
    intro m' m o t ht h1 h2
    by_cases e : m' = m
    · subst e
      rcases h1 with h1 | h1 <;> rcases h2 with h2 | h2 <;> simp [h1, h2, Ne.symm ht]
    · simp [e]
  have acq : ∀ m' m : Mx, ((if m' = m then some me else d.owner m) = some me ↔
      (decide (d.owner m = some me) || m == m') = true) := by
    intro m' m
    by_cases e : m' = m
    · subst e; simp
    · simp [e, Ne.symm e]
  have rel : ∀ m' m : Mx, ((if m' = m then none else d.owner m) = some me ↔
      (decide (d.owner m = some me) && m != m') = true) := by
    intro m' m
    by_cases e : m' = m
    · subst e; simp
    · simp [e, Ne.symm e]
  cases h
  case skip => exact ⟨fun m => by simp [LockOp.after], fun _ _ _ => Iff.rfl, hc⟩
  case bcast m' => exact ⟨fun m => by simp [LockOp.after, Sh.bcast], fun _ _ _ => by simp [Sh.bcast], by simpa [Sh.bcast] using hc⟩
  case lock m' free | resume m' _ free =>
    exact ⟨fun m => by simpa [LockOp.after] using acq m' m,
      fun m t ht => by simpa using other m' m _ t ht (.inl free) (.inr rfl), by simpa using hc⟩
  case unlock m' =>
    have ho := hn m' rfl
    rw [unlock_held _ _ _ ho]
    exact ⟨fun m => by simpa [LockOp.after] using rel m' m,
      fun m t ht => by simpa using other m' m _ t ht (.inr ho) (.inl rfl), by simpa using hc⟩
  case park m' =>
    have ho := hn m' rfl
    unfold Sh.park
    rw [unlock_held _ _ me (by simpa using ho)]
    exact ⟨fun m => by simpa [LockOp.after] using rel m' m,
      fun m t ht => by simpa using other m' m _ t ht (.inr ho) (.inl rfl), by simpa using hc⟩

theorem lock_step (cfg : Cfg) (sh sh' : Sh) (me : Tid) (th th' : Th)
    (hown : ∀ m, holds th.pc m = true ↔ sh.owner m = some me)
    (hs : tstep cfg sh me th = some (sh', th')) :
    (∀ m, holds th'.pc m = true ↔ sh'.owner m = some me) ∧
    (∀ m t, t ≠ me → (sh'.owner m = some t ↔ sh.owner m = some t)) ∧ sh'.crash = false := by
  have hst := tstep_step _ _ _ _ _ _ hs
  obtain ⟨d, hd, hop⟩ := step_shared hst
  obtain ⟨h1, h2, h3⟩ := hop.owner
    (fun m h => by rw [hd.owner]; exact (hown m).mp (holds_needs _ m h))
    (by rw [hd.crash]; exact tstep_crash _ _ _ _ _ hs)
  refine ⟨fun m => ?_, fun m t ht => by rw [h2 m t ht, hd.owner], h3⟩
  rw [h1 m, holds_edge (step_edge hst) m, hd.owner]
  have := hown m
  cases hh : holds th.pc m <;> simp_all

/-- lock invariant: a mutex is held exactly by the thread whose program counter is inside that
mutex's critical section -/
structure LInv (s : St) : Prop where
  nocrash : s.sh.crash = false
  own : ∀ t th, s.getTh t = some th → ∀ m, holds th.pc m = true ↔ s.sh.owner m = some t
  real : ∀ m t, s.sh.owner m = some t → ∃ th, s.getTh t = some th

theorem linv_step (cfg : Cfg) (s s' : St) (t : Tid) (h : LInv s) (hs : step cfg s t = some s') : LInv s' := by
  obtain ⟨th, th', hth, hst, hth'⟩ := step_t cfg s s' t hs
  obtain ⟨h1, h2, h3⟩ := lock_step cfg s.sh s'.sh t th th' (h.own t th hth) hst
  refine ⟨h3, step_threads hs h.own (fun th2 e => by cases hth'.symm.trans e; exact h1)
    (fun u thu hne hu m => (hu m).trans (h2 m u hne).symm), fun m u ho => ?_⟩
  by_cases e : u = t
  · subst e; exact ⟨th', hth'⟩
  · rw [step_other cfg s s' t u hs (Ne.symm e)]
    exact h.real m u ((h2 m u e).mp ho)

theorem linv_init (cfg : Cfg) (adv gate : Nat) (progP progC : List Call) (progsK : List (List Call)) :
    LInv (mkInit cfg adv gate progP progC progsK) := by
  refine ⟨rfl, ?_, ?_⟩
  · intro t th hg m
    rw [mkInit_idle hg]
    cases m <;> simp [holds, mkInit, init, Sh.owner]
  · intro m t ho
    cases m <;> simp [mkInit, init, Sh.owner] at ho

theorem linv_run (cfg : Cfg) (s : St) (sched : List Tid) (h : LInv s) : LInv (run cfg s sched) :=
  run_induction (fun s t s' h hs => linv_step cfg s s' t h hs) s sched h

theorem holds_idle (m : Mx) : holds .idle m = false := by cases m <;> rfl

theorem LInv.holder {s : St} (h : LInv s) {m : Mx} {t : Tid} (ho : s.sh.owner m = some t) :
    ∃ th, s.getTh t = some th ∧ holds th.pc m = true :=
  have ⟨th, hth⟩ := h.real m t ho
  ⟨th, hth, (h.own t th hth m).mpr ho⟩

theorem LInv.idle_free {s : St} (h : LInv s) {m : Mx} {t : Tid} {th : Th} (hth : s.getTh t = some th)
    (hidle : th.pc = .idle) : s.sh.owner m ≠ some t := fun ho => by
  have := (h.own t th hth m).mpr ho
  rw [hidle, holds_idle] at this
  cases this

/-! Each condition variable has one waiter: the producer waits on pcond for space, the consumer on ccond for
data, and both leave when the ring is closed.  Under the mutex the waiter tests the other side's cursor
(stage 1), then `done` (stage 2), and parks.  Whoever stores that cursor or `done` takes the mutex and
broadcasts afterwards; from the store to the broadcast it is *pending*.  The invariant (`cNeed`, `pNeed`):
while the waiter is in its loop and has not been woken, what it has tested is still true, unless somebody
is pending.  A pending thread stays pending until it broadcasts, and it cannot broadcast between the
waiter's test and its parking, because the waiter holds the mutex all that time. -/

/-- the producer has stored `pseq` and not yet broadcast ccond -/
def pendC : Pc → Bool
  | .w43 _ | .w44 _ | .c51 _ | .c52 _ => true
  | _ => false
/-- a closer has stored `done` and not yet broadcast ccond -/
def pendCd : Pc → Bool
  | .x11 | .x12 | .x13 | .x14 | .x15 => true
  | _ => false

/-- the consumer is inside a wait loop: it has found no data (stage 1), has also found the ring
open (stage 2), or is parked in `ccond.Wait` -/
def cStage : Pc → Nat
  | .r75 _ _ | .p84 _ _ _ => 1
  | .r77 _ _ | .p86 _ _ _ | .r77w _ _ | .p86w _ _ _ => 2
  | _ => 0
def cParked : Pc → Bool
  | .r77w _ _ | .p86w _ _ _ => true
  | _ => false

/-- the wait condition the consumer tested, evaluated on the producer cursor `pseq` -/
def noDataAt (pseq : Nat) : Pc → Prop
  | .r75 _ cpos | .r77 _ cpos | .r77w _ cpos => pseq ≤ cpos
  | .p84 w n cpos | .p86 w n cpos | .p86w w n cpos => mustWait w n cpos pseq = true
  | _ => True

theorem cParked_cases (pc : Pc) (h : cParked pc = true) : (∃ n cpos, pc = .r77w n cpos) ∨ ∃ w n cpos, pc = .p86w w n cpos := by
  unfold cParked at h
  split at h
  · exact .inl ⟨_, _, rfl⟩
  · exact .inr ⟨_, _, _, rfl⟩
  · cases h

/-- what must hold while the consumer is in a wait loop and not yet woken -/
def cNeed (sh : Sh) (cpc : Pc) (ec ed : Prop) : Prop :=
  0 < cStage cpc → (cParked cpc = true → sh.cNote = false) →
    (noDataAt sh.pseq cpc ∨ ec) ∧ (cStage cpc = 2 → sh.done = false ∨ ed)

/-- the consumer has stored `cseq` and not yet broadcast pcond -/
def pendP : Pc → Bool
  | .r65 _ _ _ | .r66 _ _ _ | .k103 _ | .k104 _ => true
  | _ => false
/-- a closer has stored `done` and not yet broadcast pcond -/
def pendPd : Pc → Bool
  | .x11 | .x12 => true
  | _ => false

def pStage : Pc → Nat
  | .s34 _ _ => 1
  | .s36 _ _ | .s36w _ _ => 2
  | _ => 0
def pParked : Pc → Bool
  | .s36w _ _ => true
  | _ => false

theorem pParked_cases (pc : Pc) (h : pParked pc = true) : ∃ n ppos, pc = .s36w n ppos := by
  unfold pParked at h
  split at h
  · exact ⟨_, _, rfl⟩
  · cases h

/-- the wait condition the producer tested, evaluated on the consumer cursor `cseq` -/
def noSpaceAt (size cseq : Nat) : Pc → Prop
  | .s34 n ppos | .s36 n ppos | .s36w n ppos => ppos + n > cseq + size
  | _ => True

def pNeed (cfg : Cfg) (sh : Sh) (ppc : Pc) (ec ed : Prop) : Prop :=
  0 < pStage ppc → (pParked ppc = true → sh.pNote = false) →
    (noSpaceAt cfg.size sh.cseq ppc ∨ ec) ∧ (pStage ppc = 2 → sh.done = false ∨ ed)

/-! The two sides are mirror images; the argument is made once, for the waiter on the condition variable of `m`. -/

def waitRole : Mx → Role
  | .pL => .prod
  | .cL => .cons
def waiter : Mx → Tid
  | .pL => .p
  | .cL => .c
def pend : Mx → Pc → Bool
  | .pL => pendP
  | .cL => pendC
def pendD : Mx → Pc → Bool
  | .pL => pendPd
  | .cL => pendCd
def stage : Mx → Pc → Nat
  | .pL => pStage
  | .cL => cStage
def parked : Mx → Pc → Bool
  | .pL => pParked
  | .cL => cParked
/-- the cursor the waiter's condition reads: the other side's -/
def seen : Mx → Sh → Nat
  | .pL, sh => sh.cseq
  | .cL, sh => sh.pseq
def lacksAt (cfg : Cfg) : Mx → Nat → Pc → Prop
  | .pL => noSpaceAt cfg.size
  | .cL => noDataAt

/-- what must hold while the waiter on `m` is in its wait loop and not yet woken: it still lacks
space / data unless `ec` (a store of the cursor awaits its broadcast), and where it has seen the ring open it is open unless `ed` (a
store of `done` awaits its broadcast) -/
def Need (cfg : Cfg) (m : Mx) (sh : Sh) (wpc : Pc) (ec ed : Prop) : Prop :=
  0 < stage m wpc → (parked m wpc = true → sh.note m = false) →
    (lacksAt cfg m (seen m sh) wpc ∨ ec) ∧ (stage m wpc = 2 → sh.done = false ∨ ed)

theorem Need.mono {cfg : Cfg} {m : Mx} {sh : Sh} {wpc : Pc} {ec ed ec' ed' : Prop} (h : Need cfg m sh wpc ec ed)
    (h1 : ec → ec') (h2 : ed → ed') : Need cfg m sh wpc ec' ed' :=
  fun h0 hpk => ⟨(h h0 hpk).1.imp_right h1, fun hs => ((h h0 hpk).2 hs).imp_right h2⟩

/-- the statements that store the cursor the waiter on `m` reads -/
def feeds : Mx → Pc → Bool
  | .cL, .w42 _ _ | .cL, .c50 _ _ | .pL, .r64 _ _ _ | .pL, .k102 _ _ => true
  | _, _ => false
def closes : Pc → Bool
  | .x10 => true
  | _ => false
/-- the lock operation sets the note of `m` … -/
def LockOp.wakes (m : Mx) : LockOp → Bool
  | .bcast m' => m == m'
  | _ => false
/-- … clears it -/
def LockOp.sleeps (m : Mx) : LockOp → Bool
  | .park m' | .resume m' => m == m'
  | _ => false

/-- `pend` fits the program: a thread becomes pending by its store and stays so until its broadcast -/
theorem pend_edge {p q : Pc} (h : Edge p q) (m : Mx) :
    pend m q = ((pend m p && !(lockOp p).wakes m) || feeds m p) ∧
    pendD m q = ((pendD m p && !(lockOp p).wakes m) || closes p) := by
  cases h <;> cases m <;> exact ⟨rfl, rfl⟩

/-- only the waiter touches its own wait list -/
theorem sleeps_role (pc : Pc) (m : Mx) (h : (lockOp pc).sleeps m = true) : pcRole pc = waitRole m := by
  cases pc <;> first | cases h | (cases m <;> first | rfl | cases h)

theorem wakes_holds (pc : Pc) (m : Mx) (h : (lockOp pc).wakes m = true) : holds pc m = true := by
  refine holds_needs pc m ?_
  generalize lockOp pc = op at h
  cases op <;> first | cases h | exact congrArg some (of_decide_eq_true h).symm

/-- from its test to its parking the waiter holds the mutex -/
theorem stage_holds (pc : Pc) (m : Mx) (h : 0 < stage m pc) (hp : parked m pc = false) : holds pc m = true := by
  cases pc <;> cases m <;> first | (cases h; done) | rfl | cases hp

/-- the statements of the loop of the waiter on `m` after which it may still be in the loop: the two tests and `Wait` -/
def loopPc : Pc → Mx → Bool
  | .s33 _ _, .pL | .s37 _ _, .pL | .s34 _ _, .pL | .s36 _ _, .pL => true
  | .r74 _ _, .cL | .r78 _ _, .cL | .r75 _ _, .cL | .r77 _ _, .cL => true
  | .p83 _ _ _, .cL | .p87 _ _ _, .cL | .p84 _ _ _, .cL | .p86 _ _ _, .cL => true
  | _, _ => false

theorem stage_edge {p q : Pc} (h : Edge p q) (m : Mx) : loopPc p m = false → stage m q = 0 := by
  cases h <;> cases m <;> first | exact fun _ => rfl | exact fun h => nomatch h

theorem Store.seen {sh d : Sh} {pc : Pc} (h : Store sh pc d) (m : Mx) : seen m d = seen m sh ∨ feeds m pc = true := by
  cases h <;> cases m <;> first | exact .inl rfl | exact .inr rfl

theorem Does.seen {me : Tid} {op : LockOp} {d sh' : Sh} (h : Does me op d sh') (m : Mx) : seen m sh' = seen m d := by
  cases m
  · exact congrArg Core.cseq h.core
  · exact congrArg Core.pseq h.core

/-- a broadcast sets the note, `Wait` clears it on parking and again on waking, nothing else touches it -/
theorem Does.note {me : Tid} {op : LockOp} {d sh' : Sh} (h : Does me op d sh') (m : Mx) :
    sh'.note m = ((d.note m || op.wakes m) && !op.sleeps m) := by
  cases h
  case skip => simp [LockOp.wakes, LockOp.sleeps]
  case unlock m' => cases m <;> cases m' <;> simp [LockOp.wakes, LockOp.sleeps]
  case bcast m' => cases m <;> cases m' <;> simp [LockOp.wakes, LockOp.sleeps, Sh.bcast]
  case park m' => cases m <;> cases m' <;> simp [LockOp.wakes, LockOp.sleeps, Sh.park]
  case lock m' _ => cases m <;> cases m' <;> simp [LockOp.wakes, LockOp.sleeps]
  case resume m' _ _ => cases m <;> cases m' <;> simp [LockOp.wakes, LockOp.sleeps]

/-- the waiter's own steps establish its requirement, by testing, and keep it -/
theorem need_own (cfg : Cfg) (m : Mx) (sh sh' : Sh) (me : Tid) (th th' : Th) (ec ed : Prop)
    (h : Need cfg m sh th.pc ec ed) (hs : tstep cfg sh me th = some (sh', th')) :
    Need cfg m sh' th'.pc ec ed := by
  have hst := tstep_step _ _ _ _ _ _ hs
  intro h0 hpk
  have hin : loopPc th.pc m = true := by
    cases hl : loopPc th.pc m
    · rw [stage_edge (step_edge hst) m hl] at h0; cases h0
    · rfl
  clear hpk
  have hpark : ∀ m', seen m (sh.park m') = seen m sh ∧ (sh.park m').done = sh.done := fun m' =>
    ⟨(Does.park (me := me)).seen m, (Does.park (me := me)).done⟩
  -- what is left are the steps inside the loop that stay inside
  generalize th.pc = pc at hst h hin
  cases hst <;> try (cases hin; done)
  all_goals cases m
  all_goals try (first | (cases hin; done) | (cases h0; done))
  case s33_full h' | s37_full h' | r74_wait h' | r78_wait h' | p83_wait h' | p87_wait h' => exact ⟨.inl h', nofun⟩
  case s34 h' | r75 h' | p84 h' => exact ⟨(h Nat.one_pos nofun).1, fun _ => .inl (Bool.eq_false_iff.mpr h')⟩
  case s36 =>
    obtain ⟨a, b⟩ := h Nat.two_pos nofun
    exact ⟨(hpark .pL).1 ▸ a, fun _ => (hpark .pL).2 ▸ b rfl⟩
  case r77 | p86 =>
    obtain ⟨a, b⟩ := h Nat.two_pos nofun
    exact ⟨(hpark .cL).1 ▸ a, fun _ => (hpark .cL).2 ▸ b rfl⟩

/-- some thread other than `ex` is at a program counter satisfying `f` -/
def exPc (s : St) (ex : Tid) (f : Pc → Bool) : Prop :=
  ∃ t th, t ≠ ex ∧ s.getTh t = some th ∧ f th.pc = true

def NLWC (s : St) : Prop := cNeed s.sh s.C.pc (exPc s .c pendC) (exPc s .c pendCd)
def NLWP (cfg : Cfg) (s : St) : Prop := pNeed cfg s.sh s.P.pc (exPc s .p pendP) (exPc s .p pendPd)

/-- no lost wake-up on the condition variable of `m` -/
def NLW (cfg : Cfg) (m : Mx) (s : St) : Prop :=
  ∀ wth, s.getTh (waiter m) = some wth → Need cfg m s.sh wth.pc (exPc s (waiter m) (pend m)) (exPc s (waiter m) (pendD m))

theorem stage_parked (m : Mx) (pc : Pc) (h : parked m pc = true) : stage m pc = 2 := by
  cases m
  · obtain ⟨_, _, e⟩ := pParked_cases _ h; rw [e]; rfl
  · rcases cParked_cases _ h with ⟨_, _, e⟩ | ⟨_, _, _, e⟩ <;> rw [e] <;> rfl

/-- what no-lost-wake-up says of a parked waiter that has not been woken: its wait condition still holds of the other
side's cursor, and the ring is open, unless a broadcaster is pending -/
theorem NLW.parked {cfg : Cfg} {m : Mx} {s : St} (h : NLW cfg m s) {wth : Th} (hw : s.getTh (waiter m) = some wth)
    (hp : parked m wth.pc = true) (hn : s.sh.note m = false) :
    (lacksAt cfg m (seen m s.sh) wth.pc ∨ exPc s (waiter m) (pend m)) ∧
    (s.sh.done = false ∨ exPc s (waiter m) (pendD m)) :=
  have hst := stage_parked m _ hp
  have H := h wth hw (hst ▸ Nat.two_pos) (fun _ => hn)
  ⟨H.1, H.2 hst⟩

theorem nlwp_iff (cfg : Cfg) (s : St) : NLWP cfg s ↔ NLW cfg .pL s :=
  ⟨fun h _ e => by cases e; exact h, fun h => h _ rfl⟩

theorem nlwc_iff (cfg : Cfg) (s : St) : NLWC s ↔ NLW cfg .cL s :=
  ⟨fun h _ e => by cases e; exact h, fun h => h _ rfl⟩

theorem exPc_step {cfg : Cfg} {s s' : St} {t : Tid} {th th' : Th} {ex : Tid} {f : Pc → Bool} (hs : step cfg s t = some s')
    (hth : s.getTh t = some th) (hth' : s'.getTh t = some th')
    (hf : t ≠ ex → f th.pc = true → f th'.pc = true) (h : exPc s ex f) : exPc s' ex f := by
  obtain ⟨t0, th0, h1, h2, h3⟩ := h
  by_cases e : t0 = t
  · subst e
    cases hth.symm.trans h2
    exact ⟨t0, th', h1, hth', hf h1 h3⟩
  · exact ⟨t0, th0, h1, by rw [step_other cfg s s' t t0 hs (Ne.symm e)]; exact h2, h3⟩

theorem role_not_waiter (t : Tid) (pc : Pc) (m : Mx) (ht : t ≠ waiter m) (h : roleOK t (pcRole pc) = true) :
    pcRole pc ≠ waitRole m := by
  intro e
  rw [e] at h
  cases m <;> cases t <;> first | exact ht rfl | cases h

theorem nlw_step (cfg : Cfg) (m : Mx) (s s' : St) (t : Tid) (hok : ∀ th, s.getTh t = some th → ThOK t th) (hl : LInv s)
    (h : NLW cfg m s) (hs : step cfg s t = some s') : NLW cfg m s' := by
  obtain ⟨th, th', hth, hst, hth'⟩ := step_t cfg s s' t hs
  intro wth hw
  by_cases e : t = waiter m
  · subst e
    cases hth'.symm.trans hw
    exact (need_own cfg m _ _ _ _ _ _ _ (h th hth) hst).mono (exPc_step hs hth hth' (fun ne => absurd rfl ne))
      (exPc_step hs hth hth' (fun ne => absurd rfl ne))
  · rw [step_other cfg s s' t _ hs e] at hw
    have hN := h wth hw
    have hS := tstep_step _ _ _ _ _ _ hst
    obtain ⟨d, hd, hop⟩ := step_shared hS
    obtain ⟨hp, hpD⟩ := pend_edge (step_edge hS) m
    have hnote := hop.note m
    rw [hd.note, Bool.eq_false_iff.mpr (fun hsl => role_not_waiter t _ m e (hok th hth).role
      (sleeps_role _ m hsl)), Bool.not_false, Bool.and_true] at hnote
    intro h0 hpk
    -- the stepping thread has not broadcast: it would hold the mutex, which the waiter holds until it is parked
    have hquiet : (lockOp th.pc).wakes m = false := by
      cases hw' : (lockOp th.pc).wakes m
      · rfl
      · rw [hw', Bool.or_true] at hnote
        have hnp : parked m wth.pc = false := by
          cases hp' : parked m wth.pc
          · rfl
          · rw [hpk hp'] at hnote; cases hnote
        have h1 := (hl.own _ wth hw m).mp (stage_holds _ m h0 hnp)
        rw [(hl.own t th hth m).mp (wakes_holds _ m hw')] at h1
        exact absurd (Option.some.inj h1) e
    rw [hquiet, Bool.or_false] at hnote
    rw [hquiet, Bool.not_false, Bool.and_true] at hp hpD
    obtain ⟨H1, H2⟩ := hN h0 (fun hp' => hnote ▸ hpk hp')
    have hnew : ∀ f : Pc → Bool, f th'.pc = true → exPc s' (waiter m) f := fun f hf => ⟨t, th', e, hth', hf⟩
    refine ⟨?_, fun h2 => ?_⟩
    · rcases hd.seen m with e1 | e1
      · rw [hop.seen, e1]
        exact H1.imp_right (exPc_step hs hth hth' (fun _ hf => by rw [hp, hf]; rfl))
      · exact .inr (hnew _ (by rw [hp, e1, Bool.or_true]))
    · rcases hd.done_eq with ⟨_, e1⟩ | ⟨e1, _⟩
      · rw [hop.done, e1]
        exact (H2 h2).imp_right (exPc_step hs hth hth' (fun _ hf => by rw [hpD, hf]; rfl))
      · exact .inr (hnew _ (by rw [hpD, e1]; exact Bool.or_true _))

end Mqtt.Proofs.Ring
