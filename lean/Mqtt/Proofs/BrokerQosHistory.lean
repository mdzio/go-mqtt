/-
C02 over histories: exchanges opened and contents handed over, conservation.  Everything is indexed
by the session object `r`: a connection is `bound` to one session object for its whole life and a
persistent session object outlives its connections, so the connection identifier alone is not the
right index.
-/
import Mqtt.Proofs.BrokerQosInv
import Mqtt.Proofs.Fifo

namespace Mqtt.Proofs.BrokerQos
open Mqtt.Iface.Broker Mqtt.Model.Broker
open Mqtt.Generated (tPUBREL)

theorem bound_sess {b : B} (hI : BInv b) {c r : Nat} (hb : bound b c r = true) :
    b.alive c = true ∧ ∃ cn s, b.getConn c = some cn ∧ cn.alive = true ∧ b.getSess cn.sess = some s ∧
      cn.sess = r ∧ s.ref = r ∧ pub2inOf b r = s.pub2in := by
  have hl := bound_alive hb
  obtain ⟨cn, s, hc, ha, hs⟩ := hI.live hl
  have hcr : cn.sess = r := by
    rw [bound_eq hc, ha, Bool.true_and] at hb
    exact eq_of_beq hb
  exact ⟨hl, cn, s, hc, ha, hs, hcr, (BrokerLife.getSess_ref hs).trans hcr, hcr ▸ pub2inOf_eq hs⟩

/-- the QoS 2 exchange an event opens on session object `r`: a QoS 2 PUBLISH on a
live connection bound to `r` while no exchange with its identifier is open -/
def stepOpened (b : B) (r : Nat) : Ev → List Pub
  | .packet c (.publish p) =>
    if bound b c r && p.qos == 2 && !(pub2inOf b r).any (fun e => e.id == p.pktid) then [p] else []
  | _ => []

/-- the contents an event takes off the queue of `r` and hands on: those of the
prefix a PUBREL on a live connection bound to `r` releases -/
def stepHanded (b : B) (r : Nat) : Ev → List Pub
  | .packet c (.pubrel id) =>
    if bound b c r then (q2Acked (q2Ack (pub2inOf b r) id)).2.map (·.msg) else []
  | _ => []

def opened (b : B) (r : Nat) : List Ev → List Pub
  | [] => []
  | ev :: evs => stepOpened b r ev ++ opened (step b ev).1 r evs

def handed (b : B) (r : Nat) : List Ev → List Pub
  | [] => []
  | ev :: evs => stepHanded b r ev ++ handed (step b ev).1 r evs

theorem step_conservation {b : B} (hI : BInv b) (ev : Ev) (r : Nat) :
    stepHanded b r ev ++ (pub2inOf (step b ev).1 r).map (·.msg) =
      (pub2inOf b r).map (·.msg) ++ stepOpened b r ev := by
  rw [step_pub2in hI ev r]
  -- an event that neither opens nor hands over: both sides are the queue's contents
  have idle : ∀ (x : Bool) (q : List QEntry),
      ([] : List Pub) ++ (if x then q else q).map (·.msg) = q.map (·.msg) ++ [] :=
    fun x q => by rw [ite_self, List.append_nil]; rfl
  cases ev with
  | packet c p =>
    cases p with
    | publish pub =>
      simp only [stepHanded, stepOpened, newQ, List.nil_append]
      by_cases hb : bound b c r = true
      · by_cases h2 : (pub.qos == 2) = true
        · by_cases ha : ((pub2inOf b r).any fun e => e.id == pub.pktid) = true
          · simp only [hb, h2, ha, q2Wait_open _ _ ha, ↓reduceIte, Bool.and_self, Bool.not_true,
              Bool.and_false, Bool.false_eq_true, List.append_nil]
          · rw [Bool.not_eq_true] at ha
            simp only [hb, h2, ha, q2Wait_new _ _ ha, ↓reduceIte, Bool.and_self, Bool.not_false,
              List.map_append, List.map_cons, List.map_nil]
        · simp only [hb, h2, ↓reduceIte, Bool.and_false, Bool.false_and, Bool.false_eq_true, List.append_nil]
      · simp only [hb, ↓reduceIte, Bool.false_and, Bool.false_eq_true, List.append_nil]
    | pubrel id =>
      show (if bound b c r then _ else []) ++ List.map _ (if bound b c r then _ else _) = _ ++ []
      rw [List.append_nil]
      split
      · rw [← List.map_append]; exact congrArg _ (q2Acked_append _) |>.trans (q2Ack_map (·.msg) (fun _ _ => rfl) _ id)
      · rfl
    | _ => exact idle _ _
  | _ => exact idle true _

theorem run_conservation {b : B} (hI : BInv b) (evs : List Ev) (r : Nat) :
    handed b r evs ++ (pub2inOf (run b evs).1 r).map (·.msg) =
      (pub2inOf b r).map (·.msg) ++ opened b r evs := by
  induction evs generalizing b with
  | nil => exact (List.append_nil _).symm
  | cons ev evs ih =>
    simp only [run, handed, opened]
    exact Mqtt.Proofs.Fifo.ledger_chain (step_conservation hI ev r) (ih (binv_step hI ev))

theorem q2Acked_release (pre post : List QEntry) (e : QEntry) (id : Nat)
    (hpre : ∀ x ∈ pre, x.state = tPUBREL) (he : e.id = id) :
    (q2Acked (q2Ack (pre ++ e :: post) id)).2 =
      pre ++ { e with state := tPUBREL } :: (q2Ack post id).takeWhile (fun x => x.state == tPUBREL) := by
  have h1 : q2Ack (pre ++ e :: post) id = pre ++ { e with state := tPUBREL } :: q2Ack post id := by
    show (pre ++ e :: post).map _ = _
    rw [List.map_append, List.map_cons, if_pos (beq_iff_eq.mpr he)]
    exact congrArg (· ++ _) (q2Ack_fix pre id fun x hx _ => hpre x hx)
  show List.takeWhile _ _ = _
  rw [h1, List.takeWhile_append_of_pos fun x hx => beq_iff_eq.mpr (hpre x hx)]
  rfl

theorem pubrel_blocked {q : List QEntry} (hq : QInv q) (id : Nat) :
    ∀ x ∈ (q2Acked (q2Ack q id)).1, x.id = id →
      x.state = tPUBREL ∧
      ∃ h, (q2Acked (q2Ack q id)).1.head? = some h ∧ h.state = 0 ∧ h.id ≠ id := by
  intro x hx hid
  have hq' := qInv_pubrel hq id
  have hmark : ∀ y ∈ (q2Acked (q2Ack q id)).1, y.id = id → y.state = tPUBREL := by
    intro y hy hyid
    obtain ⟨z, _, rfl⟩ := List.mem_map.mp ((q2Acked_rest_sublist _).subset hy)
    split
    · rfl
    · rename_i hne
      exact absurd (by split at hyid <;> simpa using hyid) hne
  refine ⟨hmark x hx hid, ?_⟩
  cases hrest : (q2Acked (q2Ack q id)).1 with
  | nil => rw [hrest] at hx; cases hx
  | cons h t =>
    have hh : h ∈ (q2Acked (q2Ack q id)).1 := by rw [hrest]; exact List.mem_cons_self
    have h6 : h.state ≠ tPUBREL := hq'.head h (by rw [hrest]; rfl)
    exact ⟨h, rfl, (hq'.states h hh).resolve_right h6, fun e => h6 (hmark h hh e)⟩

open Mqtt.Proofs.BrokerLife (getSess_ref getSess_setSess stop_ended packet_disconnect_eq)

section live
variable {b : B} {c : Nat} {cn : Conn} {s : Sess}
  (hc : b.getConn c = some cn) (ha : cn.alive = true) (hs : b.getSess cn.sess = some s)
include hc ha hs

theorem stop_persist (hcl : s.clean = false) :
    (stop b c).1.store = b.store ∧
    ∃ s', (stop b c).1.getSess cn.sess = some s' ∧ s'.clean = false ∧ s'.cid = s.cid ∧
      s'.pub2in = s.pub2in := by
  obtain ⟨s', h⟩ := stop_ended b c cn s hc ha hs
  refine ⟨by rw [h.store, hcl]; rfl, s', by rw [h.getSess, if_pos (getSess_ref hs).symm], ?_⟩
  rcases h.sess with rfl | ⟨w, rfl⟩ <;> exact ⟨hcl, rfl, rfl⟩

/-- a DISCONNECT only clears the will flag first -/
theorem disconnect_persist (hcl : s.clean = false) :
    (packet b c .disconnect).1.store = b.store ∧
    ∃ s', (packet b c .disconnect).1.getSess cn.sess = some s' ∧ s'.clean = false ∧ s'.cid = s.cid ∧
      s'.pub2in = s.pub2in := by
  rw [packet_disconnect_eq b c cn s hc ha hs]
  exact stop_persist (s := { s with willFlag := false }) (b := b.setSess { s with willFlag := false }) hc ha
    (by rw [← getSess_ref hs]; exact getSess_setSess b { s with willFlag := false }) hcl

end live

theorem resumedOf_clean (b : B) (cid : Bytes) : resumedOf b cid true = none := rfl

end Mqtt.Proofs.BrokerQos
