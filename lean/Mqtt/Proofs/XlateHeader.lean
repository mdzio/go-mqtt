/-
Tie between the REGENERATED translation of the fixed-header codec of the Go
package `message` — `Mqtt.Generated.Xlate.Message.header.{Type_, encode, decode}`,
produced from /repo/message/header.go by extract/cmd/xlate on every check — and
the hand-written model `Hdr.encode` / `Hdr.decode` of `Model/Codec.lean`.

`encode` is an equation (`encToRes` of the model's outcome), `decode` a relation (`decToRes`) under
`len(mtypeflags) ≤ 1`; each comes with its cases and with what happens outside its hypotheses.  For `decode` only the
code is walked: it tests the conjuncts of the acceptance condition of `Codec.hdr_decode_cons` one after the other (`DecTie`,
`DecTie.ite`), and `decode_cons` is its closed form over that condition.
-/
import Mqtt.Proofs.CodecEncode
import Mqtt.Proofs.XlateCodec
import Mqtt.Proofs.XlateVarint
import Mqtt.Proofs.XlatePutUvarint
import Mqtt.Proofs.XlateValid

namespace Mqtt.Proofs.XlateHeader

open Mqtt.Generated
open Mqtt.Generated.Xlate
open Mqtt.Model.Codec
open Mqtt.Iface.Codec
open Mqtt.Proofs.XlateCodec
open Mqtt.Proofs.XlateVarint
open Mqtt.Proofs.XlatePutUvarint
open Mqtt.Proofs.XlateValid
open Mqtt.Proofs.Xlate
-- name by name: `Mqtt.Proofs.Codec` has a `Dec` (what every `Decode` establishes) and a `bind_ok` (on `Outcome`) of its own
open Mqtt.Proofs.Codec (TfOk hdr_decode_cons uvarint_bounds two_le_hdrLen hdr_encode_ne_panic)

theorem eq_singleton_of_length_one {l : List UInt8} (h : l.length = 1) : l = [l.headD 0] := by
  match l, h with
  | [b], _ => rfl

/-- what `Type()` leaves in the receiver: nothing changes when `mtypeflags` has
length 1; otherwise a fresh zero byte is allocated and the header is marked dirty -/
def typeHdr (h : Message.header) : Message.header :=
  if h.mtypeflags.length = 1 then h else { h with mtypeflags := [0], dirty := true }

theorem header_Type_spec (h : Message.header) :
    Message.header.Type_ h = .ok (typeHdr h, ((typeHdr h).mtypeflags.headD 0) >>> (4 : UInt8)) := by
  unfold Message.header.Type_ typeHdr
  by_cases h1 : h.mtypeflags.length = 1
  · have hb := eq_singleton_of_length_one h1
    simp only [h1, bne_self_eq_false, Bool.false_eq_true, if_false, if_true]
    rw [hb]
    simp
  · have : (h.mtypeflags.length != 1) = true := by simpa using h1
    simp [this, h1]

theorem header_Type_is_source (h : Message.header) (h1 : h.mtypeflags.length = 1) :
    Message.header.Type_ h = .ok (h, UInt8.ofNat (hdrOf h).type) := by
  rw [header_Type_spec]
  simp only [typeHdr, h1, if_true]
  rw [shr4_eq_ofNat]
  rfl

theorem header_Type_toNat (h : Message.header) :
    (UInt8.ofNat (hdrOf h).type).toNat = (hdrOf h).type := by
  rw [UInt8.toNat_ofNat']
  have := (hdrOf h).tf.toNat_lt
  simp only [Hdr.type]
  omega

/-- `Type()` with `len(mtypeflags) != 1` (e.g. the zero value `header{}`): a fresh
zero byte, the header becomes dirty, the answer is 0 (`RESERVED`) -/
theorem header_Type_alloc (h : Message.header) (hn : h.mtypeflags.length ≠ 1) :
    Message.header.Type_ h = .ok ({ h with mtypeflags := [0], dirty := true }, 0) := by
  rw [header_Type_spec]
  simp only [typeHdr, hn, if_false]
  rfl

theorem header_Type_one (h : Message.header) (b : UInt8) (hb : h.mtypeflags = [b]) :
    Message.header.Type_ h = .ok (h, b >>> (4 : UInt8)) := by
  rw [header_Type_spec]
  simp [typeHdr, hb]

theorem header_Flags_one (h : Message.header) (b : UInt8) (hb : h.mtypeflags = [b]) :
    Message.header.Flags h = .ok (b &&& (15 : UInt8)) := by
  rw [header_Flags_spec]
  simp [hb]

theorem ofInt_toNat (r : Int) (h0 : 0 ≤ r) (h1 : r < 2 ^ 64) : (UInt64.ofInt r).toNat = r.toNat := by
  unfold UInt64.ofInt
  rw [UInt64.toNat_ofNat']
  have e : r % 2 ^ 64 = r := Int.emod_eq_of_lt h0 h1
  rw [e]
  apply Nat.mod_eq_of_lt
  omega

/-- the translated outcome that corresponds to an outcome of the model's `Hdr.encode`:
an error return leaves receiver and buffer alone (count 0, an error made on the spot);
a normal return has written the model's bytes over the front of `dst` -/
def encToRes (h : Message.header) (dst : List UInt8) :
    Outcome Bytes → Res (Message.header × List UInt8 × Nat × Err)
  | .err => .ok (h, dst, 0, Err.dyn)
  | .ok bytes => .ok (h, bytes ++ dst.drop bytes.length, bytes.length, Err.nil)
  | .panic => .panic

theorem valid_shr4 (b : UInt8) : Message.Type_.Valid (b >>> (4 : UInt8)) = validType (b.toNat / 16) := by
  rw [Type_Valid_is_source, shr4_toNat]

theorem header_encode_is_source (h : Message.header) (h1 : h.mtypeflags.length = 1) (h0 : 0 ≤ h.remlen)
    (dst : List UInt8) (fuel : Nat) (hf : 10 ≤ fuel) :
    Message.header.encode fuel h dst = encToRes h dst (Hdr.encode (hdrOf h) h.remlen.toNat dst.length) := by
  obtain ⟨b, hb⟩ : ∃ b, h.mtypeflags = [b] := ⟨_, eq_singleton_of_length_one h1⟩
  have htf : (hdrOf h).type = b.toNat / 16 := by rw [Hdr.type, hdrOf, hb]; rfl
  have htf' : (hdrOf h).tf = b := by rw [hdrOf, hb]; rfl
  obtain ⟨n, hn⟩ := Int.eq_ofNat_of_zero_le h0
  unfold Message.header.encode Hdr.encode
  simp only [header_Type_one h b hb, bind_ok, header_msglen_is_source h, htf, htf', valid_shr4, hb]
  rw [hn, Int.toNat_natCast]
  refine ite_tie _ (by simp only [xlate]) (fun _ => rfl) fun c1 => ?_
  refine ite_tie _ (by simp only [xlate]; unfold maxRemainingLength; omega) (fun _ => rfl) fun c2 => ?_
  refine ite_tie _ Iff.rfl (fun _ => rfl) fun _ => ?_
  have hlen : 2 ≤ dst.length := Nat.le_trans (two_le_hdrLen n) (Nat.le_of_not_lt c1)
  obtain ⟨d, rest, rfl⟩ : ∃ d rest, dst = d :: rest := by
    cases dst with
    | nil => exact absurd hlen (by decide)
    | cons d rest => exact ⟨d, rest, rfl⟩
  have hx : (UInt64.ofInt (n : Int)).toNat = n :=
    (ofInt_toNat _ (Int.natCast_nonneg n) (by unfold maxRemainingLength at c2; omega)).trans (Int.toNat_natCast n)
  -- the bound checks in front of `dst[0] = …` and `dst[1:]` hold: `dst` has at least two bytes
  refine Eq.trans (b := (Binary.PutUvarint fuel rest (UInt64.ofInt (n : Int))).bind fun o =>
    Res.ok (h, [b] ++ o.fst, 0 + 1 + o.snd, Err.nil)) rfl ?_
  rw [putUvarint_eq _ _ _ hf, hx]
  by_cases c5 : rest.length < (putUvarint n).length
  · rw [if_pos c5, if_pos (by rw [List.length_cons]; omega)]; rfl
  · rw [if_neg c5, if_neg (by rw [List.length_cons]; omega), bind_ok, Nat.zero_add, Nat.add_comm 1]; rfl

/-- a negative stored remaining length (not expressible in the model, whose `remlen` is a
natural number): the Go function returns an error, whatever the buffer and `mtypeflags` -/
theorem header_encode_negative (h : Message.header) (hneg : h.remlen < 0) (dst : List UInt8) (fuel : Nat) :
    Message.header.encode fuel h dst = .ok (h, dst, 0, Err.dyn) := by
  unfold Message.header.encode
  extract_lets ml total
  rw [if_pos (show (decide (h.remlen > 268435455) || decide (h.remlen < 0)) = true by
    rw [decide_eq_true hneg, Bool.or_true])]
  exact ite_self _

/-- `len(mtypeflags) != 1` (a header that did not go through `SetType`, e.g. `header{}`):
`encode` fails; when it gets as far as `h.Type()` that call allocates the zero type byte
and marks the header dirty.  (The model's `Hdr` has no such state: `hdrOf` reads `headD 0`.) -/
theorem header_encode_unallocated (h : Message.header) (hn : h.mtypeflags.length ≠ 1)
    (dst : List UInt8) (fuel : Nat) :
    Message.header.encode fuel h dst =
      if dst.length < Message.header.msglen h ∨ h.remlen > 268435455 ∨ h.remlen < 0 then .ok (h, dst, 0, Err.dyn)
      else .ok ({ h with mtypeflags := [0], dirty := true }, dst, 0, Err.dyn) := by
  unfold Message.header.encode
  simp only [header_Type_alloc h hn, bind_ok,
    header_Type_one { h with mtypeflags := [0], dirty := true } 0 rfl]
  by_cases c1 : dst.length < Message.header.msglen h
  · rw [if_pos (decide_eq_true c1), if_pos (Or.inl c1)]
  · rw [if_neg (by rw [decide_eq_true_eq]; exact c1)]
    by_cases c2 : h.remlen > 268435455 ∨ h.remlen < 0
    · rw [if_pos (by simp only [xlate]; exact c2), if_pos (Or.inr c2)]
    · rw [if_neg (by simp only [xlate]; exact c2),
        if_pos (show (!Message.Type_.Valid 0) = true from rfl),
        if_neg (show ¬ (dst.length < Message.header.msglen h ∨ h.remlen > 268435455 ∨ h.remlen < 0) from
          fun c => c.elim c1 c2)]

theorem header_encode_err (h : Message.header) (h1 : h.mtypeflags.length = 1) (h0 : 0 ≤ h.remlen)
    (dst : List UInt8) (fuel : Nat) (hf : 10 ≤ fuel)
    (hm : Hdr.encode (hdrOf h) h.remlen.toNat dst.length = .err) :
    ∃ e, Message.header.encode fuel h dst = .ok (h, dst, 0, e) ∧ e ≠ Err.nil := by
  rw [header_encode_is_source h h1 h0 dst fuel hf, hm]
  exact ⟨Err.dyn, rfl, by decide⟩

theorem header_encode_ok (h : Message.header) (h1 : h.mtypeflags.length = 1) (h0 : 0 ≤ h.remlen)
    (dst : List UInt8) (fuel : Nat) (hf : 10 ≤ fuel) (bytes : Bytes)
    (hm : Hdr.encode (hdrOf h) h.remlen.toNat dst.length = .ok bytes) :
    Message.header.encode fuel h dst = .ok (h, bytes ++ dst.drop bytes.length, bytes.length, Err.nil) := by
  rw [header_encode_is_source h h1 h0 dst fuel hf, hm]
  rfl

theorem header_encode_panic (h : Message.header) (h1 : h.mtypeflags.length = 1) (h0 : 0 ≤ h.remlen)
    (dst : List UInt8) (fuel : Nat) (hf : 10 ≤ fuel)
    (hm : Hdr.encode (hdrOf h) h.remlen.toNat dst.length = .panic) :
    Message.header.encode fuel h dst = .panic := by
  rw [header_encode_is_source h h1 h0 dst fuel hf, hm]
  rfl

theorem header_encode_returns (h : Message.header) (h1 : h.mtypeflags.length = 1) (h0 : 0 ≤ h.remlen)
    (dst : List UInt8) (fuel : Nat) (hf : 10 ≤ fuel) :
    ∃ dst' n e, Message.header.encode fuel h dst = .ok (h, dst', n, e) := by
  rw [header_encode_is_source h h1 h0 dst fuel hf]
  generalize ho : Hdr.encode (hdrOf h) h.remlen.toNat dst.length = o
  match o with
  | .err => exact ⟨_, _, _, rfl⟩
  | .ok b => exact ⟨_, _, _, rfl⟩
  | .panic => exact absurd ho (hdr_encode_ne_panic _ _ _)

/-- the translator's `int32(v)` of a `uint64` is the model's `toInt32`, on every value -/
theorem bv32_toInt (n : Nat) : (BitVec.ofNat 32 n).toInt = toInt32 n := by
  unfold toInt32
  rw [BitVec.toInt_eq_toNat_cond, BitVec.toNat_ofNat]
  simp only []
  split <;> split <;> first | rfl | omega

/-- the remaining-length part of the acceptance condition of `Codec.hdr_decode_cons` -/
def LenOk (rest : List UInt8) : Prop :=
  0 < (uvarint rest).2 ∧ (uvarint rest).2 ≤ 4 ∧ (uvarint rest).2.toNat + (uvarint rest).1 ≤ rest.length

/-- outcome `r` of the translated `decode` on `b :: rest`, from a point where the receiver is `g`: under `c` it stores
remaining length and decoding buffer and returns the count; otherwise it returns an error made on the spot.  The code
tests the conjuncts of `c` one after the other (`DecTie.and`). -/
def DecTie (g : Message.header) (b : UInt8) (rest : List UInt8) (c : Prop) (r : Res (Message.header × Int × Err)) : Prop :=
  (c → r = .ok ({ g with remlen := ((uvarint rest).1 : Int),
                         dbuf := (b :: rest).take (1 + (uvarint rest).2.toNat + (uvarint rest).1) },
                ((1 + (uvarint rest).2.toNat : Nat) : Int), Err.nil)) ∧
  (¬ c → ∃ h' n, r = .ok (h', n, Err.dyn))

section
variable {g : Message.header} {b : UInt8} {rest : List UInt8} {c c' c1 c2 : Prop} {r : Res (Message.header × Int × Err)}

theorem DecTie.and (h1 : ¬ c1 → ∃ h' n, r = .ok (h', n, Err.dyn)) (h2 : c1 → DecTie g b rest c2 r) : DecTie g b rest (c1 ∧ c2) r :=
  ⟨fun c => (h2 c.1).1 c.2, fun nc => Classical.byCases (fun c1' => (h2 c1').2 fun c2' => nc ⟨c1', c2'⟩) h1⟩

/-- the test `c1` as the code makes it: a Boolean `t` that is true exactly when `c1` FAILS -/
theorem DecTie.ite {t : Bool} {e : Message.header × Int × Err} (ht : t = true ↔ ¬ c1) (he : e.2.2 = Err.dyn) (h2 : c1 → DecTie g b rest c2 r) :
    DecTie g b rest (c1 ∧ c2) (if t = true then .ok e else r) := by
  refine DecTie.and (fun nc => ?_) (fun c => ?_)
  · rw [if_pos (ht.mpr nc)]; exact ⟨e.1, e.2.1, by rw [← he]⟩
  · rw [if_neg (fun h => ht.mp h c)]; exact h2 c

theorem DecTie.congr (h : c ↔ c') (d : DecTie g b rest c r) : DecTie g b rest c' r :=
  ⟨fun x => d.1 (h.mpr x), fun x => d.2 fun y => x (h.mp y)⟩

end

theorem join1_dec (g : Message.header) (b : UInt8) (rest : List UInt8) :
    DecTie g b rest (LenOk rest) (Message.header.decode.join1 g (b :: rest) 0) := by
  unfold Message.header.decode.join1
  -- the names are positional: a regenerated `join1` with another sequence of lets shifts them
  extract_lets total out13 r0 r1 remlen m total2 h2 r
  have hu : out13 = (UInt64.ofNat (uvarint rest).1, (uvarint rest).2) := uvarint_is_source rest
  have e_m : m = (uvarint rest).2 := congrArg Prod.snd hu
  rw [if_pos (show (decide (0 ≤ total) && decide (total.toNat ≤ (b :: rest).length)) = true from
    (Bool.and_eq_true _ _).mpr ⟨rfl, decide_eq_true (Nat.succ_le_succ (Nat.zero_le _))⟩), e_m]
  refine DecTie.congr (and_assoc (a := 0 < (uvarint rest).2)) (DecTie.ite (by simp only [xlate]; omega) rfl fun hk => ?_)
  -- the count is `k ∈ 1..4`, the value `V < 2^28`: everything below is arithmetic on `k`, `V`
  obtain ⟨k, hk'⟩ : ∃ k : Nat, (uvarint rest).2 = k := ⟨(uvarint rest).2.toNat, by omega⟩
  obtain ⟨hV, hkl⟩ := uvarint_bounds rest hk.1 hk.2
  have e_t2 : total2 = ((1 + k : Nat) : Int) := by show (0 : Int) + 1 + m = _; rw [e_m, hk']; omega
  have e_h2 : h2.remlen = ((uvarint rest).1 : Int) := by
    show (BitVec.ofNat 32 remlen.toNat).toInt = _
    rw [show remlen = UInt64.ofNat (uvarint rest).1 from congrArg Prod.fst hu, UInt64.toNat_ofNat',
      Nat.mod_eq_of_lt (by omega), bv32_toInt, Mqtt.Proofs.Codec.toInt32_small hV]
  have hnl : decide (remlen < 0) = false := decide_eq_false (by rw [UInt64.lt_iff_toNat_lt]; exact Nat.not_lt_zero _)
  have e_r : r = { g with remlen := ((uvarint rest).1 : Int), dbuf := (b :: rest).take (1 + k + (uvarint rest).1) } := by
    show ({ g with remlen := h2.remlen, dbuf := (b :: rest).take (total2 + h2.remlen).toNat } : Message.header) = _
    rw [e_h2, e_t2, ← Int.natCast_add, Int.toNat_natCast]
  unfold DecTie
  rw [hk', Int.toNat_natCast] at hkl ⊢
  generalize (uvarint rest).1 = V at *
  rw [e_h2, e_t2, hnl, Bool.or_false, ← Int.natCast_add, e_r]
  simp only [Int.toNat_natCast, Int.natCast_nonneg, decide_true, Bool.true_and, decide_eq_true_eq,
    gt_iff_lt, Int.ofNat_lt, List.length_drop, List.length_cons]
  rw [if_neg (by omega)]
  by_cases hfit : k + V ≤ rest.length
  · rw [if_pos (by omega), if_neg (by omega), if_pos (by omega)]
    exact ⟨fun _ => rfl, fun nc => absurd hfit nc⟩
  · rw [if_pos (by omega), if_pos (by omega), if_pos (by omega)]
    exact ⟨fun c => absurd c hfit, fun _ => ⟨_, _, rfl⟩⟩

theorem shr4_beq3 (b : UInt8) : ((b >>> (4 : UInt8)) == (3 : UInt8)) = decide (b.toNat / 16 = tPUBLISH) := by
  rw [u8_beq, shr4_toNat]; rfl

theorem validQos_bits (b : UInt8) :
    Message.ValidQos (((b &&& (15 : UInt8)) >>> (1 : UInt8)) &&& (3 : UInt8)) = validQos (b.toNat % 16 / 2 % 4) := by
  rw [ValidQos_is_source, u8_qos_toNat]

theorem join2_dec (g : Message.header) (b : UInt8) (hb : g.mtypeflags = [b]) (rest : List UInt8) :
    DecTie g b rest ((b.toNat / 16 = tPUBLISH → validQos (b.toNat % 16 / 2 % 4) = true) ∧ LenOk rest)
      (Message.header.decode.join2 g (b :: rest) 0) := by
  unfold Message.header.decode.join2
  rw [header_Type_one g b hb]
  simp only [Res.bind, header_Flags_one g b hb, shr4_beq3, validQos_bits]
  by_cases hp : b.toNat / 16 = tPUBLISH
  · rw [if_pos (decide_eq_true hp)]
    exact DecTie.ite (by simp only [xlate]; exact ⟨fun h c => by rw [c hp] at h; exact Bool.noConfusion h,
      fun h => Bool.eq_false_iff.mpr fun c => h fun _ => c⟩) rfl fun _ => join1_dec g b rest
  · rw [if_neg (by rw [decide_eq_true_eq]; exact hp)]
    exact DecTie.and (fun nc => absurd (fun c => absurd c hp) nc) fun _ => join1_dec g b rest

theorem typeHdr_lit (r : Int) (b : UInt8) (p d : List UInt8) (dy : Bool) :
    typeHdr ⟨r, [b], p, d, dy⟩ = ⟨r, [b], p, d, dy⟩ := by
  simp [typeHdr]

theorem Flags_lit (r : Int) (b : UInt8) (p d : List UInt8) (dy : Bool) :
    Message.header.Flags ⟨r, [b], p, d, dy⟩ = .ok (b &&& (15 : UInt8)) :=
  header_Flags_one _ b rfl

theorem bne_shr4 (mt s0 : UInt8) : (mt != (s0 >>> (4 : UInt8))) = decide (mt.toNat ≠ s0.toNat / 16) := by
  rw [u8_bne_decide, shr4_toNat]

theorem shr4_bne3 (b : UInt8) : ((b >>> (4 : UInt8)) != (3 : UInt8)) = decide (b.toNat / 16 ≠ tPUBLISH) := by
  rw [u8_bne_decide, shr4_toNat]; rfl

theorem flags_bne_default (b : UInt8) :
    ((b &&& (15 : UInt8)) != (Message.Type_.DefaultFlags (b >>> (4 : UInt8)))) =
      decide (b.toNat % 16 ≠ defaultFlagsOf (b.toNat / 16)) := by
  rw [u8_bne_decide, and15_toNat, Type_DefaultFlags_is_source, shr4_toNat]

/-- how an outcome of the translated `decode` on receiver `h` corresponds to an outcome of
the model's `Hdr.decode`: an error return is an error made on the spot (which receiver
fields were already written and the byte count are not modelled); a normal return has the
model's byte count, and the receiver is `h` with the model's `remlen`, first byte and `dbuf` -/
def decToRes (h : Message.header) (r : Res (Message.header × Int × Err)) : Outcome (Hdr × Nat) → Prop
  | .err => ∃ h' n, r = .ok (h', n, Err.dyn)
  | .ok (mh, total) =>
    r = .ok ({ h with remlen := (mh.remlen : Int), mtypeflags := [mh.tf], dbuf := mh.dbuf }, (total : Int), Err.nil)
  | .panic => r = .panic

/-- a valid type is not 0 (`RESERVED`), which is what `Type()` answers on a header without type byte -/
theorem not_tfOk_zero (b : UInt8) : ¬ TfOk 0 b := fun c => by
  have hv := c.1
  have h0 := c.2.1
  unfold validType typeValidAbove at hv
  simp only [xlate] at hv
  omega

/-- the translated `decode` in the closed form of `Codec.hdr_decode_cons`.  `g0` is the receiver after the first `Type()`
(`typeHdr`): the type the message object had is read from it, then `mtypeflags` is re-pointed at `src[0:1]`; the code meets the
conjuncts of `TfOk` and `LenOk` in the order of its tests -/
theorem decode_cons (h : Message.header) (b : UInt8) (rest : List UInt8) (g0 : Message.header)
    (hg : typeHdr { h with dbuf := b :: rest } = g0) :
    DecTie { g0 with mtypeflags := [b] } b rest (TfOk ((g0.mtypeflags.headD 0) >>> (4 : UInt8)).toNat b ∧ LenOk rest)
      (Message.header.decode h (b :: rest)) := by
  unfold Message.header.decode TfOk
  simp only [header_Type_spec, bind_ok]
  rw [hg]
  generalize hmt : (g0.mtypeflags.headD 0) >>> (4 : UInt8) = mt
  have e : List.take (((0 : Int) + 1).toNat - Int.toNat 0) (List.drop (Int.toNat 0) (b :: rest)) = [b] := rfl
  have e2 : (decide ((b :: rest).length < 1)) = false := by simp
  have e3 : (decide ((0 : Int) ≤ 0) && decide ((0 : Int) ≤ 0 + 1) && decide (Int.toNat 0 ≤ ((0 : Int) + 1).toNat) &&
              decide (((0 : Int) + 1).toNat ≤ (b :: rest).length)) = true := by
    have : ((0 : Int) + 1).toNat = 1 := rfl
    rw [this]; simp
  simp only [e, e2, e3, typeHdr_lit, Flags_lit, bind_ok, Bool.false_eq_true, if_false, if_true, List.headD_cons,
    valid_shr4, bne_shr4, shr4_bne3, flags_bne_default]
  refine DecTie.congr (c := validType (b.toNat / 16) = true ∧ mt.toNat = b.toNat / 16 ∧
      (b.toNat / 16 ≠ tPUBLISH → b.toNat % 16 = defaultFlagsOf (b.toNat / 16)) ∧
      (b.toNat / 16 = tPUBLISH → validQos (b.toNat % 16 / 2 % 4) = true) ∧ LenOk rest) (by simp only [and_assoc]) ?_
  refine DecTie.ite (by simp) rfl fun _ => DecTie.ite (by simp) rfl fun _ => ?_
  by_cases hp : b.toNat / 16 ≠ tPUBLISH
  · rw [if_pos (decide_eq_true hp)]
    exact DecTie.ite (by simp only [xlate]; exact ⟨fun h c => h (c hp), fun h c => h fun _ => c⟩) rfl fun _ =>
      join2_dec _ b rfl rest
  · rw [if_neg (by rw [decide_eq_true_eq]; exact hp)]
    exact DecTie.and (fun nc => absurd (fun c => absurd c hp) nc) fun _ => join2_dec _ b rfl rest

/-- `len(mtypeflags) != 1` (a header that did not go through `SetType`, e.g. `header{}`):
the first `h.Type()` allocates a zero byte, so the "expecting" check can never pass and
`decode` returns an error on every buffer -/
theorem header_decode_unallocated (h : Message.header) (hn : h.mtypeflags.length ≠ 1) (src : List UInt8) :
    ∃ h' n, Message.header.decode h src = .ok (h', n, Err.dyn) := by
  match src with
  | [] => exact ⟨h, 0, by unfold Message.header.decode; simp⟩
  | b :: rest =>
    have ht : typeHdr { h with dbuf := b :: rest } = { h with dbuf := b :: rest, mtypeflags := [0], dirty := true } := by
      simp [typeHdr, hn]
    exact (decode_cons h b rest _ ht).2 fun c => not_tfOk_zero b (show TfOk ((0 : UInt8) >>> (4 : UInt8)).toNat b from c.1)

theorem header_decode_is_source (h : Message.header) (h1 : h.mtypeflags.length ≤ 1) (src : List UInt8) :
    decToRes h (Message.header.decode h src) (Hdr.decode (hdrOf h) src) := by
  match src with
  | [] =>
    have e1 : Hdr.decode (hdrOf h) [] = .err := by unfold Hdr.decode; simp
    have e2 : Message.header.decode h [] = .ok (h, 0, Err.dyn) := by unfold Message.header.decode; simp
    rw [e1, e2]
    exact ⟨_, _, rfl⟩
  | b :: rest =>
    rw [hdr_decode_cons]
    match hm : h.mtypeflags, h1 with
    | [], _ =>
      -- no type byte yet: the model reads type 0 and rejects, the code allocates one and rejects
      have hty : (hdrOf h).type = 0 := by rw [Hdr.type, hdrOf, hm]; exact Nat.zero_div 16
      rw [hty, if_neg fun c => not_tfOk_zero b c.1]
      exact header_decode_unallocated h (by rw [hm]; decide) _
    | [b0], _ =>
      have d := decode_cons h b rest _
        (show typeHdr { h with dbuf := b :: rest } = { h with dbuf := b :: rest } by simp [typeHdr, hm])
      rw [show ((({ h with dbuf := b :: rest } : Message.header).mtypeflags.headD 0) >>> (4 : UInt8)).toNat = (hdrOf h).type by
        rw [shr4_toNat]; simp [hdrOf, Hdr.type, hm]] at d
      by_cases c : TfOk (hdrOf h).type b ∧ 0 < (uvarint rest).2 ∧ (uvarint rest).2 ≤ 4 ∧
          (uvarint rest).2.toNat + (uvarint rest).1 ≤ rest.length
      · rw [if_pos c]; exact d.1 c
      · rw [if_neg c]; exact d.2 c

theorem header_decode_err (h : Message.header) (h1 : h.mtypeflags.length ≤ 1) (src : List UInt8)
    (hm : Hdr.decode (hdrOf h) src = .err) :
    ∃ h' n e, Message.header.decode h src = .ok (h', n, e) ∧ e ≠ Err.nil := by
  have key := header_decode_is_source h h1 src
  rw [hm] at key
  obtain ⟨h', n, e⟩ := key
  exact ⟨h', n, Err.dyn, e, by decide⟩

/-- model success ⇒ the Go function returns the model's count and `nil`, and the receiver
abstracts to the model's header up to the alias flag `tfInBuf` (`pidOff` is `none` on both sides) -/
theorem header_decode_ok (h : Message.header) (h1 : h.mtypeflags.length ≤ 1) (src : List UInt8)
    (mh : Hdr) (total : Nat) (hm : Hdr.decode (hdrOf h) src = .ok (mh, total)) :
    ∃ h', Message.header.decode h src = .ok (h', (total : Int), Err.nil) ∧
      h' = { h with remlen := (mh.remlen : Int), mtypeflags := [mh.tf], dbuf := mh.dbuf } ∧
      hdrOf h' = { mh with tfInBuf := false } := by
  have key := header_decode_is_source h h1 src
  rw [hm] at key
  refine ⟨_, key, rfl, ?_⟩
  have hd := Mqtt.Proofs.Codec.hdr_decode_of_ok hm
  have e1 := hd.pid
  have e2 := hd.pidOff
  have e3 := hd.dirty
  simp only [hdrOf] at e1 e2 e3
  simp only [hdrOf, List.headD_cons, Int.toNat_natCast]
  rw [← e1, ← e2, ← e3]

theorem header_decode_returns (h : Message.header) (h1 : h.mtypeflags.length ≤ 1) (src : List UInt8) :
    Hdr.decode (hdrOf h) src ≠ .panic ∧ ∃ h' n e, Message.header.decode h src = .ok (h', n, e) := by
  refine ⟨Mqtt.Proofs.Codec.hdr_decode_ne_panic _ _, ?_⟩
  have key := header_decode_is_source h h1 src
  generalize ho : Hdr.decode (hdrOf h) src = o at key
  match o with
  | .err => obtain ⟨h', n, e⟩ := key; exact ⟨h', n, _, e⟩
  | .panic => exact absurd ho (Mqtt.Proofs.Codec.hdr_decode_ne_panic _ _)
  | .ok (m, n) => exact ⟨_, _, _, key⟩

/-- the hypothesis `len(mtypeflags) ≤ 1` of `header_decode_is_source` cannot be dropped:
`hdrOf` reads `headD 0` of a two-byte `mtypeflags`, the Go code re-allocates it.
(Such a header is not reachable: only `Type`, `SetType` and `decode` assign the field.) -/
theorem header_decode_two_bytes :
    Message.header.decode ⟨0, [16, 0], [], [], false⟩ [16, 0] = .ok (⟨0, [16], [], [16, 0], true⟩, 0, Err.dyn) ∧
    Hdr.decode (hdrOf ⟨0, [16, 0], [], [], false⟩) [16, 0] =
      .ok ({ tf := 16, tfInBuf := true, remlen := 0, dbuf := [16, 0], dirty := false }, 2) := by
  constructor <;> decide +kernel

end Mqtt.Proofs.XlateHeader
