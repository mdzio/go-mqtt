/-
Core F — the life-cycle model (`Model/Lifecycle.lean`), common ground of its proofs: the ring contract the model relies
on, the step functions as relations (their case principle: what a step does, `RStep` …, and where a thread waits,
`RBlocked` …), the induction over a schedule (`run_induction`), what a step of each kind leaves alone (`FrameA`, `FrameK`,
`FrameE`, …), the termination measure (`TStep.rank_lt`).
-/
import Mqtt.Model.Lifecycle
import Mqtt.Proofs.Basics

namespace Mqtt.Proofs.Lifecycle
open Mqtt.Model.Lifecycle

/-- the configuration of the code as it is: repaired ring, `stop` in the order of service.go, the
receiver closes the socket when its read fails (b77088f), `ReadFrom` waits only while the incoming
ring is completely full (8f682d1), a ring that holds the longest packet header (`room`: a processor
waiting for a header then cannot face a full ring, `quiescent_cases`) -/
structure WF (c : Cfg) : Prop where
  d2 : c.d2 = false
  prog : c.stopProg = stopProgram
  rc : c.recvCloses = true
  bw : c.blockWait = false
  rblock : 0 < c.rblock
  wblock : 0 < c.wblock
  room : 5 ≤ c.cap

theorem spaceNeed_wf (c : Cfg) (hw : WF c) : c.spaceNeed = 1 := by simp [Cfg.spaceNeed, hw.bw]

theorem readMax_wf (c : Cfg) (hw : WF c) (sh : Sh) : readMax c sh = min c.rblock (c.cap - sh.inR.buf) := by
  simp [readMax, hw.bw]

/-! ## The ring contract (what Core D proves for the real ring, `Properties/C15.lean`)

DERIVED, not assumed: `Proofs/LifecycleRing.lean` (`ring_contract`, restated as `C16_ring_contract_is_C15` in
`Properties/C16.lean`) shows that every call of the ring PROGRAM (`Model/Ring.lean`) behaves, seen through
`absRing = (pseq - cseq, done)`, like the `RingA` function named here — from `C15_call_refines_ringA_producer / _consumer /
_close`, `C15_readfrom_refines_ringA`, `C15_parked_iff_guard_false`, `C15_step_refines_ringA` — up to ONE difference, named
there: `RingA` tests `done` and the cursors in one atomic step, the ring at two statements of a call.  The lemmas of this
section are properties of the `RingA` FUNCTIONS; the correspondence by name in the list
below is that theorem.

* `close_returns`      — `Close` always returns and sets `done`              (C15_CloseTerminates, C15_NoLeak)
* `done_waitSpace`, `done_commitP`, `done_waitData`
                       — once `done` is set every blocked or later call returns, with end-of-stream
                         unless the data it asked for was committed before  (C15_DoneUnblocks)
* `space_unblocks`     — a producer blocked for space proceeds once enough was consumed   (C15_Progress)
* `data_unblocks`      — a consumer blocked for data proceeds once enough was committed   (C15_Progress)
* `waitSpace_none_iff`, `waitData_none_iff`
                       — a call waits only while its condition is genuinely unmet and the ring is open
                         (C15_Progress_quiescent: legitimate waiting)
* no call leaves a mutex behind: with `d2 = false` the `pHeld`/`cHeld` flags are never consulted
                         (C15_NoLeak); `Cfg.d2 = true` is the ring before 584775d.
-/

theorem close_returns (c : Cfg) (hd : c.d2 = false) (r : RingA) :
    r.close c = some { r with done := true } := by
  simp [RingA.close, hd]

theorem commitC_returns (c : Cfg) (hd : c.d2 = false) (r : RingA) (n : Nat) :
    r.commitC c n = some { r with buf := r.buf - n } := by
  simp [RingA.commitC, hd]

theorem waitSpace_none_iff (c : Cfg) (r : RingA) (n : Nat) :
    r.waitSpace c n = none ↔ n ≤ c.cap ∧ r.done = false ∧ c.cap < r.buf + n := by
  unfold RingA.waitSpace
  by_cases h1 : c.cap < n
  · simp [h1] <;> omega
  · by_cases h2 : r.done = true
    · simp [h1, h2]
    · by_cases h3 : r.buf + n ≤ c.cap
      · simp [h1, h2, h3] <;> omega
      · simp [h1, h2, h3] <;> simp at h2 <;> omega

theorem waitData_none_iff (c : Cfg) (r : RingA) (n : Nat) :
    r.waitData c n = none ↔ n ≤ c.cap ∧ r.buf < n ∧ r.done = false := by
  unfold RingA.waitData
  by_cases h1 : c.cap < n
  · simp [h1] <;> omega
  · by_cases h2 : n ≤ r.buf
    · simp [h1, h2] <;> omega
    · by_cases h3 : r.done = true
      · simp [h1, h2, h3]
      · simp [h1, h2, h3] <;> simp at h3 <;> omega

theorem waitSpace_some (c : Cfg) (hd : c.d2 = false) (r : RingA) (n : Nat) (ret : Ret) (r' : RingA)
    (h : r.waitSpace c n = some (ret, r')) :
    r' = r ∧ (ret = .ok → n ≤ c.cap ∧ r.done = false ∧ r.buf + n ≤ c.cap) ∧
    (ret = .eof → r.done = true) ∧ (ret = .full → c.cap < n) := by
  unfold RingA.waitSpace at h
  by_cases h1 : c.cap < n <;> simp [h1, hd] at h
  · obtain ⟨rfl, rfl⟩ := h; simp [h1]
  · by_cases h2 : r.done = true <;> simp [h2] at h
    · obtain ⟨rfl, rfl⟩ := h; simp [h2]
    · by_cases h3 : r.buf + n ≤ c.cap <;> simp [h3] at h
      obtain ⟨rfl, rfl⟩ := h
      simp at h2
      simp [h2, h3]; omega

theorem done_waitSpace (c : Cfg) (hd : c.d2 = false) (r : RingA) (n : Nat) (h : r.done = true) :
    r.waitSpace c n = some (if c.cap < n then .full else .eof, r) := by
  unfold RingA.waitSpace
  by_cases h1 : c.cap < n <;> simp [h1, h, hd]

theorem space_unblocks (c : Cfg) (r : RingA) (n : Nat) (hd : r.done = false) (h : r.buf + n ≤ c.cap) :
    r.waitSpace c n = some (.ok, r) := by
  unfold RingA.waitSpace
  have : ¬ c.cap < n := by omega
  simp [this, hd, h]

theorem waitData_some (c : Cfg) (hd : c.d2 = false) (r : RingA) (n : Nat) (ret : Ret) (r' : RingA)
    (h : r.waitData c n = some (ret, r')) :
    r' = r ∧ (ret = .ok → n ≤ r.buf) ∧ (ret = .eof → r.done = true ∧ r.buf < n) ∧ (ret = .full → c.cap < n) := by
  unfold RingA.waitData at h
  by_cases h1 : c.cap < n <;> simp [h1, hd] at h
  · obtain ⟨rfl, rfl⟩ := h; simp [h1]
  · by_cases h2 : n ≤ r.buf <;> simp [h2] at h
    · obtain ⟨rfl, rfl⟩ := h; simp [h2]
    · by_cases h3 : r.done = true <;> simp [h3] at h
      obtain ⟨rfl, rfl⟩ := h
      simp [h3]; omega

theorem done_waitData (c : Cfg) (hd : c.d2 = false) (r : RingA) (n : Nat) (h : r.done = true) :
    ∃ ret, r.waitData c n = some (ret, r) := by
  unfold RingA.waitData
  by_cases h1 : c.cap < n <;> simp [h1, hd, h]
  by_cases h2 : n ≤ r.buf <;> simp [h2]

theorem data_unblocks (c : Cfg) (r : RingA) (n : Nat) (hn : n ≤ c.cap) (h : n ≤ r.buf) :
    r.waitData c n = some (.ok, r) := by
  unfold RingA.waitData
  have : ¬ c.cap < n := by omega
  simp [this, h]

theorem commitP_some (c : Cfg) (hd : c.d2 = false) (r : RingA) (n : Nat) (ret : Ret) (r' : RingA)
    (h : r.commitP c n = some (ret, r')) :
    (ret = .ok ∧ r' = { r with buf := r.buf + n } ∧ r.done = false ∧ r.buf + n ≤ c.cap) ∨
    (ret ≠ .ok ∧ r' = r ∧ (r.done = true ∨ c.cap < n)) := by
  unfold RingA.commitP at h
  cases hw : r.waitSpace c n with
  | none => simp [hw] at h
  | some p =>
    obtain ⟨ret0, r0⟩ := p
    have := waitSpace_some c hd r n ret0 r0 hw
    obtain ⟨rfl, hok, heof, hfull⟩ := this
    cases ret0 <;> simp [hw] at h <;> obtain ⟨rfl, rfl⟩ := h
    · left; simp; exact ⟨(hok rfl).2.1, (hok rfl).2.2⟩
    · right; simp; left; exact heof rfl
    · right; simp; right; exact hfull rfl

theorem commitP_none_iff (c : Cfg) (r : RingA) (n : Nat) :
    r.commitP c n = none ↔ r.waitSpace c n = none := by
  unfold RingA.commitP
  cases hw : r.waitSpace c n with
  | none => simp
  | some p => obtain ⟨ret, r0⟩ := p; cases ret <;> simp

theorem done_commitP (c : Cfg) (hd : c.d2 = false) (r : RingA) (n : Nat) (h : r.done = true) :
    r.commitP c n = some (if c.cap < n then .full else .eof, r) := by
  unfold RingA.commitP
  rw [done_waitSpace c hd r n h]
  by_cases h1 : c.cap < n <;> simp [h1]

/-! ## The transitions of the code as it is

Under `WF c` each step function is a table: program counter, guard, update, next program counter.  Every step taken is a
line of its table, and where a function does not answer the thread waits in one of the ways listed after the tables
(`rstep_cases` … `tstep_cases`, `estep_sound`); a guard is listed only where a proof uses it. -/

def readLen (c : Cfg) (sh : Sh) (k : Nat) : Nat := max 1 (min k (min (min c.rblock (c.cap - sh.inR.buf)) sh.wire))

inductive RStep (c : Cfg) (sh : Sh) (k : Nat) : RPc → Sh → RPc → Prop
  | space (hd : sh.inR.done = false) (hb : sh.inR.buf < c.cap) : RStep c sh k .space sh .read
  | spaceEof (hd : sh.inR.done = true) : RStep c sh k .space sh .close
  | readFail (h : sh.sock ≠ .open ∨ sh.timeout = true) : RStep c sh k .read sh .close
  | read (hs : sh.sock = .open) (ht : sh.timeout = false) (hw : sh.wire ≠ 0) :
      RStep c sh k .read { sh with wire := sh.wire - readLen c sh k } (.commit (readLen c sh k))
  | commit (n : Nat) (hd : sh.inR.done = false) (hb : sh.inR.buf + n ≤ c.cap) :
      RStep c sh k (.commit n) { sh with inR := { sh.inR with buf := sh.inR.buf + n } } .space
  | commitFail (n : Nat) (h : sh.inR.done = true ∨ c.cap < n) : RStep c sh k (.commit n) sh .close
  | close : RStep c sh k .close { sh with inR := { sh.inR with done := true } } .connClose
  | connClose : RStep c sh k .connClose { sh with sock := .closed } .wgDone
  | wgDone : RStep c sh k .wgDone { sh with wg := sh.wg - 1 } .exited

inductive SStep (c : Cfg) (sh : Sh) : SPc → Sh → SPc → Prop
  | peek (hd : sh.outR.done = false) (hb : 0 < sh.outR.buf) : SStep c sh .peek sh (.write (min sh.outR.buf c.wblock))
  | peekEof (hd : sh.outR.done = true) : SStep c sh .peek sh .close
  | write (m : Nat) (hs : sh.sock.wfail = false) (hp : sh.peerReads = true) : SStep c sh (.write m) sh (.commit m)
  | writeFail (m : Nat) (hs : sh.sock.wfail = true) : SStep c sh (.write m) sh .close
  | commit (m : Nat) : SStep c sh (.commit m) { sh with outR := { sh.outR with buf := sh.outR.buf - m } } .peek
  | close : SStep c sh .close { sh with outR := { sh.outR with done := true } } .wgDone
  | wgDone : SStep c sh .wgDone { sh with wg := sh.wg - 1 } .exited

inductive KStep (c : Cfg) (sh : Sh) (me : Tid) : KPc → Sh → KPc → Prop
  | casLost (h : sh.closed = true) : KStep c sh me (.run 0) sh .finished
  | casWon (h : sh.closed = false) : KStep c sh me (.run 0) { sh with closed := true, winner := some me } (.run 1)
  | closeDone : KStep c sh me (.run 1) { sh with doneCh := true } (.run 2)
  | connClose : KStep c sh me (.run 2) { sh with sock := .closed } (.run 3)
  | inClose : KStep c sh me (.run 3) { sh with inR := { sh.inR with done := true } } (.run 4)
  | outClose : KStep c sh me (.run 4) { sh with outR := { sh.outR with done := true } } (.run 5)
  | wgWait (h : sh.wg = 0) : KStep c sh me (.run 5) sh (.run 6)
  | unsub : KStep c sh me (.run 6) { sh with effects := sh.effects ++ [.unsub] } (.run 7)
  | will (h : sh.willFlag = true) : KStep c sh me (.run 7) { sh with effects := sh.effects ++ [.will] } (.run 8)
  | noWill (h : sh.willFlag = false) : KStep c sh me (.run 7) sh (.run 8)
  | sessDel (h : sh.clean = true) : KStep c sh me (.run 8) { sh with effects := sh.effects ++ [.sessDel] } (.run 9)
  | noSessDel (h : sh.clean = false) : KStep c sh me (.run 8) sh (.run 9)
  | ret (i : Nat) (h : 9 ≤ i) : KStep c sh me (.run i) sh .finished

inductive PStep (c : Cfg) (sh : Sh) : PPc → Sh → PPc → Prop
  | size : PStep c sh .size sh .msg
  | sizeEnd : PStep c sh .size sh .wgDone
  | msg (p : Pkt) (tl : List Pkt) (as : List Act) (hst : sh.stream = p :: tl) (hk : p.kind = .normal as) :
      PStep c sh .msg sh (.acts as)
  | msgDisc (p : Pkt) (tl : List Pkt) (hst : sh.stream = p :: tl) (hk : p.kind = .disconnect) :
      PStep c sh .msg { sh with willFlag := false } .wgDone
  | msgEnd : PStep c sh .msg sh .wgDone
  | actsNil : PStep c sh (.acts []) sh .commit
  | foreign (rest : List Act) (h : sh.extBlocked = false) : PStep c sh (.acts (.foreign :: rest)) sh (.acts rest)
  | own (l : Nat) (rest : List Act) (h : sh.wmu = none) :
      PStep c sh (.acts (.own l :: rest)) { sh with wmu := some .proc } (.ownWait l rest)
  | ownWait (l : Nat) (rest : List Act) : PStep c sh (.ownWait l rest) sh (.ownCommit l rest)
  | ownWaitFail (l : Nat) (rest : List Act) : PStep c sh (.ownWait l rest) { sh with wmu := none } (.acts rest)
  | ownCommit (l : Nat) (rest : List Act) :
      PStep c sh (.ownCommit l rest) { sh with outR := { sh.outR with buf := sh.outR.buf + l }, wmu := none } (.acts rest)
  | ownCommitFail (l : Nat) (rest : List Act) : PStep c sh (.ownCommit l rest) { sh with wmu := none } (.acts rest)
  | commit (p : Pkt) (tl : List Pkt) (hst : sh.stream = p :: tl) :
      PStep c sh .commit { sh with inR := { sh.inR with buf := sh.inR.buf - p.total }, stream := tl } .check
  | commitNil (hst : sh.stream = []) : PStep c sh .commit sh .check
  | check : PStep c sh .check sh .size
  | checkDone : PStep c sh .check sh .wgDone
  | wgDone : PStep c sh .wgDone { sh with wg := sh.wg - 1 } (.stop (.run 0))
  | stop (k k' : KPc) (sh' : Sh) (h : KStep c sh .proc k sh' k') : PStep c sh (.stop k) sh' (.stop k')

inductive WStep (c : Cfg) (sh : Sh) (me : Tid) : WTh → Sh → WTh → Prop
  | check (l : Nat) (hn : sh.ringsNil = false) : WStep c sh me ⟨.check, l⟩ sh ⟨.lock, l⟩
  | checkNil (l : Nat) (hn : sh.ringsNil = true) : WStep c sh me ⟨.check, l⟩ sh ⟨.finished, l⟩
  | lock (l : Nat) (h : sh.wmu = none) : WStep c sh me ⟨.lock, l⟩ { sh with wmu := some me } ⟨.wait, l⟩
  | wait (l : Nat) (hn : sh.ringsNil = false) : WStep c sh me ⟨.wait, l⟩ sh ⟨.commit, l⟩
  | waitFail (l : Nat) (hn : sh.ringsNil = false) : WStep c sh me ⟨.wait, l⟩ { sh with wmu := none } ⟨.finished, l⟩
  | commit (l : Nat) (hn : sh.ringsNil = false) :
      WStep c sh me ⟨.commit, l⟩ { sh with outR := { sh.outR with buf := sh.outR.buf + l }, wmu := none } ⟨.finished, l⟩
  | commitFail (l : Nat) (hn : sh.ringsNil = false) : WStep c sh me ⟨.commit, l⟩ { sh with wmu := none } ⟨.finished, l⟩
  | waitNil (l : Nat) (hn : sh.ringsNil = true) : WStep c sh me ⟨.wait, l⟩ { sh with wmu := none } ⟨.panicked, l⟩
  | commitNil (l : Nat) (hn : sh.ringsNil = true) : WStep c sh me ⟨.commit, l⟩ { sh with wmu := none } ⟨.panicked, l⟩

inductive TStep (c : Cfg) (s : St) : Tid → Nat → St → Prop
  | recv {k : Nat} {pc pc' : RPc} {sh' : Sh} (hpc : s.recv = pc) (h : RStep c s.sh k pc sh' pc') :
      TStep c s .recv k { s with sh := sh', recv := pc' }
  | send {k : Nat} {pc pc' : SPc} {sh' : Sh} (hpc : s.send = pc) (h : SStep c s.sh pc sh' pc') :
      TStep c s .send k { s with sh := sh', send := pc' }
  | proc {k : Nat} {pc pc' : PPc} {sh' : Sh} (hpc : s.proc = pc) (h : PStep c s.sh pc sh' pc') :
      TStep c s .proc k { s with sh := sh', proc := pc' }
  | k {k i : Nat} {pc pc' : KPc} {sh' : Sh} (hpc : s.ks[i]? = some pc) (h : KStep c s.sh (.k i) pc sh' pc') :
      TStep c s (.k i) k { s with sh := sh', ks := s.ks.set i pc' }
  | w {k i : Nat} {w w' : WTh} {sh' : Sh} (hpc : s.ws[i]? = some w) (h : WStep c s.sh (.w i) w sh' w') :
      TStep c s (.w i) k { s with sh := sh', ws := s.ws.set i w' }

inductive EStep (c : Cfg) (s : St) : Env → St → Prop
  | peerClose (h : s.sh.sock = .open ∨ s.sh.sock = .peerShut) :
      EStep c s .peerClose { s with sh := { s.sh with sock := .peerClosed } }
  | peerShut (h : s.sh.sock = .open) : EStep c s .peerShut { s with sh := { s.sh with sock := .peerShut } }
  | kaExpire (hr : s.recv = .read) (hs : s.sh.sock = .open) : EStep c s .kaExpire { s with sh := { s.sh with timeout := true } }
  | peerReads (b : Bool) : EStep c s (.peerReads b) { s with sh := { s.sh with peerReads := b } }
  | extBlock (b : Bool) : EStep c s (.extBlock b) { s with sh := { s.sh with extBlocked := b } }
  | serverClose (i : Nat) (h : s.ks[i]? = some .idle) : EStep c s (.serverClose i) { s with ks := s.ks.set i (.run 0) }
  | preClose : EStep c s .preClose { s with sh := { s.sh with outR := { s.sh.outR with done := true } } }

/-! ## Where a thread waits

The converse (`Blocked → = none`) is not needed. -/

/-- a producer call for `l` bytes waits: legitimate waiting in the sense of C15 (the ring is open,
the request fits the ring, the space is not there) -/
def OutBlocked (c : Cfg) (sh : Sh) (l : Nat) : Prop :=
  l ≤ c.cap ∧ sh.outR.done = false ∧ c.cap < sh.outR.buf + l

inductive RBlocked (c : Cfg) (sh : Sh) : RPc → Prop
  | space (hd : sh.inR.done = false) (hb : c.cap ≤ sh.inR.buf) : RBlocked c sh .space
  | read (hs : sh.sock = .open) (ht : sh.timeout = false) (hw : sh.wire = 0) : RBlocked c sh .read
  | commit (n : Nat) (hb : c.cap < sh.inR.buf + n) : RBlocked c sh (.commit n)
  | exited : RBlocked c sh .exited

inductive SBlocked (sh : Sh) : SPc → Prop
  | peek (hd : sh.outR.done = false) (hb : sh.outR.buf = 0) : SBlocked sh .peek
  | write (m : Nat) (hs : sh.sock.wfail = false) (hp : sh.peerReads = false) : SBlocked sh (.write m)
  | exited : SBlocked sh .exited

inductive KBlocked (sh : Sh) : KPc → Prop
  | idle : KBlocked sh .idle
  | wait (h : sh.wg ≠ 0) : KBlocked sh (.run 5)
  | finished : KBlocked sh .finished

inductive PBlocked (c : Cfg) (sh : Sh) : PPc → Prop
  | size (hd : sh.inR.done = false) (hb : sh.inR.buf < hdrNeed sh.stream) : PBlocked c sh .size
  | msg (p : Pkt) (tl : List Pkt) (hst : sh.stream = p :: tl) (hb : sh.inR.buf < p.total) (hc : p.total ≤ c.cap)
      (hd : sh.inR.done = false) : PBlocked c sh .msg
  | foreign (rest : List Act) (h : sh.extBlocked = true) : PBlocked c sh (.acts (.foreign :: rest))
  | own (l : Nat) (rest : List Act) (h : sh.wmu.isSome = true) : PBlocked c sh (.acts (.own l :: rest))
  | ownWait (l : Nat) (rest : List Act) (h : OutBlocked c sh l) : PBlocked c sh (.ownWait l rest)
  | ownCommit (l : Nat) (rest : List Act) (h : OutBlocked c sh l) : PBlocked c sh (.ownCommit l rest)
  | stop (k : KPc) (h : KBlocked sh k) : PBlocked c sh (.stop k)

inductive WBlocked (c : Cfg) (sh : Sh) : WTh → Prop
  | lock (l : Nat) (h : sh.wmu.isSome = true) : WBlocked c sh ⟨.lock, l⟩
  | wait (l : Nat) (h : OutBlocked c sh l) : WBlocked c sh ⟨.wait, l⟩
  | commit (l : Nat) (h : OutBlocked c sh l) : WBlocked c sh ⟨.commit, l⟩
  | finished (l : Nat) : WBlocked c sh ⟨.finished, l⟩
  | panicked (l : Nat) : WBlocked c sh ⟨.panicked, l⟩

inductive TBlocked (c : Cfg) (s : St) : Tid → Prop
  | recv {pc : RPc} (hpc : s.recv = pc) (h : RBlocked c s.sh pc) : TBlocked c s .recv
  | send {pc : SPc} (hpc : s.send = pc) (h : SBlocked s.sh pc) : TBlocked c s .send
  | proc {pc : PPc} (hpc : s.proc = pc) (h : PBlocked c s.sh pc) : TBlocked c s .proc
  | k {i : Nat} {pc : KPc} (hpc : s.ks[i]? = some pc) (h : KBlocked s.sh pc) : TBlocked c s (.k i)
  | w {i : Nat} {w : WTh} (hpc : s.ws[i]? = some w) (h : WBlocked c s.sh w) : TBlocked c s (.w i)
  | noK {i : Nat} (h : s.ks[i]? = none) : TBlocked c s (.k i)
  | noW {i : Nat} (h : s.ws[i]? = none) : TBlocked c s (.w i)

/-- the case principle of a step function: an answer is a line of the table of steps, no answer a line of the table of waits -/
def Cases {α : Type} (blocked : Prop) (step : α → Prop) : Option α → Prop
  | none => blocked
  | some a => step a

theorem Cases.of_some {α : Type} {B : Prop} {S : α → Prop} {r : Option α} {a : α} (h : Cases B S r) (e : r = some a) : S a := by
  subst e; exact h

theorem Cases.of_none {α : Type} {B : Prop} {S : α → Prop} {r : Option α} (h : Cases B S r) (e : r = none) : B := by
  subst e; exact h

theorem Cases.map {α β : Type} {B B' : Prop} {S : α → Prop} {S' : β → Prop} {r : Option α} {f : α → β} (h : Cases B S r)
    (hb : B → B') (hs : ∀ a, S a → S' (f a)) : Cases B' S' (r.map f) := by
  cases r with
  | none => exact hb h
  | some a => exact hs a h

theorem rstep_cases {c : Cfg} (hw : WF c) (sh : Sh) (k : Nat) (pc : RPc) :
    Cases (RBlocked c sh pc) (fun q => RStep c sh k pc q.1 q.2) (rstep c sh k pc) := by
  cases pc with
  | space =>
    simp only [rstep, spaceNeed_wf c hw]
    cases hs : sh.inR.waitSpace c 1 with
    | none =>
      obtain ⟨-, hd, hb⟩ := (waitSpace_none_iff c _ _).mp hs
      exact RBlocked.space hd (Nat.le_of_lt_succ hb)
    | some q =>
      obtain ⟨ret, r⟩ := q
      obtain ⟨rfl, hok, heof, hfull⟩ := waitSpace_some c hw.d2 _ _ _ _ hs
      have := hw.room
      cases ret
      · exact RStep.space (hok rfl).2.1 (by have := (hok rfl).2.2; omega)
      · exact RStep.spaceEof (heof rfl)
      · have := hfull rfl; omega
  | read =>
    simp only [rstep, readMax_wf c hw]
    split
    · exact RStep.readFail ‹_›
    next h1 =>
      simp only [not_or, ne_eq, Decidable.not_not, Bool.not_eq_true] at h1
      split
      next h2 => exact RBlocked.read h1.1 h1.2 h2
      next h2 => exact RStep.read h1.1 h1.2 h2
  | commit n =>
    simp only [rstep]
    cases hs : sh.inR.commitP c n with
    | none => exact RBlocked.commit n ((waitSpace_none_iff c _ _).mp ((commitP_none_iff c _ _).mp hs)).2.2
    | some q =>
      obtain ⟨ret, r⟩ := q
      rcases commitP_some c hw.d2 _ _ _ _ hs with ⟨rfl, rfl, hd, hb⟩ | ⟨hne, rfl, hd⟩
      · exact RStep.commit n hd hb
      · cases ret
        · exact absurd rfl hne
        all_goals exact RStep.commitFail n hd
  | close => simp only [rstep, close_returns c hw.d2, hw.rc, Option.map_some, if_true]; exact RStep.close
  | connClose => exact RStep.connClose
  | wgDone => exact RStep.wgDone
  | exited => exact RBlocked.exited

theorem sstep_cases {c : Cfg} (hw : WF c) (sh : Sh) (pc : SPc) :
    Cases (SBlocked sh pc) (fun q => SStep c sh pc q.1 q.2) (sstep c sh pc) := by
  cases pc with
  | peek =>
    simp only [sstep]
    split
    next hd => exact SStep.peekEof hd
    next hd =>
      split
      next hb => exact SStep.peek (by simpa using hd) hb
      next hb => exact SBlocked.peek (by simpa using hd) (Nat.eq_zero_of_not_pos hb)
  | write m =>
    simp only [sstep]
    split
    next hs => exact SStep.writeFail m hs
    next hs =>
      split
      next hp => exact SStep.write m (by simpa using hs) hp
      next hp => exact SBlocked.write m (by simpa using hs) (by simpa using hp)
  | commit m => simp only [sstep, commitC_returns c hw.d2, Option.map_some]; exact SStep.commit m
  | close => simp only [sstep, close_returns c hw.d2, Option.map_some]; exact SStep.close
  | wgDone => exact SStep.wgDone
  | exited => exact SBlocked.exited

theorem kstep_cases {c : Cfg} (hw : WF c) (sh : Sh) (me : Tid) (k : KPc) :
    Cases (KBlocked sh k) (fun q => KStep c sh me k q.1 q.2) (kstep c sh me k) := by
  cases k with
  | idle => exact KBlocked.idle
  | finished => exact KBlocked.finished
  | run i =>
    simp only [kstep, hw.prog]
    rcases i with _ | _ | _ | _ | _ | _ | _ | _ | _ | i
    · by_cases hc : sh.closed = true
      · simp only [stopProgram, List.getElem?_cons_zero, execStop, hc, if_true]; exact KStep.casLost hc
      · simp only [stopProgram, List.getElem?_cons_zero, execStop, hc]; exact KStep.casWon (by simpa using hc)
    · exact KStep.closeDone
    · exact KStep.connClose
    · simp only [stopProgram, List.getElem?_cons_succ, List.getElem?_cons_zero, execStop, close_returns c hw.d2, Option.map_some]
      exact KStep.inClose
    · simp only [stopProgram, List.getElem?_cons_succ, List.getElem?_cons_zero, execStop, close_returns c hw.d2, Option.map_some]
      exact KStep.outClose
    · by_cases hg : sh.wg = 0
      · simp only [stopProgram, List.getElem?_cons_succ, List.getElem?_cons_zero, execStop, hg, if_true]; exact KStep.wgWait hg
      · simp only [stopProgram, List.getElem?_cons_succ, List.getElem?_cons_zero, execStop, hg, if_false]; exact KBlocked.wait hg
    · exact KStep.unsub
    · show KStep c sh me (.run 7) (if sh.willFlag = true then _ else sh) (.run 8)
      split
      next hf => exact .will hf
      next hf => exact .noWill (by simpa using hf)
    · show KStep c sh me (.run 8) (if sh.clean = true then _ else sh) (.run 9)
      split
      next hf => exact .sessDel hf
      next hf => exact .noSessDel (by simpa using hf)
    · exact KStep.ret _ (by omega)

theorem pstep_cases {c : Cfg} (hw : WF c) (sh : Sh) (pc : PPc) :
    Cases (PBlocked c sh pc) (fun q => PStep c sh pc q.1 q.2) (pstep c sh pc) := by
  cases pc with
  | size =>
    simp only [pstep]
    cases hs : sh.inR.waitData c (hdrNeed sh.stream) with
    | none => obtain ⟨-, hb, hd⟩ := (waitData_none_iff c _ _).mp hs; exact PBlocked.size hd hb
    | some q =>
      obtain ⟨ret, r⟩ := q
      obtain ⟨rfl, -⟩ := waitData_some c hw.d2 _ _ _ _ hs
      cases ret
      · dsimp only
        split
        · exact PStep.sizeEnd
        · split
          · exact PStep.sizeEnd
          · exact PStep.size
      all_goals exact PStep.sizeEnd
  | msg =>
    simp only [pstep]
    split
    · exact PStep.msgEnd
    next p tl hst =>
      cases hs : sh.inR.waitData c p.total with
      | none => obtain ⟨hc, hb, hd⟩ := (waitData_none_iff c _ _).mp hs; exact PBlocked.msg p tl hst hb hc hd
      | some q =>
        obtain ⟨ret, r⟩ := q
        obtain ⟨rfl, -⟩ := waitData_some c hw.d2 _ _ _ _ hs
        cases ret
        · dsimp only
          split
          next hk => exact PStep.msgEnd
          next hk => exact PStep.msgDisc p tl hst hk
          next as hk => exact PStep.msg p tl as hst hk
        all_goals exact PStep.msgEnd
  | acts as =>
    match as with
    | [] => exact PStep.actsNil
    | .foreign :: rest =>
      simp only [pstep]
      split
      next hb => exact PBlocked.foreign rest hb
      next hb => exact PStep.foreign rest (by simpa using hb)
    | .own l :: rest =>
      simp only [pstep]
      split
      next hm => exact PBlocked.own l rest hm
      next hm => exact PStep.own l rest (by simpa using hm)
  | ownWait l rest =>
    simp only [pstep]
    cases hs : sh.outR.waitSpace c l with
    | none => exact PBlocked.ownWait l rest ((waitSpace_none_iff c _ _).mp hs)
    | some q =>
      obtain ⟨ret, r⟩ := q
      obtain ⟨rfl, -⟩ := waitSpace_some c hw.d2 _ _ _ _ hs
      cases ret
      · exact PStep.ownWait l rest
      all_goals exact PStep.ownWaitFail l rest
  | ownCommit l rest =>
    simp only [pstep]
    cases hs : sh.outR.commitP c l with
    | none => exact PBlocked.ownCommit l rest ((waitSpace_none_iff c _ _).mp ((commitP_none_iff c _ _).mp hs))
    | some q =>
      obtain ⟨ret, r⟩ := q
      rcases commitP_some c hw.d2 _ _ _ _ hs with ⟨-, rfl, -⟩ | ⟨-, rfl, -⟩
      · exact PStep.ownCommit l rest
      · exact PStep.ownCommitFail l rest
  | commit =>
    simp only [pstep]
    split
    next hst => exact PStep.commitNil hst
    next p tl hst =>
      simp only [commitC_returns c hw.d2, Option.map_some]
      exact PStep.commit p tl hst
  | check =>
    simp only [pstep]
    split
    · exact PStep.checkDone
    · exact PStep.check
  | wgDone => exact PStep.wgDone
  | stop k =>
    simp only [pstep]
    exact (kstep_cases hw sh .proc k).map (PBlocked.stop k) fun ⟨sh', k'⟩ h => PStep.stop k k' sh' h

theorem wstep_cases {c : Cfg} (hw : WF c) (sh : Sh) (me : Tid) (w : WTh) :
    Cases (WBlocked c sh w) (fun q => WStep c sh me w q.1 q.2) (wstep c sh me w) := by
  obtain ⟨pc, l⟩ := w
  cases pc with
  | check =>
    simp only [wstep]
    split
    next hn => exact WStep.checkNil l hn
    next hn => exact WStep.check l (by simpa using hn)
  | lock =>
    simp only [wstep]
    split
    next hm => exact WBlocked.lock l hm
    next hm => exact WStep.lock l (by simpa using hm)
  | wait =>
    simp only [wstep]
    split
    next hn => exact WStep.waitNil l hn
    next hn =>
      have hn : sh.ringsNil = false := by simpa using hn
      cases hs : sh.outR.waitSpace c l with
      | none => exact WBlocked.wait l ((waitSpace_none_iff c _ _).mp hs)
      | some q =>
        obtain ⟨ret, r⟩ := q
        obtain ⟨rfl, -⟩ := waitSpace_some c hw.d2 _ _ _ _ hs
        cases ret
        · exact WStep.wait l hn
        all_goals exact WStep.waitFail l hn
  | commit =>
    simp only [wstep]
    split
    next hn => exact WStep.commitNil l hn
    next hn =>
      have hn : sh.ringsNil = false := by simpa using hn
      cases hs : sh.outR.commitP c l with
      | none => exact WBlocked.commit l ((waitSpace_none_iff c _ _).mp ((commitP_none_iff c _ _).mp hs))
      | some q =>
        obtain ⟨ret, r⟩ := q
        rcases commitP_some c hw.d2 _ _ _ _ hs with ⟨-, rfl, -⟩ | ⟨-, rfl, -⟩
        · exact WStep.commit l hn
        · exact WStep.commitFail l hn
  | finished => exact WBlocked.finished l
  | panicked => exact WBlocked.panicked l

theorem tstep_cases {c : Cfg} (hw : WF c) (s : St) (t : Tid) (k : Nat) :
    Cases (TBlocked c s t) (TStep c s t k) (tstep c s t k) := by
  cases t with
  | recv => exact (rstep_cases hw s.sh k s.recv).map (.recv rfl) fun _ h => .recv rfl h
  | send => exact (sstep_cases hw s.sh s.send).map (.send rfl) fun _ h => .send rfl h
  | proc => exact (pstep_cases hw s.sh s.proc).map (.proc rfl) fun _ h => .proc rfl h
  | k i =>
    simp only [tstep]
    cases hk : s.ks[i]? with
    | none => exact TBlocked.noK hk
    | some pc => exact (kstep_cases hw s.sh (.k i) pc).map (.k hk) fun _ h => .k hk h
  | w i =>
    simp only [tstep]
    cases hk : s.ws[i]? with
    | none => exact TBlocked.noW hk
    | some w => exact (wstep_cases hw s.sh (.w i) w).map (.w hk) fun _ h => .w hk h

theorem tstep_sound {c : Cfg} (hw : WF c) {s s' : St} {t : Tid} {k : Nat}
    (h : tstep c s t k = some s') : TStep c s t k s' := (tstep_cases hw s t k).of_some h

theorem blocked_of_not_en {c : Cfg} (hw : WF c) {s : St} {t : Tid} (h : en c s t = false) : TBlocked c s t :=
  (tstep_cases hw s t 1).of_none (Option.not_isSome_iff_eq_none.mp (by rw [show (tstep c s t 1).isSome = false from h]; nofun))

theorem estep_sound {c : Cfg} (hw : WF c) {s s' : St} {e : Env} (h : estep c s e = some s') : EStep c s e s' := by
  cases e with
  | peerClose => simp only [estep] at h; split at h <;> cases h; exact .peerClose ‹_›
  | peerShut => simp only [estep] at h; split at h <;> cases h; exact .peerShut ‹_›
  | kaExpire => simp only [estep] at h; split at h <;> cases h; exact .kaExpire (‹_ ∧ _›).1 (‹_ ∧ _›).2
  | peerReads b => cases h; exact .peerReads b
  | extBlock b => cases h; exact .extBlock b
  | serverClose i =>
    simp only [estep] at h
    split at h <;> cases h
    exact .serverClose i ‹_›
  | preClose => simp only [estep, close_returns c hw.d2, Option.map_some] at h; cases h; exact .preClose

theorem run_induction {c : Cfg} {L : Label → Prop} {P : St → Prop}
    (hstep : ∀ s l s', L l → P s → step c s l = some s' → P s') {s : St} {sched : List Label}
    (hL : ∀ l, l ∈ sched → L l) (h : P s) : P (run c s sched) := by
  induction sched generalizing s with
  | nil => exact h
  | cons l ls ih =>
    have hls : ∀ l', l' ∈ ls → L l' := fun l' hl' => hL l' (List.mem_cons_of_mem _ hl')
    simp only [run]
    cases hs : step c s l with
    | none => exact ih hls h
    | some s' => exact ih hls (hstep s l s' (hL l List.mem_cons_self) h hs)

/-! ## What a step leaves alone

One group of lemmas per table, each by cases on it.  A new line in a table is re-proved in its group here, in its `rank_lt`
below, and in the invariant whose thread it is (`TStep.invA`, `PStep.wmu` / `WStep.wmu`, `KStep.won`, `TStep.invR`). -/

/-- written by the processor alone -/
structure KeepsProc (sh sh' : Sh) : Prop where
  stream : sh'.stream = sh.stream
  willFlag : sh'.willFlag = sh.willFlag

/-- the incoming side: left alone by sender and writers -/
structure KeepsIn (sh sh' : Sh) : Prop where
  inR : sh'.inR = sh.inR
  wire : sh'.wire = sh.wire

/-- what a statement of `stop()` leaves alone -/
structure StopFrame (sh sh' : Sh) : Prop where
  wire : sh'.wire = sh.wire
  stream : sh'.stream = sh.stream
  inBuf : sh'.inR.buf = sh.inR.buf
  outBuf : sh'.outR.buf = sh.outR.buf
  inDone : sh.inR.done = true → sh'.inR.done = true
  outDone : sh.outR.done = true → sh'.outR.done = true
  wmu : sh'.wmu = sh.wmu
  wg : sh'.wg = sh.wg
  willFlag : sh'.willFlag = sh.willFlag
  nil : sh'.ringsNil = sh.ringsNil

/-- only the receiver produces into the incoming ring, only the sender consumes the outgoing one -/
structure FrameA (sh sh' : Sh) : Prop where
  inBuf : sh'.inR.buf ≤ sh.inR.buf
  inDone : sh.inR.done = true → sh'.inR.done = true
  outBuf : sh.outR.buf ≤ sh'.outR.buf
  outDone : sh.outR.done = true → sh'.outR.done = true

/-- steps that are not `stop()` statements leave what `InvK` talks about alone, or only push it
forward -/
structure FrameK (sh sh' : Sh) : Prop where
  winner : sh'.winner = sh.winner
  closed : sh'.closed = sh.closed
  doneCh : sh.doneCh = true → sh'.doneCh = true
  sock : sh.sock = .closed → sh'.sock = .closed
  inDone : sh.inR.done = true → sh'.inR.done = true
  outDone : sh.outR.done = true → sh'.outR.done = true
  wg : sh.wg = 0 → sh'.wg = 0
  effects : sh'.effects = sh.effects
  willFlag : sh'.willFlag = sh.willFlag ∨ sh.wg ≠ 0
  clean : sh'.clean = sh.clean
  nil : sh'.ringsNil = sh.ringsNil

/-- a `FrameK` by naming what is not kept as it is -/
theorem FrameK.of {sh sh' : Sh} (winner : sh'.winner = sh.winner := by rfl) (closed : sh'.closed = sh.closed := by rfl)
    (doneCh : sh.doneCh = true → sh'.doneCh = true := by exact id) (sock : sh.sock = .closed → sh'.sock = .closed := by exact id)
    (inDone : sh.inR.done = true → sh'.inR.done = true := by exact id)
    (outDone : sh.outR.done = true → sh'.outR.done = true := by exact id) (wg : sh.wg = 0 → sh'.wg = 0 := by exact id)
    (effects : sh'.effects = sh.effects := by rfl) (willFlag : sh'.willFlag = sh.willFlag ∨ sh.wg ≠ 0 := by exact .inl rfl)
    (clean : sh'.clean = sh.clean := by rfl) (nil : sh'.ringsNil = sh.ringsNil := by rfl) : FrameK sh sh' :=
  ⟨winner, closed, doneCh, sock, inDone, outDone, wg, effects, willFlag, clean, nil⟩

/-- what no thread step undoes -/
structure FrameE (sh sh' : Sh) : Prop where
  timeout : sh'.timeout = sh.timeout
  ext : sh'.extBlocked = sh.extBlocked
  sock : sh.sock ≠ .open → sh'.sock ≠ .open
  sockc : sh.sock = .closed → sh'.sock = .closed
  closed : sh.closed = true → sh'.closed = true

theorem RStep.keeps {c : Cfg} {sh sh' : Sh} {k : Nat} {pc pc' : RPc} (h : RStep c sh k pc sh' pc') : KeepsProc sh sh' := by
  cases h <;> exact ⟨rfl, rfl⟩

theorem RStep.wmu {c : Cfg} {sh sh' : Sh} {k : Nat} {pc pc' : RPc} (h : RStep c sh k pc sh' pc') : sh'.wmu = sh.wmu := by
  cases h <;> rfl

theorem RStep.wg {c : Cfg} {sh sh' : Sh} {k : Nat} {pc pc' : RPc} (h : RStep c sh k pc sh' pc') :
    pc ≠ .exited ∧ ((pc' = .exited ∧ sh'.wg = sh.wg - 1) ∨ (pc' ≠ .exited ∧ sh'.wg = sh.wg)) := by
  cases h with
  | wgDone => exact ⟨nofun, .inl ⟨rfl, rfl⟩⟩
  | _ => exact ⟨nofun, .inr ⟨nofun, rfl⟩⟩

theorem RStep.frameK {c : Cfg} {sh sh' : Sh} {k : Nat} {pc pc' : RPc} (h : RStep c sh k pc sh' pc') : FrameK sh sh' := by
  cases h with
  | close => exact .of (inDone := fun _ => rfl)
  | connClose => exact .of (sock := fun _ => rfl)
  | wgDone => exact .of (wg := fun h0 => by simp only [h0])
  | _ => exact .of

theorem RStep.frameE {c : Cfg} {sh sh' : Sh} {k : Nat} {pc pc' : RPc} (h : RStep c sh k pc sh' pc') :
    FrameE sh sh' ∧ (RPc.pastLoop pc = true → RPc.pastLoop pc' = true) := by
  cases h with
  | connClose => exact ⟨⟨rfl, rfl, fun _ => nofun, fun _ => rfl, id⟩, fun _ => rfl⟩
  | _ => exact ⟨⟨rfl, rfl, id, id, id⟩, by simp [RPc.pastLoop]⟩

theorem SStep.keeps {c : Cfg} {sh sh' : Sh} {pc pc' : SPc} (h : SStep c sh pc sh' pc') : KeepsProc sh sh' ∧ KeepsIn sh sh' := by
  cases h <;> exact ⟨⟨rfl, rfl⟩, rfl, rfl⟩

theorem SStep.wmu {c : Cfg} {sh sh' : Sh} {pc pc' : SPc} (h : SStep c sh pc sh' pc') : sh'.wmu = sh.wmu := by
  cases h <;> rfl

theorem SStep.wg {c : Cfg} {sh sh' : Sh} {pc pc' : SPc} (h : SStep c sh pc sh' pc') :
    pc ≠ .exited ∧ ((pc' = .exited ∧ sh'.wg = sh.wg - 1) ∨ (pc' ≠ .exited ∧ sh'.wg = sh.wg)) := by
  cases h with
  | wgDone => exact ⟨nofun, .inl ⟨rfl, rfl⟩⟩
  | _ => exact ⟨nofun, .inr ⟨nofun, rfl⟩⟩

theorem SStep.frameK {c : Cfg} {sh sh' : Sh} {pc pc' : SPc} (h : SStep c sh pc sh' pc') : FrameK sh sh' := by
  cases h with
  | close => exact .of (outDone := fun _ => rfl)
  | wgDone => exact .of (wg := fun h0 => by simp only [h0])
  | _ => exact .of

theorem SStep.frameE {c : Cfg} {sh sh' : Sh} {pc pc' : SPc} (h : SStep c sh pc sh' pc') : FrameE sh sh' := by
  cases h <;> exact ⟨rfl, rfl, id, id, id⟩

theorem KStep.frame {c : Cfg} {sh sh' : Sh} {me : Tid} {k k' : KPc} (h : KStep c sh me k sh' k') : StopFrame sh sh' := by
  cases h with
  | inClose => exact ⟨rfl, rfl, rfl, rfl, fun _ => rfl, id, rfl, rfl, rfl, rfl⟩
  | outClose => exact ⟨rfl, rfl, rfl, rfl, id, fun _ => rfl, rfl, rfl, rfl, rfl⟩
  | _ => exact ⟨rfl, rfl, rfl, rfl, id, id, rfl, rfl, rfl, rfl⟩

theorem StopFrame.frameA {sh sh' : Sh} (h : StopFrame sh sh') : FrameA sh sh' :=
  ⟨Nat.le_of_eq h.inBuf, h.inDone, Nat.le_of_eq h.outBuf.symm, h.outDone⟩

theorem KStep.frameE {c : Cfg} {sh sh' : Sh} {me : Tid} {k k' : KPc} (h : KStep c sh me k sh' k') :
    FrameE sh sh' ∧ k' ≠ .idle := by
  cases h with
  | casWon => exact ⟨⟨rfl, rfl, id, id, fun _ => rfl⟩, nofun⟩
  | connClose => exact ⟨⟨rfl, rfl, fun _ => nofun, fun _ => rfl, id⟩, nofun⟩
  | _ => exact ⟨⟨rfl, rfl, id, id, id⟩, nofun⟩

/-- the processor has called `wgStopped.Done()`: it is inside its deferred `stop()` (one step later than `PPc.pastLoop`,
which includes `.wgDone`) -/
def PPc.past : PPc → Bool
  | .stop _ => true
  | _ => false

theorem PStep.frameA {c : Cfg} {sh sh' : Sh} {pc pc' : PPc} (h : PStep c sh pc sh' pc') :
    FrameA sh sh' ∧ ((pc = .wgDone ∧ sh'.wg = sh.wg - 1 ∧ PPc.past pc' = true) ∨
      (sh'.wg = sh.wg ∧ PPc.past pc' = PPc.past pc)) := by
  cases h with
  | stop k k' sh' h => exact ⟨h.frame.frameA, .inr ⟨h.frame.wg, rfl⟩⟩
  | wgDone => exact ⟨⟨Nat.le_refl _, id, Nat.le_refl _, id⟩, .inl ⟨rfl, rfl, rfl⟩⟩
  | commit => exact ⟨⟨Nat.sub_le .., id, Nat.le_refl _, id⟩, .inr ⟨rfl, rfl⟩⟩
  | ownCommit => exact ⟨⟨Nat.le_refl _, id, Nat.le_add_right .., id⟩, .inr ⟨rfl, rfl⟩⟩
  | _ => exact ⟨⟨Nat.le_refl _, id, Nat.le_refl _, id⟩, .inr ⟨rfl, rfl⟩⟩

/-- processor steps before its `Done()` (`PPc.past pc = false`; the will flag is cleared by DISCONNECT only there,
i.e. while `wg ≠ 0`) -/
theorem PStep.frameK {c : Cfg} {sh sh' : Sh} {pc pc' : PPc} (h : PStep c sh pc sh' pc') (hp : PPc.past pc = false)
    (hwg : sh.wg ≠ 0) : FrameK sh sh' := by
  cases h with
  | stop => cases hp
  | msgDisc => exact .of (willFlag := .inr hwg)
  | wgDone => exact .of (wg := fun h0 => by simp only [h0])
  | _ => exact .of

theorem PStep.frameE {c : Cfg} {sh sh' : Sh} {pc pc' : PPc} (h : PStep c sh pc sh' pc') :
    FrameE sh sh' ∧ (PPc.pastLoop pc = true → PPc.pastLoop pc' = true) := by
  cases h with
  | stop k k' sh' h => exact ⟨h.frameE.1, fun _ => rfl⟩
  | _ => exact ⟨⟨rfl, rfl, id, id, id⟩, by simp [PPc.pastLoop]⟩

theorem WStep.keeps {c : Cfg} {sh sh' : Sh} {me : Tid} {w w' : WTh} (h : WStep c sh me w sh' w') :
    KeepsProc sh sh' ∧ KeepsIn sh sh' := by
  cases h <;> exact ⟨⟨rfl, rfl⟩, rfl, rfl⟩

theorem WStep.frameA {c : Cfg} {sh sh' : Sh} {me : Tid} {w w' : WTh} (h : WStep c sh me w sh' w') :
    FrameA sh sh' ∧ sh'.wg = sh.wg ∧ sh'.inR = sh.inR := by
  cases h with
  | commit => exact ⟨⟨Nat.le_refl _, id, Nat.le_add_right .., id⟩, rfl, rfl⟩
  | _ => exact ⟨⟨Nat.le_refl _, id, Nat.le_refl _, id⟩, rfl, rfl⟩

theorem WStep.frameK {c : Cfg} {sh sh' : Sh} {me : Tid} {w w' : WTh} (h : WStep c sh me w sh' w') : FrameK sh sh' := by
  cases h <;> exact .of

theorem WStep.frameE {c : Cfg} {sh sh' : Sh} {me : Tid} {w w' : WTh} (h : WStep c sh me w sh' w') : FrameE sh sh' := by
  cases h <;> exact ⟨rfl, rfl, id, id, id⟩

/-- no thread step undoes an end of the connection: `FrameE`, and receiver and processor do not come back into their loops -/
theorem TStep.frameE {c : Cfg} {s s' : St} {t : Tid} {k : Nat} (h : TStep c s t k s') :
    FrameE s.sh s'.sh ∧ (RPc.pastLoop s.recv = true → RPc.pastLoop s'.recv = true) ∧
    (PPc.pastLoop s.proc = true → PPc.pastLoop s'.proc = true) := by
  cases h with
  | recv hpc h => exact ⟨h.frameE.1, hpc ▸ h.frameE.2, id⟩
  | send hpc h => exact ⟨h.frameE, id, id⟩
  | proc hpc h => exact ⟨h.frameE.1, id, hpc ▸ h.frameE.2⟩
  | k hpc h => exact ⟨h.frameE.1, id, id⟩
  | w hpc h => exact ⟨h.frameE, id, id⟩

/-! ## The termination measure

Where the constants of `rank` come from: a byte on the wire costs the receiver's `space, read, commit`, a byte bound for the
outgoing ring the sender's `peek, write, commit` (hence `3 * …`); `pktCost = 5` is `size, msg, acts [], commit, check`;
`actCost` 3 is lock, `WriteWait`, commit; `rankK` counts the statements of `stop()` still to come. -/

theorem rankS_mono (b b' : Nat) (pc : SPc) (h : b' ≤ b) : rankS b' pc ≤ rankS b pc := by
  cases pc <;> first | exact Nat.le_refl _ | exact Nat.add_le_add_right (Nat.mul_le_mul_left 3 h) _

/-- the sender's window: what it is writing / about to commit was peeked from the ring and is
still there (only the sender consumes the outgoing ring) -/
def SWin (s : St) : Prop :=
  ∀ m, (s.send = .write m ∨ s.send = .commit m) → 1 ≤ m ∧ m ≤ s.sh.outR.buf

theorem readLen_pos (c : Cfg) (sh : Sh) (k : Nat) : 0 < readLen c sh k := Nat.lt_of_lt_of_le Nat.one_pos (Nat.le_max_left ..)

theorem RStep.rank_lt {c : Cfg} {sh sh' : Sh} {k : Nat} {pc pc' : RPc} (h : RStep c sh k pc sh' pc') :
    sh'.outR = sh.outR ∧ sh'.stream = sh.stream ∧ rankR sh'.wire pc' < rankR sh.wire pc := by
  have := readLen_pos c sh k
  cases h <;> refine ⟨rfl, rfl, ?_⟩ <;> simp +arith only [rankR] <;> omega

theorem SStep.rank_lt {c : Cfg} {sh sh' : Sh} {pc pc' : SPc} (h : SStep c sh pc sh' pc')
    (hwin : ∀ m, (pc = .write m ∨ pc = .commit m) → 1 ≤ m ∧ m ≤ sh.outR.buf) :
    sh'.stream = sh.stream ∧ sh'.wire = sh.wire ∧ sh'.outR.buf ≤ sh.outR.buf ∧
    ∀ x, rankS (sh'.outR.buf + x) pc' < rankS (sh.outR.buf + x) pc := by
  cases h with
  | commit m => have := hwin m (.inr rfl); exact ⟨rfl, rfl, Nat.sub_le .., fun x => by simp +arith only [rankS]; omega⟩
  | _ => exact ⟨rfl, rfl, Nat.le_refl _, fun x => by simp +arith only [rankS]⟩

theorem KStep.rank_lt {c : Cfg} (hw : WF c) {sh sh' : Sh} {me : Tid} {k k' : KPc} (h : KStep c sh me k sh' k') :
    rankK c k' < rankK c k := by
  have h9 : c.stopProg.length = 9 := by rw [hw.prog]; rfl
  cases h with
  | casLost => exact Nat.succ_pos _
  | ret => exact Nat.succ_pos _
  | _ => simp only [rankK, h9]; decide

theorem PStep.rank_lt {c : Cfg} (hw : WF c) {sh sh' : Sh} {pc pc' : PPc} (h : PStep c sh pc sh' pc') :
    sh'.wire = sh.wire ∧ rankP c sh'.stream pc' < rankP c sh.stream pc ∧
    sh'.outR.buf + procOut sh'.stream pc' ≤ sh.outR.buf + procOut sh.stream pc := by
  cases h with
  | stop k k' sh' h =>
    have hf := h.frame
    exact ⟨hf.wire, h.rank_lt hw, by simp only [procOut, hf.outBuf, Nat.le_refl]⟩
  | msg p tl as hst hk =>
    refine ⟨rfl, ?_, ?_⟩ <;>
      simp +arith only [rankP, procOut, hst, streamCost, pktCost, streamOut, hk, Kind.acts, List.tail_cons] <;> omega
  | commit p tl hst => refine ⟨rfl, ?_, ?_⟩ <;> simp +arith only [rankP, procOut, hst, List.tail_cons] <;> omega
  | commitNil hst => refine ⟨rfl, ?_, ?_⟩ <;> simp +arith only [rankP, procOut, hst, List.tail_nil, streamCost, streamOut] <;> omega
  | msgDisc p tl hst hk => refine ⟨rfl, ?_, ?_⟩ <;> simp +arith only [rankP, procOut, hst, streamCost, pktCost] <;> omega
  | wgDone => refine ⟨rfl, ?_, ?_⟩ <;> simp +arith only [rankP, procOut, rankK] <;> omega
  | _ => refine ⟨rfl, ?_, ?_⟩ <;> simp +arith only [rankP, procOut, actsCost, actCost, actsOut] <;> omega

theorem WStep.rank_lt {c : Cfg} {sh sh' : Sh} {me : Tid} {w w' : WTh} (h : WStep c sh me w sh' w') :
    sh'.wire = sh.wire ∧ sh'.stream = sh.stream ∧ rankW w'.pc < rankW w.pc ∧
    sh'.outR.buf + wOut w' ≤ sh.outR.buf + wOut w := by
  cases h <;> refine ⟨rfl, rfl, ?_, ?_⟩ <;> simp +arith only [rankW, wOut] <;> omega

theorem sum5_lt {a b c d e a' b' c' d' e' : Nat} (ha : a' ≤ a) (hb : b' ≤ b) (hc : c' ≤ c) (hd : d' ≤ d) (he : e' ≤ e)
    (h : a' < a ∨ b' < b ∨ c' < c ∨ d' < d ∨ e' < e) : a' + b' + c' + d' + e' < a + b + c + d + e := by
  rcases h with h | h | h | h | h
  · exact Nat.add_lt_add_of_lt_of_le (Nat.add_lt_add_of_lt_of_le (Nat.add_lt_add_of_lt_of_le (Nat.add_lt_add_of_lt_of_le h hb) hc) hd) he
  · exact Nat.add_lt_add_of_lt_of_le (Nat.add_lt_add_of_lt_of_le (Nat.add_lt_add_of_lt_of_le (Nat.add_lt_add_of_le_of_lt ha h) hc) hd) he
  · exact Nat.add_lt_add_of_lt_of_le (Nat.add_lt_add_of_lt_of_le (Nat.add_lt_add_of_le_of_lt (Nat.add_le_add ha hb) h) hd) he
  · exact Nat.add_lt_add_of_lt_of_le (Nat.add_lt_add_of_le_of_lt (Nat.add_le_add (Nat.add_le_add ha hb) hc) h) he
  · exact Nat.add_lt_add_of_le_of_lt (Nat.add_le_add (Nat.add_le_add (Nat.add_le_add ha hb) hc) hd) h

theorem TStep.rank_lt {c : Cfg} (hw : WF c) {s s' : St} {t : Tid} {k : Nat} (hwin : SWin s) (h : TStep c s t k s') :
    rank c s' < rank c s := by
  cases h with
  | recv hpc h =>
    obtain ⟨h1, h2, h3⟩ := hpc ▸ h.rank_lt
    simp only [rank, outBound, h1, h2]
    exact sum5_lt (Nat.le_of_lt h3) (Nat.le_refl _) (Nat.le_refl _) (Nat.le_refl _) (Nat.le_refl _) (.inl h3)
  | send hpc h =>
    obtain ⟨h1, h2, -, h4⟩ := h.rank_lt (fun m hm => hwin m (hpc ▸ hm))
    have := h4 (procOut s.sh.stream s.proc + sumWOut s.ws)
    simp only [← Nat.add_assoc, ← hpc] at this
    simp only [rank, outBound, h1, h2]
    exact sum5_lt (Nat.le_refl _) (Nat.le_of_lt this) (Nat.le_refl _) (Nat.le_refl _) (Nat.le_refl _) (.inr (.inl this))
  | @proc _ pc pc' sh' hpc h =>
    obtain ⟨h1, h2, h3⟩ := hpc ▸ h.rank_lt hw
    simp only [rank, outBound, h1]
    exact sum5_lt (Nat.le_refl _) (rankS_mono _ _ _ (Nat.add_le_add_right h3 _)) (Nat.le_of_lt h2) (Nat.le_refl _)
      (Nat.le_refl _) (.inr (.inr (.inl h2)))
  | @k _ i pc pc' sh' hpc h =>
    have hf := h.frame
    have hd : sumK c (s.ks.set i pc') < sumK c s.ks :=
      Nat.lt_of_add_eq (List.sum_set (rankK c) (sumK c) (fun _ _ => rfl) s.ks i (b := pc') hpc) (h.rank_lt hw)
    simp only [rank, outBound, hf.wire, hf.stream, hf.outBuf]
    exact sum5_lt (Nat.le_refl _) (Nat.le_refl _) (Nat.le_refl _) (Nat.le_of_lt hd) (Nat.le_refl _) (.inr (.inr (.inr (.inl hd))))
  | @w _ i w w' sh' hpc h =>
    obtain ⟨h1, h2, h3, h4⟩ := h.rank_lt
    have he : sumW (s.ws.set i w') < sumW s.ws :=
      Nat.lt_of_add_eq (List.sum_set (fun w => rankW w.pc) sumW (fun _ _ => rfl) s.ws i (b := w') hpc) h3
    have hb : sh'.outR.buf + procOut s.sh.stream s.proc + sumWOut (s.ws.set i w') ≤
        s.sh.outR.buf + procOut s.sh.stream s.proc + sumWOut s.ws := by
      have := List.sum_set wOut sumWOut (fun _ _ => rfl) s.ws i (b := w') hpc
      omega
    simp only [rank, outBound, h1, h2]
    exact sum5_lt (Nat.le_refl _) (rankS_mono _ _ _ hb) (Nat.le_refl _) (Nat.le_refl _) (Nat.le_of_lt he)
      (.inr (.inr (.inr (.inr he))))

theorem EStep.rank_le {c : Cfg} {s s' : St} {e : Env} (h : EStep c s e s') : rank c s' ≤ rank c s := by
  cases h with
  | serverClose i h =>
    have := Nat.le_of_add_eq (List.sum_set (rankK c) (sumK c) (fun _ _ => rfl) s.ks i (a := .idle) (b := .run 0) h)
      (Nat.le_succ_of_le (Nat.add_le_add_right (Nat.sub_le ..) 1))
    exact Nat.add_le_add_right (Nat.add_le_add_left this _) _
  | kaExpire hr hs => simp only [rank, outBound, hr, Nat.le_refl]
  | _ => exact Nat.le_refl _

end Mqtt.Proofs.Lifecycle
