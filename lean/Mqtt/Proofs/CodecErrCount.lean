/-
Core A (codec): the byte count a decoder returns together with an error
(`Model.Codec.decodeNewErrN`) is never larger than the input.  Every count function is the count of
`header.decode`, or behind a header that was read a count inside the packet (`behind_header_le`); the
bounds come from the readers' specifications.
-/
import Mqtt.Proofs.CodecDecode

namespace Mqtt.Proofs.Codec

open Mqtt.Model.Codec Mqtt.Iface.Codec Mqtt.Generated

theorem ite_le {c : Prop} [Decidable c] {a b n : Nat} (ha : a ≤ n) (hb : ¬ c → b ≤ n) : (if c then a else b) ≤ n := by
  by_cases hc : c
  · rw [if_pos hc]; exact ha
  · rw [if_neg hc]; exact hb hc

theorem hdr_errN_le (h : Hdr) (src : Bytes) : h.decodeErrN src ≤ src.length := by
  unfold Hdr.decodeErrN
  refine ite_le (Nat.zero_le _) fun hs => ?_
  simp only []
  have z := Nat.zero_le src.length
  refine ite_le z fun _ => ite_le z fun _ => ite_le z fun _ => ite_le z fun _ => ?_
  by_cases hm : (uvarint (src.drop 1)).2 ≤ 0 ∨ (uvarint (src.drop 1)).2 > maxVarintBytes
  · rw [if_pos hm]; omega
  · rw [if_neg hm]
    simp only [not_or, Int.not_le, Int.not_lt] at hm
    have c := (uvarintAux_ok (src.drop 1) 0 0 (by simp) hm.1).2.1
    unfold uvarint
    have : (List.drop 1 src).length = src.length - 1 := List.length_drop
    omega

/-- every count function opens with this `match` (Lean shares the one matcher among them, so the lemma applies to each
as it stands) -/
theorem behind_header_le (h : Hdr) (src : Bytes) (f : Hdr × Nat → Nat)
    (hf : ∀ r, h.decode src = .ok r → r.2 + r.1.remlen ≤ src.length → f r ≤ r.2 + r.1.remlen) :
    (match h.decode src with
      | .ok r => f r
      | _ => h.decodeErrN src) ≤ src.length := by
  split
  · rename_i r hd
    have hfit := (hdr_decode_of_ok hd).fits
    exact Nat.le_trans (hf r hd hfit) hfit
  · exact hdr_errN_le h src

theorem fieldErrN_le (src : Bytes) (total : Nat) (h : total ≤ src.length) : fieldErrN src total ≤ src.length := by
  show total + (if (src.drop total).length < 2 then 0 else 2) ≤ src.length
  rw [List.length_drop]
  split <;> omega

/-- `subStepErrN`, `connectClientIDErrN` and the inner `match` of `decodePublishErrN` are this expression -/
theorem behind_field_le (src : Bytes) (total : Nat) (h : total ≤ src.length) :
    (match readLPBytes (src.drop total) with
      | .ok lp => total + lp.2
      | _ => fieldErrN src total) ≤ src.length := by
  split
  · rename_i lp hlp
    obtain ⟨h1, _, h3⟩ := (readLP_total _).of_ok hlp
    rw [List.length_drop] at h3
    -- behind `split` the goal is typed by the motive `(fun _ => Nat) _`, where `omega` takes a sum for an atom
    show total + lp.2 ≤ src.length
    omega
  · exact fieldErrN_le src total h

theorem decodeFixedErrN_le (h : Hdr) (src : Bytes) : decodeFixedErrN h src ≤ src.length :=
  behind_header_le h src _ fun _ _ _ => Nat.le_add_right _ _

theorem decodeConnackErrN_le (h : Hdr) (src : Bytes) : decodeConnackErrN h src ≤ src.length :=
  behind_header_le h src _ fun _ _ _ => ite_le (Nat.le_add_right _ _) fun _ => Nat.zero_le _

theorem decodeSubackErrN_le (h : Hdr) (src : Bytes) : decodeSubackErrN h src ≤ src.length :=
  behind_header_le h src _ fun _ _ _ => ite_le (Nat.le_add_right _ _) fun _ => Nat.le_refl _

theorem decodePublishErrN_le (h : Hdr) (src : Bytes) : decodePublishErrN h src ≤ src.length :=
  behind_header_le h src _ fun r _ hfit => by
    have := behind_field_le (src.take (r.2 + r.1.remlen)) r.2 (by rw [List.length_take_of_le hfit]; omega)
    rwa [List.length_take_of_le hfit] at this

theorem subLoopErrN_le (src : Bytes) : ∀ (remlen total : Nat), total ≤ src.length →
    subLoopErrN src total remlen ≤ src.length := by
  intro remlen
  induction remlen using Nat.strongRecOn with
  | ind remlen ih =>
    intro total ht
    rw [subLoopErrN]
    split
    · omega
    · split
      · rename_i t q n hstep
        have : total + n + 1 ≤ src.length := ((subStep_total src total ht).of_ok hstep).2.1
        exact ih (remlen - n - 1) (by omega) _ this
      · exact behind_field_le src total ht

theorem unsubLoopErrN_le (src : Bytes) : ∀ (remlen total : Nat), total ≤ src.length →
    unsubLoopErrN src total remlen ≤ src.length := by
  intro remlen
  induction remlen using Nat.strongRecOn with
  | ind remlen ih =>
    intro total ht
    rw [unsubLoopErrN]
    split
    · omega
    · split
      · rename_i t k hstep
        exact ih (remlen - (2 + k)) (by omega) _ (by
          obtain ⟨h1, _, h3⟩ := (unsubStep_total src total ht).of_ok hstep
          simp only [] at h1 h3; omega)
      · exact fieldErrN_le src total ht

theorem behind_id_le {src : Bytes} {r : Hdr × Nat} (hfit : r.2 + r.1.remlen ≤ src.length) (loop : Bytes → Nat → Nat → Nat)
    (hl : ∀ s remlen total, total ≤ s.length → loop s total remlen ≤ s.length) :
    (if r.1.remlen < 2 then r.2 else loop (src.take (r.2 + r.1.remlen)) (r.2 + 2) (r.1.remlen - 2)) ≤ r.2 + r.1.remlen :=
  ite_le (Nat.le_add_right _ _) fun _ => by
    have := hl (src.take (r.2 + r.1.remlen)) (r.1.remlen - 2) (r.2 + 2) (by rw [List.length_take_of_le hfit]; omega)
    rwa [List.length_take_of_le hfit] at this

theorem decodeSubscribeErrN_le (h : Hdr) (src : Bytes) : decodeSubscribeErrN h src ≤ src.length :=
  behind_header_le h src _ fun _ _ hfit => behind_id_le hfit _ subLoopErrN_le

theorem decodeUnsubscribeErrN_le (h : Hdr) (src : Bytes) : decodeUnsubscribeErrN h src ≤ src.length :=
  behind_header_le h src _ fun _ _ hfit => behind_id_le hfit _ unsubLoopErrN_le

theorem readField_fits {src : Bytes} {total : Nat} {f : Bytes × View × Nat} (h : readField src total = .ok f)
    (ht : total ≤ src.length) : total + 2 ≤ f.2.2 ∧ f.2.2 ≤ src.length := by
  obtain ⟨h1, _, _, h3⟩ := (readField_total src total ht).of_ok h
  omega

theorem connectFixedErrN_le (c : ConnectF) (src : Bytes) : connectFixedErrN c src ≤ src.length := by
  unfold connectFixedErrN
  split
  · rename_i f hf
    have := readField_fits hf (Nat.zero_le _)
    simp only []
    refine ite_le (by omega) fun h2 => ?_
    rw [List.length_drop] at h2
    refine ite_le (by omega) fun _ => ite_le (by omega) fun _ => ite_le (by omega) fun _ => ite_le (by omega) fun _ => ?_
    exact Nat.zero_le _
  · exact fieldErrN_le src 0 (by omega)

theorem connectWillErrN_le (src : Bytes) (total : Nat) (h : total ≤ src.length) :
    connectWillErrN src total ≤ src.length := by
  unfold connectWillErrN
  split
  · rename_i f hf
    exact fieldErrN_le src _ (readField_fits hf h).2
  · exact fieldErrN_le src total h

theorem decodeConnectMessageErrN_le (c : ConnectF) (src : Bytes) : decodeConnectMessageErrN c src ≤ src.length := by
  unfold decodeConnectMessageErrN
  split
  · rename_i r1 h1
    have b1 : r1.2 ≤ src.length := ((connectFixed_total c src).of_ok h1).1
    split
    · rename_i r2 h2
      have b2 : r2.2.2 ≤ src.length := ((connectClientID_total _ src _ 0 b1).of_ok h2).2.1
      split
      · rename_i r3 h3
        have b3 : r3.2.2.2 ≤ src.length := ((connectWill_total _ src _ 0 b2).of_ok h3).2.1
        split
        · rename_i r4 h4
          have b4 : r4.2.2 ≤ src.length :=
            ((optRead_total _ _ r3.1 src _ 0 r3.1.username rfl b3).of_ok (connectUser_eq _ ▸ h4)).2.1
          split
          · rename_i r5 h5
            exact ((optRead_total _ _ r4.1 src _ 0 r4.1.password rfl b4).of_ok (connectPass_eq _ ▸ h5)).2.1
          · exact fieldErrN_le src _ b4
        · exact fieldErrN_le src _ b3
      · exact connectWillErrN_le src _ b2
    · exact behind_field_le src _ b1
  · exact connectFixedErrN_le c src

theorem decodeConnectErrN_le (h : Hdr) (c : ConnectF) (src : Bytes) : decodeConnectErrN h c src ≤ src.length :=
  behind_header_le h src _ fun r _ hfit => by
    have := decodeConnectMessageErrN_le c (List.drop r.2 (List.take (r.2 + r.1.remlen) src))
    rw [List.length_drop, List.length_take_of_le hfit] at this
    show r.2 + _ ≤ _
    omega

theorem decodeNewErrN_le (t : Nat) (src : Bytes) : decodeNewErrN t src ≤ src.length := by
  unfold decodeNewErrN
  split
  · rename_i m _
    cases m with
    | connect h c => exact decodeConnectErrN_le h c src
    | connack h _ _ => exact decodeConnackErrN_le h src
    | publish h _ _ => exact decodePublishErrN_le h src
    | ack h => exact decodeFixedErrN_le h src
    | subscribe h _ _ => exact decodeSubscribeErrN_le h src
    | suback h _ => exact decodeSubackErrN_le h src
    | unsubscribe h _ => exact decodeUnsubscribeErrN_le h src
    | bare h => exact decodeFixedErrN_le h src
  · omega

end Mqtt.Proofs.Codec
