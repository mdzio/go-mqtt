/-
Core D — the safety invariant of the concurrent ring program and its
preservation by every step of every thread (layer 2 of DESIGN §5 "Core D").

* `Glob`  : cursors, gate, the cells between the cursors hold the stream, the
            consumer's obtained bytes are the stream prefix;
* `PInv`  : what the producer thread knows at each program counter (its
            reservation lies below `cseq + size` — it knows a lower bound of the
            consumer cursor: the gate, or the cursor `ReadFrom` has just loaded —,
            the cells it has written);
* `CInv`  : what the consumer thread knows (its window lies below `pseq`, the
            bytes it has read are the stream).
Each thread's invariant only mentions shared data the *other* threads change
monotonically (rely/guarantee): `PInv` is stable under consumer steps, `CInv`
under producer steps, both under closer steps.

`Glob` itself is not argued for here: a step that changes the core is a step of the abstract machine
(`Sim`; this is the simulation of layer 1 by layer 2, `sim_step`), and `Proofs/RingAbs.lean` has shown
that those preserve it.  What a step of one thread guarantees the others is `Guar` (`step_guar`); with the invariant of the
whole system (`RInv`: `rinv_step_inv`, `rinv_init`, `rinv_run`) the cursors only grow along a schedule (`step_mono`, `run_mono`).
-/
import Mqtt.Proofs.RingAbs

namespace Mqtt.Proofs.Ring
open Mqtt.Model.Ring Mqtt.Model.RingAbs Mqtt.Iface.Ring Mqtt.Spec.Ring

/-- global part: `base` is the stream position at which the ring started -/
structure Glob (cfg : Cfg) (base : Nat) (c : Core) : Prop where
  bufsz : c.buf.size = cfg.size
  cp : c.cseq ≤ c.pseq
  pc : c.pseq ≤ c.cseq + cfg.size
  gc : c.gate ≤ c.cseq
  cells : ∀ i, c.cseq ≤ i → i < c.pseq → rd c.buf (cfg.idx i) = cfg.src i
  basele : base ≤ c.cseq
  got : c.gotRev.reverse = segment cfg.src base (c.cseq - base)

theorem Glob.lossless {cfg : Cfg} {base : Nat} {c : Core} (h : Glob cfg base c) :
    Lossless cfg.src base c.pseq c.gotRev.reverse ∧ cursorsOk cfg.size c.pseq c.cseq ∧
      base + c.gotRev.reverse.length = c.cseq := by
  have hl : c.gotRev.reverse.length = c.cseq - base := by rw [h.got, segment_length]
  have hb := h.basele
  exact ⟨⟨by have := h.cp; omega, hl ▸ h.got⟩, ⟨h.cp, h.pc⟩, by omega⟩

def Filled (cfg : Cfg) (buf : Array UInt8) (pos k : Nat) : Prop :=
  ∀ i, i < k → rd buf (cfg.idx (pos + i)) = cfg.src (pos + i)

/-- a `WriteCommit(n)` in progress (called by the thread program or by `ReadFrom`) commits only
filled bytes; the `waitForWriteSpace` at the head of `ReadFrom`'s loop asks for exactly one byte -/
def wcOK (th : Th) (n : Nat) : Prop :=
  (∀ m, th.cur = some (.wcommit m) → n ≤ th.filled) ∧
  (∀ tot ms, th.cur = some (.rfcommit tot ms) → n ≤ th.filled) ∧
  (∀ tot ms, th.cur = some (.rfrom tot ms) → n = 1)

/-- the `WriteCommit` called by `ReadFrom` is not in the wait loop of `waitForWriteSpace`: its space was
free when `ReadFrom` looked (the consumer cursor only moves forward) -/
def noRfc (th : Th) : Prop := ∀ tot ms, th.cur ≠ some (.rfcommit tot ms)

def pcP (cfg : Cfg) (c : Core) (th : Th) : Prop :=
  match th.pc with
  | .s30 n | .s31 n => wcOK th n
  | .w40 n => th.cur = some (.write n)
  | .s32 n ppos | .s33 n ppos | .s37 n ppos => ppos = c.pseq ∧ wcOK th n
  | .s34 n ppos | .s35 n ppos | .s36 n ppos | .s36w n ppos => ppos = c.pseq ∧ wcOK th n ∧ noRfc th
  | .s38 n ppos cpos => ppos = c.pseq ∧ ppos + n ≤ cpos + cfg.size ∧ cpos ≤ c.cseq ∧ c.gate ≤ cpos ∧ wcOK th n
  | .s39 n ppos => ppos = c.pseq ∧ ppos + n ≤ c.cseq + cfg.size ∧ wcOK th n
  | .w41c n ppos j => ppos = c.pseq ∧ ppos + n ≤ c.cseq + cfg.size ∧ j ≤ n ∧ Filled cfg c.buf ppos j
  | .w42 n ppos => ppos = c.pseq ∧ ppos + n ≤ c.cseq + cfg.size ∧ Filled cfg c.buf ppos n
  | .c50 n ppos => ppos = c.pseq ∧ n ≤ th.filled
  | .f0 start len j => start = c.pseq ∧ start + len ≤ c.cseq + cfg.size ∧ j ≤ len ∧ Filled cfg c.buf start j ∧ th.filled = 0
  | .g112 _ _ ppos => ppos = c.pseq ∧ ppos + 1 ≤ c.cseq + cfg.size
  | .g111 _ _ start len => start = c.pseq ∧ start + len ≤ c.cseq + cfg.size
  | .g111c _ _ start n j => start = c.pseq ∧ start + n ≤ c.cseq + cfg.size ∧ j ≤ n ∧ Filled cfg c.buf start j
  | .g111r _ _ n => Filled cfg c.buf c.pseq n ∧ c.pseq + n ≤ c.cseq + cfg.size
  | _ => True

/-- the count `waitForWriteSpace` was asked for, at its program counters -/
def wfsArg : Pc → Option Nat
  | .s30 n | .s31 n | .s32 n _ | .s33 n _ | .s34 n _ | .s35 n _ | .s36 n _ | .s36w n _ | .s37 n _ | .s38 n _ _
  | .s39 n _ => some n
  | _ => none

/-- `pcP` carries `wcOK` at a different place of its conjunction at each program counter of `waitForWriteSpace` -/
theorem pcP_wcOK {cfg : Cfg} {c : Core} {th : Th} {n : Nat} (h : pcP cfg c th) (hw : wfsArg th.pc = some n) : wcOK th n := by
  unfold pcP at h
  generalize th.pc = pc at h hw
  unfold wfsArg at hw
  split at hw
  all_goals cases hw
  all_goals first | exact h | exact h.2 | exact h.2.1 | exact h.2.2.2.2 | exact h.2.2

structure PInv (cfg : Cfg) (c : Core) (th : Th) : Prop where
  pcinv : pcP cfg c th
  slice : ∀ st len, th.slice = some (st, len) → st = c.pseq ∧ st + len ≤ c.cseq + cfg.size
  fill : Filled cfg c.buf c.pseq th.filled ∧ (0 < th.filled → c.pseq + th.filled ≤ c.cseq + cfg.size)

def pcC (cfg : Cfg) (c : Core) (th : Th) : Prop :=
  match th.pc with
  | .r60 n => th.cur = some (.read n)
  | .r62 _ cpos => cpos = c.cseq
  | .r63c _ cpos k j acc => cpos = c.cseq ∧ cpos + k ≤ c.pseq ∧ j ≤ k ∧ acc.reverse = segment cfg.src cpos j
  | .r64 _ cpos acc => cpos = c.cseq ∧ cpos + acc.length ≤ c.pseq ∧ acc.reverse = segment cfg.src cpos acc.length
  | .r65 _ cpos acc | .r66 _ cpos acc | .r67 _ cpos acc =>
    cpos + acc.length ≤ c.pseq ∧ acc.reverse = segment cfg.src cpos acc.length
  | .r73 _ cpos | .r74 _ cpos | .r75 _ cpos | .r75r _ cpos | .r76 _ cpos | .r77 _ cpos | .r77w _ cpos | .r78 _ cpos => cpos = c.cseq
  | .r79 _ => c.cseq < c.pseq
  | .p81 _ _ cpos | .p82 _ _ cpos | .p83 _ _ cpos | .p84 _ _ cpos | .p84r _ _ cpos | .p85 _ _ cpos | .p86 _ _ cpos
  | .p86w _ _ cpos | .p87 _ _ cpos => cpos = c.cseq
  | .p88 w n cpos ppos => cpos = c.cseq ∧ ppos ≤ c.pseq ∧ mustWait w n cpos ppos = false
  | .p89c _ cpos m _ j acc => cpos = c.cseq ∧ cpos + m ≤ c.pseq ∧ j ≤ m ∧ acc.reverse = segment cfg.src cpos j
  | .k100 n => n ≤ th.pending.length
  | .k101 n cpos => cpos = c.cseq ∧ n ≤ th.pending.length
  | .k102 n cpos => cpos = c.cseq ∧ cpos + n ≤ c.pseq ∧ n ≤ th.pending.length
  | .u0 cpos m j acc => cpos = c.cseq ∧ cpos + m ≤ c.pseq ∧ j ≤ m ∧ acc.reverse = segment cfg.src cpos j
  | _ => True

def viewOK (cfg : Cfg) (c : Core) : View → Prop
  | .none => True
  | .alias cpos m => cpos = c.cseq ∧ cpos + m ≤ c.pseq
  | .tmp cpos bytes => cpos = c.cseq ∧ cpos + bytes.length ≤ c.pseq ∧ bytes = segment cfg.src cpos bytes.length

structure CInv (cfg : Cfg) (c : Core) (th : Th) : Prop where
  pcinv : pcC cfg c th
  view : viewOK cfg c th.view
  pend : th.pending = segment cfg.src c.cseq th.pending.length ∧ c.cseq + th.pending.length ≤ c.pseq

/-- the part of `PInv` that is the same at every program counter (a definition, not a structure, so that
it passes between threads that differ in program counter and result only) -/
def PHold (cfg : Cfg) (c : Core) (th : Th) : Prop :=
  (∀ st len, th.slice = some (st, len) → st = c.pseq ∧ st + len ≤ c.cseq + cfg.size) ∧
  Filled cfg c.buf c.pseq th.filled ∧ (0 < th.filled → c.pseq + th.filled ≤ c.cseq + cfg.size)

def CHold (cfg : Cfg) (c : Core) (th : Th) : Prop :=
  viewOK cfg c th.view ∧ th.pending = segment cfg.src c.cseq th.pending.length ∧ c.cseq + th.pending.length ≤ c.pseq

/-- The assertion of a program counter, with the program counter set apart: `th.goto th.pc` is `th`, so this is `PInv.pcinv`.
The step lemmas below state it in this form for the `generalize th.pc = pc` before `cases` on a `Step` (`tstep_step`), which
turns it into the assertion of the very program counter of each case (what the thread holds — slice, fill count, view, pending
bytes — is untouched by `goto` and `clr`, so `PHold`/`CHold` pass over by definitional unfolding). -/
theorem pcP_at {cfg : Cfg} {c : Core} {th : Th} (h : pcP cfg c th) : pcP cfg c (th.goto th.pc) := h

theorem pcC_at {cfg : Cfg} {c : Core} {th : Th} (h : pcC cfg c th) : pcC cfg c (th.goto th.pc) := h

theorem PInv.hold {cfg : Cfg} {c : Core} {th : Th} (h : PInv cfg c th) : PHold cfg c th := ⟨h.slice, h.fill⟩
theorem CInv.hold {cfg : Cfg} {c : Core} {th : Th} (h : CInv cfg c th) : CHold cfg c th := ⟨h.view, h.pend⟩
theorem PInv.of {cfg : Cfg} {c : Core} {th : Th} (h : pcP cfg c th) (hh : PHold cfg c th) : PInv cfg c th := ⟨h, hh.1, hh.2⟩
theorem CInv.of {cfg : Cfg} {c : Core} {th : Th} (h : pcC cfg c th) (hh : CHold cfg c th) : CInv cfg c th := ⟨h, hh.1, hh.2⟩

theorem Filled_zero (cfg : Cfg) (buf : Array UInt8) (pos : Nat) : Filled cfg buf pos 0 := fun _ h => absurd h (Nat.not_lt_zero _)

theorem ainv_of_glob {cfg : Cfg} {base : Nat} {sh : Sh} (h : Glob cfg base sh.core) :
    AInv cfg.size cfg.src base (absSh sh) :=
  ⟨h.cp, h.pc, h.gc, fun i h1 h2 => idx_eq_mod cfg i ▸ h.cells i h1 h2, h.basele, h.got⟩

theorem glob_of_ainv {cfg : Cfg} {base : Nat} {sh : Sh} (hb : sh.buf.size = cfg.size)
    (h : AInv cfg.size cfg.src base (absSh sh)) : Glob cfg base sh.core :=
  ⟨hb, h.cp, h.pc, h.gc, fun i h1 h2 => idx_eq_mod cfg i ▸ h.cells i h1 h2, h.basele, h.got⟩

theorem absSh_core (sh sh' : Sh) (h : sh'.core = sh.core) : absSh sh' = absSh sh := by
  injection h with h1 h2 h3 h4 h5
  unfold absSh
  rw [h1, h2, h3, h4, h5]

/-- a step of the real program seen through the abstraction: invisible, or a step of the abstract
machine; the ring memory keeps its size -/
structure Sim (cfg : Cfg) (sh sh' : Sh) : Prop where
  size : sh'.buf.size = sh.buf.size
  abs : absSh sh' = absSh sh ∨ AStep cfg.size cfg.src (absSh sh) (absSh sh')

theorem Sim.glob {cfg : Cfg} {base : Nat} {sh sh' : Sh} (h : Sim cfg sh sh') (hg : Glob cfg base sh.core) :
    Glob cfg base sh'.core := by
  refine glob_of_ainv (h.size.trans hg.bufsz) ?_
  rcases h.abs with e | st
  · rw [e]; exact ainv_of_glob hg
  · exact ainv_step _ (size_pos cfg) _ _ _ _ (ainv_of_glob hg) st

theorem Sim.of_core {cfg : Cfg} {sh sh' : Sh} (h : sh'.core = sh.core) : Sim cfg sh sh' :=
  ⟨congrArg (·.buf.size) h, Or.inl (absSh_core _ _ h)⟩

theorem Sim.then {cfg : Cfg} {sh d sh' : Sh} (h : Sim cfg sh d) (hc : sh'.core = d.core) : Sim cfg sh sh' :=
  ⟨(congrArg (·.buf.size) hc).trans h.size, absSh_core _ _ hc ▸ h.abs⟩

theorem rd_wr_upd (cfg : Cfg) (buf : Array UInt8) (pos : Nat) (v : UInt8) (hbs : buf.size = cfg.size) :
    (fun i => rd (wr buf (cfg.idx pos) v) i) = upd (fun i => rd buf i) (pos % cfg.size) v := by
  funext i
  unfold upd
  rw [← idx_eq_mod]
  by_cases e : i = cfg.idx pos
  · rw [if_pos e, e]; exact rd_wr_self _ _ _ (by rw [hbs]; exact idx_lt cfg pos)
  · rw [if_neg e]; exact rd_wr_ne _ _ _ _ (Ne.symm e)

theorem sim_write (cfg : Cfg) (sh : Sh) (q : Nat) (hbs : sh.buf.size = cfg.size) (h1 : sh.pseq ≤ q)
    (h2 : q < sh.cseq + cfg.size) : Sim cfg sh { sh with buf := wr sh.buf (cfg.idx q) (cfg.src q) } := by
  refine ⟨wr_size _ _ _, Or.inr ?_⟩
  show AStep _ _ _ ⟨sh.pseq, sh.cseq, sh.gate, fun i => rd (wr sh.buf (cfg.idx q) (cfg.src q)) i, sh.gotRev.reverse⟩
  rw [rd_wr_upd cfg sh.buf q _ hbs]
  exact AStep.write (absSh sh) q h1 h2

theorem sim_commitP (cfg : Cfg) (sh : Sh) (n : Nat) (hf : Filled cfg sh.buf sh.pseq n)
    (hle : 0 < n → sh.pseq + n ≤ sh.cseq + cfg.size) : Sim cfg sh { sh with pseq := sh.pseq + n } :=
  ⟨rfl, Or.inr (AStep.commitP (absSh sh) n (fun i hi => idx_eq_mod cfg _ ▸ hf i hi) hle)⟩

/-- the consumer cursor stored, with the bytes `rev` (newest first) obtained: `Read`, `ReadCommit` -/
theorem sim_commitC {cfg : Cfg} {base : Nat} {sh : Sh} (hg : Glob cfg base sh.core) (rev : List UInt8) (k : Nat)
    (h : rev.reverse = segment cfg.src sh.cseq k) (hle : sh.cseq + k ≤ sh.pseq) :
    Sim cfg sh { sh with cseq := sh.cseq + k, gotRev := rev ++ sh.gotRev } := by
  refine ⟨rfl, Or.inr ?_⟩
  have st := AStep.commitC (size := cfg.size) (src := cfg.src) (absSh sh) k hle
  rw [commitC_data _ _ base _ k (ainv_of_glob hg) hle] at st
  show AStep _ _ _ ⟨sh.pseq, sh.cseq + k, sh.gate, fun i => rd sh.buf i, (rev ++ sh.gotRev).reverse⟩
  rw [List.reverse_append, h]
  exact st

theorem sim_gate (cfg : Cfg) (sh : Sh) (g : Nat) (h1 : sh.gate ≤ g) (h2 : g ≤ sh.cseq) : Sim cfg sh { sh with gate := g } :=
  ⟨rfl, Or.inr (AStep.learnGate (absSh sh) g h1 h2)⟩

theorem PInv.stable (cfg : Cfg) (c c' : Core) (th : Th) (h : PInv cfg c th)
    (hb : c'.buf = c.buf) (hp : c'.pseq = c.pseq) (hg : c'.gate = c.gate) (hc : c.cseq ≤ c'.cseq) :
    PInv cfg c' th := by
  obtain ⟨buf, pseq, cseq, gate, got⟩ := c
  obtain ⟨buf', pseq', cseq', gate', got'⟩ := c'
  simp only at hb hp hg hc
  subst hb hp hg
  obtain ⟨h1, h2, h3⟩ := h
  refine ⟨?_, ?_, ⟨h3.1, fun h => Nat.le_trans (h3.2 h) (Nat.add_le_add_right hc _)⟩⟩
  · unfold pcP at h1 ⊢
    split at h1
    -- the consumer cursor occurs only as an upper bound `… ≤ c.cseq (+ size)`, at a place that depends on the program counter
    all_goals (first
      | exact h1
      | (obtain ⟨a, b, c, d, e⟩ := h1; exact ⟨a, b, Nat.le_trans c hc, d, e⟩)
      | (obtain ⟨a, b, c, d, e⟩ := h1; exact ⟨a, Nat.le_trans b (Nat.add_le_add_right hc _), c, d, e⟩)
      | (obtain ⟨a, b, c, d⟩ := h1; exact ⟨a, Nat.le_trans b (Nat.add_le_add_right hc _), c, d⟩)
      | (obtain ⟨a, b, c⟩ := h1; exact ⟨a, Nat.le_trans b (Nat.add_le_add_right hc _), c⟩)
      | (obtain ⟨a, b⟩ := h1; exact ⟨a, Nat.le_trans b (Nat.add_le_add_right hc _)⟩))
  · intro st len e
    obtain ⟨a, b⟩ := h2 st len e
    exact ⟨a, Nat.le_trans b (Nat.add_le_add_right hc _)⟩

theorem CInv.stable (cfg : Cfg) (c c' : Core) (th : Th) (h : CInv cfg c th)
    (hc : c'.cseq = c.cseq) (hp : c.pseq ≤ c'.pseq) : CInv cfg c' th := by
  obtain ⟨buf, pseq, cseq, gate, got⟩ := c
  obtain ⟨buf', pseq', cseq', gate', got'⟩ := c'
  simp only at hc hp
  subst hc
  obtain ⟨h1, h2, h3⟩ := h
  refine ⟨?_, ?_, ⟨h3.1, Nat.le_trans h3.2 hp⟩⟩
  · unfold pcC at h1 ⊢
    split at h1
    -- the producer cursor occurs only as an upper bound `… ≤ c.pseq`, at a place that depends on the program counter
    all_goals (first
      | exact h1
      | (obtain ⟨a, b, c, d⟩ := h1; exact ⟨a, Nat.le_trans b hp, c, d⟩)
      | (obtain ⟨a, b, c⟩ := h1; exact ⟨a, Nat.le_trans b hp, c⟩)
      | (obtain ⟨a, b⟩ := h1; exact ⟨Nat.le_trans a hp, b⟩)
      | exact Nat.lt_of_lt_of_le h1 hp)
  · unfold viewOK at h2 ⊢
    split at h2
    all_goals (first
      | exact h2
      | (obtain ⟨a, b, c⟩ := h2; exact ⟨a, Nat.le_trans b hp, c⟩)
      | (obtain ⟨a, b⟩ := h2; exact ⟨a, Nat.le_trans b hp⟩))

theorem core_frame (cfg : Cfg) (me : Tid) (sh sh' : Sh) (th th' : Th)
    (hs : tstep cfg sh me th = some (sh', th')) (hd : dataPc th.pc = false) : sh'.core = sh.core := by
  obtain ⟨d, h1, h2⟩ := step_shared (tstep_step _ _ _ _ _ _ hs)
  rw [h2.core, h1.core hd]

theorem Filled_wr (cfg : Cfg) (buf : Array UInt8) (pos k q : Nat) (hsz : buf.size = cfg.size)
    (hk : k ≤ cfg.size) (hq1 : pos ≤ q) (hq2 : q < pos + cfg.size) (h : Filled cfg buf pos k) :
    Filled cfg (wr buf (cfg.idx q) (cfg.src q)) pos k := by
  intro i hi
  by_cases e : pos + i = q
  · rw [e]; exact rd_wr_self _ _ _ (by rw [hsz]; exact idx_lt cfg q)
  · rw [rd_wr_ne _ _ _ _ (idx_ne cfg (Ne.symm e) (by omega) (by omega))]
    exact h i hi

theorem Filled_wr_succ (cfg : Cfg) (buf : Array UInt8) (pos j : Nat) (hsz : buf.size = cfg.size)
    (hj : j < cfg.size) (h : Filled cfg buf pos j) :
    Filled cfg (wr buf (cfg.idx (pos + j)) (cfg.src (pos + j))) pos (j + 1) := by
  intro i hi
  by_cases e : i = j
  · subst e; exact rd_wr_self _ _ _ (by rw [hsz]; exact idx_lt cfg _)
  · rw [rd_wr_ne _ _ _ _ (idx_ne cfg (by omega) (by omega) (by omega))]
    exact h i (by omega)

theorem prod_copy {cfg : Cfg} {base : Nat} {sh : Sh} {th : Th} (hg : Glob cfg base sh.core) (hh : PHold cfg sh.core th)
    {start n j : Nat} (e1 : start = sh.pseq) (e2 : start + n ≤ sh.cseq + cfg.size) (h : j < n)
    (e4 : Filled cfg sh.buf start j) :
    Sim cfg sh { sh with buf := wr sh.buf (cfg.idx (start + j)) (cfg.src (start + j)) } ∧
    Filled cfg (wr sh.buf (cfg.idx (start + j)) (cfg.src (start + j))) start (j + 1) ∧
    PHold cfg ({ sh with buf := wr sh.buf (cfg.idx (start + j)) (cfg.src (start + j)) } : Sh).core th := by
  have hcp : sh.cseq ≤ sh.pseq := hg.cp
  have h1 : sh.pseq ≤ start + j := by omega
  have h2 : start + j < sh.cseq + cfg.size := by omega
  refine ⟨sim_write cfg sh _ hg.bufsz h1 h2, Filled_wr_succ cfg sh.buf start j hg.bufsz (by omega) e4, hh.1, ?_, hh.2.2⟩
  by_cases hz : th.filled = 0
  · rw [hz]; exact Filled_zero _ _ _
  · have h3 := hh.2.2 (by omega)
    simp only [Sh.core] at h3
    exact Filled_wr cfg sh.buf sh.pseq th.filled _ hg.bufsz (by omega) h1 (by omega) hh.2.1

theorem pInv_wfsOk (cfg : Cfg) (c : Core) (th : Th) (ppos n : Nat)
    (h1 : ppos = c.pseq) (h2 : ppos + n ≤ c.cseq + cfg.size) (h3 : wcOK th n) (hh : PHold cfg c th) :
    PInv cfg c (wfsOk cfg th ppos n) := by
  obtain ⟨hsl, hf⟩ := hh
  unfold wfsOk
  dsimp only
  split
  · exact ⟨⟨h1, h2, Nat.zero_le _, Filled_zero _ _ _⟩, hsl, hf⟩
  · split
    · refine ⟨trivial, fun st len e => ?_, hf⟩
      cases e
      exact ⟨h1, by omega⟩
    · refine ⟨trivial, fun st len e => ?_, hf⟩
      cases e
      exact ⟨h1, h2⟩
  · rename_i m hm
    exact ⟨⟨h1, h3.1 _ hm⟩, hsl, hf⟩
  · rename_i tot ms hm
    have := h3.2.2 _ _ hm
    exact ⟨⟨h1, by omega⟩, hsl, hf⟩
  · rename_i tot ms hm
    exact ⟨⟨h1, h3.2.1 _ _ hm⟩, hsl, hf⟩
  · exact ⟨trivial, hsl, hf⟩

theorem pInv_rfExit (cfg : Cfg) (c : Core) (th : Th) (n : Nat) (e : Err) : PInv cfg c (rfExit th n e) :=
  ⟨trivial, nofun, ⟨Filled_zero _ _ _, fun h => absurd h (Nat.lt_irrefl 0)⟩⟩

theorem pInv_wfsErr (cfg : Cfg) (c : Core) (th : Th) (e : Err) (hh : PHold cfg c th) : PInv cfg c (wfsErr th e) := by
  unfold wfsErr
  split
  · exact pInv_rfExit cfg c th _ e
  · exact pInv_rfExit cfg c th _ e
  · exact .of trivial hh

theorem pInv_enterWfs (cfg : Cfg) (c : Core) (th : Th) (n : Nat) (hw : wcOK th n) (hh : PHold cfg c th) :
    PInv cfg c (enterWfs cfg th n) := by
  unfold enterWfs
  split
  · exact pInv_wfsErr cfg c th _ hh
  · exact .of hw hh

theorem pInv_wcRet (cfg : Cfg) (c : Core) (th : Th) (n : Nat) (hh : PHold cfg c th) : PInv cfg c (wcRet th n) := by
  unfold wcRet
  split <;> exact .of trivial hh

theorem pInv_closeRet (cfg : Cfg) (c : Core) (th : Th) (hh : PHold cfg c th) : PInv cfg c (closeRet th) := by
  unfold closeRet
  split <;> exact .of trivial hh

theorem wcOK_of_cur (th : Th) (n : Nat) (call : Call) (hcur : th.cur = some call)
    (h1 : ∀ m, call ≠ .wcommit m) (h2 : ∀ tot ms, call ≠ .rfcommit tot ms) (h3 : ∀ tot ms, call ≠ .rfrom tot ms) :
    wcOK th n :=
  ⟨fun m h => absurd (Option.some.inj (hcur.symm.trans h)) (h1 m),
   fun tot ms h => absurd (Option.some.inj (hcur.symm.trans h)) (h2 tot ms),
   fun tot ms h => absurd (Option.some.inj (hcur.symm.trans h)) (h3 tot ms)⟩

theorem pInv_startCall (cfg : Cfg) (c : Core) (th : Th) (call : Call) (hh : PHold cfg c th)
    (hcur : th.cur = some call) (ha : Tid.p.allowed call = true) : PInv cfg c (startCall cfg th call) := by
  have hz : (0 : Nat) < 0 → c.pseq + 0 ≤ c.cseq + cfg.size := fun h => absurd h (Nat.lt_irrefl 0)
  cases call <;> simp only [startCall]
  case write n => exact ⟨hcur, nofun, Filled_zero _ _ _, hz⟩
  case wwait n => exact pInv_enterWfs cfg c _ n (wcOK_of_cur _ n _ hcur nofun nofun nofun) ⟨nofun, Filled_zero _ _ _, hz⟩
  case wcommit n =>
    exact pInv_enterWfs cfg c _ _ ⟨fun m _ => Nat.min_le_right _ _, fun tot ms h => (by rw [hcur] at h; cases h),
      fun tot ms h => (by rw [hcur] at h; cases h)⟩ ⟨nofun, hh.2⟩
  case wfill =>
    split
    · rename_i st len hsome
      obtain ⟨a, b⟩ := hh.1 st len hsome
      exact ⟨⟨a, b, Nat.zero_le _, Filled_zero _ _ _, rfl⟩, hh.1, Filled_zero _ _ _, hz⟩
    · exact .of trivial hh
  case rfrom tot ms => exact ⟨trivial, nofun, Filled_zero _ _ _, hz⟩
  case rfcommit tot ms => exact .of trivial hh
  case rfret n e => exact .of trivial hh
  case close => exact .of trivial hh
  case len => exact .of trivial hh
  all_goals cases ha

/-- `waitForWriteSpace(n)` found no space: then it is not the `WriteCommit` of `ReadFrom` (whose `n`
bytes were free when `ReadFrom` loaded the consumer cursor) -/
theorem noRfc_of_wait (cfg : Cfg) (base : Nat) (sh : Sh) (th : Th) (n ppos : Nat) (hg : Glob cfg base sh.core)
    (h1 : ppos = sh.core.pseq) (hw : wcOK th n) (hh : PHold cfg sh.core th)
    (hfull : ppos + n > sh.cseq + cfg.size) : noRfc th := by
  intro tot ms hcur
  have hn := hw.2.1 tot ms hcur
  have hpc := hg.pc
  have hf := hh.2
  simp only [Sh.core] at h1 hf hpc
  by_cases hz : th.filled = 0
  · omega
  · have := hf.2 (by omega); omega

theorem prod_quiet (cfg : Cfg) (base : Nat) (sh sh' : Sh) (th th' : Th)
    (hg : Glob cfg base sh.core) (hi : PInv cfg sh.core th) (hok : ThOK .p th)
    (hs : tstep cfg sh .p th = some (sh', th')) (hd : dataPc th.pc = false) : PInv cfg sh.core th' := by
  obtain ⟨hp, hc, hr⟩ := hok
  have hh : PHold cfg sh.core th.clr := hi.hold
  have hinv := pcP_at hi.pcinv
  have hst := tstep_step _ _ _ _ _ _ hs
  generalize th.pc = pc at hst hr hd hinv
  cases hst
  case start call rest h => exact pInv_startCall cfg _ _ call hh rfl (hp call (h ▸ List.mem_cons_self ..))
  case l21_read hcur _ => cases hc _ hcur
  case s31_wait => exact .of ⟨rfl, hinv⟩ hh
  case s31_room h => exact .of ⟨rfl, by have := hg.gc; simp only [Sh.core] at this ⊢; omega, hinv⟩ hh
  case s39 => exact pInv_wfsOk cfg _ _ _ _ hinv.1 hinv.2.1 hinv.2.2 hh
  case s33_full h | s37_full h => exact .of ⟨hinv.1, hinv.2, noRfc_of_wait cfg base sh _ _ _ hg hinv.1 hinv.2 hh h⟩ hh
  case s33_room h | s37_room h => exact .of ⟨hinv.1, Nat.le_of_not_gt h, Nat.le_refl _, hg.gc, hinv.2⟩ hh
  case s30_done | s39_done | s35 => exact pInv_wfsErr cfg _ _ _ hh
  case s36w => exact .of ⟨hinv.1, hinv.2.1⟩ hh
  case w40 n _ => exact pInv_enterWfs cfg _ _ n (wcOK_of_cur _ n _ hinv nofun nofun nofun) hh
  case c53 => exact pInv_wcRet cfg _ _ _ hh
  case x16 => exact pInv_closeRet cfg _ _ hh
  case g110 => exact pInv_enterWfs cfg _ _ 1 ⟨fun m h => (by cases h), fun t m h => (by cases h), fun _ _ _ => rfl⟩ hh
  case g112 tot ms ppos =>
    -- the slice offered to the reader: at most the free part as of the consumer cursor just loaded
    obtain ⟨e1, e2⟩ := hinv
    refine .of ⟨e1, ?_⟩ hh
    have hcp := hg.cp
    simp only [Sh.core] at e1 e2 hcp ⊢
    have hm := Nat.min_le_right cfg.rblock (cfg.size - (ppos - sh.cseq))
    split <;> omega
  case g110_done | g111_eof => exact pInv_rfExit cfg _ _ _ _
  case g111 ms _ start len _ =>
    have hm := Nat.min_le_right (ms.headD 0) len
    exact .of ⟨hinv.1, by have := hinv.2; omega, Nat.zero_le _, Filled_zero _ _ _⟩ hh
  case g111r_commit n _ _ _ =>
    -- the reader has delivered n > 0 bytes: total += n, WriteCommit(n)
    exact pInv_enterWfs cfg _ _ n ⟨fun m h => (by cases h), fun _ _ _ => Nat.le_refl _, fun t m h => (by cases h)⟩
      ⟨hh.1, hinv.1, fun _ => hinv.2⟩
  all_goals first
    | (cases hr; done)
    | exact .of trivial hh
    | exact .of hinv hh
    | cases hd

/-- a producer step that changes the core is a step of the abstract machine (or the last, empty iteration
of a copy loop), and what the consumer relies on is kept -/
theorem prod_data (cfg : Cfg) (base : Nat) (sh sh' : Sh) (th th' : Th)
    (hg : Glob cfg base sh.core) (hi : PInv cfg sh.core th) (hok : ThOK .p th)
    (hs : tstep cfg sh .p th = some (sh', th')) (hd : dataPc th.pc = true) :
    Sim cfg sh sh' ∧ PInv cfg sh'.core th' ∧ sh'.core.cseq = sh.core.cseq ∧ sh.core.pseq ≤ sh'.core.pseq := by
  have hh : PHold cfg sh.core th.clr := hi.hold
  have hinv := pcP_at hi.pcinv
  have hr := hok.role
  have hst := tstep_step _ _ _ _ _ _ hs
  generalize th.pc = pc at hst hd hinv hr
  cases hst
  case s38 n ppos cpos =>
    obtain ⟨e1, e2, e3, e4, e5⟩ := hinv
    have hc := core_unlock { sh with gate := cpos } .pL
    refine ⟨(sim_gate cfg sh cpos e4 e3).then hc, ?_, ?_, ?_⟩ <;> rw [hc]
    · exact .of ⟨e1, Nat.le_trans e2 (Nat.add_le_add_right e3 _), e5⟩ hh
    · rfl
    · exact Nat.le_refl _
  case w41c_copy h | g111c_copy h =>
    dsimp only [pcP, Th.goto, Sh.core] at hinv
    obtain ⟨e1, e2, e3, e4⟩ := hinv
    obtain ⟨a, b, c⟩ := prod_copy hg hh e1 e2 h e4
    exact ⟨a, .of ⟨e1, e2, h, b⟩ c, rfl, Nat.le_refl _⟩
  case w41c_end j n ppos h =>
    obtain ⟨e1, e2, e3, e4⟩ := hinv
    cases (by omega : j = n)
    exact ⟨.of_core rfl, .of ⟨e1, e2, e4⟩ hh, rfl, Nat.le_refl _⟩
  case w42 n ppos =>
    obtain ⟨e1, e2, e3⟩ := hinv
    subst e1
    exact ⟨sim_commitP cfg sh n e3 (fun _ => e2), ⟨trivial, nofun, Filled_zero _ _ _, fun h => absurd h (Nat.lt_irrefl 0)⟩,
      rfl, Nat.le_add_right _ _⟩
  case c50 n ppos =>
    dsimp only [pcP, Th.goto, Sh.core] at hinv
    obtain ⟨e1, e2⟩ := hinv
    subst e1
    have hf := hh.2
    dsimp only [Th.clr, Sh.core] at hf
    refine ⟨sim_commitP cfg sh n (fun i hi => hf.1 i (by omega)) (fun hn => ?_),
      ⟨trivial, nofun, Filled_zero _ _ _, fun h => absurd h (Nat.lt_irrefl 0)⟩, rfl, Nat.le_add_right _ _⟩
    have := hf.2 (by omega)
    omega
  case f0_copy h =>
    dsimp only [pcP, Th.goto, Sh.core] at hinv
    obtain ⟨e1, e2, e3, e4, e5⟩ := hinv
    obtain ⟨a, b, c⟩ := prod_copy hg hh e1 e2 h e4
    exact ⟨a, .of ⟨e1, e2, h, b, e5⟩ c, rfl, Nat.le_refl _⟩
  case f0_end j len start h =>
    obtain ⟨e1, e2, e3, e4, e5⟩ := hinv
    cases (by omega : j = len)
    subst e1
    exact ⟨.of_core rfl, ⟨trivial, hh.1, e4, fun _ => e2⟩, rfl, Nat.le_refl _⟩
  case g111c_end j n tot ms start h =>
    obtain ⟨e1, e2, e3, e4⟩ := hinv
    cases (by omega : j = n)
    subst e1
    exact ⟨.of_core rfl, .of ⟨e4, e2⟩ hh, rfl, Nat.le_refl _⟩
  all_goals first | (cases hd; done) | (cases hr; done)

theorem read_acc (cfg : Cfg) (buf : Array UInt8) (cseq pseq cpos k j : Nat) (acc : List UInt8)
    (hcells : ∀ i, cseq ≤ i → i < pseq → rd buf (cfg.idx i) = cfg.src i)
    (h1 : cpos = cseq) (h2 : cpos + k ≤ pseq) (hj : j < k) (ha : acc.reverse = segment cfg.src cpos j) :
    (rd buf (cfg.idx (cpos + j)) :: acc).reverse = segment cfg.src cpos (j + 1) := by
  rw [List.reverse_cons, ha, segment_succ, hcells (cpos + j) (by omega) (by omega)]

theorem segment_self {src : Nat → UInt8} {pos m : Nat} {l : List UInt8} (h : l = segment src pos m) :
    l = segment src pos l.length ∧ l.length = m := by
  subst h; rw [segment_length]; exact ⟨rfl, rfl⟩

theorem peek_len {w : Bool} {n cpos ppos pseq : Nat} (h1 : ppos ≤ pseq) (h2 : mustWait w n cpos ppos = false) :
    cpos + (if w = true then n else if ppos - cpos ≥ n then n else ppos - cpos) ≤ pseq := by
  unfold mustWait at h2
  cases w
  · simp only [Bool.false_eq_true, ↓reduceIte, decide_eq_false_iff_not, Nat.not_le, ge_iff_le] at h2 ⊢
    split <;> omega
  · simp only [↓reduceIte, decide_eq_false_iff_not, Nat.not_lt, gt_iff_lt] at h2 ⊢
    omega

theorem cInv_startCall (cfg : Cfg) (c : Core) (th : Th) (call : Call) (hcp : c.cseq ≤ c.pseq)
    (hh : CHold cfg c th) (hcur : th.cur = some call) (ha : Tid.c.allowed call = true) : CInv cfg c (startCall cfg th call) := by
  have hnil : ([] : List UInt8) = segment cfg.src c.cseq 0 ∧ c.cseq + 0 ≤ c.pseq := ⟨rfl, hcp⟩
  cases call <;> simp only [startCall]
  case read n => exact ⟨hcur, trivial, hnil⟩
  case peek n => split <;> exact ⟨trivial, trivial, hnil⟩
  case rwait n => split <;> exact ⟨trivial, trivial, hnil⟩
  case use =>
    split
    · rename_i cpos m hvw
      have hv := hh.1
      rw [hvw] at hv
      exact .of ⟨hv.1, hv.2, Nat.zero_le _, rfl⟩ hh
    · rename_i cpos bytes hvw
      have hv := hh.1
      rw [hvw] at hv
      obtain ⟨a, b, d⟩ := hv
      subst a
      exact ⟨trivial, hh.1, d, b⟩
    · exact .of trivial hh
  case commit n =>
    split
    · exact ⟨trivial, trivial, hh.2⟩
    · exact ⟨Nat.min_le_right _ _, trivial, hh.2⟩
  case close => exact .of trivial hh
  case len => exact .of trivial hh
  all_goals cases ha

theorem cons_quiet (cfg : Cfg) (base : Nat) (sh sh' : Sh) (th th' : Th)
    (hg : Glob cfg base sh.core) (hi : CInv cfg sh.core th) (hok : ThOK .c th)
    (hs : tstep cfg sh .c th = some (sh', th')) (hd : dataPc th.pc = false) : CInv cfg sh.core th' := by
  obtain ⟨hp, hc, hr⟩ := hok
  have hh : CHold cfg sh.core th.clr := hi.hold
  have hcells : ∀ i, sh.cseq ≤ i → i < sh.pseq → rd sh.buf (cfg.idx i) = cfg.src i := hg.cells
  have hinv := pcC_at hi.pcinv
  have hst := tstep_step _ _ _ _ _ _ hs
  generalize th.pc = pc at hst hr hd hinv
  cases hst
  case start call rest h => exact cInv_startCall cfg _ _ call hg.cp hh rfl (hp call (h ▸ List.mem_cons_self ..))
  case r61 | p80 => exact .of rfl hh
  case r62_far cpos n h =>
    refine .of ⟨hinv, ?_, Nat.zero_le _, rfl⟩ hh
    have := Nat.min_le_left n (cfg.size - cfg.idx cpos)
    show cpos + _ ≤ sh.pseq
    omega
  case r62_near cpos n h h' =>
    refine .of ⟨hinv, ?_, Nat.zero_le _, rfl⟩ hh
    show cpos + _ ≤ sh.pseq
    split
    · have := Nat.min_le_right n (sh.pseq - cpos); omega
    · have := Nat.min_le_right n (cfg.size - cfg.idx cpos); omega
  case r74_data h | r78_data h | r75r_data h =>
    exact .of (show sh.cseq < sh.pseq by have : _ = sh.cseq := hinv; omega) hh
  case p83_data h | p87_data h | p84r_data h => exact .of ⟨hinv, Nat.le_refl _, Bool.eq_false_iff.mpr h⟩ hh
  case r63c_copy h | p89c_copy h | u0_copy h =>
    obtain ⟨e1, e2, e3, e4⟩ := hinv
    exact .of ⟨e1, e2, h, read_acc cfg sh.buf sh.cseq sh.pseq _ _ _ _ hcells e1 e2 h e4⟩ hh
  case r63c_end j k b cpos acc h =>
    obtain ⟨e1, e2, e3, e4⟩ := hinv
    cases (by omega : j = k)
    have hl : acc.length = j := by rw [← List.length_reverse, e4, segment_length]
    exact .of ⟨e1, hl ▸ e2, hl ▸ e4⟩ hh
  case p88_tmp cpos w n ppos h =>
    obtain ⟨e1, e2, e3⟩ := hinv
    exact .of ⟨e1, peek_len e2 e3, Nat.zero_le _, rfl⟩ hh
  case p88_alias cpos w n ppos h =>
    obtain ⟨e1, e2, e3⟩ := hinv
    exact ⟨trivial, ⟨e1, peek_len e2 e3⟩, hh.2⟩
  case p89c_end j m w cpos err acc h =>
    obtain ⟨e1, e2, e3, e4⟩ := hinv
    cases (by omega : j = m)
    obtain ⟨a, b⟩ := segment_self e4
    exact ⟨trivial, ⟨e1, b ▸ e2, a⟩, hh.2⟩
  case k100 => exact .of ⟨rfl, hinv⟩ hh
  case k101_ok h => exact .of ⟨hinv.1, h, hinv.2⟩ hh
  case u0_end j m cpos acc h =>
    dsimp only [pcC, Th.goto, Sh.core] at hinv
    obtain ⟨e1, e2, e3, e4⟩ := hinv
    cases (by omega : j = m)
    subst e1
    obtain ⟨a, b⟩ := segment_self e4
    exact ⟨trivial, hh.1, a, b ▸ e2⟩
  case x16 =>
    unfold closeRet
    split <;> exact .of trivial hh
  all_goals first
    | (cases hr; done)
    | exact .of trivial hh
    | exact .of hinv hh
    | (cases hd; done)

theorem cons_data (cfg : Cfg) (base : Nat) (sh sh' : Sh) (th th' : Th)
    (hg : Glob cfg base sh.core) (hi : CInv cfg sh.core th) (hok : ThOK .c th)
    (hs : tstep cfg sh .c th = some (sh', th')) (hd : dataPc th.pc = true) :
    Sim cfg sh sh' ∧ CInv cfg sh'.core th' ∧ sh'.core.buf = sh.core.buf ∧ sh'.core.pseq = sh.core.pseq ∧
      sh'.core.gate = sh.core.gate ∧ sh.core.cseq ≤ sh'.core.cseq := by
  have hpd := hi.pend
  have hinv := pcC_at hi.pcinv
  have hr := hok.role
  have hst := tstep_step _ _ _ _ _ _ hs
  generalize th.pc = pc at hst hd hinv hr
  cases hst
  case r64 b cpos acc =>
    obtain ⟨e1, e2, e3⟩ := hinv
    subst e1
    exact ⟨sim_commitC hg acc acc.length e3 e2, ⟨⟨e2, e3⟩, trivial, rfl, e2⟩, rfl, rfl, rfl, Nat.le_add_right _ _⟩
  case k102 n cpos =>
    obtain ⟨e1, e2, e3⟩ := hinv
    subst e1
    have e3' : n ≤ th.pending.length := e3
    exact ⟨sim_commitC hg (th.pending.take n).reverse n (by rw [List.reverse_reverse, hpd.1, segment_take _ _ _ _ e3']; rfl) e2,
      ⟨trivial, trivial, rfl, e2⟩, rfl, rfl, rfl, Nat.le_add_right _ _⟩
  all_goals first | (cases hd; done) | (cases hr; done)

/-- the slice `ReadFrom` offers its reader (mark 112): at least one byte — so a reader is never handed
an empty slice, which it would answer with `(0, nil)` for ever —, at most one read block, not past the
end of the ring, and inside the free part of the ring as of the consumer cursor just loaded -/
theorem readfrom_len (cfg : Cfg) (cseq ppos : Nat) (hrb : 0 < cfg.rblock) (h1 : cseq ≤ ppos)
    (h2 : ppos + 1 ≤ cseq + cfg.size) :
    let len := if cfg.idx ppos + min cfg.rblock (cfg.size - (ppos - cseq)) > cfg.size then cfg.size - cfg.idx ppos
               else min cfg.rblock (cfg.size - (ppos - cseq))
    1 ≤ len ∧ len ≤ cfg.rblock ∧ cfg.idx ppos + len ≤ cfg.size ∧ ppos + len ≤ cseq + cfg.size := by
  have hb := idx_lt cfg ppos
  have hm1 := Nat.min_le_left cfg.rblock (cfg.size - (ppos - cseq))
  have hm2 := Nat.min_le_right cfg.rblock (cfg.size - (ppos - cseq))
  have hm3 : 1 ≤ min cfg.rblock (cfg.size - (ppos - cseq)) := by rw [Nat.le_min]; omega
  dsimp only
  generalize min cfg.rblock (cfg.size - (ppos - cseq)) = c at hm1 hm2 hm3 ⊢
  split <;> omega

theorem role_any_noData (i : Nat) (pc : Pc) (h : roleOK (.k i) (pcRole pc) = true) : dataPc pc = false := by
  cases pc <;> first | rfl | cases h

/-- the safety invariant of the whole system -/
structure RInv (cfg : Cfg) (base : Nat) (s : St) : Prop where
  glob : Glob cfg base s.sh.core
  okP : ThOK .p s.P
  okC : ThOK .c s.C
  okK : ∀ i th, s.K[i]? = some th → ThOK (.k i) th
  invP : PInv cfg s.sh.core s.P
  invC : CInv cfg s.sh.core s.C

def CoreStep (c c' : Core) : Prop :=
  c.cseq ≤ c'.cseq ∧ c.pseq ≤ c'.pseq

/-- what a thread of each role knows -/
def TInv (cfg : Cfg) (c : Core) : Tid → Th → Prop
  | .p, th => PInv cfg c th
  | .c, th => CInv cfg c th
  | .k _, _ => True

/-- what a step of thread `t` may do to the core — what the other threads rely on: only the producer touches ring memory,
its cursor and the gate, only the consumer its cursor, and the cursors only move forward -/
structure Guar (t : Tid) (c c' : Core) : Prop where
  prod : t ≠ .p → c'.buf = c.buf ∧ c'.pseq = c.pseq ∧ c'.gate = c.gate
  cons : t ≠ .c → c'.cseq = c.cseq
  cseq_le : c.cseq ≤ c'.cseq
  pseq_le : c.pseq ≤ c'.pseq

theorem Guar.of_core {t : Tid} {c c' : Core} (h : c' = c) : Guar t c c' := by
  subst h; exact ⟨fun _ => ⟨rfl, rfl, rfl⟩, fun _ => rfl, Nat.le_refl _, Nat.le_refl _⟩

theorem TInv.stable {cfg : Cfg} {c c' : Core} {t u : Tid} {th : Th} (hne : u ≠ t) (g : Guar t c c')
    (h : TInv cfg c u th) : TInv cfg c' u th := by
  cases u with
  | p =>
    obtain ⟨e1, e2, e3⟩ := g.prod (Ne.symm hne)
    exact PInv.stable cfg c c' th h e1 e2 e3 g.cseq_le
  | c => exact CInv.stable cfg c c' th h (g.cons (Ne.symm hne)) g.pseq_le
  | k i => trivial

theorem tinv_step (cfg : Cfg) (base : Nat) (sh sh' : Sh) (t : Tid) (th th' : Th) (hg : Glob cfg base sh.core)
    (hok : ThOK t th) (hi : TInv cfg sh.core t th) (hs : tstep cfg sh t th = some (sh', th')) :
    TInv cfg sh'.core t th' ∧ Sim cfg sh sh' ∧ Guar t sh.core sh'.core := by
  by_cases hd : dataPc th.pc = true
  · cases t with
    | p =>
      obtain ⟨a, b, e1, e2⟩ := prod_data cfg base _ _ _ _ hg hi hok hs hd
      exact ⟨b, a, fun h => absurd rfl h, fun _ => e1, Nat.le_of_eq e1.symm, e2⟩
    | c =>
      obtain ⟨a, b, e1, e2, e3, e4⟩ := cons_data cfg base _ _ _ _ hg hi hok hs hd
      exact ⟨b, a, fun _ => ⟨e1, e2, e3⟩, fun h => absurd rfl h, e4, Nat.le_of_eq e2.symm⟩
    | k i => rw [role_any_noData i _ hok.role] at hd; cases hd
  · have hd' := Bool.eq_false_iff.mpr hd
    have hc := core_frame cfg _ _ _ _ _ hs hd'
    refine ⟨?_, .of_core hc, .of_core hc⟩
    rw [hc]
    cases t with
    | p => exact prod_quiet cfg base _ _ _ _ hg hi hok hs hd'
    | c => exact cons_quiet cfg base _ _ _ _ hg hi hok hs hd'
    | k i => trivial

theorem RInv.threads {cfg : Cfg} {base : Nat} {s : St} (h : RInv cfg base s) (t : Tid) (th : Th)
    (hth : s.getTh t = some th) : ThOK t th ∧ TInv cfg s.sh.core t th := by
  cases t with
  | p => cases hth; exact ⟨h.okP, h.invP⟩
  | c => cases hth; exact ⟨h.okC, h.invC⟩
  | k i => exact ⟨h.okK i th hth, trivial⟩

theorem thOK_of_rinv (cfg : Cfg) (base : Nat) (s : St) (h : RInv cfg base s) (t : Tid) (th : Th)
    (hth : s.getTh t = some th) : ThOK t th :=
  (h.threads t th hth).1

theorem rinv_step (cfg : Cfg) (base : Nat) (s s' : St) (t : Tid) (h : RInv cfg base s)
    (hs : step cfg s t = some s') :
    RInv cfg base s' ∧ Sim cfg s.sh s'.sh ∧ Guar t s.sh.core s'.sh.core := by
  obtain ⟨th, th', hth, hst, hth'⟩ := step_t cfg s s' t hs
  obtain ⟨hok, hi⟩ := h.threads t th hth
  obtain ⟨hi', hsim, hgu⟩ := tinv_step cfg base _ _ t th th' h.glob hok hi hst
  have hall := step_threads (I' := fun u th => ThOK u th ∧ TInv cfg s'.sh.core u th) hs h.threads
    (fun th2 h2 => by cases hth'.symm.trans h2; exact ⟨thOK_step cfg t _ _ _ _ hok hst, hi'⟩)
    (fun u thu hne hu => ⟨hu.1, hu.2.stable hne hgu⟩)
  exact ⟨⟨hsim.glob h.glob, (hall .p _ rfl).1, (hall .c _ rfl).1, fun i th hi => (hall (.k i) th hi).1,
    (hall .p _ rfl).2, (hall .c _ rfl).2⟩, hsim, hgu⟩

theorem rinv_step_inv (cfg : Cfg) (base : Nat) (s s' : St) (t : Tid) (h : RInv cfg base s)
    (hs : step cfg s t = some s') : RInv cfg base s' :=
  (rinv_step cfg base s s' t h hs).1

theorem step_guar (cfg : Cfg) (base : Nat) (s s' : St) (t : Tid) (h : RInv cfg base s)
    (hs : step cfg s t = some s') : Guar t s.sh.core s'.sh.core :=
  (rinv_step cfg base s s' t h hs).2.2

theorem ainv_of_rinv (cfg : Cfg) (base : Nat) (s : St) (h : RInv cfg base s) :
    AInv cfg.size cfg.src base (absSt s) :=
  ainv_of_glob h.glob

theorem sim_step (cfg : Cfg) (base : Nat) (s s' : St) (t : Tid) (h : RInv cfg base s)
    (hs : step cfg s t = some s') :
    absSt s' = absSt s ∨ AStep cfg.size cfg.src (absSt s) (absSt s') :=
  (rinv_step cfg base s s' t h hs).2.1.abs

/-- a step that is not the consumer's keeps `[cseq, pseq)` inside the range whose cells are the stream, before and after; the
consumer writes no cell -/
theorem no_overwrite (cfg : Cfg) (base : Nat) (s s' : St) (t : Tid) (h : RInv cfg base s) (hs : step cfg s t = some s')
    (i : Nat) (h1 : s.sh.cseq ≤ i) (h2 : i < s.sh.pseq) : rd s'.sh.buf (cfg.idx i) = rd s.sh.buf (cfg.idx i) := by
  obtain ⟨h', _, g⟩ := rinv_step cfg base s s' t h hs
  by_cases ht : t = .p
  · have e : s'.sh.cseq = s.sh.cseq := g.cons (ht ▸ nofun)
    exact (h'.glob.cells i (e ▸ h1 : s'.sh.cseq ≤ i) (Nat.lt_of_lt_of_le h2 g.pseq_le)).trans (h.glob.cells i h1 h2).symm
  · exact congrArg (rd · (cfg.idx i)) (g.prod ht).1

theorem readfrom_reads (cfg : Cfg) (base : Nat) (s : St) (h : RInv cfg base s) (hnc : s.sh.crash = false)
    (hrb : 0 < cfg.rblock) (tot : Nat) (ms : List Nat) (ppos : Nat) (hpc : s.P.pc = .g112 tot ms ppos) :
    ∃ s' len, step cfg s .p = some s' ∧ s'.P.pc = .g111 tot ms ppos len ∧ ppos = s.sh.pseq ∧
      1 ≤ len ∧ len ≤ cfg.rblock ∧ cfg.idx ppos + len ≤ cfg.size ∧ ppos + len ≤ s.sh.cseq + cfg.size := by
  have hp := h.invP.pcinv
  unfold pcP at hp
  rw [hpc] at hp
  obtain ⟨e1, e2⟩ := hp
  have e1' : ppos = s.sh.pseq := e1
  have e2' : ppos + 1 ≤ s.sh.cseq + cfg.size := e2
  have hcp : s.sh.cseq ≤ s.sh.pseq := h.glob.cp
  obtain ⟨a, b, c, d⟩ := readfrom_len cfg s.sh.cseq ppos hrb (by omega) e2'
  let len := if cfg.idx ppos + min cfg.rblock (cfg.size - (ppos - s.sh.cseq)) > cfg.size then cfg.size - cfg.idx ppos
             else min cfg.rblock (cfg.size - (ppos - s.sh.cseq))
  let th' : Th := ({ s.P with res := none } : Th).goto (.g111 tot ms ppos len)
  have hst : tstep cfg s.sh .p s.P = some (s.sh, th') := by
    unfold tstep
    rw [hpc]
    simp only [hnc, Bool.false_eq_true, ↓reduceIte]
    rfl
  refine ⟨({ s with sh := s.sh } : St).setTh .p th', len, ?_, rfl, e1', a, b, c, d⟩
  unfold step
  simp only [St.getTh]
  rw [hst]

/-- well-typed thread programs: producer calls on `p`, consumer calls on `c`, closers only close (or ask the length) -/
structure ProgsOK (progP progC : List Call) (progsK : List (List Call)) : Prop where
  p : ∀ c ∈ progP, Tid.p.allowed c = true
  c : ∀ c ∈ progC, Tid.c.allowed c = true
  k : ∀ pr ∈ progsK, ∀ c ∈ pr, (Tid.k 0).allowed c = true

theorem rinv_init (cfg : Cfg) (adv gate : Nat) (progP progC : List Call) (progsK : List (List Call))
    (hgate : gate ≤ adv) (hok : ProgsOK progP progC progsK) :
    RInv cfg adv (mkInit cfg adv gate progP progC progsK) := by
  refine ⟨⟨Array.size_replicate .., Nat.le_refl _, Nat.le_add_right _ _, hgate, fun i h1 h2 => absurd h2 (Nat.not_lt.mpr h1),
      Nat.le_refl _, ?_⟩, ⟨hok.p, nofun, rfl⟩, ⟨hok.c, nofun, rfl⟩, fun i th hi => ?_,
    ⟨trivial, nofun, ⟨Filled_zero _ _ _, fun h => absurd h (Nat.lt_irrefl 0)⟩⟩,
    ⟨trivial, trivial, ⟨rfl, Nat.le_refl _⟩⟩⟩
  · show ([] : List UInt8).reverse = segment cfg.src adv (adv - adv)
    rw [Nat.sub_self]; rfl
  · have hi' : (progsK.map (fun p => ({ prog := p } : Th)))[i]? = some th := hi
    rw [List.getElem?_map] at hi'
    cases hpr : progsK[i]? with
    | none => rw [hpr] at hi'; cases hi'
    | some pr =>
      rw [hpr] at hi'
      cases hi'
      exact ⟨fun c hc => hok.k pr (List.mem_of_getElem? hpr) c hc, nofun, rfl⟩

theorem rinv_run (cfg : Cfg) (base : Nat) (s : St) (sched : List Tid) (h : RInv cfg base s) :
    RInv cfg base (run cfg s sched) :=
  run_induction (fun s t s' h hs => rinv_step_inv cfg base s s' t h hs) s sched h

theorem step_pseq (cfg : Cfg) (base : Nat) (s s' : St) (t : Tid) (h : RInv cfg base s)
    (hs : step cfg s t = some s') (hne : t ≠ .p) : s'.sh.pseq = s.sh.pseq :=
  ((step_guar cfg base s s' t h hs).prod hne).2.1

theorem step_cseq (cfg : Cfg) (base : Nat) (s s' : St) (t : Tid) (h : RInv cfg base s)
    (hs : step cfg s t = some s') (hne : t ≠ .c) : s'.sh.cseq = s.sh.cseq :=
  (step_guar cfg base s s' t h hs).cons hne

theorem step_mono (cfg : Cfg) (base : Nat) (s s' : St) (t : Tid) (h : RInv cfg base s)
    (hs : step cfg s t = some s') : s.sh.pseq ≤ s'.sh.pseq ∧ s.sh.cseq ≤ s'.sh.cseq :=
  have g := step_guar cfg base s s' t h hs
  ⟨g.pseq_le, g.cseq_le⟩

theorem run_mono (cfg : Cfg) (base : Nat) (s : St) (sched : List Tid) (h : RInv cfg base s) :
    s.sh.pseq ≤ (run cfg s sched).sh.pseq ∧ s.sh.cseq ≤ (run cfg s sched).sh.cseq := by
  induction sched using List.snoc_ind with
  | nil => exact ⟨Nat.le_refl _, Nat.le_refl _⟩
  | snoc sched u ih =>
    rw [run_snoc]
    cases hst : step cfg (run cfg s sched) u with
    | none => exact ih
    | some a' =>
      have := step_mono cfg base _ a' u (rinv_run cfg base s sched h) hst
      exact ⟨Nat.le_trans ih.1 this.1, Nat.le_trans ih.2 this.2⟩

/-- what a result handed to the consumer must be: the stream at its offset, below the producer's
commit position (`Spec.Ring.chunkOk`) -/
def resOK (cfg : Cfg) (pseq : Nat) (r : Res) : Prop := chunkOk cfg.src r.off pseq r.data

theorem resOK_nil (cfg : Cfg) (pseq : Nat) (r : Res) (hd : r.data = []) (ho : r.off ≤ pseq) : resOK cfg pseq r := by
  unfold resOK chunkOk
  rw [hd]; exact ⟨ho, rfl⟩

theorem startCall_res (cfg : Cfg) (c : Core) (th : Th) (call : Call) (hh : CHold cfg c th) (r : Res)
    (hr : (startCall cfg th call).res = some r) (h0 : th.res = none) : resOK cfg c.pseq r := by
  cases call <;> simp only [startCall, enterWfs, wfsErr, Th.goto, Th.ret] at hr
  case use =>
    split at hr
    · rw [h0] at hr; cases hr
    · rename_i cpos bytes hvw
      cases hr
      have hv := hh.1
      rw [hvw] at hv
      exact ⟨hv.2.1, hv.2.2⟩
    · cases hr
      exact resOK_nil cfg _ _ rfl (Nat.zero_le _)
  all_goals (repeat' split at hr)
  all_goals first
    | (cases hr; exact resOK_nil cfg _ _ rfl (Nat.zero_le _))
    | (rw [h0] at hr; cases hr)

theorem closeRet_res (th : Th) (r : Res) (h : (closeRet th).res = some r) : r.data = [] ∧ r.off = 0 := by
  unfold closeRet at h
  split at h <;> (cases h; exact ⟨rfl, rfl⟩)

theorem cons_res (cfg : Cfg) (base : Nat) (sh sh' : Sh) (th th' : Th)
    (hg : Glob cfg base sh.core) (hi : CInv cfg sh.core th) (hok : ThOK .c th)
    (hs : tstep cfg sh .c th = some (sh', th')) (r : Res) (hr : th'.res = some r) :
    resOK cfg sh'.pseq r := by
  have hh : CHold cfg sh.core th.clr := hi.hold
  have hcp : sh.cseq ≤ sh.pseq := hg.cp
  have hinv := pcC_at hi.pcinv
  have hrl := hok.role
  have hst := tstep_step _ _ _ _ _ _ hs
  generalize th.pc = pc at hst hrl hinv
  cases hst
  case start call rest h => exact startCall_res cfg sh.core { th.clr with prog := rest, cur := some call } call hh r hr rfl
  case r67 b cpos acc =>
    cases hr
    exact ⟨by rw [pseq_unlock, List.length_reverse]; exact hinv.1, by rw [List.length_reverse]; exact hinv.2⟩
  case p88_alias cpos w n ppos h =>
    cases hr
    dsimp only [pcC, Th.goto, Sh.core] at hinv
    exact resOK_nil cfg _ _ rfl (by rw [pseq_unlock]; show cpos ≤ sh.pseq; omega)
  case p89c_end j m w cpos err acc h =>
    cases hr
    dsimp only [pcC, Th.goto, Sh.core] at hinv
    exact resOK_nil cfg _ _ rfl (by show cpos ≤ sh.pseq; omega)
  case u0_end j m cpos acc h =>
    cases hr
    obtain ⟨e1, e2, e3, e4⟩ := hinv
    cases (by omega : j = m)
    obtain ⟨a, b⟩ := segment_self e4
    exact ⟨b ▸ e2, a⟩
  case x16 =>
    obtain ⟨hd, ho⟩ := closeRet_res _ r hr
    exact resOK_nil cfg _ _ hd (ho ▸ Nat.zero_le _)
  all_goals first
    | (cases hr; done)
    | (cases hr; exact resOK_nil cfg _ _ rfl (Nat.zero_le _))
    | (cases hrl; done)

end Mqtt.Proofs.Ring
