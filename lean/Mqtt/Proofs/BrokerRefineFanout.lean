/-
The live fan-out of the broker model against the reference broker's `fanout`,
for every kind of message object the model hands to `onPublish`: decoded
(non-dirty) PUBLISH packets, the will and `Server.Publish` messages (dirty,
without identifier: the first encode for a QoS > 0 subscriber draws one from the
process-wide counter, and `nextPacketID` never yields 0).
`fanout_outsFor` covers a subscriber list whose connections are all alive (`R.owners` gives that) and says what
each is written up to `wild` only (DUP, identifier); dead connections, and the outputs exactly:
`Broker.fanout_char_gen`, for objects for which no identifier is drawn.
-/
import Mqtt.Proofs.BrokerRefineAccepts
import Mqtt.Proofs.BrokerFanoutHistory

namespace Mqtt.Proofs.BrokerRefine
open Mqtt.Iface.Broker Mqtt.Model.Broker
open Mqtt.Spec.Broker (SOut wild idOk pubOf outOwner modelGroup specGroup)
open Mqtt.Spec.Match (split)
open Mqtt.Proofs.Broker (wire encId encCtr encode_eq encId_spec deliverConn_eq)

/-- the copy of (topic, payload) at QoS `q` as the specification writes it -/
def mkCopy (t pl : Bytes) (q : Nat) : Pub := { qos := q, retain := false, topic := t, payload := pl }

theorem wild_mkCopy (t pl : Bytes) (q : Nat) : wild (mkCopy t pl q) = mkCopy t pl q := rfl

theorem idOk_wire (p : Pub) (h : p.qos = 0 ∨ p.pktid ≠ 0) : idOk (wire p) = true := by
  unfold wire idOk
  by_cases hq : p.qos = 0
  · simp [hq]
  · simp [hq, h.resolve_left hq]

theorem idOk_or {w : Pub} (h : idOk w = true) : w.qos = 0 ∨ w.pktid ≠ 0 := by
  unfold idOk at h
  by_cases hq : w.qos = 0
  · exact .inl hq
  · have : (w.qos == 0) = false := by simpa using hq
    exact .inr (by simpa [this] using h)

theorem wild_wire (p : Pub) (hr : p.retain = false) : wild (wire p) = mkCopy p.topic p.payload p.qos := by
  obtain ⟨dup, qos, retain, topic, pktid, payload⟩ := p
  simp only at hr
  subst hr
  unfold wire
  split <;> rfl

/-- an encode changes at most the identifier of the object; one is assigned only to a dirty object that
has none, and then (`nextPacketID`) it is not 0 -/
theorem encode_spec (m : Msg) (ctr : Nat) (ht : m.p.topic ≠ []) :
    ∃ i ctr', m.encode ctr = some (wire { m.p with pktid := i }, ⟨{ m.p with pktid := i }, m.dirty⟩, ctr') ∧
      (m.p.pktid ≠ 0 ∨ m.dirty = false → i = m.p.pktid) ∧ (m.dirty = true → m.p.qos ≠ 0 → i ≠ 0) :=
  ⟨encId m ctr, encCtr m ctr, by rw [encode_eq, List.isEmpty_eq_false_iff.mpr ht, Bool.and_false]; rfl, encId_spec m ctr⟩

theorem encode_ready {m : Msg} {i : Nat} (hok : m.p.pktid ≠ 0 ∨ m.dirty = true ∨ m.p.qos = 0)
    (h1 : m.p.pktid ≠ 0 ∨ m.dirty = false → i = m.p.pktid) (h2 : m.dirty = true → m.p.qos ≠ 0 → i ≠ 0) :
    m.p.qos = 0 ∨ i ≠ 0 := by
  by_cases hq : m.p.qos = 0
  · exact .inl hq
  · rcases hok with h | h | h
    · exact .inr (by rw [h1 (.inl h)]; exact h)
    · exact .inr (h2 h hq)
    · exact absurd h hq

theorem deliverConn_spec (b : B) (d : Nat) (m : Msg) (hal : b.alive d = true) (hr : m.p.retain = false)
    (ht : m.p.topic ≠ []) :
    ∃ i ctr', deliverConn b d m = ({ b with ctr := ctr' }, ⟨{ m.p with pktid := i }, m.dirty⟩,
        [.send d (.publish (wire { m.p with pktid := i }))]) ∧
      (m.p.pktid ≠ 0 ∨ m.dirty = false → i = m.p.pktid) ∧ (m.dirty = true → m.p.qos ≠ 0 → i ≠ 0) := by
  refine ⟨encId m b.ctr, encCtr m b.ctr, ?_, encId_spec m b.ctr⟩
  simp only [deliverConn_eq, hal, List.isEmpty_eq_false_iff.mpr ht, Bool.and_false, hr]
  rfl

/-- the output for subscriber `sq` of a message on `t` with payload `pl` -/
def OutFor (t pl : Bytes) (sq : Nat × Nat) (y : Out) : Prop :=
  okOut y = true ∧ outOwner y = some sq.1 ∧ (pubOf y).map wild = some (mkCopy t pl sq.2)

inductive OutsFor (t pl : Bytes) : List (Nat × Nat) → List Out → Prop
  | nil : OutsFor t pl [] []
  | cons {sq : Nat × Nat} {y : Out} {subs : List (Nat × Nat)} {ys : List Out} :
      OutFor t pl sq y → OutsFor t pl subs ys → OutsFor t pl (sq :: subs) (y :: ys)

theorem OutsFor.okOut {t pl : Bytes} {subs : List (Nat × Nat)} {ys : List Out} (h : OutsFor t pl subs ys) :
    ∀ y ∈ ys, okOut y = true := by
  induction h with
  | nil => simp
  | cons h1 _ ih =>
    intro y hy
    rcases List.mem_cons.mp hy with rfl | hy
    · exact h1.1
    · exact ih y hy

theorem OutsFor.group {t pl : Bytes} {subs : List (Nat × Nat)} {ys : List Out} (h : OutsFor t pl subs ys) (g : Nat) :
    ((modelGroup g ys).filterMap pubOf).map wild =
      (subs.filter (fun sq => sq.1 == g)).map (fun sq => mkCopy t pl sq.2) := by
  induction h with
  | nil => rfl
  | @cons sq y subs ys h1 _ ih =>
    obtain ⟨hk, ho, hp⟩ := h1
    by_cases hg : sq.1 = g
    · rw [modelGroup_cons_self ys (hg ▸ ho), List.filter_cons_of_pos (by simpa using hg)]
      cases hpy : pubOf y with
      | none => rw [hpy] at hp; cases hp
      | some w =>
        rw [hpy] at hp
        simp only [Option.map_some, Option.some.injEq] at hp
        simp only [List.filterMap_cons, hpy, List.map_cons, hp, ih]
    · rw [modelGroup_cons_ne ys (fun e => hg (Option.some.inj (ho ▸ e))), List.filter_cons_of_neg (by simpa using hg), ih]

theorem fanout_outsFor (subs : List (Nat × Nat)) : ∀ (b : B) (m : Msg), m.p.retain = false → m.p.topic ≠ [] →
    (m.p.pktid ≠ 0 ∨ m.dirty = true ∨ ∀ sq ∈ subs, sq.2 = 0) →
    (∀ sq ∈ subs, sq.1 < cbBase → b.alive sq.1 = true) →
    OutsFor m.p.topic m.p.payload subs (fanout b m subs).2.2 := by
  induction subs with
  | nil => intro b m _ _ _ _; exact .nil
  | cons sq rest ih =>
    intro b m hr ht hok hal
    obtain ⟨s, q⟩ := sq
    -- `SetQoS` keeps the identifier and can only set `dirty`
    have hd : m.dirty = true → (m.setQoS q).dirty = true := fun h => by simp [Msg.setQoS, h]
    have hok1 : (m.setQoS q).p.pktid ≠ 0 ∨ (m.setQoS q).dirty = true ∨ (m.setQoS q).p.qos = 0 :=
      hok.imp id (.imp hd (fun h => h (s, q) (List.mem_cons_self ..)))
    have hokr : (m.setQoS q).p.pktid ≠ 0 ∨ (m.setQoS q).dirty = true ∨ ∀ sq ∈ rest, sq.2 = 0 :=
      hok.imp id (.imp hd (fun h sq hsq => h sq (List.mem_cons_of_mem _ hsq)))
    have halr : ∀ sq ∈ rest, sq.1 < cbBase → b.alive sq.1 = true := fun sq hsq => hal sq (List.mem_cons_of_mem _ hsq)
    by_cases hs : s < cbBase
    · obtain ⟨i, ctr', hd', h1, h2⟩ := deliverConn_spec b s (m.setQoS q) (hal (s, q) (List.mem_cons_self ..) hs) hr ht
      have hstep : (fanout b m ((s, q) :: rest)).2.2 =
          [Out.send s (.publish (wire { (m.setQoS q).p with pktid := i }))] ++
            (fanout { b with ctr := ctr' } ⟨{ (m.setQoS q).p with pktid := i }, (m.setQoS q).dirty⟩ rest).2.2 := by
        simp only [fanout, hs, ↓reduceIte, hd']
      rw [hstep]
      refine .cons ⟨idOk_wire _ (encode_ready hok1 h1 h2), rfl, ?_⟩
        (ih { b with ctr := ctr' } ⟨{ (m.setQoS q).p with pktid := i }, (m.setQoS q).dirty⟩ hr ht ?_ halr)
      · exact congrArg some (wild_wire _ hr)
      · -- an identifier the object has stays
        rcases hokr with h | h
        · exact .inl (by rw [show i = (m.setQoS q).p.pktid from h1 (.inl h)]; exact h)
        · exact .inr h
    · have hstep : (fanout b m ((s, q) :: rest)).2.2 =
          [Out.call s (m.setQoS q).p] ++ (fanout b (m.setQoS q) rest).2.2 := by
        simp only [fanout, hs, ↓reduceIte]
      rw [hstep]
      refine .cons ⟨?_, rfl, ?_⟩ (ih b (m.setQoS q) hr ht hokr halr)
      · have hcb := Mqtt.Proofs.Broker.cbBase_eq
        simp only [okOut, decide_eq_true_eq]; omega
      · obtain ⟨⟨dup, qos, retain, topic, pktid, payload⟩, dirty⟩ := m
        simp only at hr
        subst hr
        rfl

/-- a list without repetition holds `g` once or not at all -/
theorem filter_beq_of_nodup {l : List Nat} (h : l.Nodup) (g : Nat) :
    l.filter (fun o => o == g) = if g ∈ l then [g] else [] := by
  induction l with
  | nil => rfl
  | cons a as ih =>
    obtain ⟨ha, has⟩ := List.nodup_cons.mp h
    rw [List.filter_cons, ih has]
    by_cases hag : a = g
    · subst hag; simp [ha]
    · have : ¬ g = a := fun e => hag e.symm
      simp [hag, this]

theorem copies_fanout (s : Spec.Broker.S) (t pl : Bytes) (q g : Nat) :
    copiesOf (specGroup g (Spec.Broker.fanout s t pl q)) =
      ((Spec.Broker.matching s t).filter (fun h => h.owner == g)).map (fun h => mkCopy t pl (min q h.qos)) := by
  unfold Spec.Broker.fanout specGroup
  simp only
  rw [List.filter_map]
  have hf : ((fun (x : SOut) => x.owner == some g && !Spec.Broker.isEmptyRetained x) ∘ fun o =>
      SOut.deliver o (((Spec.Broker.matching s t).filter (fun h => h.owner == o)).map fun h =>
        ({ qos := min q h.qos, retain := false, topic := t, payload := pl } : Pub))) = fun o => o == g := by
    funext o
    simp [Spec.Broker.SOut.owner, Spec.Broker.isEmptyRetained]
  rw [hf]
  unfold Spec.Broker.owners
  rw [filter_beq_of_nodup (List.nodup_eraseDups _) g]
  simp only [List.mem_eraseDups]
  split
  · simp only [List.map_cons, List.map_nil, copiesOf, itemCopies, List.flatten_cons, List.flatten_nil, List.append_nil,
      List.map_map]
    rfl
  · rename_i hg
    simp only [List.map_nil, copiesOf, List.flatten_nil]
    symm
    rw [List.map_eq_nil_iff, List.filter_eq_nil_iff]
    intro h hh hgo
    apply hg
    simp only [beq_iff_eq] at hgo
    exact List.mem_map.mpr ⟨h, hh, hgo⟩

theorem fan_of_outsFor (s : Spec.Broker.S) (t pl : Bytes) (q : Nat) (subs : List (Nat × Nat)) (outs : List Out)
    (ho : OutsFor t pl subs outs)
    (hp : subs.Perm ((Spec.Broker.matching s t).map (fun h => (h.owner, min q h.qos)))) :
    Fan (Spec.Broker.fanout s t pl q) outs := by
  refine ⟨?_, ?_, ho.okOut, ?_⟩
  · intro x hx
    simp only [Spec.Broker.fanout, List.mem_map] at hx
    obtain ⟨o, _, rfl⟩ := hx
    rfl
  · intro o cs hx
    simp only [Spec.Broker.fanout, List.mem_map, SOut.deliver.injEq] at hx
    obtain ⟨o', ho', rfl, rfl⟩ := hx
    simp only [Spec.Broker.owners] at ho'
    rw [List.mem_eraseDups, List.mem_map] at ho'
    obtain ⟨h, hh, rfl⟩ := ho'
    intro h0
    rw [List.map_eq_nil_iff, List.filter_eq_nil_iff] at h0
    exact h0 h hh (by simp)
  · intro g
    rw [ho.group g, copies_fanout]
    have := (hp.filter (fun sq => sq.1 == g)).map (fun sq => mkCopy t pl sq.2)
    refine this.trans ?_
    rw [List.filter_map, List.map_map]
    exact List.Perm.refl _

end Mqtt.Proofs.BrokerRefine
