/-
Tie between the REGENERATED translation of `service.peekMessageSize`
(`Mqtt.Generated.Xlate`, produced from /repo/service/sendrecv.go by
extract/cmd/xlate on every check) and the hand-written `peekMessageSize` /
`peekSizeLoop` of `Model/Framing.lean`.

In the translation the ring buffer `svc.in` is an external object: `in_isNil`
says whether the pointer is nil and `in_ReadWait n` is what `svc.in.ReadWait(n)`
returns (`none`: the call blocks).  The model has no nil case (after
`newBuffer` the ring always exists) and stands for the oracle `rwOracle` below.
The model's `allocs` have no counterpart in the translation and are ignored.
-/
import Mqtt.Proofs.XlateBasic
import Mqtt.Proofs.XlateVarint
import Mqtt.Model.Framing
import Mqtt.Proofs.Framing

namespace Mqtt.Proofs.XlateFraming

open Mqtt.Model.Framing
open Mqtt.Model.Codec (uvarint index)
open Mqtt.Generated (framingPostMaxCnt framingPostCntStart)
open Mqtt.Generated.Xlate
open Mqtt.Proofs.XlateVarint
open Mqtt.Proofs.Xlate (shr4_eq_ofNat ite_tie u8_le)

/-- `svc.in.ReadWait(n)` as the model's `readWait` sees it: a ring of `sz` bytes,
`avail` sent by the peer and not committed yet -/
def rwOracle (sz : Nat) (avail : List UInt8) (n : Int) : Option (List UInt8 × Err) :=
  if n < 0 then some ([], .var "ErrNegativeCount") else
  match readWait sz avail n.toNat with
  | .ok b => some (b, .nil)
  | .blocked => none
  | .full => some ([], .var "ErrBufferFull")

/-- what the Go function returns for a model outcome on a ring of `sz` bytes.  The model's
`.error` does not say which error: it is `bufio.ErrBufferFull` from `ReadWait(cnt)` when
the ring is smaller than `framingPostMaxCnt` bytes (then `cnt` outgrows the ring first),
else the `fmt.Errorf` for a fifth continuation byte.  `.panicked` / `.stuck` are mapped to
`panic` / `fuel`; neither occurs (`peekMessageSize_total`). -/
def sizeToRes (sz : Nat) : SizeRes → Res (UInt8 × Int × Err)
  | .size mtype total _ => .ok (UInt8.ofNat mtype, total, .nil)
  | .needMore _ => .blocked
  | .error _ => .ok (0, 0, if sz < framingPostMaxCnt then .var "ErrBufferFull" else .dyn)
  | .panicked => .panic
  | .stuck => .fuel

theorem rwOracle_nat (sz : Nat) (avail : List UInt8) (cnt : Nat) :
    rwOracle sz avail (cnt : Int) =
      match readWait sz avail cnt with
      | .ok b => some (b, .nil)
      | .blocked => none
      | .full => some ([], .var "ErrBufferFull") := by
  unfold rwOracle
  have h : ¬ ((cnt : Int) < 0) := by omega
  rw [if_neg h, Int.toNat_natCast]

/-- the code after the loop, for a buffer whose first byte is `tf` -/
theorem after_eq (svc : Service.service) (rw : Int → Option (List UInt8 × Err)) (b : List UInt8) (cnt : Nat)
    (tf : UInt8) (h0 : b[0]? = some tf) :
    Service.service.peekMessageSize.loop1_after false rw svc b .nil cnt
      = .ok (UInt8.ofNat (tf.toNat / 16), ((uvarint (b.drop 1)).1 : Int) + 1 + (uvarint (b.drop 1)).2, .nil) := by
  have hlen : 0 < b.length := by
    cases b with
    | nil => simp at h0
    | cons _ _ => simp
  have hget : b.getD 0 0 = tf := by simp [List.getD_eq_getElem?_getD, h0]
  obtain ⟨hv1, hv2⟩ := uvarint_is_source_toNat (b.drop 1)
  unfold Service.service.peekMessageSize.loop1_after
  have h1 : (1 : Nat) ≤ b.length := hlen
  simp only [h1, hlen, decide_true, if_true, hget, hv1, hv2, shr4_eq_ofNat]
  rw [Int.natCast_add, Int.natCast_one]

/-- the loops agree from every reachable `cnt`, for any budgets that suffice on both sides.  `cnt = 2 ∨ cnt ≤ sz + 1`: past the
start a `ReadWait(cnt - 1)` has succeeded, so the ring holds at least `cnt - 1` bytes; at `cnt = 6` this is what makes the error
the `fmt.Errorf` for a fifth length byte and not `ErrBufferFull` (`sizeToRes`) -/
theorem loop_eq (sz : Nat) (avail : List UInt8) (svc : Service.service) :
    ∀ (g f cnt : Nat) (allocs : List Nat) (b : List UInt8) (err : Err),
    2 ≤ cnt → cnt ≤ 6 → 7 ≤ cnt + g → 7 ≤ cnt + f → (cnt = 2 ∨ cnt ≤ sz + 1) →
    Service.service.peekMessageSize.loop1 g false (rwOracle sz avail) svc b err cnt
      = sizeToRes sz (peekSizeLoop sz avail f cnt allocs) := by
  have hM : framingPostMaxCnt = 5 := rfl
  intro g
  induction g with
  | zero => intro f cnt allocs b err _ h6 hg _ _; omega
  | succ g ih =>
    intro f cnt allocs b err h2 h6 hg hf hsz
    cases f with
    | zero => omega
    | succ f =>
      unfold Service.service.peekMessageSize.loop1 peekSizeLoop
      rw [hM]
      refine ite_tie (sizeToRes sz) (by rw [decide_eq_true_eq]) (fun hc => ?_) fun hc => ?_
      · have hsz5 : ¬ sz < 5 := by omega
        simp [sizeToRes, hM, hsz5]
      · rw [rwOracle_nat]
        cases hw : readWait sz avail cnt with
        | full =>
          have hlt : sz < 5 := by
            unfold readWait at hw
            split at hw
            · omega
            · split at hw <;> cases hw
          simp [sizeToRes, hM, hlt]
        | blocked => simp [sizeToRes]
        | ok b' =>
          obtain ⟨hle, _, _, hlen⟩ := Mqtt.Proofs.Framing.readWait_of_ok hw
          have hlast : (cnt - 1) < b'.length := by omega
          have h0 : 0 < b'.length := by omega
          have hi : (((cnt : Nat) : Int) - 1).toNat = cnt - 1 := by omega
          have hnn : (0 : Int) ≤ ((cnt : Nat) : Int) - 1 := by omega
          have hnl : ¬ b'.length < cnt := by omega
          have hidx : index b' (cnt - 1) = .ok b'[cnt - 1] := by
            unfold index; rw [List.getElem?_eq_getElem hlast]
          have hidx0 : index b' 0 = .ok b'[0] := by
            unfold index; rw [List.getElem?_eq_getElem h0]
          have hgetD : b'.getD (cnt - 1) 0 = b'[cnt - 1] := by
            rw [List.getD_eq_getElem?_getD, List.getElem?_eq_getElem hlast]; rfl
          have hnil : (Err.nil != Err.nil) = false := by decide
          simp only [hnil, hi, hnn, hnl, hlast, hidx, hidx0, hgetD, decide_true, decide_false,
            Bool.and_self, if_true, if_false, Bool.false_eq_true]
          refine ite_tie (sizeToRes sz) u8_le
            (fun _ => ih f (cnt + 1) _ _ _ (by omega) (by omega) (by omega) (by omega) (by omega)) fun _ => ?_
          rw [after_eq svc _ b' cnt b'[0] (List.getElem?_eq_getElem h0)]
          rfl

/-- **the regenerated `service.peekMessageSize` is the model's `peekMessageSize`**, with the
ring present (`in_isNil = false`), `ReadWait` behaving as `rwOracle`, and any iteration
budget of at least `framingPostMaxCnt` (the loop body runs for `cnt` = 2 … 6 at most) -/
theorem peekMessageSize_is_source (sz : Nat) (avail : List UInt8) (svc : Service.service) (fuel : Nat)
    (hfuel : framingPostMaxCnt ≤ fuel) :
    Service.service.peekMessageSize fuel false (rwOracle sz avail) svc
      = sizeToRes sz (peekMessageSize sz avail) := by
  have hM : framingPostMaxCnt = 5 := rfl
  have hS : framingPostCntStart = 2 := rfl
  unfold Service.service.peekMessageSize peekMessageSize
  simp only [Bool.false_eq_true, if_false]
  rw [hS]
  exact loop_eq sz avail svc fuel (framingPostMaxCnt + 2) 2 [] [] .nil (by omega) (by omega) (by omega)
    (by omega) (.inl rfl)

/-- the case the model does not have: the ring has not been created -/
theorem peekMessageSize_nil (rw : Int → Option (List UInt8 × Err)) (svc : Service.service) (fuel : Nat) :
    Service.service.peekMessageSize fuel true rw svc = .ok (0, 0, .var "ErrBufferNotReady") := by
  simp [Service.service.peekMessageSize]

theorem peekMessageSize_size {sz : Nat} {avail : List UInt8} {mtype : Nat} {total : Int} {a : List Nat}
    (svc : Service.service) {fuel : Nat} (hfuel : framingPostMaxCnt ≤ fuel)
    (h : peekMessageSize sz avail = .size mtype total a) :
    Service.service.peekMessageSize fuel false (rwOracle sz avail) svc = .ok (UInt8.ofNat mtype, total, .nil) := by
  rw [peekMessageSize_is_source sz avail svc fuel hfuel, h]; rfl

theorem peekMessageSize_needMore {sz : Nat} {avail : List UInt8} {a : List Nat}
    (svc : Service.service) {fuel : Nat} (hfuel : framingPostMaxCnt ≤ fuel)
    (h : peekMessageSize sz avail = .needMore a) :
    Service.service.peekMessageSize fuel false (rwOracle sz avail) svc = .blocked := by
  rw [peekMessageSize_is_source sz avail svc fuel hfuel, h]; rfl

theorem peekMessageSize_error {sz : Nat} {avail : List UInt8} {a : List Nat}
    (svc : Service.service) {fuel : Nat} (hfuel : framingPostMaxCnt ≤ fuel)
    (h : peekMessageSize sz avail = .error a) :
    ∃ e, e ≠ Err.nil ∧ e = (if sz < framingPostMaxCnt then Err.var "ErrBufferFull" else Err.dyn) ∧
      Service.service.peekMessageSize fuel false (rwOracle sz avail) svc = .ok (0, 0, e) := by
  refine ⟨_, ?_, rfl, ?_⟩
  · split <;> simp
  · rw [peekMessageSize_is_source sz avail svc fuel hfuel, h]; rfl

/-- with that budget the translated function neither panics nor runs out of fuel, and the
model never ends in `.panicked` / `.stuck` -/
theorem peekMessageSize_total (sz : Nat) (avail : List UInt8) (svc : Service.service) (fuel : Nat)
    (hfuel : framingPostMaxCnt ≤ fuel) :
    peekMessageSize sz avail ≠ .panicked ∧ peekMessageSize sz avail ≠ .stuck ∧
    Service.service.peekMessageSize fuel false (rwOracle sz avail) svc ≠ .panic ∧
    Service.service.peekMessageSize fuel false (rwOracle sz avail) svc ≠ .fuel := by
  have hok := Mqtt.Proofs.Framing.peekMessageSize_ok sz avail
  rw [peekMessageSize_is_source sz avail svc fuel hfuel]
  cases hm : peekMessageSize sz avail with
  | size _ _ _ => simp [sizeToRes]
  | needMore _ => simp [sizeToRes]
  | error _ => simp [sizeToRes]
  | panicked => rw [hm] at hok; exact hok.elim
  | stuck => rw [hm] at hok; exact hok.elim

end Mqtt.Proofs.XlateFraming
