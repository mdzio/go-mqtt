/-
The first packet of a connection, accepted: `getSession`, then `start` registers the connection and subscribes
it again to the topics of its session (`R_connect`); `first_accepted_refines` puts the two together.  In
`failed b c req`, the state after `getSession`, the stored session object has been updated, or a new one created
and filed, and no connection is registered - it is also where `handleConnection` stops when the CONNACK cannot be
written; `R_failed` relates it to what the reference broker keeps stored (`failStored`).
-/
import Mqtt.Proofs.BrokerRefineEnd

namespace Mqtt.Proofs.BrokerRefine
open Mqtt.Iface.Broker Mqtt.Model.Broker
open Mqtt.Model.Topics (MemTopics)
open Mqtt.Proofs.Topics (WF abs good)
open Mqtt.Spec.Match (validName validFilter)
open Mqtt.Proofs.Broker (heldEntry specSubHeld Moves)
open Mqtt.Proofs.BrokerQos (toOpen2)
open Mqtt.Proofs.BrokerLife (effCid effClean resumed updSess newSess addConn accepted acceptedSess)
open Mqtt.Spec.Broker (Held addHeld subCode)
def specCid (c : Nat) (req : Connect) : Bytes := if req.clientId.isEmpty then anonSpec c else req.clientId
def specClean (req : Connect) : Bool := req.clean || req.clientId.isEmpty

/-- the session a CleanSession=0 CONNECT finds in the reference broker -/
def specPrior (s : Spec.Broker.S) (c : Nat) (req : Connect) : Option (List (Bytes × Nat) × List (Nat × Bool × Pub)) :=
  if specClean req then none else s.stored.lookup (specCid c req)

theorem specClean_eq (req : Connect) : specClean req = effClean req := by
  unfold specClean effClean
  cases req.clientId.isEmpty <;> simp

theorem cid_of_notClean {c : Nat} {req : Connect} (hcl : effClean req = false) :
    req.clientId.isEmpty = false ∧ effCid c req = req.clientId ∧ specCid c req = req.clientId := by
  unfold effClean at hcl
  unfold effCid specCid
  cases he : req.clientId.isEmpty with
  | true => simp [he] at hcl
  | false => simp

/-- the stored sessions after a failed handshake of an acceptable CONNECT -/
def failStored (s : Spec.Broker.S) (c : Nat) (req : Connect) :
    List (Bytes × List (Bytes × Nat) × List (Nat × Bool × Pub)) :=
  if specClean req then s.stored.filter (fun p => p.1 != specCid c req)
  else (specCid c req, (s.stored.lookup (specCid c req)).getD ([], [])) ::
    s.stored.filter (fun p => p.1 != specCid c req)


theorem spec_first_accepted (s : Spec.Broker.S) (c : Nat) (req : Connect) (a : Bool)
    (h : Spec.Broker.refusals req a = []) :
    Spec.Broker.first s c (.connect req) a =
      ({ held := ((specPrior s c req).getD ([], [])).1.foldl (fun h p => addHeld h c p.1 p.2) s.held, rets := s.rets,
         stored := failStored s c req,
         conns := (Spec.Broker.setConn s
           ⟨c, specCid c req, specClean req, req.will, ((specPrior s c req).getD ([], [])).2⟩).conns },
       [.send c (.connack (specPrior s c req).isSome 0)]) := by
  unfold specPrior failStored specClean specCid anonSpec
  cases hcl : (req.clean || req.clientId.isEmpty) <;>
    simp only [Spec.Broker.first, h, List.isEmpty_nil, Bool.not_true, Bool.false_eq_true, ↓reduceIte, hcl,
      Spec.Broker.setConn]

theorem spec_first_resumed (s : Spec.Broker.S) (c : Nat) (req : Connect) (a : Bool)
    (h : Spec.Broker.refusals req a = []) (subs : List (Bytes × Nat)) (o2 : List (Nat × Bool × Pub))
    (hcl : specClean req = false) (hl : s.stored.lookup (specCid c req) = some (subs, o2)) :
    Spec.Broker.first s c (.connect req) a =
      ({ held := subs.foldl (fun h p => addHeld h c p.1 p.2) s.held, rets := s.rets,
         stored := (specCid c req, (subs, o2)) :: s.stored.filter (fun p => p.1 != specCid c req),
         conns := s.conns.filter (fun (x : Spec.Broker.Conn) => x.id != c) ++ [⟨c, specCid c req, false, req.will, o2⟩] },
       [.send c (.connack true 0)]) := by
  rw [spec_first_accepted s c req a h]
  simp only [specPrior, failStored, hcl, hl, Bool.false_eq_true, ↓reduceIte, Option.getD_some, Option.isSome_some,
    Spec.Broker.setConn]

theorem spec_first_fresh (s : Spec.Broker.S) (c : Nat) (req : Connect) (a : Bool)
    (h : Spec.Broker.refusals req a = [])
    (hp : specClean req = true ∨ s.stored.lookup (specCid c req) = none) :
    Spec.Broker.first s c (.connect req) a =
      ({ held := s.held, rets := s.rets,
         stored := if specClean req then s.stored.filter (fun p => p.1 != specCid c req)
                   else (specCid c req, ([], [])) :: s.stored.filter (fun p => p.1 != specCid c req),
         conns := s.conns.filter (fun (x : Spec.Broker.Conn) => x.id != c) ++ [⟨c, specCid c req, specClean req, req.will, []⟩] },
       [.send c (.connack false 0)]) := by
  rw [spec_first_accepted s c req a h]
  unfold specPrior failStored
  rcases hp with hcl | hl
  · simp only [hcl, ↓reduceIte, Option.getD_none, Option.isSome_none, List.foldl_nil, Spec.Broker.setConn]
  · simp only [hl, ite_self, Option.getD_none, Option.isSome_none, List.foldl_nil, Spec.Broker.setConn]

theorem failStored_lookup_ne (s : Spec.Broker.S) (c : Nat) (req : Connect) (x : Bytes) (hxs : x ≠ specCid c req) :
    (failStored s c req).lookup x = s.stored.lookup x := by
  unfold failStored
  split
  · exact List.lookup_filter_ne _ _ _ hxs.symm
  · have : (x == specCid c req) = false := by simpa using hxs
    simp only [List.lookup_cons, this]
    exact List.lookup_filter_ne _ _ _ hxs.symm

theorem failStored_lookup_clean (s : Spec.Broker.S) (c : Nat) (req : Connect) (h : specClean req = true) :
    (failStored s c req).lookup (specCid c req) = none := by
  unfold failStored
  rw [if_pos h]
  exact List.lookup_filter_self _ _

theorem failStored_lookup_keep (s : Spec.Broker.S) (c : Nat) (req : Connect) (h : specClean req = false) :
    (failStored s c req).lookup (specCid c req) = some ((s.stored.lookup (specCid c req)).getD ([], [])) := by
  unfold failStored
  simp only [h, Bool.false_eq_true, ↓reduceIte, List.lookup_cons, BEq.rfl]

theorem cidRel_eff (c : Nat) (req : Connect) (hreal : req.clientId.isEmpty = false → realCid req.clientId = true) :
    CidRel c (effCid c req) (specCid c req) (specClean req) := by
  unfold effCid specCid specClean
  cases hemp : req.clientId.isEmpty with
  | true => right; simp
  | false => left; simp only [Bool.false_eq_true, ↓reduceIte, true_and]; exact hreal hemp

/-- the state after `getSession` of an accepted CONNECT (no connection registered) -/
def failed (b : B) (c : Nat) (req : Connect) : B :=
  match resumed b c req with
  | some s => b.setSess (updSess s req)
  | none =>
    (({ b with nextRef := b.nextRef + 1 } : B).setSess (newSess b c req)).storeSet (effCid c req) b.nextRef

theorem failed_topics (b : B) (c : Nat) (req : Connect) : (failed b c req).topics = b.topics := by
  unfold failed; split <;> rfl

theorem failed_conns (b : B) (c : Nat) (req : Connect) : (failed b c req).conns = b.conns := by
  unfold failed; split <;> rfl

theorem failed_moves (b : B) (c : Nat) (req : Connect) : Moves b (failed b c req) := by
  unfold failed
  cases hres : resumed b c req with
  | some σ => exact .one (.sess (Mqtt.Proofs.BrokerLife.resumed_some hres).2.2.1 (.resume σ req))
  | none => exact .one (.fresh b (newSess b c req) rfl rfl (Mqtt.Proofs.BrokerLife.initWill_wills req _ rfl rfl))

/-- `getSession` of an accepted CONNECT files the session object it hands out -/
theorem Filed.failed {b : B} (hinv : Mqtt.Proofs.BrokerLife.Inv b) (c : Nat) (req : Connect) :
    Filed b (BrokerRefine.failed b c req) (acceptedSess b c req) := by
  unfold acceptedSess BrokerRefine.failed
  cases hres : resumed b c req with
  | some σ =>
    obtain ⟨_, hst, hσ, _⟩ := Mqtt.Proofs.BrokerLife.resumed_some hres
    exact .of_setSess rfl rfl rfl hσ rfl (Mqtt.Proofs.BrokerLife.resumed_cid hinv hres ▸ hst)
  | none =>
    refine ⟨rfl, Mqtt.Proofs.BrokerLife.getSess_setSess_eq _ _, fun x => ?_, fun τ hτ => ?_⟩
    · dsimp only
      split
      · rename_i hx; rw [hx]; exact Mqtt.Proofs.BrokerLife.storeGet_storeSet_self _ _ _
      · rename_i hx; exact Mqtt.Proofs.BrokerLife.storeGet_storeSet_ne _ (effCid c req) x b.nextRef (Ne.symm hx)
    · rw [show (newSess b c req).ref = b.nextRef from rfl, hinv.fresh b.nextRef (Nat.le_refl _)] at hτ
      cases hτ

theorem acceptedSess_cid {b : B} (hinv : Mqtt.Proofs.BrokerLife.Inv b) (c : Nat) (req : Connect) :
    (acceptedSess b c req).cid = effCid c req ∧ (acceptedSess b c req).clean = effClean req := by
  unfold acceptedSess
  cases hres : resumed b c req with
  | some σ => exact ⟨(Mqtt.Proofs.BrokerLife.resumed_cid hinv hres : σ.cid = _), rfl⟩
  | none => exact ⟨rfl, rfl⟩

/-- the model resumes a session object exactly if the reference broker has a session stored, and then
topics and open QoS 2 exchanges agree; otherwise both start empty -/
theorem prior_rel {b : B} {s : Spec.Broker.S} (h : R b s) (c : Nat) (req : Connect)
    (hreal : req.clientId.isEmpty = false → realCid req.clientId = true)
    (hcf : ∀ c' τ, liveSess b c' = some τ → τ.cid ≠ effCid c req) :
    (resumed b c req).isSome = (specPrior s c req).isSome ∧
    TopicsRel (acceptedSess b c req).topics ((specPrior s c req).getD ([], [])).1 ∧
    ((specPrior s c req).getD ([], [])).2 = toOpen2 (acceptedSess b c req).pub2in ∧
    ∀ e ∈ (acceptedSess b c req).pub2in, pubOk e.msg = true := by
  -- without CleanSession both look under the client identifier
  have key : effClean req = false → specPrior s c req = s.stored.lookup req.clientId ∧
      resumed b c req = resumable b req.clientId ∧ StoredRel b s req.clientId := by
    intro hcl
    obtain ⟨hemp, hX, hXs⟩ := cid_of_notClean (c := c) hcl
    refine ⟨by unfold specPrior; rw [specClean_eq, hcl, hXs]; rfl, by unfold resumed resumable; simp [hcl, hX],
      h.stored req.clientId (hreal hemp) (hX ▸ hcf)⟩
  unfold acceptedSess
  cases hr : resumed b c req with
  | some σ =>
    obtain ⟨hP, hres, hst⟩ := key (Mqtt.Proofs.BrokerLife.resumed_some hr).1
    obtain ⟨subs, o2, e, htr, ho2, hq2⟩ := hst.some σ (hres ▸ hr)
    rw [hP, e]
    exact ⟨rfl, htr, ho2, hq2⟩
  | none =>
    have hp : specPrior s c req = none := by
      cases hcl : effClean req with
      | true => unfold specPrior; rw [specClean_eq, hcl]; rfl
      | false =>
        obtain ⟨hP, hres, hst⟩ := key hcl
        rw [hP]; exact hst.none (hres ▸ hr)
    rw [hp]
    exact ⟨rfl, ⟨List.Perm.refl _, List.nodup_nil, fun _ hp => by cases hp⟩, rfl, fun _ he => by cases he⟩

/-- `getSession`: the stored session object is updated and the reference broker keeps what it has, or
a new object is filed and the reference broker discards what it has (CleanSession) or files the empty
session -/
theorem R_failed {b : B} {s : Spec.Broker.S} (h : R b s) (c : Nat) (req : Connect)
    (hreal : req.clientId.isEmpty = false → realCid req.clientId = true)
    (hcf : ∀ c' τ, liveSess b c' = some τ → τ.cid ≠ effCid c req) :
    R (failed b c req) { s with stored := failStored s c req } := by
  have hf := Filed.failed h.linv c req
  obtain ⟨hcid, hclean⟩ := acceptedSess_cid h.linv c req
  obtain ⟨_, htr, ho2, hq2⟩ := prior_rel h c req hreal hcf
  refine R_filed h (h.moves (failed_moves b c req)) hf (htop := failed_topics b c req)
    (hheld := rfl) (hrets := rfl) (hconns := rfl) (hfree := hcid ▸ hcf)
    (hlookup := fun x hx hxne => failStored_lookup_ne s c req x
      (fun e => hxne (hcid ▸ ((cidRel_eff c req hreal).eq (.inr (e ▸ hx))).symm ▸ e)))
    (hX := ?_)
  -- under the identifier in force: the object `getSession` hands out
  intro hXreal
  have hX : (acceptedSess b c req).cid = specCid c req := hcid.trans ((cidRel_eff c req hreal).eq (.inl (hcid ▸ hXreal)))
  refine hf.storedRel ?_ ?_
  · intro hcl
    rw [hX]
    exact failStored_lookup_clean s c req (by rw [specClean_eq, ← hclean]; exact hcl)
  · intro hcl
    have hcl' : specClean req = false := by rw [specClean_eq, ← hclean]; exact hcl
    have hp : specPrior s c req = s.stored.lookup (specCid c req) := by unfold specPrior; rw [hcl']; rfl
    exact ⟨_, _, by rw [hX]; exact failStored_lookup_keep s c req hcl', hp ▸ htr, hp ▸ ho2, hq2⟩

def mkHeld (c : Nat) (p : Bytes × Nat) : Held := ⟨c, p.1, p.2⟩

theorem addHeld_fresh (held : List Held) (c : Nat) (t : Bytes) (g : Nat)
    (h : ∀ x ∈ held, x.owner = c → x.filter ≠ t) : addHeld held c t g = held ++ [⟨c, t, g⟩] := by
  unfold addHeld
  congr 1
  rw [List.filter_eq_self]
  intro x hx
  by_cases hc : x.owner = c
  · have := h x hx hc
    simp [hc, this]
  · simp [hc]

theorem foldl_addHeld_fresh (c : Nat) : ∀ (l : List (Bytes × Nat)) (held : List Held), (l.map (·.1)).Nodup →
    (∀ x ∈ held, x.owner = c → x.filter ∉ l.map (·.1)) →
    l.foldl (fun h p => addHeld h c p.1 p.2) held = held ++ l.map (mkHeld c) := by
  intro l
  induction l with
  | nil => intro held _ _; simp
  | cons p rest ih =>
    intro held hnd hfree
    obtain ⟨t, q⟩ := p
    simp only [List.map_cons, List.nodup_cons] at hnd
    simp only [List.foldl_cons]
    rw [addHeld_fresh held c t q (fun x hx hc => fun e => hfree x hx hc (by simp [e]))]
    rw [ih _ hnd.2]
    · simp [mkHeld]
    · intro x hx hc
      rcases List.mem_append.mp hx with hx | hx
      · intro hm; exact hfree x hx hc (List.mem_cons_of_mem _ hm)
      · simp only [List.mem_singleton] at hx; subst hx; exact hnd.1

theorem subCode_ok (p : Bytes × Nat) (h : subOk p = true) : subCode p.1 p.2 = p.2 ∧ (subCode p.1 p.2 != 0x80) = true := by
  simp only [subOk, Bool.and_eq_true, decide_eq_true_eq] at h
  obtain ⟨⟨_, hv⟩, hq⟩ := h
  unfold subCode Spec.Broker.maxQos
  simp only [hv, hq, decide_true, Bool.and_self, ↓reduceIte]
  have : min p.2 2 = p.2 := by omega
  rw [this]
  exact ⟨rfl, by simp; omega⟩

theorem specSubHeld_ok (c : Nat) : ∀ (l : List (Bytes × Nat)) (held : List Held), (∀ p ∈ l, subOk p = true) →
    specSubHeld c l held = l.foldl (fun h p => addHeld h c p.1 p.2) held := by
  intro l
  induction l with
  | nil => intro held _; rfl
  | cons p rest ih =>
    intro held hok
    obtain ⟨c1, c2⟩ := subCode_ok p (hok _ (List.mem_cons_self ..))
    have := ih (addHeld held c p.1 p.2) (fun q hq => hok q (List.mem_cons_of_mem _ hq))
    simp only [specSubHeld, List.foldl_cons] at this ⊢
    rw [if_pos c2, c1]
    exact this

theorem specSubHeld_fresh (c : Nat) (l : List (Bytes × Nat)) (held : List Held) (hnd : (l.map (·.1)).Nodup)
    (hok : ∀ p ∈ l, subOk p = true) (hfree : ∀ x ∈ held, x.owner = c → x.filter ∉ l.map (·.1)) :
    specSubHeld c l held = held ++ l.map (mkHeld c) := by
  rw [specSubHeld_ok c l held hok, foldl_addHeld_fresh c l held hnd hfree]

theorem heldOfL_mkHeld_self (c : Nat) (l : List (Bytes × Nat)) : heldOfL (l.map (mkHeld c)) c = l := by
  induction l with
  | nil => rfl
  | cons p rest ih =>
    simp only [heldOfL, List.map_cons, List.filter_cons, mkHeld, BEq.rfl, ↓reduceIte] at ih ⊢
    rw [ih]

theorem heldOfL_mkHeld_ne (c o : Nat) (l : List (Bytes × Nat)) (h : o ≠ c) : heldOfL (l.map (mkHeld c)) o = [] := by
  unfold heldOfL
  rw [List.map_eq_nil_iff, List.filter_eq_nil_iff]
  intro x hx
  obtain ⟨p, _, rfl⟩ := List.mem_map.mp hx
  simp only [mkHeld, beq_iff_eq]
  exact fun e => h e.symm

theorem resubscribe_abs (c : Nat) (l : List (Bytes × Nat)) : ∀ ts : MemTopics, WF ts.sroot →
    (abs (resubscribe ts c l).sroot).Perm (Mqtt.Proofs.Broker.entriesAfterSub c l (abs ts.sroot)) :=
  Mqtt.Proofs.Broker.resubscribe_abs c l

theorem HeldAt.append_mkHeld (held : List Held) (c : Nat) (l : List (Bytes × Nat)) (hg : ∀ p ∈ l, good p.1 = true) :
    HeldAt c held (held ++ l.map (mkHeld c)) :=
  ⟨fun x hx => (List.mem_append.mp hx).imp id fun hx => by
    obtain ⟨p, hp, rfl⟩ := List.mem_map.mp hx
    exact ⟨rfl, hg p hp⟩,
   fun o ho => by rw [heldOfL_append, heldOfL_mkHeld_ne c o l ho, List.append_nil]⟩

theorem cidFree_spec {b : B} {cid : Bytes} (h : cidFree b cid = true) {c : Nat} {τ : Sess}
    (hl : liveSess b c = some τ) : τ.cid ≠ cid := by
  obtain ⟨cn, hc, ha, hs⟩ := liveSess_some hl
  have hm : cn ∈ b.conns := by unfold B.getConn at hc; exact List.mem_of_find?_eq_some hc
  unfold cidFree at h
  rw [List.all_eq_true] at h
  have := h cn hm
  simp only [ha, Bool.not_true, Bool.false_or, hs, bne_iff_ne, ne_eq] at this
  exact this

theorem realCid_of_accepts {req : Connect} {a : Bool} (h : Mqtt.Proofs.BrokerLife.accepts (.connect req) a = true)
    (hne : req.clientId.isEmpty = false) : realCid req.clientId = true := by
  simp only [Mqtt.Proofs.BrokerLife.accepts, Bool.and_eq_true, Bool.not_eq_true'] at h
  have hid := h.1.2
  simp only [Mqtt.Proofs.BrokerLife.idBad, hne, Bool.false_and, Bool.not_false, Bool.true_and, Bool.false_or,
    Bool.not_eq_false', Bool.and_eq_true, decide_eq_true_eq] at hid
  unfold realCid
  simp only [hne, Bool.not_false, Bool.true_and]
  exact hid.1

theorem liveSess_addConn {b b' : B} (c r : Nat) (hc : b'.conns = (addConn b c r).conns) (hs : b'.sess = b.sess)
    (c' : Nat) : liveSess b' c' = if c' = c then b.getSess r else liveSess b c' := by
  have hgs : ∀ r', b'.getSess r' = b.getSess r' := fun r' => Mqtt.Proofs.Broker.getSess_congr b b' hs r'
  have hgc : b'.getConn c' = (addConn b c r).getConn c' := Mqtt.Proofs.BrokerQos.getConn_congr hc c'
  unfold liveSess
  rw [hgc]
  by_cases he : c' = c
  · rw [if_pos he, he, Mqtt.Proofs.BrokerLife.getConn_addConn]
    simp only [↓reduceIte, hgs]
  · rw [if_neg he, Mqtt.Proofs.BrokerLife.getConn_addConn_ne b c c' r (Ne.symm he)]
    cases b.getConn c' with
    | none => rfl
    | some cn' => simp only [hgs]

theorem mconns_addConn (b1 : B) (c r : Nat) (h : (b1.conns.map (·.id)).Nodup) :
    ((addConn b1 c r).conns.map (·.id)).Nodup :=
  nodup_filter_append Conn.id b1.conns { id := c, sess := r, alive := true } h

theorem validTopic_eq (t : Bytes) : validTopic t = validName t := rfl

theorem initWill_eq (req : Connect) (h : ∀ w, req.will = some w → willOk w = true) :
    initWill req = req.will.map willMsg := by
  unfold initWill
  cases hw : req.will with
  | none => rfl
  | some w =>
    have := (willOk_iff w (h w hw)).2.1
    simp only [Option.map_some, validTopic_eq, this, ↓reduceIte]
    rfl

/-- `start`: the connection is registered for the session object `σ'` and subscribed to its topics; the
reference broker records the connection (`k'`) and lets it hold the subscriptions `subs` stored for
the client -/
theorem R_connect {b b' : B} {s : Spec.Broker.S} (h : R b s) {c : Nat} {σ' : Sess} {k' : Spec.Broker.Conn}
    {subs : List (Bytes × Nat)} (hclt : c < cbBase) (hdead : b.alive c = false)
    (hσ' : b.getSess σ'.ref = some σ') (hst : b.storeGet σ'.cid = some σ'.ref)
    (hcf : ∀ c' τ, liveSess b c' = some τ → τ.cid ≠ σ'.cid)
    (hb' : b' = { addConn b c σ'.ref with topics := resubscribe b.topics c σ'.topics })
    (hkid : k'.id = c) (hcid : CidRel c σ'.cid k'.cid k'.clean) (hclean : σ'.clean = k'.clean)
    (hwf : σ'.willFlag = k'.will.isSome) (hwill : σ'.will = k'.will.map willMsg)
    (hwok : ∀ w, k'.will = some w → willOk w = true) (ho2 : k'.open2 = toOpen2 σ'.pub2in)
    (hq2 : ∀ e ∈ σ'.pub2in, pubOk e.msg = true) (htr : TopicsRel σ'.topics subs) :
    R b' { s with held := subs.foldl (fun h p => addHeld h c p.1 p.2) s.held,
                  conns := (Spec.Broker.setConn s k').conns } := by
  subst hb'
  -- the connection number is not in use: nothing is held for it
  have hnoc : ∀ x ∈ s.held, x.owner ≠ c := by
    intro x hx he
    have := h.owners x hx (by rw [he]; exact hclt)
    rw [he, hdead] at this; cases this
  have hok : ∀ p ∈ subs, subOk p = true := fun p hp => htr.ok p (htr.perm.mem_iff.mpr hp)
  have hokg : ∀ p, subOk p = true → good p.1 = true ∧ validFilter p.1 = true := by
    intro p hp
    simp only [subOk, Bool.and_eq_true] at hp
    exact hp.1
  rw [foldl_addHeld_fresh c subs s.held ((htr.perm.map (·.1)).nodup_iff.mp htr.nodup)
    (fun x hx he => absurd he (hnoc x hx))]
  refine R_at h (h.moves ((Moves.one (.conn b c hσ')).trans (Mqtt.Proofs.Broker.resubscribe_moves c σ'.topics _))) c
    σ'.cid (some σ')
    (hls := fun c' => by rw [← hσ']; exact liveSess_addConn (b := b) c σ'.ref rfl rfl c')
    (hsg := fun _ _ => rfl)
    (hrr := Mqtt.Proofs.Broker.resubscribe_rroot c σ'.topics b.topics)
    (hheld := ?_)
    (hat := .append_mkHeld s.held c subs (fun p hp => (hokg p (hok p hp)).1))
    (hownc := nofun) (hnone := nofun) (hX := fun _ => nofun)
    (hrets := rfl)
    (hmnd := mconns_addConn b c σ'.ref h.mconns)
    (hnd := spec_setConn_nodup s k' h.sconns)
    (hgc := fun c' he => spec_getConn_setConn_ne s k' c' (hkid ▸ Ne.symm he))
    (hsome := ?_)
    (hold := fun τ ht => by rw [liveSess_dead hdead] at ht; cases ht)
    (hfree := fun c' τ _ ht => hcf c' τ ht)
    (hres := fun x _ _ => resumable_congr rfl rfl x)
    (hlk := fun _ _ _ => rfl)
  · -- the trie holds the stored subscriptions again
    have hr := h.held.resubscribe h.inv.wf c σ'.topics (fun tq htq => (hokg tq (htr.ok tq htq)).1)
    rw [specSubHeld_fresh c σ'.topics s.held htr.nodup htr.ok (fun x hx he => absurd he (hnoc x hx))] at hr
    have hperm := (List.Perm.refl s.held).append (htr.perm.map (mkHeld c))
    exact ⟨hr.perm.trans (hperm.map heldEntry), fun x hx => hr.valid x (hperm.mem_iff.mpr hx)⟩
  · intro τ ht
    cases ht
    refine ⟨hclt, rfl, k', by rw [← hkid]; exact Mqtt.Proofs.BrokerQos.spec_getConn_setConn s k',
      { cid := hcid, clean := hclean, willFlag := hwf, will := hwill, willOk := hwok, open2 := ho2, q2ok := hq2,
        topics := ?_, store := hst }⟩
    show TopicsRel σ'.topics (heldOfL (s.held ++ subs.map (mkHeld c)) c)
    have : heldOfL s.held c = [] := by
      unfold heldOfL
      rw [List.map_eq_nil_iff, List.filter_eq_nil_iff]
      intro x hx; simpa using hnoc x hx
    rw [heldOfL_append, heldOfL_mkHeld_self, this, List.nil_append]
    exact htr

theorem first_accepted_refines {b : B} {s : Spec.Broker.S} (h : R b s) (c : Nat) (req : Connect) (a : Bool)
    (hacc : Mqtt.Proofs.BrokerLife.accepts (.connect req) a = true)
    (hclt : c < cbBase) (hdead : b.alive c = false)
    (hwok : ∀ w, req.will = some w → willOk w = true)
    (hcf : ∀ c' τ, liveSess b c' = some τ → τ.cid ≠ effCid c req) :
    R (first b c (.connect req) a).1 (Spec.Broker.first s c (.connect req) a).1 ∧
    (first b c (.connect req) a).2 = [.send c (.connack (specPrior s c req).isSome 0)] ∧
    (Spec.Broker.first s c (.connect req) a).2 = [.send c (.connack (specPrior s c req).isSome 0)] := by
  have hreal : req.clientId.isEmpty = false → realCid req.clientId = true := realCid_of_accepts hacc
  rw [Mqtt.Proofs.BrokerLife.first_accepted b c req a hacc]
  rw [spec_first_accepted s c req a ((Mqtt.Proofs.BrokerLife.refusals_nil_iff req a).mpr hacc)]
  have Rf := R_failed h c req hreal hcf
  have hf := Filed.failed h.linv c req
  obtain ⟨f3, f4⟩ := acceptedSess_cid h.linv c req
  obtain ⟨f5, f6⟩ := Mqtt.Proofs.BrokerLife.acceptedSess_will b c req
  have hlsf := hf.liveSess_free h.linv (f3 ▸ hcf)
  obtain ⟨hsp, htr, ho2, hq2⟩ := prior_rel h c req hreal hcf
  refine ⟨?_, by rw [Mqtt.Proofs.BrokerLife.accepted_sp, hsp], rfl⟩
  refine R_connect Rf (σ' := acceptedSess b c req) hclt
    (hdead := by rw [Mqtt.Proofs.Broker.alive_congr _ _ (failed_conns b c req)]; exact hdead)
    (hσ' := by rw [hf.getSess, if_pos rfl]) (hst := by rw [hf.storeGet, if_pos rfl])
    (hcf := fun c' τ hτ => f3 ▸ hcf c' τ (by rw [← hlsf]; exact hτ))
    (hb' := ?_) (hkid := rfl) (hcid := ?_) (hclean := f4.trans (specClean_eq req).symm) (hwf := f5)
    (hwill := f6.trans (initWill_eq req hwok)) (hwok := hwok) (ho2 := ho2) (hq2 := hq2) (htr := htr)
  · unfold accepted acceptedSess failed
    cases resumed b c req <;> rfl
  · show CidRel c (acceptedSess b c req).cid (specCid c req) (specClean req)
    rw [f3]
    exact cidRel_eff c req hreal

end Mqtt.Proofs.BrokerRefine
