/-
What the parts of a step leave alone.  The publish machinery (`onPublish`, `releaseAll`,
`sendRetained`) changes only the retained tree and the packet-identifier counter
(`BrokerQos.Frame`); `Frame` here says nothing of the tries and is what `linv_frame` asks.  What an
operation does to the tables, accessor by accessor: `Ended` for the end of a live connection,
`served_tables` for a packet on a live connection (an accepted CONNECT: `accepted_*`, BrokerLife.lean /
BrokerLifeSession.lean).
-/
import Mqtt.Proofs.BrokerQos

namespace Mqtt.Proofs.BrokerLife
open Mqtt.Iface.Broker Mqtt.Model.Broker
open Mqtt.Model.Topics (MemTopics)

/-- `b'` differs from `b` at most in the tries and the packet-id counter -/
structure Frame (b b' : B) : Prop where
  sess : b'.sess = b.sess
  store : b'.store = b.store
  conns : b'.conns = b.conns
  nextRef : b'.nextRef = b.nextRef

theorem Frame.getSess {b b' : B} (h : Frame b b') (r : Nat) : b'.getSess r = b.getSess r := by
  unfold B.getSess; rw [h.sess]

theorem Frame.getConn {b b' : B} (h : Frame b b') (c : Nat) : b'.getConn c = b.getConn c := by
  unfold B.getConn; rw [h.conns]

theorem Frame.alive {b b' : B} (h : Frame b b') (c : Nat) : b'.alive c = b.alive c := by
  unfold B.alive; rw [h.getConn]

theorem Frame.storeGet {b b' : B} (h : Frame b b') (cid : Bytes) : b'.storeGet cid = b.storeGet cid := by
  unfold B.storeGet; rw [h.store]

theorem frame_topics (b : B) (ts : MemTopics) : Frame b { b with topics := ts } := ⟨rfl, rfl, rfl, rfl⟩

theorem step_srvPub (b : B) (p : Pub) : (step b (.srvPub p)).1 = (onPublish b ⟨p, true⟩).1 :=
  Mqtt.Proofs.Broker.srvPub_fst b p

theorem step_srvSub (b : B) (cb : Nat) (f : Bytes) (q : Nat) :
    (step b (.srvSub cb f q)).1 = { b with topics := (b.topics.subscribe Generated.maxQosAllowed f q cb).1 } :=
  Mqtt.Proofs.Broker.srvSub_fst b cb f q

/-- What the end of live connection `c`, served by session object `s`, leaves: `b'` is the state
afterwards and `s'` the session object - `s`, or `s` with its will message as the publication
left it.  (A clean session whose will flag is set without a will message stays filed: that branch
of `Model.Broker.stop` mirrors a recovered nil dereference, which skips the deletion.) -/
structure Ended (b : B) (c : Nat) (s : Sess) (b' : B) (s' : Sess) : Prop where
  sess : s' = s ∨ ∃ w, s' = { s with will := some w }
  conns : b'.conns = (markDead b c).conns
  sroot : b'.topics.sroot = (unsubAll b.topics c s.topics).sroot
  store : b'.store =
    if s.clean && (!s.willFlag || s.will.isSome) then b.store.filter (fun p => p.1 != s.cid) else b.store
  getSess : ∀ r, b'.getSess r = if r = s.ref then some s' else b.getSess r

/-- the three branches of `stop_live` end in `if d then b2.storeDel s.cid else b2` for three conditions `d`;
each is the condition of `Ended.store` in its branch (`hd`) -/
theorem Ended.discard {b : B} {c : Nat} {s : Sess} {b2 : B} {s' : Sess}
    (sess : s' = s ∨ ∃ w, s' = { s with will := some w }) (conns : b2.conns = (markDead b c).conns)
    (sroot : b2.topics.sroot = (unsubAll b.topics c s.topics).sroot)
    (store : b2.store = b.store) (getSess : ∀ r, b2.getSess r = if r = s.ref then some s' else b.getSess r)
    (d : Bool) (hd : d = (s.clean && (!s.willFlag || s.will.isSome))) :
    Ended b c s (if d then b2.storeDel s.cid else b2) s' := by
  cases d with
  | true => exact ⟨sess, conns, sroot, by rw [← hd]; exact congrArg (List.filter _) store, getSess⟩
  | false => exact ⟨sess, conns, sroot, by rw [← hd]; exact store, getSess⟩

theorem stop_ended (b : B) (c : Nat) (cn : Conn) (s : Sess)
    (hc : b.getConn c = some cn) (ha : cn.alive = true) (hs : b.getSess cn.sess = some s) :
    ∃ s', Ended b c s (stop b c).1 s' := by
  have hs' := getSess_self (getSess_ref hs ▸ hs)
  rw [stop_live b c cn s hc ha hs]
  by_cases hf : s.willFlag = true
  · rw [if_pos hf]
    cases hw : s.will with
    | none => exact ⟨s, .discard (b2 := stopBase b c s) (sess := .inl rfl) (conns := rfl) (sroot := rfl) (store := rfl)
        (getSess := hs') (d := false) (by rw [hf, hw]; simp)⟩
    | some w =>
      have hp := BrokerQos.onPublish_frame (stopBase b c s) w
      have hr := hp.sroot
      dsimp only
      generalize onPublish (stopBase b c s) w = r at hp hr ⊢
      exact ⟨_, .discard (b2 := r.1.setSess { s with will := some r.2.1 }) (sess := .inr ⟨_, rfl⟩) (conns := hp.conns)
        (sroot := hr) (store := hp.store)
        (getSess := fun x => (getSess_setSess_eq _ _ x).trans (by rw [hp.getSess]; rfl)) (d := s.clean) (by rw [hf, hw]; simp)⟩
  · rw [if_neg hf]
    exact ⟨s, .discard (b2 := stopBase b c s) (sess := .inl rfl) (conns := rfl) (sroot := rfl) (store := rfl)
      (getSess := hs') (d := s.clean) (by simp [hf])⟩

theorem stop_getConn (b : B) (c d : Nat) : (stop b c).1.getConn d = (markDead b c).getConn d := by
  rcases Broker.stop_cases b c with ⟨hal, h⟩ | h | ⟨cn, s, hc, ha, hs⟩
  · rw [h, getConn_markDead_dead b c d hal]
  · rw [h]
  · obtain ⟨s', h⟩ := stop_ended b c cn s hc ha hs
    unfold B.getConn; rw [h.conns]

theorem stop_not_alive (b : B) (c : Nat) : (stop b c).1.alive c = false := by
  unfold B.alive; rw [stop_getConn]; exact markDead_alive_self b c

theorem stop_alive_ne (b : B) (c d : Nat) (h : c ≠ d) : (stop b c).1.alive d = b.alive d := by
  unfold B.alive; rw [stop_getConn, getConn_markDead_ne b c d h]

theorem stop_getConn_ne (b : B) (c' c : Nat) (hne : c' ≠ c) : (stop b c').1.getConn c = b.getConn c := by
  rw [stop_getConn, getConn_markDead_ne b c' c hne]

theorem stop_getSess_ne (b : B) (c r : Nat) (h : ∀ cn, b.getConn c = some cn → cn.sess ≠ r) :
    (stop b c).1.getSess r = b.getSess r := by
  rcases Broker.stop_cases b c with ⟨_, h1⟩ | h1 | ⟨cn, s, hc, ha, hs⟩
  · rw [h1]
  · rw [h1]; rfl
  · obtain ⟨s', h1⟩ := stop_ended b c cn s hc ha hs
    rw [h1.getSess, if_neg]
    exact fun e => h cn hc ((getSess_ref hs).symm.trans e.symm)

def sameWill (s s' : Sess) : Prop := s'.will = s.will ∧ s'.willFlag = s.willFlag

/-- What packet `p` on live connection `c`, served by session object `s`, does to the tables: `b'` is the state
afterwards, `s'` the session object.  A DISCONNECT clears the will flag and ends `c`, and that end may touch
the will message: hence the two exceptions. -/
structure Served (b : B) (c : Nat) (s : Sess) (p : Packet) (b' : B) (s' : Sess) : Prop where
  will : p ≠ .disconnect → sameWill s s'
  pub2in : s'.pub2in = BrokerQos.newQ p s.pub2in
  getSess : ∀ r, b'.getSess r = if r = s.ref then some s' else b.getSess r
  getConn : ∀ d, (p = .disconnect → c ≠ d) → b'.getConn d = b.getConn d

theorem served_tables {b : B} {c : Nat} {cn : Conn} {s : Sess}
    (hc : b.getConn c = some cn) (ha : cn.alive = true) (hs : b.getSess cn.sess = some s) (p : Packet) :
    ∃ s', Served b c s p (served b c s p).1 s' := by
  have hs' : b.getSess s.ref = some s := getSess_ref hs ▸ hs
  cases p with
  | publish pub =>
    have hq : BrokerQos.newQ (.publish pub) s.pub2in = if pub.qos == 2 then q2Wait s.pub2in pub else s.pub2in := rfl
    simp only [served]
    cases h2 : pub.qos == 2 <;> rw [h2] at hq
    · have hf := BrokerQos.onPublish_frame b ⟨pub, false⟩
      generalize onPublish b ⟨pub, false⟩ = o at hf ⊢
      cases pub.qos == 1 <;>
        exact ⟨s, fun _ => ⟨rfl, rfl⟩, hq.symm, fun r => (hf.getSess r).trans (getSess_self hs' r), fun d _ => hf.getConn d⟩
    · exact ⟨{ s with pub2in := q2Wait s.pub2in pub }, fun _ => ⟨rfl, rfl⟩, hq.symm, getSess_setSess_eq b _, fun _ _ => rfl⟩
  | pubrel id =>
    have hf := BrokerQos.releaseAll_frame (b.setSess { s with pub2in := (q2Acked (q2Ack s.pub2in id)).1 }) (q2Acked (q2Ack s.pub2in id)).2
    simp only [served]
    generalize releaseAll _ _ = o at hf ⊢
    exact ⟨{ s with pub2in := (q2Acked (q2Ack s.pub2in id)).1 }, fun _ => ⟨rfl, rfl⟩, rfl,
      fun r => (hf.getSess r).trans (getSess_setSess_eq b _ r), fun d _ => hf.getConn d⟩
  | subscribe id topics =>
    obtain ⟨_, e⟩ := Broker.served_subscribe b c s id topics
    rw [e]
    exact ⟨{ s with topics := Broker.subTopics topics s.topics }, fun _ => ⟨rfl, rfl⟩, rfl,
      getSess_setSess_eq { b with topics := _ } _, fun _ _ => rfl⟩
  | unsubscribe id topics =>
    exact ⟨{ s with topics := s.topics.filter (fun p => !topics.contains p.1) }, fun _ => ⟨rfl, rfl⟩, rfl,
      getSess_setSess_eq { b with topics := _ } _, fun _ _ => rfl⟩
  | disconnect =>
    have hs0 : (b.setSess { s with willFlag := false }).getSess cn.sess = some { s with willFlag := false } := by
      rw [← getSess_ref hs]; exact getSess_setSess b { s with willFlag := false }
    obtain ⟨s', h⟩ := stop_ended (b.setSess { s with willFlag := false }) c cn _ hc ha hs0
    refine ⟨s', fun h0 => absurd rfl h0, by rcases h.sess with rfl | ⟨w, rfl⟩ <;> rfl, fun r => (h.getSess r).trans ?_,
      fun d hd => stop_getConn_ne _ c d fun e => hd rfl e⟩
    split
    · rfl
    · rename_i hne; exact getSess_setSess_ne b _ r (Ne.symm hne)
  | _ => exact ⟨s, fun _ => ⟨rfl, rfl⟩, rfl, getSess_self hs', fun _ _ => rfl⟩

theorem acceptedSess_will (b : B) (c : Nat) (req : Connect) :
    (acceptedSess b c req).willFlag = req.will.isSome ∧ (acceptedSess b c req).will = initWill req := by
  unfold acceptedSess
  cases resumed b c req <;> exact ⟨rfl, rfl⟩

theorem initWill_some (req : Connect) (w : Will) (h : req.will = some w) (hv : validTopic w.topic = true) :
    initWill req = some ⟨{ qos := w.qos, retain := w.retain, topic := w.topic, payload := w.payload }, true⟩ := by
  unfold initWill
  simp [h, hv]

theorem stop_out_will (b : B) (c : Nat) (cn : Conn) (s : Sess) (w : Msg)
    (hc : b.getConn c = some cn) (ha : cn.alive = true) (hs : b.getSess cn.sess = some s)
    (hf : s.willFlag = true) (hw : s.will = some w) :
    (stop b c).2 = .closed c :: (onPublish (stopBase b c s) w).2.2.1 := by
  rw [stop_live b c cn s hc ha hs]
  simp only [hf, hw, ↓reduceIte]

theorem stop_out_nowill (b : B) (c : Nat) (cn : Conn) (s : Sess)
    (hc : b.getConn c = some cn) (ha : cn.alive = true) (hs : b.getSess cn.sess = some s)
    (hf : s.willFlag = false) :
    (stop b c).2 = [.closed c] := by
  rw [stop_live b c cn s hc ha hs]
  simp only [hf, Bool.false_eq_true, ↓reduceIte]

end Mqtt.Proofs.BrokerLife
