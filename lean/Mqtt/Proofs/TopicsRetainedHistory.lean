/-
Core B: histories, retained part.  The retained trie reached by any list of `okOp` operations
holds, up to permutation, the abstract store's retained messages (last non-empty message per
topic), and `Retained` answers as section 4.7 prescribes.  Same argument as for the subscriptions.
-/
import Mqtt.Proofs.TopicsHistory

namespace Mqtt.Proofs.Topics
open Mqtt.Model.Topics Mqtt.Iface.Topics
open Mqtt.Spec.Match (split validFilter validFilterLevels validName topicMatches dollar)
open Mqtt.Spec.TopicStore (S Ret step)
open Mqtt.Driver.Topics (modelStep)

/-- what the driver stores for `retain t q p` -/
def toRMsg (r : Ret) : RMsg := { topic := r.topic, qos := r.qos, payload := r.payload }
/-- what the driver prints for a stored message -/
def toRet (m : RMsg) : Ret := ⟨m.topic, m.qos, m.payload⟩

theorem toRet_toRMsg (r : Ret) : toRet (toRMsg r) = r := rfl

def absRets (rets : List Ret) : List REntry := rets.map (fun r => (split r.topic, toRMsg r))

structure RInv (root : RNode) (rets : List Ret) : Prop where
  wf : RWF root
  perm : (absR root).Perm (absRets rets)

/-- a good operation: no empty level, not beginning with '$'; a retained topic is a valid name -/
def goodOp (op : Op) : Bool :=
  good (opTopic op) && (match op with | .retain t _ _ => validName t | _ => true)

/-- an operation the retained refinement admits: no empty level, or the empty
topic (which every entry point refuses and the specification ignores); a
retained topic is a valid name or empty (it may begin with '$': then both sides
ignore it) -/
def okOp (op : Op) : Bool :=
  admitted (opTopic op) && (match op with | .retain t _ _ => validName t || t.isEmpty | _ => true)

theorem goodOp_okOp (op : Op) (h : goodOp op = true) : okOp op = true := by
  cases op with
  | retain t q p =>
    have h := Bool.and_eq_true_iff.mp h
    exact Bool.and_eq_true_iff.mpr ⟨good_admitted _ h.1, Bool.or_eq_true_iff.mpr (.inl h.2)⟩
  | _ => exact Bool.and_eq_true_iff.mpr ⟨good_admitted _ (Bool.and_eq_true_iff.mp h).1, rfl⟩

def specRets (rets : List Ret) : Op → List Ret
  | .retain t q p =>
      if dollar t || !validName t then rets
      else if p.isEmpty then rets.filter (fun r => !(r.topic == t))
      else rets.filter (fun r => !(r.topic == t)) ++ [⟨t, q, p⟩]
  | _ => rets

theorem step_rets (s : S) (op : Op) : (step s op).1.rets = specRets s.rets op := by
  cases op <;>
    simp only [step, specRets, apply_ite (fun x : S × Mqtt.Spec.TopicStore.Out => x.1.rets), ite_self]

theorem absRets_filter (rets : List Ret) (t : List UInt8) :
    (absRets rets).filter (fun e => !(e.1 == split t)) = absRets (rets.filter (fun r => !(r.topic == t))) := by
  rw [absRets, absRets, List.filter_map]
  refine congrArg _ (List.filter_congr fun r _ => congrArg Bool.not ?_)
  exact split_beq r.topic t

theorem rinv_step_any (mt : MemTopics) (rets : List Ret) (op : Op) (hg : okOp op = true)
    (h : RInv mt.rroot rets) : RInv (modelStep mt op).1.rroot (specRets rets op) := by
  rw [modelStep_fst]
  cases op with
  | sub f q sub => dsimp only; rw [subscribe_rroot]; exact h
  | unsub f sub => dsimp only; rw [unsubscribe_rroot]; exact h
  | unsubAll f => dsimp only; rw [unsubscribe_rroot]; exact h
  | subs t q => exact h
  | retained f => exact h
  | retain t q p =>
    dsimp only
    rw [okOp, Bool.and_eq_true] at hg
    obtain ⟨hwf, hp, _⟩ := retain_contract mt { topic := t, qos := q, payload := p } h.wf
    rw [specRets]
    cases hok : (entryLevels t).2 with
    | false =>
      -- the walk fails: the topic begins with '$' or is no valid filter, hence no valid name
      have hs : (dollar t || !validName t) = true := by
        rw [entryLevels_ok] at hok
        cases hd : dollar t with
        | true => rfl
        | false =>
          rw [hd, Bool.not_false, Bool.and_true] at hok
          cases hn : validName t with
          | false => rfl
          | true => rw [validName_validFilter t hn] at hok; cases hok
      rw [hs, if_pos rfl]
      rw [show (entryLevels (RMsg.topic { topic := t, qos := q, payload := p })).2 = false from hok] at hp
      exact ⟨hwf, hp.trans h.perm⟩
    | true =>
      obtain ⟨hv, hd, he⟩ := entryLevels_of_ok t hg.1 hok
      have hn : validName t = true := by
        rcases Bool.or_eq_true_iff.mp hg.2 with hn | hn
        · exact hn
        · rw [List.isEmpty_iff.mp hn] at hv; cases hv
      rw [hd, hn, if_neg (show ¬(false || !true) = true from Bool.false_ne_true)]
      rw [show entryLevels (RMsg.topic { topic := t, qos := q, payload := p }) = (split t, true) from he,
        if_pos rfl] at hp
      have hf := (h.perm.filter (fun e => !(e.1 == split t))).trans (.of_eq (absRets_filter rets t))
      refine ⟨hwf, hp.trans ?_⟩
      show ((List.filter _ _) ++ if p.isEmpty = true then [] else _).Perm _
      cases p.isEmpty with
      | true => exact (List.append_nil _).symm ▸ hf
      | false =>
        rw [if_neg Bool.false_ne_true, if_neg Bool.false_ne_true, absRets, List.map_append]
        exact hf.append_right _

theorem rinv_run_any (ops : List Op) (hg : ∀ op ∈ ops, okOp op = true) :
    RInv (mrun ops).rroot (srun ops).rets :=
  List.foldl_rel (f := fun mt op => (modelStep mt op).1) (g := fun s op => (step s op).1)
    (a := MemTopics.new) (b := Mqtt.Spec.TopicStore.empty)
    (r := fun mt s => RInv mt.rroot s.rets) ⟨RWF_empty, .refl _⟩
    fun op hop mt s hi => by rw [step_rets]; exact rinv_step_any mt s.rets op (hg op hop) hi

theorem run_rinv (ops : List Op) (hg : ∀ op ∈ ops, goodOp op = true) :
    RInv (mrun ops).rroot (srun ops).rets :=
  rinv_run_any ops fun op hop => goodOp_okOp op (hg op hop)

theorem pick_absRets (rets : List Ret) (fs : List Level) :
    (pick (rwalk fs) id (absRets rets)).map toRet = rets.filter (fun r => rwalk fs (split r.topic)) := by
  rw [pick_eq, absRets, List.filter_map, List.map_map, List.map_map]
  exact List.map_id' _

theorem retained_refines (mt : MemTopics) (rets : List Ret) (f : List UInt8)
    (h : RInv mt.rroot rets) (hg : good f = true) (hv : validFilter f = true) :
    ∃ r, mt.retained f = some r ∧ (r.map toRet).Perm (rets.filter (fun r => topicMatches f r.topic)) := by
  obtain ⟨e1, e2⟩ := entryLevels_valid f hg hv
  obtain ⟨r, hr, hp⟩ := retained_contract mt f h.wf e2
  rw [e1] at hp
  have hvl : validFilterLevels (split f) = true := (Bool.and_eq_true_iff.mp hv).2
  refine ⟨r, hr, ((hp.trans (pick_perm (rwalk (split f)) id h.perm)).map toRet).trans (.of_eq ?_)⟩
  rw [pick_absRets]
  exact List.filter_congr fun r _ => rwalk_eq_matchLevels (split f) hvl _

end Mqtt.Proofs.Topics
