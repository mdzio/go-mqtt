/-
Core A (codec), the readers everything else is composed of: outcomes, Go slices, the two
readings of a remaining length (`binary.Uvarint` and section 2.2.3 of the specification),
`Type.New`, and `header.decode` in closed form and by what it establishes (`HdrDecoded`, `hdr_decode_total`);
the `facts_*` lemmas tie `Generated.Facts` to the numbers of the specification.
-/
import Mqtt.Model.Codec
import Mqtt.Spec.Wire

namespace Mqtt.Proofs.Codec

open Mqtt.Model.Codec Mqtt.Iface.Codec Mqtt.Generated
open Mqtt.Spec

@[simp] theorem bind_ok {α β} (a : α) (f : α → Outcome β) : (Outcome.ok a).bind f = f a := rfl
@[simp] theorem bind_err {α β} (f : α → Outcome β) : (Outcome.err : Outcome α).bind f = .err := rfl
@[simp] theorem bind_panic {α β} (f : α → Outcome β) : (Outcome.panic : Outcome α).bind f = .panic := rfl

/-- an outcome that is an error or a success satisfying `P`: what every reader is shown to be.
The four rules below follow the shape of the readers (`bind`, an early `return err`, the final `return`). -/
def Total {α : Type} (o : Outcome α) (P : α → Prop) : Prop :=
  o = .err ∨ ∃ a, o = .ok a ∧ P a

theorem Total.err {α : Type} {P : α → Prop} : Total .err P := .inl rfl

theorem Total.ok {α : Type} {P : α → Prop} {a : α} (h : P a) : Total (.ok a) P := .inr ⟨a, rfl, h⟩

theorem Total.bind {α β : Type} {o : Outcome α} {f : α → Outcome β} {P : α → Prop} {Q : β → Prop}
    (h : Total o P) (hf : ∀ a, o = .ok a → P a → Total (f a) Q) : Total (o.bind f) Q := by
  rcases h with h | ⟨a, h, ha⟩
  · rw [h]; exact .err
  · rw [h]; exact hf a h ha

theorem Total.guard {α : Type} {c : Prop} [Decidable c] {o : Outcome α} {Q : α → Prop}
    (h : ¬ c → Total o Q) : Total (if c then .err else o) Q := by
  by_cases hc : c
  · rw [if_pos hc]; exact .err
  · rw [if_neg hc]; exact h hc

theorem Total.mono {α : Type} {o : Outcome α} {P Q : α → Prop} (h : Total o P) (hpq : ∀ a, P a → Q a) : Total o Q :=
  h.imp id fun ⟨a, e, ha⟩ => ⟨a, e, hpq a ha⟩

theorem Total.ne_panic {α : Type} {o : Outcome α} {P : α → Prop} (h : Total o P) : o ≠ .panic := by
  rcases h with h | ⟨a, h, _⟩ <;> rw [h] <;> intro x <;> cases x

theorem Total.of_ok {α : Type} {o : Outcome α} {P : α → Prop} {a : α} (h : Total o P) (ha : o = .ok a) : P a := by
  rcases h with h | ⟨b, h, hb⟩
  · rw [h] at ha; cases ha
  · rw [h] at ha; cases ha; exact hb

theorem bind_eq_ok {α β : Type} {o : Outcome α} {f : α → Outcome β} {b : β} :
    o.bind f = .ok b ↔ ∃ a, o = .ok a ∧ f a = .ok b := by
  cases o <;> simp [Outcome.bind]

theorem ite_err_eq_ok {α : Type} {c : Prop} [Decidable c] {o : Outcome α} {a : α} :
    (if c then .err else o) = .ok a ↔ ¬ c ∧ o = .ok a := by
  by_cases hc : c
  · rw [if_pos hc]
    constructor
    · intro h; cases h
    · intro h; exact absurd hc h.1
  · rw [if_neg hc]; exact ⟨fun h => ⟨hc, h⟩, fun h => h.2⟩

theorem sliceFrom_ok {s : Bytes} {lo : Nat} (h : lo ≤ s.length) : sliceFrom s lo = .ok (s.drop lo) := by
  unfold sliceFrom; rw [if_pos h]
theorem sliceTo_ok {s : Bytes} {hi : Nat} (h : hi ≤ s.length) : sliceTo s hi = .ok (s.take hi) := by
  unfold sliceTo; rw [if_pos h]
theorem sliceTo_inv {s v : Bytes} {hi : Nat} (h : sliceTo s hi = .ok v) : hi ≤ s.length ∧ v = s.take hi := by
  unfold sliceTo at h
  split at h
  · injection h with h; exact ⟨by assumption, h.symm⟩
  · cases h
theorem slice_ok {s : Bytes} {lo hi : Nat} (h1 : lo ≤ hi) (h2 : hi ≤ s.length) :
    slice s lo hi = .ok ((s.drop lo).take (hi - lo)) := by
  unfold slice; rw [if_pos ⟨h1, h2⟩]
theorem index_ok {s : Bytes} {i : Nat} (h : i < s.length) : index s i = .ok s[i] := by
  unfold index; rw [List.getElem?_eq_getElem h]

theorem index_ok' {s : Bytes} {i : Nat} (h : i < s.length) : ∃ b, index s i = .ok b := ⟨_, index_ok h⟩

theorem u8_ofNat_toNat {n : Nat} (h : n < 256) : (UInt8.ofNat n).toNat = n := by
  simp [Nat.mod_eq_of_lt h]

/-- a property of bytes that holds of the 256 numerals holds of every byte (what `decide` can check) -/
theorem forall_u8 (P : UInt8 → Prop) (h : ∀ n : Fin 256, P (UInt8.ofNat n.val)) : ∀ b : UInt8, P b := by
  intro b
  have := h ⟨b.toNat, b.toNat_lt⟩
  simpa using this

theorem sliceTo_eq {s a b : Bytes} {k : Nat} (h : s = a ++ b) (hk : k = a.length) : sliceTo s k = .ok a := by
  subst h; subst hk
  rw [sliceTo_ok (by simp)]; simp
theorem slice_eq {s a m b : Bytes} {lo hi : Nat} (h : s = a ++ (m ++ b)) (hlo : lo = a.length) (hhi : hi = a.length + m.length) :
    slice s lo hi = .ok m := by
  subst h; subst hlo; subst hhi
  rw [slice_ok (by omega) (by simp)]; simp
theorem index_eq {s a b : Bytes} {x : UInt8} {k : Nat} (h : s = a ++ x :: b) (hk : k = a.length) : index s k = .ok x := by
  subst h; subst hk
  unfold index
  simp

/-- a positive count `n` of `binary.Uvarint` is the number of bytes read, and the value is below `128 ^ n` -/
theorem uvarintAux_ok (buf : Bytes) : ∀ (i x : Nat), x < 128 ^ i → 0 < (uvarintAux buf i x).2 →
    (i : Int) < (uvarintAux buf i x).2 ∧ (uvarintAux buf i x).2 ≤ (i : Int) + buf.length ∧
    (uvarintAux buf i x).1 < 128 ^ (uvarintAux buf i x).2.toNat := by
  induction buf with
  | nil => intro i x _ h; simp [uvarintAux] at h
  | cons b rest ih =>
    intro i x hx h
    unfold uvarintAux at h ⊢
    by_cases c1 : i = 10
    · rw [if_pos c1] at h; simp only [] at h; omega
    rw [if_neg c1] at h ⊢
    by_cases c2 : b.toNat < 128
    · rw [if_pos c2] at h ⊢
      by_cases c3 : i = 9 ∧ b.toNat > 1
      · rw [if_pos c3] at h; simp only [] at h; omega
      · rw [if_neg c3]
        simp only [List.length_cons]
        have e : ((i : Int) + 1).toNat = i + 1 := by omega
        rw [e, Nat.pow_succ]
        have hb : b.toNat * 128 ^ i ≤ 127 * 128 ^ i := Nat.mul_le_mul_right _ (by omega)
        have := Nat.mod_le (x + b.toNat * 128 ^ i) (2 ^ 64)
        omega
    · rw [if_neg c2] at h ⊢
      have hb : b.toNat % 128 * 128 ^ i ≤ 127 * 128 ^ i := Nat.mul_le_mul_right _ (by omega)
      have := ih (i+1) _ (by rw [Nat.pow_succ]; omega) h
      simp only [List.length_cons]
      omega

/-- where `Uvarint` reports no value (no final byte, or overflow) it returns 0 -/
theorem uvarintAux_fail (buf : Bytes) : ∀ (i x : Nat), (uvarintAux buf i x).2 ≤ 0 → (uvarintAux buf i x).1 = 0 := by
  induction buf with
  | nil => exact fun _ _ _ => rfl
  | cons b rest ih =>
    intro i x h
    unfold uvarintAux at h ⊢
    split
    · rfl
    next h10 =>
      rw [if_neg h10] at h
      split
      next hb =>
        rw [if_pos hb] at h
        split
        · rfl
        next h9 => rw [if_neg h9] at h; exact absurd h (by simp only []; omega)
      next hb => rw [if_neg hb] at h; exact ih _ _ h

theorem uvarint_bounds (buf : Bytes) (h1 : 0 < (uvarint buf).2) (h4 : (uvarint buf).2 ≤ 4) :
    (uvarint buf).1 < 2 ^ 28 ∧ (uvarint buf).2.toNat ≤ buf.length := by
  obtain ⟨_, c, v⟩ := uvarintAux_ok buf 0 0 (by simp) h1
  unfold uvarint at *
  refine ⟨?_, by omega⟩
  have : (uvarintAux buf 0 0).2.toNat ≤ 4 := by omega
  calc (uvarintAux buf 0 0).1 < 128 ^ (uvarintAux buf 0 0).2.toNat := v
    _ ≤ 128 ^ 4 := Nat.pow_le_pow_right (by omega) this
    _ = 2 ^ 28 := by decide

/-- the model's value always fits 64 bits (its last step reduces mod `2 ^ 64`) -/
theorem uvarintAux_lt_two_pow_64 (rest : Bytes) : ∀ (i x : Nat), (uvarintAux rest i x).1 < 2 ^ 64 := by
  induction rest with
  | nil => intro i x; simp [uvarintAux]
  | cons b rest ih =>
    intro i x
    unfold uvarintAux
    split
    · exact Nat.pow_pos (by omega)
    · split
      · split
        · exact Nat.pow_pos (by omega)
        · exact Nat.mod_lt _ (Nat.pow_pos (by omega))
      · exact ih _ _

theorem uvarint_lt_two_pow_64 (buf : Bytes) : (uvarint buf).1 < 2 ^ 64 :=
  uvarintAux_lt_two_pow_64 buf 0 0

theorem toInt32_small {v : Nat} (h : v < 2 ^ 28) : toInt32 v = (v : Int) := by
  unfold toInt32
  simp only []
  have : v % 2 ^ 32 = v := Nat.mod_eq_of_lt (by omega)
  rw [this, if_pos (by omega)]
  rfl

theorem putUvarintAux_small (m x : Nat) (h : x < 128) : putUvarintAux m x = [UInt8.ofNat x] := by
  cases m with
  | zero => rfl
  | succ m => rw [putUvarintAux, if_neg (Nat.not_le.mpr h)]

theorem putUvarintAux_big (m x : Nat) (h : 128 ≤ x) :
    putUvarintAux (m + 1) x = UInt8.ofNat (x % 128 + 128) :: putUvarintAux m (x / 128) := by
  rw [putUvarintAux, if_pos h]

theorem putUvarintAux_length_pos (m x : Nat) : 1 ≤ (putUvarintAux m x).length := by
  cases m with
  | zero => exact Nat.le_refl 1
  | succ m =>
    rw [putUvarintAux]
    split
    · exact Nat.le_add_left 1 _
    · exact Nat.le_refl 1

theorem putUvarintAux_length_le (m x : Nat) : (putUvarintAux m x).length ≤ m + 1 := by
  induction m generalizing x with
  | zero => exact Nat.le_refl 1
  | succ m ih =>
    rw [putUvarintAux]
    split
    · exact Nat.succ_le_succ (ih (x / 128))
    · exact Nat.le_add_left 1 _

theorem putUvarint_eq_varint (n : Nat) (h : n < 2 ^ 28) : putUvarint n = Wire.varint n := by
  unfold Wire.varint putUvarint
  by_cases h1 : n < 128
  · rw [if_pos h1, putUvarintAux_small _ _ h1]
  rw [if_neg h1, putUvarintAux_big _ _ (by omega)]
  by_cases h2 : n < 16384
  · rw [if_pos h2, putUvarintAux_small _ _ (by omega)]
  rw [if_neg h2, putUvarintAux_big _ _ (by omega), Nat.div_div_eq_div_mul]
  by_cases h3 : n < 2097152
  · rw [if_pos h3, putUvarintAux_small _ _ (by omega)]
  rw [if_neg h3, putUvarintAux_big _ _ (by omega), Nat.div_div_eq_div_mul, putUvarintAux_small _ _ (by omega)]

theorem str_length (s : Bytes) : (Wire.str s).length = 2 + s.length := by
  show s.length + 1 + 1 = _; omega

theorem getVarint_last (fuel x : Nat) (hx : x < 128) (r : Bytes) :
    Wire.getVarint (fuel + 1) (UInt8.ofNat x :: r) = some (x, r) := by
  unfold Wire.getVarint
  rw [u8_ofNat_toNat (by omega), if_pos hx]

theorem getVarint_cont (fuel x : Nat) (h2 : x < 128) (r : Bytes) (v : Nat) (r' : Bytes)
    (hr : Wire.getVarint fuel r = some (v, r')) :
    Wire.getVarint (fuel + 1) (UInt8.ofNat (x + 128) :: r) = some (x + 128 * v, r') := by
  unfold Wire.getVarint
  rw [u8_ofNat_toNat (by omega), if_neg (by omega), hr, Nat.add_mod_right, Nat.mod_eq_of_lt h2]

theorem getVarint_varint (n : Nat) (h : n ≤ 268435455) (tail : Bytes) :
    Wire.getVarint 4 (Wire.varint n ++ tail) = some (n, tail) := by
  have m := fun k => Nat.mod_lt k (show 128 > 0 by decide)
  have d2 : n / 16384 = n / 128 / 128 := by rw [Nat.div_div_eq_div_mul]
  have d3 : n / 2097152 = n / 128 / 128 / 128 := by rw [Nat.div_div_eq_div_mul, Nat.div_div_eq_div_mul]
  unfold Wire.varint
  by_cases h1 : n < 128
  · rw [if_pos h1]; exact getVarint_last 3 n h1 tail
  rw [if_neg h1]
  by_cases h2 : n < 16384
  · rw [if_pos h2]
    have := getVarint_cont 3 _ (m n) _ _ _ (getVarint_last 2 (n / 128) (by omega) tail)
    rwa [Nat.mod_add_div] at this
  rw [if_neg h2]
  by_cases h3 : n < 2097152
  · rw [if_pos h3, d2]
    have := getVarint_cont 3 _ (m n) _ _ _
      (getVarint_cont 2 _ (m (n / 128)) _ _ _ (getVarint_last 1 (n / 128 / 128) (by omega) tail))
    rwa [Nat.mod_add_div, Nat.mod_add_div] at this
  rw [if_neg h3, d2, d3]
  have := getVarint_cont 3 _ (m n) _ _ _
    (getVarint_cont 2 _ (m (n / 128)) _ _ _
      (getVarint_cont 1 _ (m (n / 128 / 128)) _ _ _ (getVarint_last 0 (n / 128 / 128 / 128) (by omega) tail)))
  rwa [Nat.mod_add_div, Nat.mod_add_div, Nat.mod_add_div] at this

theorem getVarint_lt : ∀ (fuel : Nat) (V : Bytes) (v : Nat) (r : Bytes),
    Wire.getVarint fuel V = some (v, r) → v < 128 ^ fuel ∧ 1 ≤ V.length - r.length ∧ V.length - r.length ≤ fuel ∧ r.length ≤ V.length := by
  intro fuel
  induction fuel with
  | zero => intro V v r h; simp [Wire.getVarint] at h
  | succ k ih =>
    intro V v r h
    cases V with
    | nil => simp [Wire.getVarint] at h
    | cons b t =>
      unfold Wire.getVarint at h
      split at h
      · rename_i hb
        injection h with h
        injection h with h1 h2
        subst h1; subst h2
        refine ⟨?_, by simp, by simp, by simp⟩
        have : 128 ^ 1 ≤ 128 ^ (k + 1) := Nat.pow_le_pow_right (by omega) (by omega)
        omega
      · cases hg : Wire.getVarint k t with
        | none => rw [hg] at h; simp at h
        | some y =>
          rw [hg] at h
          simp only [Option.some.injEq, Prod.mk.injEq] at h
          obtain ⟨h1, h2⟩ := h
          obtain ⟨i1, i2, i3, i4⟩ := ih t y.1 y.2 hg
          subst h2
          refine ⟨?_, by simp only [List.length_cons]; omega, by simp only [List.length_cons]; omega, by simp only [List.length_cons]; omega⟩
          rw [← h1, Nat.pow_succ]
          omega

theorem uvarintAux_getVarint_val : ∀ (fuel : Nat) (V : Bytes) (v : Nat) (tail : Bytes) (i x : Nat),
    Wire.getVarint fuel V = some (v, []) → i + fuel ≤ 9 →
    uvarintAux (V ++ tail) i x = ((x + v * 128 ^ i) % 2 ^ 64, (i : Int) + V.length) := by
  intro fuel
  induction fuel with
  | zero => intro V v tail i x h; simp [Wire.getVarint] at h
  | succ k ih =>
    intro V v tail i x h hi
    cases V with
    | nil => simp [Wire.getVarint] at h
    | cons b r =>
      unfold Wire.getVarint at h
      simp only [List.cons_append]
      unfold uvarintAux
      rw [if_neg (by omega)]
      split at h
      · rename_i hb
        injection h with h
        injection h with h1 h2
        subst h2
        rw [if_pos hb, if_neg (by omega), ← h1]
        simp
      · rename_i hb
        rw [if_neg hb]
        cases hg : Wire.getVarint k r with
        | none => rw [hg] at h; simp at h
        | some y =>
          rw [hg] at h
          simp only [Option.some.injEq, Prod.mk.injEq] at h
          have hy : Wire.getVarint k r = some (y.1, []) := by rw [hg, ← h.2]
          rw [ih r y.1 tail (i + 1) _ hy (by omega)]
          have e : x + b.toNat % 128 * 128 ^ i + y.1 * 128 ^ (i + 1) = x + v * 128 ^ i := by
            rw [← h.1, Nat.pow_succ, Nat.add_mul]
            have : y.1 * (128 ^ i * 128) = 128 * y.1 * 128 ^ i := by ac_rfl
            rw [this]
            omega
          rw [e]
          simp only [List.length_cons]
          congr 1
          omega

theorem uvarint_of_getVarint (V : Bytes) (v : Nat) (tail : Bytes) (h : Wire.getVarint 4 V = some (v, [])) :
    uvarint (V ++ tail) = (v, (V.length : Int)) ∧ v < 2 ^ 28 ∧ 1 ≤ V.length ∧ V.length ≤ 4 := by
  obtain ⟨hv, h1, h2, _⟩ := getVarint_lt 4 V v [] h
  simp only [List.length_nil, Nat.sub_zero] at h1 h2
  have hv' : v < 2 ^ 28 := by
    have : (128 : Nat) ^ 4 = 2 ^ 28 := by decide
    omega
  refine ⟨?_, hv', h1, h2⟩
  unfold uvarint
  rw [uvarintAux_getVarint_val 4 V v tail 0 0 h (by omega)]
  simp only [Nat.pow_zero, Nat.mul_one, Nat.zero_add, Int.natCast_zero, Int.zero_add]
  rw [Nat.mod_eq_of_lt (by omega)]

theorem varint_len_bounds (n : Nat) : 1 ≤ (Wire.varint n).length ∧ (Wire.varint n).length ≤ 4 := by
  unfold Wire.varint; repeat' split
  all_goals simp

theorem varint_len_big (L : Nat) (h : 2097152 ≤ L) : (Wire.varint L).length = 4 := by
  unfold Wire.varint
  rw [if_neg (by omega), if_neg (by omega), if_neg (by omega)]
  rfl

/-! ## the constants of `Generated.Facts` against the numbers of the specification

Each is checked by evaluation: a changed constant or table in the Go source breaks the lemma of that name. -/

theorem facts_maxVarintBytes : maxVarintBytes = 4 := rfl
theorem facts_maxRemainingLength : maxRemainingLength = 268435455 := rfl
theorem facts_connackMaxCode : connackMaxCode = 5 := rfl
theorem facts_clientIDMaxLen : clientIDMaxLen = 32 := rfl

theorem facts_validType (t : Nat) : validType t = true ↔ 1 ≤ t ∧ t ≤ 14 := by
  unfold validType typeValidAbove typeValidBelow
  simp only [Bool.and_eq_true, decide_eq_true_eq]; omega

theorem facts_versionName : versionName 3 = some Wire.nameMQIsdp ∧ versionName 4 = some Wire.nameMQTT := by decide

/-- `Type.DefaultFlags` is table 2.2 of the specification -/
theorem facts_defaultFlags (p : Wire.Packet) (h : p.type ≠ tPUBLISH) : p.flags = defaultFlagsOf p.type := by
  cases p <;> first | rfl | exact absurd rfl h

theorem msgNew_cases {t : Nat} {m : Msg} (h : Msg.new t = some m) :
    (t = 1 ∧ m = .connect (Hdr.new 1) {}) ∨ (t = 2 ∧ m = .connack (Hdr.new 2) false 0) ∨
    (t = 3 ∧ m = .publish (Hdr.new 3) [] []) ∨
    ((t = 4 ∨ t = 5 ∨ t = 6 ∨ t = 7 ∨ t = 11) ∧ m = .ack (Hdr.new t)) ∨
    (t = 8 ∧ m = .subscribe (Hdr.new 8) [] []) ∨ (t = 9 ∧ m = .suback (Hdr.new 9) []) ∨
    (t = 10 ∧ m = .unsubscribe (Hdr.new 10) []) ∨
    ((t = 12 ∨ t = 13 ∨ t = 14) ∧ m = .bare (Hdr.new t)) := by
  unfold Msg.new at h
  -- `split at h` costs thirty times as much on this chain
  by_cases c : t = tCONNECT
  · cases c; exact .inl ⟨rfl, (Option.some.inj h).symm⟩
  rw [if_neg c] at h
  by_cases c : t = tCONNACK
  · cases c; exact .inr (.inl ⟨rfl, (Option.some.inj h).symm⟩)
  rw [if_neg c] at h
  by_cases c : t = tPUBLISH
  · cases c; exact .inr (.inr (.inl ⟨rfl, (Option.some.inj h).symm⟩))
  rw [if_neg c] at h
  by_cases c : t = tPUBACK ∨ t = tPUBREC ∨ t = tPUBREL ∨ t = tPUBCOMP ∨ t = tUNSUBACK
  · rw [if_pos c] at h; exact .inr (.inr (.inr (.inl ⟨c, (Option.some.inj h).symm⟩)))
  rw [if_neg c] at h
  by_cases c : t = tSUBSCRIBE
  · cases c; exact .inr (.inr (.inr (.inr (.inl ⟨rfl, (Option.some.inj h).symm⟩))))
  rw [if_neg c] at h
  by_cases c : t = tSUBACK
  · cases c; exact .inr (.inr (.inr (.inr (.inr (.inl ⟨rfl, (Option.some.inj h).symm⟩)))))
  rw [if_neg c] at h
  by_cases c : t = tUNSUBSCRIBE
  · cases c; exact .inr (.inr (.inr (.inr (.inr (.inr (.inl ⟨rfl, (Option.some.inj h).symm⟩))))))
  rw [if_neg c] at h
  by_cases c : t = tPINGREQ ∨ t = tPINGRESP ∨ t = tDISCONNECT
  · rw [if_pos c] at h; exact .inr (.inr (.inr (.inr (.inr (.inr (.inr ⟨c, (Option.some.inj h).symm⟩))))))
  rw [if_neg c] at h
  cases h

theorem msgNew_hdr {t : Nat} {m : Msg} (h : Msg.new t = some m) : m.hdr = Hdr.new t := by
  rcases msgNew_cases h with ⟨rfl, rfl⟩ | ⟨rfl, rfl⟩ | ⟨rfl, rfl⟩ | ⟨_, rfl⟩ | ⟨rfl, rfl⟩ | ⟨rfl, rfl⟩ | ⟨rfl, rfl⟩ | ⟨_, rfl⟩ <;> rfl

theorem hdrNew_type (t : Nat) (h : t ≤ 14) : (Hdr.new t).type = t := by
  have := Nat.mod_lt (defaultFlagsOf t) (show 16 > 0 by omega)
  show (UInt8.ofNat (t * 16 + defaultFlagsOf t % 16)).toNat / 16 = t
  rw [u8_ofNat_toNat (by omega)]
  omega

/-- the checks `header.decode` makes on the type/flags byte `b`, for a message object of type `ty` -/
def TfOk (ty : Nat) (b : UInt8) : Prop :=
  validType (b.toNat / 16) = true ∧ ty = b.toNat / 16 ∧
  (b.toNat / 16 ≠ tPUBLISH → b.toNat % 16 = defaultFlagsOf (b.toNat / 16)) ∧
  (b.toNat / 16 = tPUBLISH → validQos (b.toNat % 16 / 2 % 4) = true)

instance (ty : Nat) (b : UInt8) : Decidable (TfOk ty b) := by unfold TfOk; infer_instance

/-- `header.decode` in closed form: it accepts a type/flags byte that passes `TfOk`, followed by a remaining
length of one to four bytes that the rest of the input can hold; everything else is an error, nothing a panic
(`uvarint_bounds`: the bytes `binary.Uvarint` reports as read are there, and four of them stay below 2^28) -/
theorem hdr_decode_cons (h : Hdr) (b : UInt8) (rest : Bytes) :
    Hdr.decode h (b :: rest) =
      if TfOk h.type b ∧ 0 < (uvarint rest).2 ∧ (uvarint rest).2 ≤ 4 ∧
          (uvarint rest).2.toNat + (uvarint rest).1 ≤ rest.length then
        .ok ({ h with tf := b, tfInBuf := true, remlen := (uvarint rest).1,
                      dbuf := (b :: rest).take (1 + (uvarint rest).2.toNat + (uvarint rest).1) },
             1 + (uvarint rest).2.toNat)
      else .err := by
  unfold Hdr.decode
  generalize h.type = ty
  rw [if_neg (by simp), slice_ok (Nat.zero_le 1) (by simp), bind_ok]
  simp only [List.drop_zero, Nat.sub_zero, List.take_succ_cons, List.take_zero, List.headD_cons, Hdr.type, Hdr.flags]
  by_cases c1 : validType (b.toNat / 16) = true
  case neg => rw [if_pos (by simp [c1]), if_neg (fun x => c1 x.1.1)]
  by_cases c2 : ty = b.toNat / 16
  case neg => rw [if_neg (by simp [c1]), if_pos c2, if_neg (fun x => c2 x.1.2.1)]
  by_cases c3 : b.toNat / 16 ≠ tPUBLISH → b.toNat % 16 = defaultFlagsOf (b.toNat / 16)
  case neg =>
    rw [if_neg (by simp [c1]), if_neg (by simp [c2]), if_pos (by simpa using c3), if_neg (fun x => c3 x.1.2.2.1)]
  by_cases c4 : b.toNat / 16 = tPUBLISH → validQos (b.toNat % 16 / 2 % 4) = true
  case neg =>
    rw [if_neg (by simp [c1]), if_neg (by simp [c2]), if_neg (by simpa using c3), if_pos (by simpa using c4),
      if_neg (fun x => c4 x.1.2.2.2)]
  rw [if_neg (by simp [c1]), if_neg (by simp [c2]), if_neg (by simpa using c3), if_neg (by simpa using c4),
    sliceFrom_ok (by simp), bind_ok]
  simp only [List.drop_succ_cons, List.drop_zero]
  generalize hr : uvarint rest = r
  by_cases ck : 0 < r.2 ∧ r.2 ≤ 4
  case neg => rw [if_pos (by rw [facts_maxVarintBytes]; omega), if_neg (fun x => ck ⟨x.2.1, x.2.2.1⟩)]
  obtain ⟨hv, hl⟩ := uvarint_bounds rest (by rw [hr]; exact ck.1) (by rw [hr]; exact ck.2)
  rw [hr] at hv hl
  rw [if_neg (by rw [facts_maxVarintBytes]; omega), toInt32_small hv, if_neg (by rw [facts_maxRemainingLength]; omega),
    sliceFrom_ok (by simp only [List.length_cons]; omega), bind_ok]
  simp only [Int.toNat_natCast, List.length_drop, List.length_cons]
  by_cases cf : r.2.toNat + r.1 ≤ rest.length
  · rw [if_neg (by omega), sliceTo_ok (by simp only [List.length_cons]; omega), bind_ok,
      if_pos ⟨⟨c1, c2, c3, c4⟩, ck.1, ck.2, cf⟩]
  · rw [if_pos (by omega), if_neg (fun x => cf x.2.2.2)]

/-- what a successful `header.decode` establishes -/
structure HdrDecoded (h : Hdr) (src : Bytes) (h' : Hdr) (n : Nat) : Prop where
  n_hi : n ≤ 5
  fits : n + h'.remlen ≤ src.length
  dbuf : h'.dbuf = src.take (n + h'.remlen)
  tfInBuf : h'.tfInBuf = true
  pid : h'.pid = h.pid
  pidOff : h'.pidOff = h.pidOff
  dirty : h'.dirty = h.dirty
  type : h'.type = h.type
  flagsOk : h'.type ≠ tPUBLISH → h'.flags = defaultFlagsOf h'.type
  remlen_le : h'.remlen ≤ maxRemainingLength
  /-- the type/flags byte and the bytes `binary.Uvarint` consumed -/
  count : n = 1 + (uvarint (src.drop 1)).2.toNat

theorem HdrDecoded.type_flags {h : Hdr} {src : Bytes} {h' : Hdr} {n t : Nat} (hh : HdrDecoded h src h' n) (ht : h.type = t)
    (h3 : t ≠ tPUBLISH) : h'.type = t ∧ h'.flags = defaultFlagsOf t := by
  have e := hh.type.trans ht
  exact ⟨e, e ▸ hh.flagsOk (e ▸ h3)⟩

theorem hdr_decode_of_ok {h : Hdr} {src : Bytes} {r : Hdr × Nat} (hd : Hdr.decode h src = .ok r) :
    HdrDecoded h src r.1 r.2 := by
  obtain ⟨h', n⟩ := r
  cases src with
  | nil => cases hd
  | cons b rest =>
    rw [hdr_decode_cons] at hd
    by_cases c : TfOk h.type b ∧ 0 < (uvarint rest).2 ∧ (uvarint rest).2 ≤ 4 ∧
        (uvarint rest).2.toNat + (uvarint rest).1 ≤ rest.length
    case neg => rw [if_neg c] at hd; cases hd
    rw [if_pos c] at hd
    obtain ⟨⟨t1, t2, t3, t4⟩, k1, k2, kf⟩ := c
    obtain ⟨hv, _⟩ := uvarint_bounds rest k1 k2
    injection hd with hd
    injection hd with e1 e2
    subst e1 e2
    exact {
      n_hi := by omega, fits := by simp only [List.length_cons]; omega
      dbuf := rfl, tfInBuf := rfl, pid := rfl, pidOff := rfl, dirty := rfl
      type := t2.symm, flagsOk := t3
      remlen_le := by simp only [facts_maxRemainingLength]; omega, count := rfl }

theorem hdr_decode_total (h : Hdr) (src : Bytes) : Total (h.decode src) (fun r => HdrDecoded h src r.1 r.2) := by
  cases hd : h.decode src with
  | err => exact .err
  | ok r => exact .ok (hdr_decode_of_ok hd)
  | panic =>
    cases src with
    | nil => cases hd
    | cons b rest => rw [hdr_decode_cons] at hd; split at hd <;> cases hd

theorem hdr_decode_ne_panic (h : Hdr) (src : Bytes) : Hdr.decode h src ≠ .panic :=
  (hdr_decode_total h src).ne_panic

end Mqtt.Proofs.Codec
