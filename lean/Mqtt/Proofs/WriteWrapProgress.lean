/-
C17, wrap path — progress under an explicitly fair environment.  `mu size s = (size + 1) · work s +
(pseq − cseq)`: thread steps still to be taken (at most 8 per packet) and bytes not yet consumed.
No action raises `mu`.  With a packet outstanding a fair segment lowers it: the holder of `wmu` (or,
`wmu` free, a thread with work) can move, or it waits in `WriteWait` for space — only a packet
that fits waits — and then there are unread bytes for the consumer.
-/
import Mqtt.Proofs.WriteWrap

namespace Mqtt.Proofs.WriteWrap
open Mqtt.Model.WriteWrap Mqtt.Proofs.WriteThreads

/-- bound on the own steps thread `th` still has to take -/
def thWork (th : Th) : Nat := 8 * th.todo.length - rank th.pc

def work (s : St) : Nat := (s.ths.map thWork).sum

def mu (size : Nat) (s : St) : Nat := (size + 1) * work s + (s.sh.pseq - s.sh.cseq)

variable {size : Nat} {todos : List (List (List UInt8))} {s : St}

theorem rank_lt (pc : PC) : rank pc < 8 := by cases pc <;> exact Nat.le_of_ble_eq_true rfl

theorem work_step_lt {s' : St} {t : Nat} (hsz : 0 < size) (hI : Inv size todos s)
    (h : step code size s t = some s') : work s' < work s := by
  obtain ⟨th, m, rest, hth, htodo, hc⟩ := step_cases h
  have key : ∀ th' : Th, s'.ths = s.ths.set t th' → thWork th' < thWork th → work s' < work s := by
    intro th' hs hlt
    unfold work
    rw [hs]
    exact Nat.lt_of_add_eq (List.sum_map_set thWork _ _ hth) hlt
  -- one more step taken for the packet in hand is one step less to take
  have next : ∀ {pc' : PC}, rank pc' = rank th.pc + 1 →
      thWork { th with pc := pc' } + 1 = thWork th := fun hr =>
    weight_next (f := thWork) (rk := fun th => rank th.pc) (fun _ => rfl) (fun th => rank_lt th.pc)
      (htodo ▸ nofun) rfl hr
  rcases hc with ⟨hpc, _, rfl⟩ | ⟨hpc, pc', sh', hps, rfl⟩ | ⟨hpc, ok, sh', hps, rfl⟩
  · exact key _ rfl (Nat.lt_of_succ_le (Nat.le_of_eq (next (by rw [hpc]; rfl))))
  · have hk := hps ▸ pcStep_ok hsz hI.sh (hI.pcOk_of_busy hth htodo hpc)
    exact key _ rfl (Nat.lt_of_succ_le (Nat.le_of_eq (next hk.1)))
  · apply key _ rfl
    -- the last step for a packet: from 8·(n+1) − rank to 8·n
    show 8 * rest.length - 0 < 8 * th.todo.length - rank th.pc
    rw [htodo, List.length_cons, Nat.mul_succ]
    exact Nat.lt_sub_of_add_lt (Nat.add_lt_add_left (rank_lt _) _)

/-- a thread step may add up to `size` bytes to the unread part, but takes a unit of work away -/
theorem mu_step {s' : St} {t : Nat} (hsz : 0 < size) (hI : Inv size todos s)
    (h : step code size s t = some s') : mu size s' < mu size s := by
  have hw := Nat.mul_le_mul_left (size + 1) (work_step_lt hsz hI h)
  have hu : s'.sh.pseq - s'.sh.cseq ≤ size := Nat.sub_le_iff_le_add'.mpr (inv_step hsz hI h).sh.room
  -- (size+1)·work s' + unread' < (size+1)·work s' + (size+1) ≤ (size+1)·work s ≤ mu s
  exact Nat.lt_of_lt_of_le (Nat.add_lt_add_left (Nat.lt_succ_of_le hu) _)
    (Nat.le_trans hw (Nat.le_add_right _ _))

theorem mu_consume (size : Nat) (s : St) (k : Nat) :
    mu size (consume size s k) + min k (s.sh.pseq - s.sh.cseq) = mu size s := by
  show _ + (s.sh.pseq - (s.sh.cseq + min k (s.sh.pseq - s.sh.cseq))) + _ = _
  rw [Nat.add_assoc, Nat.sub_add_eq, Nat.sub_add_cancel (Nat.min_le_right _ _)]
  rfl

theorem consume_nothing (size : Nat) (s : St) (k : Nat) (h : min k (s.sh.pseq - s.sh.cseq) = 0) :
    consume size s k = s := by
  simp only [consume, h, readRing_zero, List.append_nil, Nat.add_zero]

theorem mu_consume_lt (size : Nat) (s : St) {k : Nat} (h : 0 < min k (s.sh.pseq - s.sh.cseq)) :
    mu size (consume size s k) < mu size s :=
  Nat.lt_of_lt_of_eq (Nat.lt_add_of_pos_right h) (mu_consume size s k)

theorem act_fixed_or_lt (hsz : 0 < size) (hI : Inv size todos s) (a : Act) :
    act code size s a = s ∨ mu size (act code size s a) < mu size s := by
  cases a with
  | th t =>
    simp only [act]
    cases h : step code size s t with
    | none => exact .inl rfl
    | some s' => exact .inr (mu_step hsz hI h)
  | consume k =>
    rcases Nat.eq_zero_or_pos (min k (s.sh.pseq - s.sh.cseq)) with h0 | h0
    · exact .inl (consume_nothing size s k h0)
    · exact .inr (mu_consume_lt size s h0)

theorem act_mu_le (hsz : 0 < size) (hI : Inv size todos s) (a : Act) :
    mu size (act code size s a) ≤ mu size s := by
  rcases act_fixed_or_lt hsz hI a with h | h
  · rw [h]; exact Nat.le_refl _
  · exact Nat.le_of_lt h

theorem run_mu_le (hsz : 0 < size) (seg : List Act) (hI : Inv size todos s) :
    mu size (run code size s seg) ≤ mu size s :=
  (run_induction (P := fun x => Inv size todos x ∧ mu size x ≤ mu size s)
    (fun _ a h => ⟨inv_act hsz h.1 a, Nat.le_trans (act_mu_le hsz h.1 a) h.2⟩) seg
    ⟨hI, Nat.le_refl _⟩).2

theorem run_fixed_or_lt (hsz : 0 < size) (seg : List Act) (hI : Inv size todos s) :
    mu size (run code size s seg) < mu size s ∨ (∀ a ∈ seg, act code size s a = s) := by
  induction seg with
  | nil => exact .inr nofun
  | cons a as ih =>
    rcases act_fixed_or_lt hsz hI a with h | h
    · show mu size (run code size (act code size s a) as) < mu size s ∨ _
      rw [h]
      exact ih.imp_right fun h2 b hb => (List.mem_cons.mp hb).elim (· ▸ h) (h2 b)
    · exact .inl (Nat.lt_of_le_of_lt (run_mu_le hsz as (inv_act hsz hI a)) h)

/-- the fairness hypothesis, per segment of the schedule: every thread is scheduled and the
consumer asks for at least one byte -/
def Fair (n : Nat) (seg : List Act) : Prop :=
  (∀ t, t < n → Act.th t ∈ seg) ∧ ∃ k, 0 < k ∧ Act.consume k ∈ seg

theorem fair_effective (hsz : 0 < size) (hI : Inv size todos s)
    (hw : ∃ th ∈ s.ths, th.todo ≠ []) {seg : List Act} (hf : Fair todos.length seg) :
    ∃ a ∈ seg, mu size (act code size s a) < mu size s := by
  have move : ∀ t s', t < s.ths.length → step code size s t = some s' →
      ∃ a ∈ seg, mu size (act code size s a) < mu size s := fun t s' ht hs =>
    ⟨.th t, hf.1 t (hI.prov.len ▸ ht), by simp only [act, hs]; exact mu_step hsz hI hs⟩
  cases hh : s.holder with
  | some t =>
    obtain ⟨th, m, rest, hth, htodo, hP⟩ := hI.held t hh
    cases hs : step code size s t with
    | some s' => exact move t s' (lt_of_getElem? hth) hs
    | none =>
      -- the holder waits for space: the consumer has something to take
      have hb := blocked_of_step_none hth htodo hP.not_idle hs
      obtain ⟨_, _, hlt⟩ : StepOk size s.sh _ m th.pc .blocked := hb ▸ pcStep_ok hsz hI.sh hP
      obtain ⟨k, hk, hmem⟩ := hf.2
      exact ⟨.consume k, hmem, mu_consume_lt size s (Nat.lt_min.mpr ⟨hk, Nat.sub_pos_of_lt hlt⟩)⟩
  | none =>
    obtain ⟨th, hm, htd⟩ := hw
    obtain ⟨t, ht, rfl⟩ := List.getElem_of_mem hm
    have hth := List.getElem?_eq_getElem ht
    obtain ⟨s', hs⟩ := free_enabled hth htd (hI.idle t _ hth (hh ▸ nofun)) hh
    exact move t s' ht hs

theorem fair_lt (hsz : 0 < size) (hI : Inv size todos s)
    (hw : ∃ th ∈ s.ths, th.todo ≠ []) {seg : List Act} (hf : Fair todos.length seg) :
    mu size (run code size s seg) < mu size s := by
  rcases run_fixed_or_lt hsz seg hI with h | h
  · exact h
  · obtain ⟨a, ha, hlt⟩ := fair_effective hsz hI hw hf
    rw [h a ha] at hlt
    exact absurd hlt (Nat.lt_irrefl _)

theorem run_append (v : Shape) (size : Nat) (s : St) (a b : List Act) :
    run v size s (a ++ b) = run v size (run v size s a) b := by
  induction a generalizing s with
  | nil => rfl
  | cons x xs ih => exact ih _

/-- a thread with nothing left to deliver does not move, so the lists stay empty -/
theorem all_empty_run (seg : List Act) {s : St} (h : ∀ th ∈ s.ths, th.todo = []) :
    ∀ th ∈ (run code size s seg).ths, th.todo = [] := by
  refine run_induction (P := fun x => ∀ th ∈ x.ths, th.todo = []) (fun s a h => ?_) seg h
  cases a with
  | consume k => exact h
  | th t =>
    simp only [act]
    cases hs : step code size s t with
    | none => exact h
    | some s' =>
      obtain ⟨th, m, rest, hth, htodo, _⟩ := step_cases hs
      cases htodo.symm.trans (h th (List.mem_of_getElem? hth))

theorem mu_zero (h : mu size s = 0) : ∀ th ∈ s.ths, th.todo = [] :=
  todo_nil_of_sum_zero (f := thWork) (rk := fun th => rank th.pc) (fun _ => rfl) (fun th => rank_lt th.pc)
    ((Nat.mul_eq_zero.mp (Nat.eq_zero_of_add_eq_zero_right h)).resolve_left (Nat.succ_ne_zero _))

theorem fair_run_delivers (hsz : 0 < size) (segs : List (List Act)) : ∀ {s}, Inv size todos s →
    (∀ seg ∈ segs, Fair todos.length seg) → mu size s ≤ segs.length →
    ∀ th ∈ (run code size s segs.flatten).ths, th.todo = [] := by
  induction segs with
  | nil =>
    intro s _ _ hmu
    exact mu_zero (Nat.le_zero.mp hmu)
  | cons seg segs ih =>
    intro s hI hf hmu
    rw [List.flatten_cons, run_append]
    by_cases hw : ∃ th ∈ s.ths, th.todo ≠ []
    · have hlt := fair_lt hsz hI hw (hf seg List.mem_cons_self)
      exact ih (inv_run hsz seg hI) (fun sg hsg => hf sg (List.mem_cons_of_mem _ hsg))
        (Nat.le_of_lt_succ (Nat.lt_of_lt_of_le hlt hmu))
    · refine all_empty_run _ (all_empty_run _ fun th hm => ?_)
      exact Decidable.byContradiction fun htd => hw ⟨th, hm, htd⟩

theorem mu_init (size : Nat) (tmp0 : List UInt8) (todos : List (List (List UInt8))) :
    mu size (init size tmp0 todos) = (size + 1) * (8 * (todos.map List.length).sum) :=
  congrArg ((size + 1) * ·) (sum_map_init thWork _ 8 (fun _ => rfl) todos)

end Mqtt.Proofs.WriteWrap
