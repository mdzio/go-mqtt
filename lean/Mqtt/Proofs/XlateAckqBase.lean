/-
Tie between the REGENERATED translation of `sessions/ackqueue.go`
(`Mqtt.Generated.Xlate.Sessions.*`, produced from /repo's Go source by
extract/cmd/xlate on every check) and the hand-written model
`Model/AckQueue.lean`: the abstraction function `absQ`, the well-formedness `GWf`, what the model is
told about a message (`encOf`, `waitMsgOf`), and the statements of the ties of `grow` and `removeHead`
(`GrowSpec`, `RemoveHeadSpec`: the types of `grow_is_source` and `removeHead_is_source` in `XlateAckqGrow.lean`).
The other ties are stated where they are proved.

The translation keeps Go's `int64` fields as `Int`, `message.Type` / packet
identifiers as `UInt8` / `UInt16`, and has the scratch slice `ackdone`; the model
has naturals and no `ackdone`.  `absQ` forgets the difference; `GWf` says the
integers are not negative (so that nothing is lost).
-/
import Mqtt.Generated.Xlate
import Mqtt.Proofs.AckQueue

namespace Mqtt.Proofs.XlateAckq

open Mqtt.Generated
open Mqtt.Generated.Xlate
open Mqtt.Model.AckQueue
open Mqtt.Proofs.AckQueue (Inv)
open Mqtt.Iface.AckQ

/-- a translated `AckMsg` as the model's -/
def absMsg (a : Sessions.AckMsg) : AckMsg :=
  ⟨a.Mtype.toNat, a.State.toNat, a.Pktid.toNat, a.Msgbuf, a.Ackbuf, a.OnComplete⟩

/-- a translated `Ackqueue` as the model's `Q` (the scratch slice `ackdone` has no counterpart) -/
def absQ (aq : Sessions.Ackqueue) : Q :=
  { size := aq.size.toNat, mask := aq.mask.toNat, count := aq.count.toNat, head := aq.head.toNat,
    tail := aq.tail.toNat, pings := aq.pings.map absMsg, ring := aq.ring.map absMsg,
    emap := aq.emap.map (fun p => (p.1.toNat, p.2.toNat)) }

/-- the `int64` fields and the indices stored in the map are not negative -/
structure GWf (aq : Sessions.Ackqueue) : Prop where
  size  : 0 ≤ aq.size
  mask  : 0 ≤ aq.mask
  count : 0 ≤ aq.count
  head  : 0 ≤ aq.head
  tail  : 0 ≤ aq.tail
  emap  : ∀ p ∈ aq.emap, 0 ≤ p.2

/-- what the model is told about a message handed to `Wait`/`insert`: the bytes
`msg.Encode` writes into a buffer of `msg.Len()` zero bytes, `none` if it fails -/
def encOf (msg : Message.Message) : Option (List UInt8) :=
  let r := msg.Encode (List.replicate msg.Len.toNat 0)
  if r.2.2 = Err.nil then some r.1 else none

/-- the model's view of the message handed to `Wait` (by dynamic type) -/
def waitMsgOf (msg : Message.Message) : WaitMsg :=
  if msg.dyn = "*message.PublishMessage" then .publish msg.QoS.toNat msg.PacketID.toNat (encOf msg)
  else if msg.dyn = "*message.SubscribeMessage" then .subscribe msg.PacketID.toNat (encOf msg)
  else if msg.dyn = "*message.UnsubscribeMessage" then .unsubscribe msg.PacketID.toNat (encOf msg)
  else if msg.dyn = "*message.PingreqMessage" then .pingreq (msg.Encode (List.replicate 2 0)).1
  else .other

/-! ## The ties of `grow` and `removeHead`

Hypotheses common to all ties: `GWf aq`, the model's invariant `Inv (absQ aq)` and
`aq.size ≤ 2^61` (the translation does not represent `int64` overflow; `grow`
itself panics above 2^62). -/

def GrowSpec : Prop :=
  ∀ aq : Sessions.Ackqueue, GWf aq → Inv (absQ aq) → aq.size ≤ 2 ^ 61 →
    ∃ aq', Sessions.Ackqueue.grow aq = .ok aq' ∧ absQ aq' = (absQ aq).grow ∧ GWf aq' ∧ aq'.ackdone = aq.ackdone

def RemoveHeadSpec : Prop :=
  ∀ aq : Sessions.Ackqueue, GWf aq → Inv (absQ aq) → aq.size ≤ 2 ^ 61 →
    ∃ aq', Sessions.Ackqueue.removeHead aq
        = .ok (aq', if (absQ aq).empty then Err.var "errQueueEmpty" else Err.nil) ∧
      absQ aq' = (absQ aq).removeHead ∧ GWf aq' ∧ aq'.ackdone = aq.ackdone

end Mqtt.Proofs.XlateAckq
