/-
Facts shared by the `Proofs/Xlate*` modules: the translation of the Go code compares, shifts and
masks `UInt8` values where the hand-written models do arithmetic on their numbers; `Res.bind`; the rule for a
conditional met on both sides (`ite_rel`); `int64` values that are naturals; byte-keyed tables; the list element behind a prefix.

How the ties are written.  A generated name always carries its Go package (`Topics.`, `Message.`, `Service.`, `Sessions.`,
`Binary.`, `Go.`), a model name is bare or fully qualified: `Topics.checkTopic t = … Mqtt.Model.Topics.checkTopic t`.
The body of a generated function is reached by `unfold f` followed by `extract_lets` (the names given there are positional:
a regenerated `f` with another sequence of `let`s shifts them), that of a generated `loopN` by `rw [f.loopN]` inside an
induction on the budget or on the unvisited rest.  A `range` loop carries the whole slice as its first argument; where the
body does not index it, the invariant leaves that argument universally quantified (`XlateVarint.loop_eq`), otherwise it is
`pre ++ rest` with the index `pre.length` (`getD_mid`, `set_mid`).  A bound check `if decide p then … else Res.panic` goes by `rw [if_pos (decide_eq_true h)]`.  A conditional that code
and model both have goes by `ite_tie` / `ite_rel`, whose first hypothesis is where the two tests are compared (`u8_lt`, `u8_le`,
`beq_iff_eq`, …); where only the code is walked against an acceptance condition (an early `return err` per conjunct:
`header.decode`), by `XlateHeader.DecTie.ite`, whose first hypothesis says that the Go test is the FAILURE of the conjunct.
The simp set `xlate` turns a Boolean test of the Go code (`a > m || a < 0`, `!f(x)`, `decide p && decide q`) into the
proposition these first hypotheses, `if_pos` and `if_neg` want (`by simp only [xlate]`, followed by `omega` where it is arithmetic).
Namespace of this file: `Mqtt.Proofs.Xlate` (beside `Mqtt.Generated.Xlate`).
-/
import Mqtt.Generated.Xlate
import Mqtt.Proofs.XlateAttr

namespace Mqtt.Proofs.Xlate
open Mqtt.Generated.Xlate

/-- a call that returns normally hands its result to the rest of the function -/
@[xlate] theorem bind_ok {α β : Type} (a : α) (f : α → Res β) : Res.bind (.ok a) f = f a := rfl

/-- the translated code branches on a Boolean `t`, the model on the proposition `p` that `t` decides: what relates the
branches pairwise relates the conditionals -/
theorem ite_rel {α β : Type} (P : α → β → Prop) {t : Bool} {p : Prop} [Decidable p] {a a' : α} {b b' : β}
    (h : t = true ↔ p) (h1 : p → P a b) (h2 : ¬ p → P a' b') :
    P (if t = true then a else a') (if p then b else b') := by
  by_cases c : p
  · rw [if_pos (h.mpr c), if_pos c]; exact h1 c
  · rw [if_neg (fun x => c (h.mp x)), if_neg c]; exact h2 c

/-- `ite_rel` where the relation is "equal to the image under `f`" (`f` maps outcomes of the model to outcomes of the translation) -/
theorem ite_tie {α β : Type} (f : β → α) {t : Bool} {p : Prop} [Decidable p] {a a' : α} {b b' : β}
    (h : t = true ↔ p) (h1 : p → a = f b) (h2 : ¬ p → a' = f b') :
    (if t = true then a else a') = f (if p then b else b') :=
  ite_rel (fun x y => x = f y) h h1 h2

theorem u8_beq (t k : UInt8) : (t == k) = (t.toNat == k.toNat) :=
  Bool.eq_iff_iff.mpr (by rw [beq_iff_eq, beq_iff_eq, UInt8.toNat_inj])

theorem u8_bne (t k : UInt8) : (t != k) = (t.toNat != k.toNat) :=
  congrArg (!·) (u8_beq t k)

theorem u8_bne_decide (t k : UInt8) : (t != k) = decide (t.toNat ≠ k.toNat) :=
  (u8_bne t k).trans (Bool.eq_iff_iff.mpr (by rw [bne_iff_ne, decide_eq_true_eq]))

/-- the order tests on bytes as the code makes them, in the form the first hypothesis of `ite_tie` wants (the numeral
`k.toNat` is the number by `rfl`, so `u8_lt` proves `decide (b < 128) = true ↔ b.toNat < 128`) -/
theorem u8_lt {a k : UInt8} : decide (a < k) = true ↔ a.toNat < k.toNat := by
  rw [decide_eq_true_eq, UInt8.lt_iff_toNat_lt]

theorem u8_le {a k : UInt8} : decide (a ≤ k) = true ↔ a.toNat ≤ k.toNat := by
  rw [decide_eq_true_eq, UInt8.le_iff_toNat_le]

theorem u16_beq (a b : UInt16) : (a == b) = (a.toNat == b.toNat) :=
  Bool.eq_iff_iff.mpr (by rw [beq_iff_eq, beq_iff_eq, UInt16.toNat_inj])

theorem u16_bne (a b : UInt16) : (a != b) = (a.toNat != b.toNat) :=
  congrArg (!·) (u16_beq a b)

/-- `int64` values that are not negative compare as their naturals -/
theorem beq_toNat {a b : Int} (ha : 0 ≤ a) (hb : 0 ≤ b) : (a == b) = (a.toNat == b.toNat) :=
  Bool.eq_iff_iff.mpr (by
    rw [beq_iff_eq, beq_iff_eq]
    exact ⟨congrArg Int.toNat, fun h => by rw [← Int.toNat_of_nonneg ha, ← Int.toNat_of_nonneg hb, h]⟩)

theorem toNat_sub_one (a : Int) : (a - 1).toNat = a.toNat - 1 := by omega

theorem toNat_add_one {a : Int} (h : 0 ≤ a) : (a + 1).toNat = a.toNat + 1 := by omega

theorem shr_toNat (b k : UInt8) : (b >>> k).toNat = b.toNat / 2 ^ (k.toNat % 8) := by
  rw [UInt8.toNat_shiftRight, Nat.shiftRight_eq_div_pow]

/-- `b & (2^k - 1)`, written `b & 15`, `b & 3`, `b & 127`, … in the code -/
theorem and_mask_toNat (b m : UInt8) (k : Nat) (hm : m.toNat = 2 ^ k - 1) : (b &&& m).toNat = b.toNat % 2 ^ k := by
  rw [UInt8.toNat_and, hm, Nat.and_two_pow_sub_one_eq_mod]

theorem bit_test (c k : UInt8) :
    (((c >>> k) &&& (1 : UInt8)) == (1 : UInt8)) = decide (c.toNat / 2 ^ (k.toNat % 8) % 2 = 1) := by
  rw [u8_beq, and_mask_toNat _ 1 1 rfl, shr_toNat]
  rfl

/-- `b >> 4` is the packet type `b / 16` -/
theorem shr4_toNat (b : UInt8) : (b >>> (4 : UInt8)).toNat = b.toNat / 16 := shr_toNat b 4

theorem shr4_eq_ofNat (b : UInt8) : b >>> (4 : UInt8) = UInt8.ofNat (b.toNat / 16) := by
  rw [← UInt8.toNat_inj, shr4_toNat, UInt8.toNat_ofNat']
  have := b.toNat_lt
  omega

theorem and15_toNat (b : UInt8) : (b &&& (15 : UInt8)).toNat = b.toNat % 16 := and_mask_toNat b 15 4 rfl

theorem lookup_u8 {β : Type} (l : List (UInt8 × β)) (v : UInt8) :
    l.lookup v = (l.map (fun p => (p.1.toNat, p.2))).lookup v.toNat := by
  induction l with
  | nil => rfl
  | cons p l ih => rw [List.map_cons, List.lookup_cons, List.lookup_cons, ih, u8_beq]

theorem getD_mid {α : Type} (pre : List α) (a d : α) (rest : List α) : (pre ++ a :: rest).getD pre.length d = a := by
  rw [List.getD_eq_getElem?_getD, List.getElem?_append_right (Nat.le_refl _), Nat.sub_self]; rfl

theorem set_mid {α : Type} (pre : List α) (a b : α) (rest : List α) :
    (pre ++ a :: rest).set pre.length b = pre ++ b :: rest := by
  rw [List.set_append_right _ _ (Nat.le_refl _), Nat.sub_self]; rfl

theorem getD_set_self {α : Type} (l : List α) (i : Nat) (a d : α) (h : i < l.length) : (l.set i a).getD i d = a := by
  simp [List.getD_eq_getElem?_getD, List.getElem?_set_self h]

attribute [xlate] decide_eq_true_eq Bool.and_eq_true Bool.or_eq_true Bool.not_eq_true' Bool.false_eq_true Bool.not_true
  Bool.not_false bne_iff_ne beq_iff_eq ne_eq not_true_eq_false not_false_eq_true if_true if_false ite_self and_self and_true
  true_and or_self Int.toNat_natCast Int.natCast_nonneg gt_iff_lt ge_iff_le

end Mqtt.Proofs.Xlate
