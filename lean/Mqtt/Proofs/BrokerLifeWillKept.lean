/-
The will stored in a session object stays what the CONNECT put there until an
event that is entitled to change it: a CONNECT resuming that object, or the
DISCONNECT / end of a connection served by it.  Helper lemmas for C09 (the will
published at the end is the one of the connection's own CONNECT, over any
history in between).
-/
import Mqtt.Proofs.BrokerLifeWill
import Mqtt.Proofs.BrokerLifeSession

namespace Mqtt.Proofs.BrokerLife
open Mqtt.Iface.Broker Mqtt.Model.Broker
open Mqtt.Proofs.Broker (packet_cases)

def sessRefOf (b : B) (c : Nat) : Option Nat := (b.getConn c).map (·.sess)

/-- `first` (the handshake after the take-over) replaces the will of session object `r`: an
accepted CONNECT that resumes `r` -/
def resumesRef (b : B) (r c : Nat) : First → Bool → Prop
  | .connect req, a => accepts (.connect req) a = true ∧ (resumed b c req).map (·.ref) = some r
  | _, _ => False

/-- the connections a first packet takes over (MQTT-3.1.4-2): the live connections of the client
whose identifier an acceptable CONNECT supplies -/
def takenOver (b : B) : First → Bool → List Nat
  | .connect req, a => if accepts (.connect req) a && !req.clientId.isEmpty then sameClient b req.clientId else []
  | _, _ => []

theorem takeOver_eq (b : B) (f : First) (a : Bool) : takeOver b f a = stopAll b (takenOver b f a) := by
  cases f with
  | garbage => rfl
  | other t => rfl
  | connect req =>
    cases hacc : accepts (.connect req) a with
    | false => rw [takeOver_refused b _ a hacc]; simp [takenOver, hacc, stopAll]
    | true =>
      rw [takeOver_accepted b req a hacc]
      cases he : req.clientId.isEmpty <;> simp [takenOver, hacc, he, stopAll]

/-- events that may change the will / will flag of session object `r`: the end of a connection
bound to it - by itself, or because a CONNECT with its client identifier takes it over - and a
CONNECT that resumes it -/
def affectsWill (b : B) (r : Nat) : Ev → Prop
  | .close c => sessRefOf b c = some r
  | .packet c .disconnect => sessRefOf b c = some r
  | .first c f a => (∃ c' ∈ takenOver b f a, sessRefOf b c' = some r) ∨ resumesRef (takeOver b f a).1 r c f a
  | _ => False

instance (b : B) (r c : Nat) (f : First) (a : Bool) : Decidable (resumesRef b r c f a) := by
  cases f <;> simp only [resumesRef] <;> infer_instance

instance (b : B) (r : Nat) (e : Ev) : Decidable (affectsWill b r e) := by
  unfold affectsWill
  split <;> infer_instance

theorem packet_will_kept (b : B) (c : Nat) (p : Packet) (r : Nat) (s : Sess) (hs : b.getSess r = some s)
    (h : p = .disconnect → sessRefOf b c ≠ some r) :
    ∃ s', (packet b c p).1.getSess r = some s' ∧ sameWill s s' := by
  rcases packet_cases b c p with h0 | ⟨cn, s1, hc, ha, hs1, h1⟩
  · rw [h0]; exact ⟨s, hs, rfl, rfl⟩
  obtain ⟨s', hp⟩ := served_tables hc ha hs1 p
  rw [h1, hp.getSess]
  split
  · rename_i e
    rw [e, getSess_ref hs1, hs1] at hs
    cases hs
    refine ⟨s', rfl, hp.will fun hd => h hd ?_⟩
    rw [sessRefOf, hc, e, getSess_ref hs1]; rfl
  · exact ⟨s, hs, rfl, rfl⟩

theorem first_getSess_other {b : B} (hi : Inv b) (c : Nat) (f : First) (a : Bool) (r : Nat) (s : Sess)
    (hs : b.getSess r = some s) (h : ¬ resumesRef b r c f a) :
    (first b c f a).1.getSess r = some s := by
  refine first_state (fun b' => b'.getSess r = some s) hs c f a ?_
  rintro req rfl hacc
  cases hres : resumed b c req with
  | some s0 =>
    rw [(accepted_resumed b c req s0 hres).1]
    refine (getSess_setSess_ne b (updSess s0 req) r (Ne.symm fun e => h ⟨hacc, ?_⟩)).trans hs
    rw [hres, e]; rfl
  | none =>
    rw [(accepted_fresh b c req hres).1]
    refine (getSess_setSess_ne { b with nextRef := b.nextRef + 1 } (newSess b c req) r (Ne.symm fun e => ?_)).trans hs
    rw [e, show (newSess b c req).ref = b.nextRef from rfl, hi.fresh _ (Nat.le_refl _)] at hs
    cases hs

theorem stop_sessRefOf (b : B) (c d : Nat) : sessRefOf (stop b c).1 d = sessRefOf b d := by
  unfold sessRefOf
  rw [stop_getConn, getConn_markDead, Option.map_map]
  congr 1
  funext x
  show (if x.id == c then { x with alive := false } else x).sess = x.sess
  split <;> rfl

theorem stopAll_getSess_ne (r : Nat) : ∀ (cs : List Nat) (b : B),
    (∀ c ∈ cs, sessRefOf b c ≠ some r) → (stopAll b cs).1.getSess r = b.getSess r := by
  intro cs
  induction cs with
  | nil => intro b _; rfl
  | cons c cs ih =>
    intro b h
    rw [Mqtt.Proofs.Connect.stopAll_cons]
    show (stopAll (stop b c).1 cs).1.getSess r = _
    rw [ih _ fun c' hc' => stop_sessRefOf b c c' ▸ h c' (List.mem_cons_of_mem _ hc'), stop_getSess_ne b c r]
    intro cn hcn e
    exact h c List.mem_cons_self (by rw [sessRefOf, hcn, ← e]; rfl)

theorem step_will_kept {b : B} (hi : Inv b) (e : Ev) (r : Nat) (s : Sess) (hs : b.getSess r = some s)
    (h : ¬ affectsWill b r e) :
    ∃ s', (step b e).1.getSess r = some s' ∧ sameWill s s' := by
  cases e with
  | first c f a =>
    have hi0 : Inv (takeOver b f a).1 :=
      Mqtt.Proofs.Connect.takeOver_state Inv (fun b c h => linv_stop h c) b f a hi
    have hs0 : (takeOver b f a).1.getSess r = some s := by
      rw [takeOver_eq, stopAll_getSess_ne]
      · exact hs
      · exact fun c' hc' e => h (.inl ⟨c', hc', e⟩)
    rw [Mqtt.Proofs.Connect.step_first_eq, Mqtt.Proofs.Connect.connect_eq]
    exact ⟨s, first_getSess_other hi0 c f a r s hs0 fun h2 => h (.inr h2), rfl, rfl⟩
  | packet c p => exact packet_will_kept b c p r s hs fun hp => by subst hp; exact h
  | close c =>
    refine ⟨s, (stop_getSess_ne b c r fun cn hcn e => h ?_).trans hs, rfl, rfl⟩
    show sessRefOf b c = some r
    rw [sessRefOf, hcn, ← e]; rfl
  | srvPub p => rw [step_srvPub]; exact ⟨s, ((BrokerQos.onPublish_frame b _).getSess r).trans hs, rfl, rfl⟩
  | srvSub cb f q => rw [step_srvSub]; exact ⟨s, hs, rfl, rfl⟩
  | srvUnsub cb f => exact ⟨s, hs, rfl, rfl⟩

/-- events that end connection `c` or replace its table entry -/
def endsConn (b : B) (c : Nat) : Ev → Prop
  | .close c' => c' = c
  | .packet c' .disconnect => c' = c
  | .first c' f a => c' = c ∨ c ∈ takenOver b f a
  | _ => False

instance (b : B) (c : Nat) (e : Ev) : Decidable (endsConn b c e) := by
  cases e with
  | packet c' p => cases p <;> simp only [endsConn] <;> infer_instance
  | first c' f a => simp only [endsConn]; infer_instance
  | close c' => simp only [endsConn]; infer_instance
  | srvPub p => simp only [endsConn]; infer_instance
  | srvSub cb f q => simp only [endsConn]; infer_instance
  | srvUnsub cb f => simp only [endsConn]; infer_instance

theorem packet_getConn (b : B) (c : Nat) (p : Packet) (d : Nat) (h : p = .disconnect → c ≠ d) :
    (packet b c p).1.getConn d = b.getConn d := by
  rcases packet_cases b c p with h0 | ⟨cn, s, hc, ha, hs, h1⟩
  · rw [h0]
  · obtain ⟨_, hp⟩ := served_tables hc ha hs p
    rw [h1, hp.getConn d h]

theorem stopAll_getConn_ne (c : Nat) : ∀ (cs : List Nat) (b : B), c ∉ cs → (stopAll b cs).1.getConn c = b.getConn c := by
  intro cs
  induction cs with
  | nil => intro b _; rfl
  | cons c' cs ih =>
    intro b h
    rw [Mqtt.Proofs.Connect.stopAll_cons]
    show (stopAll (stop b c').1 cs).1.getConn c = _
    rw [ih _ (fun hm => h (List.mem_cons_of_mem _ hm)), stop_getConn_ne b c' c (fun e => h (e ▸ List.mem_cons_self))]

theorem step_conn_kept (b : B) (e : Ev) (c : Nat) (h : ¬ endsConn b c e) :
    (step b e).1.getConn c = b.getConn c := by
  cases e with
  | first c' f a =>
    have hto : (takeOver b f a).1.getConn c = b.getConn c := by
      rw [takeOver_eq]; exact stopAll_getConn_ne c _ b (fun hm => h (.inr hm))
    rw [Mqtt.Proofs.Connect.step_first_eq, Mqtt.Proofs.Connect.connect_eq, ← hto]
    refine first_state (fun b' => b'.getConn c = (takeOver b f a).1.getConn c) rfl c' f a ?_
    exact fun req _ _ => accepted_getConn_ne _ c' c req fun e => h (.inl e)
  | packet c' p => exact packet_getConn b c' p c fun hp => by subst hp; exact h
  | close c' => exact stop_getConn_ne b c' c (fun e => h e)
  | srvPub p => rw [step_srvPub]; exact (BrokerQos.onPublish_frame b _).getConn c
  | srvSub cb f q => rw [step_srvSub]; rfl
  | srvUnsub cb f => rfl

/-- along `evs` from `b`, no event is entitled to change the will of session
object `r`, and none ends connection `c` or replaces its table entry -/
def quiet (r c : Nat) : B → List Ev → Prop
  | _, [] => True
  | b, e :: es => ¬ affectsWill b r e ∧ ¬ endsConn b c e ∧ quiet r c (step b e).1 es

theorem run_will_kept (evs : List Ev) : ∀ {b : B}, Inv b → ∀ (r c : Nat) (cn : Conn) (s : Sess),
    b.getConn c = some cn → b.getSess r = some s → quiet r c b evs →
    (run b evs).1.getConn c = some cn ∧ ∃ s', (run b evs).1.getSess r = some s' ∧ sameWill s s' := by
  induction evs with
  | nil => intro b _ r c cn s hc hs _; exact ⟨hc, s, hs, rfl, rfl⟩
  | cons e es ih =>
    intro b hi r c cn s hc hs hq
    obtain ⟨h1, h2, h3⟩ := hq
    obtain ⟨s1, hs1, hw1⟩ := step_will_kept hi e r s hs h1
    have hc1 : (step b e).1.getConn c = some cn := (step_conn_kept b e c h2).trans hc
    obtain ⟨hc2, s2, hs2, hw2⟩ := ih (linv_step hi e) r c cn s1 hc1 hs1 h3
    simp only [run]
    exact ⟨hc2, s2, hs2, hw2.1.trans hw1.1, hw2.2.trans hw1.2⟩

end Mqtt.Proofs.BrokerLife
