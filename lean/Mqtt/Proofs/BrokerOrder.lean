/-
For C17, per-publisher order: the stream of PUBLISH packets a connection `d` receives over a
history; what `onPublish` writes to a live subscriber; QoS 2: the contents a PUBREL step releases are
delivered one after the other in queue order (`blocks`), and the released contents are a prefix of
what was queued at the start followed by the opened ones.
-/
import Mqtt.Proofs.BrokerQosHistory

namespace Mqtt.Proofs.BrokerOrder
open Mqtt.Iface.Broker Mqtt.Model.Broker Mqtt.Proofs.BrokerQos
open Mqtt.Model.Topics (MemTopics)

/-- the PUBLISH packet an output writes to connection `d`, if it is one -/
def pubTo (d : Nat) : Out → Option Pub
  | .send c (.publish w) => if c = d then some w else none
  | _ => none

/-- the PUBLISH packets among `os` written to connection `d`, in order -/
def pubsTo (d : Nat) (os : List Out) : List Pub := os.filterMap (pubTo d)

theorem pubsTo_append (d : Nat) (a b : List Out) : pubsTo d (a ++ b) = pubsTo d a ++ pubsTo d b :=
  List.filterMap_append

theorem pubsTo_cons_other (d : Nat) (o : Out) (os : List Out) (h : pubTo d o = none) :
    pubsTo d (o :: os) = pubsTo d os := by
  simp [pubsTo, h]

theorem mem_pubsTo {d : Nat} {w : Pub} {os : List Out} :
    w ∈ pubsTo d os ↔ Out.send d (.publish w) ∈ os := by
  unfold pubsTo
  rw [List.mem_filterMap]
  constructor
  · rintro ⟨o, ho, h⟩
    unfold pubTo at h
    split at h
    · split at h
      · rename_i e; cases h; subst e; exact ho
      · cases h
    · cases h
  · intro h
    exact ⟨_, h, by simp [pubTo]⟩

/-- the PUBLISH packets written to `d` over a history, in the order written -/
def stream (d : Nat) (b : B) (evs : List Ev) : List Pub := pubsTo d (run b evs).2.flatten

theorem stream_nil (d : Nat) (b : B) : stream d b [] = [] := rfl

theorem stream_cons (d : Nat) (b : B) (e : Ev) (es : List Ev) :
    stream d b (e :: es) = pubsTo d (step b e).2 ++ stream d (step b e).1 es := by
  simp only [stream, run_cons, List.flatten_cons, pubsTo_append]

theorem stream_append (d : Nat) (b : B) (e1 e2 : List Ev) :
    stream d b (e1 ++ e2) = stream d b e1 ++ stream d (run b e1).1 e2 := by
  simp only [stream, run_append, List.flatten_append, pubsTo_append]

theorem stream_eq_flatten (d : Nat) (b : B) (evs : List Ev) :
    stream d b evs = ((run b evs).2.map (pubsTo d)).flatten := by
  unfold stream
  generalize (run b evs).2 = l
  induction l with
  | nil => rfl
  | cons o os ih => simp only [List.flatten_cons, pubsTo_append, List.map_cons, ih]

theorem setQoS_content (m : Msg) (q : Nat) :
    (m.setQoS q).p.topic = m.p.topic ∧ (m.setQoS q).p.payload = m.p.payload := ⟨rfl, rfl⟩

theorem onPublish_content (b : B) (m : Msg) :
    ∀ d w, Out.send d (.publish w) ∈ (onPublish b m).2.2.1 →
      w.topic = m.p.topic ∧ w.payload = m.p.payload :=
  fun _ _ h => onPublish_carries b m _ h

/-- the subscriber lookup for a PUBLISH with this topic and QoS returns `d` -/
def Subscribed (b : B) (d : Nat) (topic : Bytes) (qos : Nat) : Prop :=
  ∃ subs q, b.topics.subscribers topic qos = some subs ∧ (d, q) ∈ subs

theorem fanout_delivers (b : B) (m : Msg) (subs : List (Nat × Nat)) (d q : Nat)
    (hd : d < cbBase) (ha : b.alive d = true) (ht : m.p.topic ≠ []) (hm : (d, q) ∈ subs) :
    ∃ w, Out.send d (.publish w) ∈ (fanout b m subs).2.2 := by
  induction subs generalizing b m with
  | nil => cases hm
  | cons x rest ih =>
    obtain ⟨s, eqos⟩ := x
    simp only [fanout]
    rcases List.mem_cons.mp hm with hx | hx
    · cases hx
      rw [if_pos hd]
      obtain ⟨w, hw⟩ := Mqtt.Proofs.Broker.deliverConn_alive b d (m.setQoS q) ha ht
      exact ⟨w, List.mem_append_left _ (hw ▸ List.mem_singleton.mpr rfl)⟩
    · -- an earlier subscriber: the loop goes on with `d` alive and the topic in place
      obtain ⟨r1, _, r3, _⟩ := Mqtt.Proofs.Broker.fanoutStep_like b m s eqos _ rfl
      generalize (if s < cbBase then deliverConn b s (m.setQoS eqos)
        else (b, m.setQoS eqos, [Out.call s (m.setQoS eqos).p])) = r at r1 r3 ⊢
      obtain ⟨w, hw⟩ := ih r.1 r.2.1 (by rw [r1]; exact ha) (by rw [r3.topic]; exact ht) hx
      exact ⟨w, List.mem_append_right _ hw⟩

theorem onPublish_delivers (b : B) (m : Msg) (d : Nat) (hd : d < cbBase) (ha : b.alive d = true)
    (ht : m.p.topic ≠ []) (hs : Subscribed b d m.p.topic m.p.qos) :
    pubsTo d (onPublish b m).2.2.1 ≠ [] := by
  obtain ⟨subs, q, hsub, hm⟩ := hs
  obtain ⟨w, hw⟩ := fanout_delivers (retainStep b m).1
    ⟨{ (retainStep b m).2.p with retain := false }, (retainStep b m).2.dirty⟩ subs d q hd
    (by rw [Mqtt.Proofs.Broker.alive_congr _ _ (Mqtt.Proofs.Broker.retainStep_frame b m).2.1]; exact ha)
    ((Mqtt.Proofs.Broker.retainStep_msg b m).2.1 ▸ ht) hm
  rw [Mqtt.Proofs.Broker.onPublish_eq, hsub]
  exact fun hnil => nomatch hnil ▸ mem_pubsTo.mpr hw

theorem publish01_step {b : B} (hI : BInv b) {c : Nat} (hl : b.alive c = true) (p : Pub)
    (hq : p.qos = 0 ∨ p.qos = 1) (d : Nat) :
    (step b (.packet c (.publish p))).1 = (onPublish b ⟨p, false⟩).1 ∧
    pubsTo d (step b (.packet c (.publish p))).2 = pubsTo d (onPublish b ⟨p, false⟩).2.2.1 := by
  obtain ⟨cn, s, hc, ha, hs⟩ := hI.live hl
  simp only [step]
  rcases hq with hq | hq
  · rw [packet_publish0 hc ha hs p hq]; exact ⟨rfl, rfl⟩
  · rw [packet_publish1 hc ha hs p hq]
    exact ⟨rfl, pubsTo_cons_other _ _ _ rfl⟩

theorem stream_two (d : Nat) (b : B) (pre : List Ev) (e1 : Ev) (mid : List Ev) (e2 : Ev) (post : List Ev) :
    stream d b (pre ++ e1 :: (mid ++ e2 :: post)) =
      stream d b pre ++ (pubsTo d (step (run b pre).1 e1).2 ++
        (stream d (step (run b pre).1 e1).1 mid ++
          (pubsTo d (step (run (step (run b pre).1 e1).1 mid).1 e2).2 ++
            stream d (step (run (step (run b pre).1 e1).1 mid).1 e2).1 post))) := by
  rw [stream_append, stream_cons, stream_append, stream_cons]

/-- hand the contents `ps` on one after the other (what `releaseAll` does with
the released entries); per content, the PUBLISH packets written to `d` -/
def handOver (d : Nat) (b : B) : List Pub → List (Pub × List Pub)
  | [] => []
  | p :: ps => (p, pubsTo d (onPublish b ⟨p, false⟩).2.2.1) :: handOver d (onPublish b ⟨p, false⟩).1 ps

theorem handOver_fst (d : Nat) (b : B) (ps : List Pub) : (handOver d b ps).map (·.1) = ps := by
  induction ps generalizing b with
  | nil => rfl
  | cons p ps ih => simp only [handOver, List.map_cons, ih]

theorem handOver_content (d : Nat) (b : B) (ps : List Pub) :
    ∀ x ∈ handOver d b ps, ∀ w ∈ x.2, w.topic = x.1.topic ∧ w.payload = x.1.payload := by
  induction ps generalizing b with
  | nil => intro x hx; cases hx
  | cons p ps ih =>
    intro x hx w hw
    simp only [handOver, List.mem_cons] at hx
    rcases hx with rfl | hx
    · exact onPublish_content b ⟨p, false⟩ d w (mem_pubsTo.mp hw)
    · exact ih _ x hx w hw

theorem releaseAll_pubsTo (d : Nat) (b : B) (l : List QEntry) :
    pubsTo d (releaseAll b l).2 = ((handOver d b (l.map (·.msg))).map (·.2)).flatten := by
  induction l generalizing b with
  | nil => rfl
  | cons e rest ih =>
    simp only [releaseAll, pubsTo_append, List.map_cons, handOver, List.flatten_cons, ih]

/-- what a step delivers to `d` on behalf of session object `r`'s QoS 2
exchanges: a PUBREL on a live connection bound to `r` takes the released prefix
off the queue and hands its contents on, oldest first -/
def stepBlocks (d : Nat) (b : B) (r : Nat) : Ev → List (Pub × List Pub)
  | .packet c (.pubrel id) =>
    if bound b c r then
      match b.getSess r with
      | some s =>
        handOver d (b.setSess { s with pub2in := (q2Acked (q2Ack s.pub2in id)).1 })
          ((q2Acked (q2Ack s.pub2in id)).2.map (·.msg))
      | none => []
    else []
  | _ => []

/-- … accumulated along a history -/
def blocks (d : Nat) (b : B) (r : Nat) : List Ev → List (Pub × List Pub)
  | [] => []
  | ev :: evs => stepBlocks d b r ev ++ blocks d (step b ev).1 r evs

theorem stepBlocks_pubrel {b : B} (hI : BInv b) {c r : Nat} (hb : bound b c r = true) (d id : Nat) :
    (stepBlocks d b r (.packet c (.pubrel id))).map (·.1) = stepHanded b r (.packet c (.pubrel id)) ∧
    pubsTo d (step b (.packet c (.pubrel id))).2 =
      ((stepBlocks d b r (.packet c (.pubrel id))).map (·.2)).flatten := by
  obtain ⟨_, cn, s, hc, ha, hs, hr, _, hq⟩ := bound_sess hI hb
  subst hr
  simp only [stepBlocks, hb, ↓reduceIte, hs, stepHanded, hq, handOver_fst, step, true_and]
  rw [packet_pubrel hc ha hs id, pubsTo_append, releaseAll_pubsTo]
  simp [pubsTo, pubTo]

theorem stepBlocks_spec {b : B} (hI : BInv b) (d r : Nat) (ev : Ev) :
    (stepBlocks d b r ev).map (·.1) = stepHanded b r ev ∧
    (((stepBlocks d b r ev).map (·.2)).flatten).Sublist (pubsTo d (step b ev).2) := by
  cases ev with
  | packet c p =>
    cases p with
    | pubrel id =>
      by_cases hb : bound b c r = true
      · obtain ⟨h1, h2⟩ := stepBlocks_pubrel hI hb d id
        exact ⟨h1, h2 ▸ List.Sublist.refl _⟩
      · simp [stepBlocks, stepHanded, hb]
    | _ => exact ⟨rfl, List.nil_sublist _⟩
  | _ => exact ⟨rfl, List.nil_sublist _⟩

theorem stepBlocks_content (d : Nat) (b : B) (r : Nat) (ev : Ev) :
    ∀ x ∈ stepBlocks d b r ev, ∀ w ∈ x.2, w.topic = x.1.topic ∧ w.payload = x.1.payload := by
  intro x hx
  unfold stepBlocks at hx
  split at hx
  · split at hx
    · split at hx
      · exact handOver_content _ _ _ x hx
      · cases hx
    · cases hx
  · cases hx

theorem blocks_fst {b : B} (hI : BInv b) (d r : Nat) (evs : List Ev) :
    (blocks d b r evs).map (·.1) = handed b r evs := by
  induction evs generalizing b with
  | nil => rfl
  | cons ev evs ih =>
    simp only [blocks, handed, List.map_append, (stepBlocks_spec hI d r ev).1, ih (binv_step hI ev)]

theorem blocks_sublist {b : B} (hI : BInv b) (d r : Nat) (evs : List Ev) :
    (((blocks d b r evs).map (·.2)).flatten).Sublist (stream d b evs) := by
  induction evs generalizing b with
  | nil => exact List.Sublist.refl _
  | cons ev evs ih =>
    simp only [blocks, List.map_append, List.flatten_append, stream_cons]
    exact List.Sublist.append (stepBlocks_spec hI d r ev).2 (ih (binv_step hI ev))

theorem blocks_content (d : Nat) (b : B) (r : Nat) (evs : List Ev) :
    ∀ x ∈ blocks d b r evs, ∀ w ∈ x.2, w.topic = x.1.topic ∧ w.payload = x.1.payload := by
  induction evs generalizing b with
  | nil => intro x hx; cases hx
  | cons ev evs ih =>
    intro x hx
    simp only [blocks, List.mem_append] at hx
    rcases hx with hx | hx
    · exact stepBlocks_content d b r ev x hx
    · exact ih _ x hx

theorem subscribed_congr {b b' : B} (h : b'.topics.sroot = b.topics.sroot) (d : Nat) (t : Bytes) (q : Nat) :
    Subscribed b' d t q ↔ Subscribed b d t q := by
  unfold Subscribed
  rw [Mqtt.Proofs.Broker.subscribers_congr h]

/-- within one release nothing changes the connection table or the subscription tree -/
theorem handOver_nonempty (d : Nat) (b : B) (ps : List Pub) (hd : d < cbBase) (ha : b.alive d = true)
    (hs : ∀ p ∈ ps, p.topic ≠ [] ∧ Subscribed b d p.topic p.qos) :
    ∀ x ∈ handOver d b ps, x.2 ≠ [] := by
  induction ps generalizing b with
  | nil => intro x hx; cases hx
  | cons p ps ih =>
    intro x hx
    simp only [handOver, List.mem_cons] at hx
    have fr := onPublish_frame b ⟨p, false⟩
    rcases hx with rfl | hx
    · obtain ⟨ht, hsub⟩ := hs p List.mem_cons_self
      exact onPublish_delivers b ⟨p, false⟩ d hd ha ht hsub
    · refine ih _ (by rw [Mqtt.Proofs.Broker.alive_congr _ _ fr.conns]; exact ha) ?_ x hx
      intro p' hp'
      obtain ⟨ht, hsub⟩ := hs p' (List.mem_cons_of_mem _ hp')
      exact ⟨ht, (subscribed_congr fr.sroot d _ _).mpr hsub⟩

theorem stepBlocks_nonempty {b : B} (d r : Nat) (ev : Ev) (hd : d < cbBase) (ha : b.alive d = true)
    (hs : ∀ p ∈ stepHanded b r ev, p.topic ≠ [] ∧ Subscribed b d p.topic p.qos) :
    ∀ x ∈ stepBlocks d b r ev, x.2 ≠ [] := by
  intro x hx
  unfold stepBlocks at hx
  split at hx
  · rename_i c id
    split at hx
    · rename_i hb
      split at hx
      · rename_i s hsess
        refine handOver_nonempty d _ _ hd ?_ ?_ x hx
        · rw [Mqtt.Proofs.Broker.alive_congr _ _ (Mqtt.Proofs.Broker.setSess_conns _ _)]; exact ha
        · intro p hp
          have : pub2inOf b r = s.pub2in := pub2inOf_eq hsess
          have hp' : p ∈ stepHanded b r (.packet c (.pubrel id)) := by
            simp only [stepHanded, hb, ↓reduceIte, this]; exact hp
          obtain ⟨ht, hsub⟩ := hs p hp'
          exact ⟨ht, (subscribed_congr (by rw [Mqtt.Proofs.Broker.setSess_topics]) d _ _).mpr hsub⟩
      · cases hx
    · cases hx
  · cases hx

theorem handed_prefix {b : B} (hI : BInv b) (evs : List Ev) (r : Nat) :
    handed b r evs <+: (pub2inOf b r).map (·.msg) ++ opened b r evs :=
  ⟨_, run_conservation hI evs r⟩

end Mqtt.Proofs.BrokerOrder
