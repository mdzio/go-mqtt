/-
The trie's entries against the specification's list of held subscriptions (`HeldInv`): one SUBSCRIBE or
UNSUBSCRIBE of the reference broker on its list (`specSubHeld`, the filter on owner and topic) is what the
model's loops do to the entries (`HeldInv.resubscribe`, `HeldInv.unsubFold`).
-/
import Mqtt.Proofs.BrokerFanoutEntries

namespace Mqtt.Proofs.Broker
open Mqtt.Iface.Broker Mqtt.Model.Broker
open Mqtt.Model.Topics (MemTopics SNode)
open Mqtt.Proofs.Topics (entryLevels)
open Mqtt.Proofs.Topics (WF abs good Entry)
open Mqtt.Spec.Match (split validFilter)
open Mqtt.Spec.Broker (Held addHeld subCode)

def heldEntry (h : Held) : Entry := (split h.filter, h.owner, h.qos)

/-- the subscription trie holds exactly the subscriptions `held` (each under
the path of its filter), and those filters are valid -/
structure HeldInv (root : SNode) (held : List Held) : Prop where
  perm : (abs root).Perm (held.map heldEntry)
  valid : ∀ h ∈ held, validFilter h.filter = true

theorem HeldInv_empty : HeldInv SNode.empty [] :=
  ⟨by simp [Mqtt.Proofs.Topics.abs_empty], by simp⟩

theorem delEntry_held (held : List Held) (c : Nat) (t : Bytes) :
    delEntry (held.map heldEntry) (split t) c =
      (held.filter (fun h => !(h.owner == c && h.filter == t))).map heldEntry := by
  unfold delEntry
  rw [List.filter_map]
  simp only [Function.comp_def, heldEntry, Mqtt.Proofs.Topics.split_beq, Bool.and_comm]

theorem addEntry_held (held : List Held) (c : Nat) (t : Bytes) (g : Nat) :
    addEntry (held.map heldEntry) (split t) c g = (addHeld held c t g).map heldEntry := by
  unfold addHeld
  rw [List.map_append, ← delEntry_held]
  rfl

/-- the specification's `held` after a SUBSCRIBE, as a loop over the request -/
def specSubHeld (c : Nat) (topics : List (Bytes × Nat)) (held : List Held) : List Held :=
  topics.foldl (fun h tq => if subCode tq.1 tq.2 != 0x80 then addHeld h c tq.1 (subCode tq.1 tq.2) else h) held

theorem specSubHeld_eq (c : Nat) (topics : List (Bytes × Nat)) : ∀ held : List Held,
    ((topics.zip (topics.map (fun t => subCode t.1 t.2))).filter (fun p => p.2 != 0x80)).foldl
      (fun h p => addHeld h c p.1.1 p.2) held = specSubHeld c topics held := by
  induction topics with
  | nil => intro held; rfl
  | cons tq rest ih =>
    intro held
    simp only [List.map_cons, List.zip_cons_cons, List.filter_cons, specSubHeld, List.foldl_cons]
    split
    · exact ih _
    · exact ih _

theorem subEntry_held (held : List Held) (c : Nat) (t : Bytes) (q : Nat) (hg : good t = true)
    (hv : ∀ h ∈ held, validFilter h.filter = true) :
    (if accepts t q then addEntry (held.map heldEntry) (entryLevels t).1 c (min q Mqtt.Generated.maxQosAllowed)
      else held.map heldEntry) =
    (if subCode t q != 0x80 then addHeld held c t (subCode t q) else held).map heldEntry ∧
    ∀ h ∈ (if subCode t q != 0x80 then addHeld held c t (subCode t q) else held), validFilter h.filter = true := by
  obtain ⟨c1, c2⟩ := subCode_granted t q
  rw [accepts_good t q hg, c1]
  cases hcond : (validFilter t && decide (q ≤ 2)) with
  | false => exact ⟨rfl, hv⟩
  | true =>
    have hvt : validFilter t = true := (Bool.and_eq_true _ _ ▸ hcond).1
    refine ⟨?_, fun h hh => ?_⟩
    · simp only [↓reduceIte]
      rw [(Mqtt.Proofs.Topics.entryLevels_valid t hg hvt).1, c2 hcond, addEntry_held]
    · rcases List.mem_append.mp hh with hh | hh
      · exact hv h (List.mem_filter.mp hh).1
      · rw [List.mem_singleton.mp hh]; exact hvt

theorem entriesAfterSub_held (c : Nat) (topics : List (Bytes × Nat)) (hg : ∀ tq ∈ topics, good tq.1 = true) :
    ∀ held : List Held, (∀ h ∈ held, validFilter h.filter = true) →
      entriesAfterSub c topics (held.map heldEntry) = (specSubHeld c topics held).map heldEntry ∧
      ∀ h ∈ specSubHeld c topics held, validFilter h.filter = true := by
  induction topics with
  | nil => intro held hv; exact ⟨rfl, hv⟩
  | cons tq rest ih =>
    intro held hv
    obtain ⟨e, hv'⟩ := subEntry_held held c tq.1 tq.2 (hg tq (List.mem_cons_self ..)) hv
    rw [entriesAfterSub_cons, e]
    exact ih (fun x hx => hg x (List.mem_cons_of_mem _ hx)) _ hv'

theorem entriesAfterUnsub_held (c : Nat) (topics : List Bytes) (hg : ∀ t ∈ topics, good t = true) :
    ∀ held : List Held, (∀ h ∈ held, validFilter h.filter = true) →
      entriesAfterUnsub c topics (held.map heldEntry) =
        (held.filter (fun h => !(h.owner == c && topics.contains h.filter))).map heldEntry := by
  intro held hv
  rw [entriesAfterUnsub_eq, List.filter_map]
  refine congrArg _ (List.filter_congr fun h hh => ?_)
  -- a held filter is valid: it is listed exactly when the path of a listed valid filter is its path
  refine congrArg (fun x => !(h.owner == c && x)) (Bool.eq_iff_iff.mpr ?_)
  rw [List.any_eq_true, List.contains_iff_mem]
  constructor
  · rintro ⟨t, ht, htl⟩
    rw [Bool.and_eq_true, beq_iff_eq] at htl
    have hvt : validFilter t = true := by
      cases hvt : validFilter t
      · rw [Mqtt.Proofs.Topics.entryLevels_invalid t hvt] at htl; exact Bool.noConfusion htl.1
      · rfl
    rw [(Mqtt.Proofs.Topics.entryLevels_valid t (hg t ht) hvt).1] at htl
    exact Mqtt.Proofs.Topics.split_inj _ _ htl.2 ▸ ht
  · intro ht
    obtain ⟨e1, e2⟩ := Mqtt.Proofs.Topics.entryLevels_valid h.filter (hg _ ht) (hv h hh)
    exact ⟨h.filter, ht, by rw [e1, e2, Bool.true_and]; exact beq_self_eq_true _⟩

/-- `HeldInv` is kept by the two loops over the subscription trie, against the two operations of the reference
broker on its held list.  `resubscribe` is the loop of the resume; the SUBSCRIBE packet (`subscribeLoop_eq`)
and the in-process Subscribe run it too: every filter, granted or not, is handed to `Subscribe`. -/
theorem HeldInv.resubscribe {mt : MemTopics} {held : List Held} (hh : HeldInv mt.sroot held) (hwf : WF mt.sroot)
    (c : Nat) (l : List (Bytes × Nat)) (hg : ∀ tq ∈ l, good tq.1 = true) :
    HeldInv (resubscribe mt c l).sroot (specSubHeld c l held) := by
  obtain ⟨e1, e2⟩ := entriesAfterSub_held c l hg held hh.valid
  exact ⟨((resubscribe_abs c l mt hwf).trans (entriesAfterSub_perm c l _ _ hh.perm)).trans (.of_eq e1), e2⟩

theorem HeldInv.unsubFold {mt : MemTopics} {held : List Held} (hh : HeldInv mt.sroot held) (hwf : WF mt.sroot)
    (c : Nat) (l : List Bytes) (hg : ∀ t ∈ l, good t = true) :
    HeldInv (l.foldl (fun ts t => (ts.unsubscribe t (some c)).1) mt).sroot
      (held.filter (fun h => !(h.owner == c && l.contains h.filter))) :=
  ⟨((unsubFold_abs c l mt hwf).trans (entriesAfterUnsub_perm c l _ _ hh.perm)).trans
    (.of_eq (entriesAfterUnsub_held c l hg held hh.valid)), fun h hm => hh.valid h (List.mem_filter.mp hm).1⟩

theorem packet_subscribe_held (b : B) (hinv : Inv b) (c id : Nat) (hl : b.alive c = true) (held : List Held)
    (hh : HeldInv b.topics.sroot held) (topics : List (Bytes × Nat)) (hg : ∀ tq ∈ topics, good tq.1 = true) :
    HeldInv (packet b c (.subscribe id topics)).1.topics.sroot (specSubHeld c topics held) := by
  obtain ⟨cn, s, hc, ha, hs⟩ := hinv.live hl
  obtain ⟨_, e⟩ := packet_subscribe_state id topics hc ha hs
  rw [e]
  exact hh.resubscribe hinv.wf c topics hg

theorem packet_unsubscribe_held (b : B) (hinv : Inv b) (c id : Nat) (hl : b.alive c = true) (held : List Held)
    (hh : HeldInv b.topics.sroot held) (topics : List Bytes) (hg : ∀ t ∈ topics, good t = true) :
    HeldInv (packet b c (.unsubscribe id topics)).1.topics.sroot
      (held.filter (fun h => !(h.owner == c && topics.contains h.filter))) := by
  obtain ⟨cn, s, hc, ha, hs⟩ := hinv.live hl
  rw [packet_unsubscribe b c cn s id topics hc ha hs]
  exact hh.unsubFold hinv.wf c topics hg

end Mqtt.Proofs.Broker
