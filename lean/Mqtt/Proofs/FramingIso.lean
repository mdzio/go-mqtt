/-
C05 helper lemmas: what `Model/Framing` makes of a byte stream on connection `c`
is a list of events *of `c`* — packets, and at most one close, last — and the
bytes left over are a suffix of the stream.
-/
import Mqtt.Proofs.Framing
import Mqtt.Proofs.BrokerIso

namespace Mqtt.Proofs.Framing

open Mqtt.Model.Framing
open Mqtt.Iface.Broker (Ev Packet)
open Mqtt.Proofs.BrokerIso (onConn noTakeOver noTakeOverRun noTakeOverRun_of_notFirst)

def StreamShape (c : Nat) (evs : List Ev) : Prop :=
  ∃ ps : List Packet, evs = ps.map (Ev.packet c) ∨ evs = ps.map (Ev.packet c) ++ [Ev.close c]

theorem postEvents_shape (sz c : Nat) : ∀ (fuel : Nat) (avail : Bytes),
    StreamShape c (postEvents sz c fuel avail).1 ∧ ∃ k, (postEvents sz c fuel avail).2 = avail.drop k := by
  intro fuel
  induction fuel with
  | zero => exact fun avail => ⟨⟨[], .inl rfl⟩, 0, rfl⟩
  | succ fuel ih =>
    intro avail
    unfold postEvents
    cases (nextPacket sz avail).outcome with
    | packet d total =>
      obtain ⟨⟨ps, hps⟩, k, hk⟩ := ih (avail.drop total)
      exact ⟨⟨toPacket d.msg :: ps, hps.imp (congrArg (_ :: ·)) (congrArg (_ :: ·))⟩,
        total + k, hk.trans (List.drop_drop ..)⟩
    | needMore => exact ⟨⟨[], .inl rfl⟩, 0, rfl⟩
    | closeThis | panicked | stuck => exact ⟨⟨[], .inr rfl⟩, avail.length, (List.drop_length ..).symm⟩

theorem shape_mem {c : Nat} {evs : List Ev} (h : StreamShape c evs) {e : Ev} (he : e ∈ evs) :
    (∃ p, e = .packet c p) ∨ e = .close c := by
  have hp : ∀ ps : List Packet, e ∈ ps.map (Ev.packet c) → ∃ p, e = .packet c p :=
    fun ps he => (List.mem_map.1 he).imp fun _ h => h.2.symm
  obtain ⟨ps, rfl | rfl⟩ := h
  · exact .inl (hp ps he)
  · exact (List.mem_append.1 he).imp (hp ps) List.eq_of_mem_singleton

theorem packetOrClose_onConn_noTakeOver {A : Nat} {l : List Ev} (h : ∀ e ∈ l, (∃ p, e = .packet A p) ∨ e = .close A) :
    (∀ e ∈ l, onConn A e = true) ∧ ∀ b, noTakeOverRun b l := by
  constructor
  · intro e he
    obtain ⟨p, rfl⟩ | rfl := h e he <;> exact beq_self_eq_true A
  · refine noTakeOverRun_of_notFirst l fun e he _ _ _ h0 => ?_
    obtain ⟨p, rfl⟩ | rfl := h e he <;> nomatch h0

theorem shape_onConn {c : Nat} {evs : List Ev} (h : StreamShape c evs) : ∀ e ∈ evs, onConn c e = true :=
  (packetOrClose_onConn_noTakeOver fun _ => shape_mem h).1

/-- the model's packet bound is not a restriction (a packet takes at least one byte: `PostOk`) -/
theorem postEvents_fuel (sz c : Nat) : ∀ (fuel : Nat) (avail : Bytes), avail.length < fuel →
    postEvents sz c (fuel + 1) avail = postEvents sz c fuel avail := by
  intro fuel
  induction fuel with
  | zero => exact fun _ h => nomatch h
  | succ fuel ih =>
    intro avail h
    have hok := (nextPacket_ok sz avail).1
    rw [postEvents, postEvents]
    cases ho : (nextPacket sz avail).outcome with
    | packet d total =>
      rw [ho] at hok
      have hlen : (avail.drop total).length < fuel := List.length_drop ▸
        Nat.lt_of_lt_of_le (Nat.sub_lt (Nat.lt_of_lt_of_le hok.1 hok.2.1) hok.1) (Nat.le_of_lt_succ h)
      dsimp only
      rw [ih _ hlen]
    | _ => rfl

theorem toPacket_publish_ids {m : Mqtt.Model.Codec.Msg} {p : Mqtt.Iface.Broker.Pub}
    (h : toPacket m = .publish p) (hm : publishIdMissing m = false) : p.qos = 0 ∨ p.pktid ≠ 0 := by
  -- an acknowledgement or a bare header becomes one of several packets, chosen by its type
  have ite_ne : ∀ {c : Prop} [Decidable c] {a b : Packet}, a ≠ .publish p → b ≠ .publish p →
      (if c then a else b) ≠ .publish p := fun ha hb => by split <;> assumption
  cases m with
  | publish hd topic payload =>
    cases h
    by_cases hq0 : Mqtt.Model.Codec.pubQoS hd = 0
    · exact .inl hq0
    · refine .inr fun h0 => ?_
      rw [if_neg hq0] at h0
      have : (Mqtt.Model.Codec.pubQoS hd != Mqtt.Generated.qosAtMostOnce && hd.packetID == 0) = true :=
        Bool.and_eq_true _ _ ▸ ⟨bne_iff_ne.2 hq0, beq_iff_eq.2 h0⟩
      exact absurd (this.symm.trans hm) nofun
  | ack hd => exact absurd h (ite_ne nofun (ite_ne nofun (ite_ne nofun (ite_ne nofun nofun))))
  | bare hd => exact absurd h (ite_ne nofun (ite_ne nofun nofun))
  | connect | connack | subscribe | suback | unsubscribe => nomatch h

/-- [MQTT-2.3.1-1]: a PUBLISH the framing hands to the broker model has an identifier when its QoS needs one -/
theorem postEvents_publish_ids (sz c : Nat) : ∀ (fuel : Nat) (avail : Bytes) (p : Mqtt.Iface.Broker.Pub),
    Ev.packet c (.publish p) ∈ (postEvents sz c fuel avail).1 → p.qos = 0 ∨ p.pktid ≠ 0 := by
  intro fuel
  induction fuel with
  | zero => exact fun _ _ h => nomatch h
  | succ fuel ih =>
    intro avail p h
    have hok := (nextPacket_ok sz avail).1
    unfold postEvents at h
    cases ho : (nextPacket sz avail).outcome with
    | packet d total =>
      rw [ho] at h hok
      rcases List.mem_cons.1 h with h | h
      · injection h with _ h
        exact toPacket_publish_ids h.symm hok.2.2.2.2
      · exact ih _ p h
    | needMore => rw [ho] at h; nomatch h
    | closeThis | panicked | stuck => rw [ho] at h; nomatch List.mem_singleton.1 h

theorem firstEvent_shape (c : Nat) (auth : Auth) (stream : Bytes) (ends : Bool) (e : Ev) (rest : Bytes)
    (h : firstEvent c auth stream ends = some (e, rest)) :
    (∃ f a, e = .first c f a) ∧ ∃ k, rest = stream.drop k := by
  have hall : ([] : Bytes) = stream.drop stream.length := (List.drop_length ..).symm
  unfold firstEvent at h
  revert h
  cases (getConnectMessage stream).outcome with
  | needMore =>
    -- nothing yet, unless the caller says the stream has ended
    cases ends with
    | true => exact fun h => by cases h; exact ⟨⟨_, _, rfl⟩, _, hall⟩
    | false => exact nofun
  | connect | refused => exact fun h => by cases h; exact ⟨⟨_, _, rfl⟩, _, rfl⟩
  | error | panicked => exact fun h => by cases h; exact ⟨⟨_, _, rfl⟩, _, hall⟩

/-- the whole life of a connection as the framing sees it: only the first packet can be a take-over -/
theorem connEvents_ok (b : Mqtt.Model.Broker.B) (sz A fuel : Nat) (auth : Auth) (first later : Bytes)
    (ends closes : Bool)
    (hto : ∀ e rest, firstEvent A auth first ends = some (e, rest) → noTakeOver b e) :
    let evs : List Ev :=
      (match firstEvent A auth first ends with
        | some (e, rest) => e :: (postEvents sz A fuel (rest ++ later)).1
        | none => []) ++ (if closes then [Ev.close A] else [])
    (∀ e ∈ evs, onConn A e = true) ∧ noTakeOverRun b evs := by
  have hcl : ∀ e ∈ (if closes then [Ev.close A] else []), (∃ p, e = .packet A p) ∨ e = .close A := by
    intro e he
    split at he
    · exact .inr (List.eq_of_mem_singleton he)
    · nomatch he
  have hl := fun avail => packetOrClose_onConn_noTakeOver (List.forall_mem_append.2
    ⟨fun _ => shape_mem (postEvents_shape sz A fuel avail).1, hcl⟩)
  intro evs
  cases hf : firstEvent A auth first ends with
  | none =>
    simp only [evs, hf]
    exact ⟨(packetOrClose_onConn_noTakeOver hcl).1, (packetOrClose_onConn_noTakeOver hcl).2 b⟩
  | some er =>
    obtain ⟨e1, rest⟩ := er
    obtain ⟨⟨f, a, rfl⟩, _⟩ := firstEvent_shape A auth first ends e1 rest hf
    simp only [evs, hf]
    exact ⟨List.forall_mem_cons.2 ⟨beq_self_eq_true A, (hl _).1⟩, hto _ _ hf, (hl _).2 _⟩

end Mqtt.Proofs.Framing
