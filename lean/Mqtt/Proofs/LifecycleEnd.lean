/-
Core F — the end of a connection: what persists once it has ended (`TStep.ended`, `ReadFails`, `NoPanic`), the kinds of
state in which nothing can run (`quiescent_kinds`, `self_held_not_ended`), late deliveries; where fair round-robin ends
(`fair_end`), and from it the theorems of `Properties/C16.lean` for any state that satisfies the invariants.  At the end
`c0`, the configuration of the closed examples there.
-/
import Mqtt.Proofs.LifecycleProgress

namespace Mqtt.Proofs.Lifecycle
open Mqtt.Model.Lifecycle

theorem TStep.ended {c : Cfg} {s s' : St} {t : Tid} {k : Nat} (h : TStep c s t k s') (he : Ended s = true) :
    Ended s' = true := by
  obtain ⟨hf, hr, hp⟩ := h.frameE
  simp only [Ended, Bool.or_eq_true, bne_iff_ne, ne_eq] at he ⊢
  rcases he with (((he | he) | he) | he) | he
  · exact .inl (.inl (.inl (.inl (hf.sock he))))
  · exact .inl (.inl (.inl (.inr (hf.timeout ▸ he))))
  · exact .inl (.inl (.inr (hf.closed he)))
  · exact .inl (.inr (hr he))
  · exact .inr (hp he)

/-- the receiver's read fails or has failed: it is inside a socket read on a socket that is not open (closed by
either side, or HALF-closed by the peer: the read returns end-of-stream) or whose deadline has fired, or it is
already past its loop -/
def ReadFails (s : St) : Prop :=
  (s.recv = .read ∧ (s.sh.sock ≠ .open ∨ s.sh.timeout = true)) ∨ RPc.pastLoop s.recv = true

theorem TStep.readFails {c : Cfg} {s s' : St} {t : Tid} {k : Nat} (h : TStep c s t k s') (hrd : ReadFails s) :
    ReadFails s' := by
  obtain ⟨hf, hr, -⟩ := h.frameE
  have same : s'.recv = s.recv → ReadFails s' := fun e => by
    rcases hrd with ⟨hr, hso | hto⟩ | hp
    · exact .inl ⟨e ▸ hr, .inl (hf.sock hso)⟩
    · exact .inl ⟨e ▸ hr, .inr (hf.timeout ▸ hto)⟩
    · exact .inr (e ▸ hp)
  cases h with
  | recv hpc h =>
    refine .inr ?_
    rcases hrd with ⟨hrd, h1⟩ | hrd
    · rw [hpc] at hrd; subst hrd
      cases h with
      | readFail => rfl
      | read hs ht _ => rcases h1 with h1 | h1; exact absurd hs h1; rw [ht] at h1; cases h1
    · exact hr hrd
  | _ => exact same rfl

theorem readFails_not_space (s : St) (h : ReadFails s) : s.recv ≠ .space := by
  intro hr
  rcases h with ⟨h, _⟩ | h <;> rw [hr] at h <;> cases h

theorem effAt_full (sh : Sh) : effAt sh 100 = expectedEffects sh := by
  simp [effAt, expectedEffects]

theorem final_complete {c : Cfg} {s : St} (hi : Inv c s) (hf : Final s = true) :
    s.sh.closed = true ∧ TornDown s = true ∧ s.sh.effects = expectedEffects s.sh ∧ goroutinesLeft s = 0 := by
  obtain ⟨hr, hs, hp, hks, -⟩ := (final_iff s).mp hf
  obtain ⟨hc, t, hwin, hkk, w⟩ := winner_returned hi.k hp fun i j h => by cases hks i _ h
  have w7 : s.sh.effects = expectedEffects s.sh := w.effects.trans (effAt_full s.sh)
  refine ⟨hc, ?_, w7, by simp [goroutinesLeft, hr, hs, hp]⟩
  simp only [TornDown, hc, w.wg (by decide), w7, hwin]
  cases t with
  | proc => simp [hp]
  | k i => simp [show s.ks[i]? = _ from hkk]
  | _ => cases hkk

/-- the half-closed form of the end that is not noticed (finding F8): the peer has shut down its sending
direction (`peerShut`) and does not read; the socket is still writable, so the sender's write blocks and the
processor stays parked in the connection's own outgoing ring; the receiver waits for room in the completely
full incoming ring, issues no socket read and so never sees the end-of-stream — and never closes the socket.
Nobody has called `stop()`, no deadline has fired (none is armed). -/
structure HalfClosedHeld (c : Cfg) (s : St) : Prop where
  held : HeldBySelf s = true
  sock : s.sh.sock = .peerShut
  recv : s.recv = .space
  inOpen : s.sh.inR.done = false
  inFull : c.cap ≤ s.sh.inR.buf
  noTimeout : s.sh.timeout = false
  notClosed : s.sh.closed = false

/-- **a connection whose processor is parked behind its own non-reading client has not ended**
(repair b77088f) — in any way the broker has noticed.  In a state in which nothing can run, `HeldBySelf` —
socket writable (open or half-closed), peer not reading, processor inside a write to its own outgoing ring —
excludes a fired read deadline (the receiver, inside that read, could step), a receiver past its loop (it
could step until it has exited, and then it has closed the socket), a `stop()` past its CAS (it
could step until `Wait`, and then it has closed the socket).  What is left of `Ended` is the socket itself:
it is open (the connection has not ended), or the peer has HALF-closed it and the receiver, parked for room in
the completely full incoming ring, is not reading (`HalfClosedHeld`). -/
theorem self_held_not_ended {c : Cfg} {s : St} (hi : Inv c s) (hq : ∀ t, TBlocked c s t)
    (hs : HeldBySelf s = true) :
    (Ended s = false ∨ (s.sh.sock = .peerShut ∧ s.recv = .space ∧ s.sh.inR.done = false ∧ c.cap ≤ s.sh.inR.buf)) ∧
    s.sh.timeout = false ∧ RPc.pastLoop s.recv = false ∧ s.sh.closed = false := by
  simp only [HeldBySelf, Bool.and_eq_true, Bool.not_eq_true'] at hs
  obtain ⟨⟨hso, hpr⟩, hown⟩ := hs
  have hcl : s.sh.closed = false := by
    cases hc : s.sh.closed with
    | false => rfl
    | true => rw [(closed_quiet hi.a hi.k hq hc).1] at hso; cases hso
  have hproc : PPc.pastLoop s.proc = false := by
    cases hpc : s.proc <;> rw [hpc] at hown <;> first | rfl | cases hown
  -- where the receiver is parked decides the rest
  rcases recv_blocked hi.a (hq .recv) with ⟨hr, hd, hb⟩ | ⟨hr, hso', hto, _⟩ | hr
  · have hto : s.sh.timeout = false := hi.r.no_timeout (by rw [hr]; nofun) (by rw [hr]; rfl)
    refine ⟨?_, hto, by rw [hr]; rfl, hcl⟩
    cases hsk : s.sh.sock with
    | «open» => exact .inl (by simp [Ended, hsk, hto, hcl, hr, hproc, RPc.pastLoop])
    | peerShut => exact .inr ⟨rfl, hr, hd, hb⟩
    | _ => rw [hsk] at hso; cases hso
  · exact ⟨.inl (by simp [Ended, hso', hto, hcl, hr, hproc, RPc.pastLoop]), hto, by rw [hr]; rfl, hcl⟩
  · rw [hi.r.rsock (by rw [hr]; rfl)] at hso; cases hso

theorem quiescent_kinds {c : Cfg} (hw : WF c) {s : St} (hi : Inv c s) (hq : ∀ t, TBlocked c s t) :
    Final s = true ∨ HeldByThird s = true ∨ Ended s = false ∨ HalfClosedHeld c s := by
  rcases quiescent_cases hw hi.a hi.w hi.k hq with h | h | h | h
  · exact Or.inl h
  · exact Or.inr (Or.inl h)
  · obtain ⟨h1, h2, _, h4⟩ := self_held_not_ended hi hq h
    rcases h1 with h1 | ⟨a, b, d, e⟩
    · exact Or.inr (Or.inr (Or.inl h1))
    · exact Or.inr (Or.inr (Or.inr ⟨h, a, b, d, e, h2, h4⟩))
  · exact Or.inr (Or.inr (Or.inl h))

theorem heldByThird_iff (s : St) :
    HeldByThird s = true ↔ s.sh.extBlocked = true ∧ ∃ rest, s.proc = .acts (.foreign :: rest) := by
  simp only [HeldByThird, Bool.and_eq_true]
  refine and_congr_right fun _ => ⟨fun h => ?_, fun ⟨rest, h⟩ => by rw [h]⟩
  split at h
  next rest hp => exact ⟨rest, hp⟩
  next => cases h

/-- no writer has panicked (and `stop()` does not clear the ring pointers: `InvK.nil`) -/
def NoPanic (s : St) : Prop := ∀ w, w ∈ s.ws → w.pc ≠ .panicked

theorem noPanic_step (c : Cfg) (hw : WF c) (s s' : St) (l : Label) (hi : Inv c s) (hn : NoPanic s)
    (h : step c s l = some s') : NoPanic s' := by
  cases l with
  | env e => replace h := estep_sound hw h; cases h <;> exact hn
  | th t k =>
    replace h := tstep_sound hw h
    cases h with
    | w hpc h =>
      intro x hx
      rcases List.mem_or_eq_of_mem_set hx with hx | rfl
      · exact hn x hx
      · -- the step of a writer ends in `panicked` only through a nil ring pointer
        have hnil := hi.k.nil
        cases h with
        | waitNil l hn => rw [hnil] at hn; cases hn
        | commitNil l hn => rw [hnil] at hn; cases hn
        | _ => nofun
    | _ => exact hn

theorem noPanic_run (c : Cfg) (hw : WF c) (s : St) (sched : List Label) (hi : Inv c s) (hn : NoPanic s) :
    NoPanic (run c s sched) :=
  (run_induction (L := fun _ => True) (P := fun s => Inv c s ∧ NoPanic s)
    (fun s l s' _ ⟨hi, hn⟩ h => ⟨inv_step c hw s s' l hi h, noPanic_step c hw s s' l hi hn h⟩)
    (fun _ _ => trivial) ⟨hi, hn⟩).2

theorem writer_returns {c : Cfg} (hw : WF c) {sh : Sh} (hd : sh.outR.done = true) (hnil : sh.ringsNil = false)
    (me : Tid) (w : WTh) (hp : w.pc = .wait ∨ w.pc = .commit) :
    ∃ sh', wstep c sh me w = some (sh', { w with pc := .finished }) ∧ sh'.outR = sh.outR ∧ sh'.wmu = none := by
  obtain ⟨pc, len⟩ := w
  rcases hp with hp | hp <;> cases hp
  · by_cases h1 : c.cap < len <;> simp [wstep, hnil, done_waitSpace c hw.d2 _ _ hd, h1]
  · simp [wstep, hnil, done_commitP c hw.d2 _ _ hd]

theorem late_delivery (c : Cfg) (hw : WF c) (s : St) (hi : Inv c s) (hd : s.sh.outR.done = true)
    (i : Nat) (w : WTh) (hwi : s.ws[i]? = some w) :
    (w.pc = .check → en c s (.w i) = true) ∧
    ((w.pc = .wait ∨ w.pc = .commit) →
      ∃ sh', wstep c s.sh (.w i) w = some (sh', { w with pc := .finished }) ∧ sh'.outR = s.sh.outR ∧ sh'.wmu = none) ∧
    (w.pc = .lock → en c s (.w i) = true ∨ ∃ t, s.sh.wmu = some t ∧ en c s t = true) := by
  have hnil := hi.k.nil
  refine ⟨fun hp => ?_, writer_returns hw hd hnil _ w, fun hp => ?_⟩
  · obtain ⟨pc, len⟩ := w; cases hp
    simp [en, tstep, hwi, wstep, hnil]
  · obtain ⟨pc, len⟩ := w; cases hp
    cases hm : s.sh.wmu with
    | none => exact .inl (by simp [en, tstep, hwi, wstep, hm])
    | some t =>
      refine .inr ⟨t, rfl, ?_⟩
      rcases hi.w.other t hm with rfl | ⟨j, rfl⟩
      · have hh := hi.w.proc.mp hm
        rw [show en c s .proc = (pstep c s.sh s.proc).isSome by simp [en, tstep]]
        cases hpc : s.proc <;> rw [hpc] at hh <;> first | cases hh | skip
        · rename_i l rest; by_cases h1 : c.cap < l <;> simp [pstep, done_waitSpace c hw.d2 _ _ hd, h1]
        · simp [pstep, done_commitP c hw.d2 _ _ hd]
      · obtain ⟨w', hw', hh⟩ := (hi.w.w j).mp hm
        obtain ⟨sh', h, -⟩ := writer_returns hw hd hnil (.w j) w' (by
          obtain ⟨pc', len'⟩ := w'; cases pc' <;> first | exact .inl rfl | exact .inr rfl | cases hh)
        simp only [en, tstep, hw', h]; rfl

theorem TStep.started {c : Cfg} {s s' : St} {t : Tid} {k : Nat} (h : TStep c s t k s') :
    (∀ i : Nat, s'.ks[i]? = some KPc.idle → s.ks[i]? = some KPc.idle) ∧ (t ≠ .proc → s'.proc = s.proc) := by
  cases h with
  | proc hpc h => exact ⟨fun i hi => hi, fun hne => absurd rfl hne⟩
  | @k _ i pc pc' sh' hpc h =>
    refine ⟨fun j hj => ?_, fun _ => rfl⟩
    by_cases hij : i = j
    · subst hij
      rw [List.getElem?_set_self (List.getElem?_eq_some_iff.mp hpc).1] at hj
      exact absurd (Option.some.inj hj) h.frameE.2
    · rwa [List.getElem?_set_ne hij] at hj
  | _ => exact ⟨fun i hi => hi, fun _ => rfl⟩

theorem started_drain {c : Cfg} (hw : WF c) (n : Nat) (s : St) :
    ∀ i : Nat, (drain c n s).ks[i]? = some KPc.idle → s.ks[i]? = some KPc.idle :=
  drain_induction hw (P := fun s' => ∀ i : Nat, s'.ks[i]? = some KPc.idle → s.ks[i]? = some KPc.idle)
    (fun _ _ _ _ ih h i hi => ih i (h.started.1 i hi)) n (fun _ h => h)

theorem held_persist_run (c : Cfg) (hw : WF c) (s : St) (sched : List Label)
    (hth : ∀ l, l ∈ sched → ∃ t k, l = .th t k) (hh : HeldByThird s = true) :
    HeldByThird (run c s sched) = true ∧ Final (run c s sched) = false := by
  have key : HeldByThird (run c s sched) = true :=
    run_induction (P := fun s' => HeldByThird s' = true) (fun s1 l s2 ⟨t, k, hl⟩ hh hs => by
      subst hl
      have h := tstep_sound hw hs
      rw [heldByThird_iff] at hh ⊢
      obtain ⟨hx, rest, hp⟩ := hh
      by_cases htp : t = .proc
      · subst htp
        cases h with
        | proc hpc h =>
          rw [hp] at hpc; subst hpc
          cases h with
          | foreign _ hb => rw [hx] at hb; cases hb
      · exact ⟨h.frameE.1.ext.trans hx, rest, (h.started.2 htp).trans hp⟩) hth hh
  obtain ⟨_, rest, hp⟩ := (heldByThird_iff _).mp key
  exact ⟨key, by simp [Final, hp]⟩

/-! The theorems of `Properties/C16.lean`, for any state that satisfies the invariants (what each claims is said there). -/

theorem stop_once {c : Cfg} {s : St} (hi : Inv c s) :
    (∀ t1 t2 k1 k2, kOf s t1 = some k1 → kOf s t2 = some k2 →
        1 ≤ stage k1 → stage k1 < 100 → 1 ≤ stage k2 → stage k2 < 100 → t1 = t2) ∧
    (∃ n, s.sh.effects = effAt s.sh n) ∧
    (s.sh.effects ≠ [] → s.sh.wg = 0 ∧ s.recv = .exited ∧ s.send = .exited ∧ PPc.past s.proc = true) ∧
    (Final s = true → s.sh.closed = true ∧ TornDown s = true ∧ s.sh.effects = expectedEffects s.sh) := by
  refine ⟨fun t1 t2 k1 k2 h1 h2 a1 b1 a2 b2 => ?_, ?_, fun hne => ?_, fun hf => ?_⟩
  · have e1 := (hi.k.ks t1 k1 h1).prog a1 b1
    rw [(hi.k.ks t2 k2 h2).prog a2 b2] at e1
    exact (Option.some.inj e1).symm
  · cases hc : s.sh.closed with
    | false => exact ⟨0, (hi.k.opn hc).2⟩
    | true =>
      obtain ⟨t, kk, -, -, w⟩ := hi.k.winner hc
      exact ⟨stage kk, w.effects⟩
  · have hc : s.sh.closed = true := by
      cases hc : s.sh.closed with
      | true => rfl
      | false => exact absurd (hi.k.opn hc).2 hne
    obtain ⟨t, kk, -, -, w⟩ := hi.k.winner hc
    -- an effect means the winner is past `Wait`
    have h6 : 6 ≤ stage kk := Nat.le_of_not_lt fun hlt => hne (w.effects.trans (effAt_early _ (Nat.lt_succ_of_lt hlt)))
    exact ⟨w.wg h6, cnt_eq_zero (hi.a.wg ▸ w.wg h6)⟩
  · obtain ⟨h1, h2, h3, -⟩ := final_complete hi hf
    exact ⟨h1, h2, h3⟩

theorem no_deadlock {c : Cfg} (hw : WF c) {s : St} (hi : Inv c s) (he : Ended s = true) (hf : Final s = false)
    (hh : HeldByThird s = false) (hhc : (s.sh.sock == .peerShut && HeldBySelf s) = false) : ∃ t, en c s t = true := by
  apply Classical.byContradiction
  intro hne
  have hq : ∀ t, TBlocked c s t := fun t => blocked_of_not_en hw (by
    cases h : en c s t with
    | false => rfl
    | true => exact absurd ⟨t, h⟩ hne)
  rcases quiescent_kinds hw hi hq with h | h | h | h
  · rw [hf] at h; cases h
  · rw [hh] at h; cases h
  · rw [he] at h; cases h
  · simp [h.held, h.sock] at hhc

theorem read_pending (c : Cfg) (s : St) (hr : s.recv = .read) (hso : s.sh.sock = .open) :
    (estep c s .kaExpire).isSome = true ∧ (estep c s .peerClose).isSome = true := by
  simp [estep, hr, hso]

def Complete (q : St) : Prop :=
  Final q = true ∧ TornDown q = true ∧ q.sh.effects = expectedEffects q.sh ∧ goroutinesLeft q = 0

theorem Complete.final {q : St} (h : Complete q) : Final q = true := h.1
theorem Complete.torn {q : St} (h : Complete q) : TornDown q = true := h.2.1
theorem Complete.effects {q : St} (h : Complete q) : q.sh.effects = expectedEffects q.sh := h.2.2.1
theorem Complete.noneLeft {q : St} (h : Complete q) : goroutinesLeft q = 0 := h.2.2.2

/-- where fair round-robin ends; `P` is any predicate the thread steps keep, and the theorems below choose it so as to strike
out alternatives -/
theorem fair_end {c : Cfg} (hw : WF c) {s : St} (hi : Inv c s) {P : St → Prop}
    (hP : ∀ s t k s', Inv c s → P s → TStep c s t k s' → P s') (h : P s) :
    let q := drain c (rank c s) s
    quiescent c q = true ∧ Inv c q ∧ P q ∧
    (Complete q ∨ HeldByThird q = true ∨ Ended q = false ∨ HalfClosedHeld c q) := by
  intro q
  have hq := drain_quiescent c hw _ s hi (Nat.le_refl _)
  obtain ⟨hiq, hpq⟩ : Inv c q ∧ P q :=
    drain_induction hw (P := fun s => Inv c s ∧ P s)
      (fun s1 t k s2 ⟨hi, hp⟩ h => ⟨h.inv hw hi, hP _ _ _ _ hi hp h⟩) _ ⟨hi, h⟩
  refine ⟨hq, hiq, hpq, (quiescent_kinds hw hiq (blocked_of_quiescent hw hq)).imp_left fun hf => ?_⟩
  exact ⟨hf, (final_complete hiq hf).2⟩

theorem teardown_completes {c : Cfg} (hw : WF c) {s : St} (hi : Inv c s) (he : Ended s = true) :
    let q := drain c (rank c s) s
    quiescent c q = true ∧
    (Complete q ∨ HeldByThird q = true ∨
     (HeldBySelf q = true ∧ q.sh.sock = .peerShut ∧ q.recv = .space ∧ c.cap ≤ q.sh.inR.buf)) := by
  obtain ⟨hq, -, he', h | h | h | h⟩ := fair_end hw hi (P := fun s => Ended s = true) (fun _ _ _ _ _ he h => h.ended he) he
  · exact ⟨hq, .inl h⟩
  · exact ⟨hq, .inr (.inl h)⟩
  · rw [he'] at h; cases h
  · exact ⟨hq, .inr (.inr ⟨h.held, h.sock, h.recv, h.inFull⟩)⟩

theorem read_failure_completes {c : Cfg} (hw : WF c) {s : St} (hi : Inv c s) (he : Ended s = true) (hrf : ReadFails s) :
    let q := drain c (rank c s) s
    quiescent c q = true ∧ (Complete q ∨ HeldByThird q = true) := by
  obtain ⟨hq, -, ⟨he', hrf'⟩, h | h | h | h⟩ := fair_end hw hi (P := fun s => Ended s = true ∧ ReadFails s)
    (fun _ _ _ _ _ he h => ⟨h.ended he.1, h.readFails he.2⟩) ⟨he, hrf⟩
  · exact ⟨hq, .inl h⟩
  · exact ⟨hq, .inr h⟩
  · rw [he'] at h; cases h
  · exact absurd h.recv (readFails_not_space _ hrf')

theorem stop_completes {c : Cfg} (hw : WF c) {s : St} (hi : Inv c s) (hc : s.sh.closed = true)
    (hx : s.sh.extBlocked = false) : Complete (drain c (rank c s) s) := by
  obtain ⟨-, -, ⟨hc', hx'⟩, h | h | h | h⟩ := fair_end hw hi (P := fun s => s.sh.closed = true ∧ s.sh.extBlocked = false)
    (fun _ _ _ _ _ hp h => ⟨h.frameE.1.closed hp.1, h.frameE.1.ext.trans hp.2⟩) ⟨hc, hx⟩
  · exact h
  · rw [((heldByThird_iff _).mp h).1] at hx'; cases hx'
  · simp [Ended, hc'] at h
  · rw [h.notClosed] at hc'; cases hc'

theorem read_failure_tears_down {c : Cfg} (hw : WF c) {s : St} (hi : Inv c s) (he : Ended s = true) (hrf : ReadFails s)
    (hx : s.sh.extBlocked = false) :
    let q := drain c (rank c s) s
    quiescent c q = true ∧ Complete q ∧ q.sh.sock = .closed ∧ (NoDisc s → q.sh.willFlag = s.sh.willFlag) := by
  obtain ⟨hq, hiq, ⟨he', hrf', hx', hnd⟩, h | h | h | h⟩ := fair_end hw hi
    (P := fun s' => Ended s' = true ∧ ReadFails s' ∧ s'.sh.extBlocked = false ∧ (NoDisc s → NoDisc s' ∧ s'.sh.willFlag = s.sh.willFlag))
    (fun _ _ _ _ _ hp h => ⟨h.ended hp.1, h.readFails hp.2.1, h.frameE.1.ext.trans hp.2.2.1,
      fun hn => ⟨(h.noDisc (hp.2.2.2 hn).1).1, (h.noDisc (hp.2.2.2 hn).1).2.trans (hp.2.2.2 hn).2⟩⟩)
    ⟨he, hrf, hx, fun hn => ⟨hn, rfl⟩⟩
  · refine ⟨hq, h, hiq.r.rsock ?_, fun hn => (hnd hn).2⟩
    rw [((final_iff _).mp h.final).1]; rfl
  · rw [((heldByThird_iff _).mp h).1] at hx'; cases hx'
  · rw [he'] at h; cases h
  · exact absurd h.recv (readFails_not_space _ hrf')

theorem ks_length_run {c : Cfg} (hw : WF c) (s : St) (sched : List Label) : (run c s sched).ks.length = s.ks.length :=
  run_induction (L := fun _ => True) (P := fun s' => s'.ks.length = s.ks.length) (fun s1 l s2 _ ih hs => by
    cases l with
    | th t k => replace hs := tstep_sound hw hs; cases hs <;> simp only [List.length_set, ih]
    | env e => replace hs := estep_sound hw hs; cases hs <;> simp only [List.length_set, ih]) (fun _ _ => trivial) rfl

theorem server_close {c : Cfg} (hw : WF c) {s : St} (hi : Inv c s) (i : Nat) (hidle : s.ks[i]? = some .idle) :
    let s1 := run c s [.env .preClose, .env (.extBlock false), .env (.serverClose i), .th (.k i) 0]
    let q := drain c (rank c s1) s1
    Complete q ∧ q.ks[i]? = some .finished := by
  intro s1 q
  have hlt : i < s.ks.length := (List.getElem?_eq_some_iff.mp hidle).1
  -- the four steps, symbolically
  have hs1 : s1.sh.closed = true ∧ s1.sh.extBlocked = false ∧ s1.ks[i]? ≠ some .idle := by
    show (run c s _).sh.closed = true ∧ (run c s _).sh.extBlocked = false ∧ (run c s _).ks[i]? ≠ some .idle
    simp only [run, step, estep, close_returns c hw.d2, Option.map_some, hidle,
      tstep, List.getElem?_set_self hlt, kstep, hw.prog]
    by_cases hc : s.sh.closed = true <;> simp [stopProgram, execStop, hc, List.getElem?_set_self hlt]
  have hc := stop_completes hw (inv_run c hw s _ hi) hs1.1 hs1.2.1
  refine ⟨hc, ?_⟩
  -- the stopper was started and every `stop()` call has returned
  have hlen : i < q.ks.length := by
    obtain ⟨sched', hrun, -⟩ := drain_is_run c (rank c s1) s1
    show i < (drain c (rank c s1) s1).ks.length
    rw [hrun, ks_length_run hw, ks_length_run hw]; exact hlt
  obtain ⟨k, hk⟩ : ∃ k, q.ks[i]? = some k := ⟨q.ks[i], List.getElem?_eq_some_iff.mpr ⟨hlen, rfl⟩⟩
  have := ((final_iff _).mp hc.final).2.2.2.1 i k hk
  cases k with
  | idle => exact absurd (started_drain hw _ s1 i hk) hs1.2.2
  | finished => exact hk
  | run j => cases this

theorem silent_stuck (c : Cfg) (s : St) (hq : quiescent c s = true) (hk : estep c s .kaExpire = none)
    (sched : List Label) (hs : ∀ l, l ∈ sched → (∃ t k, l = .th t k) ∨ l = .env .kaExpire) :
    run c s sched = s := by
  induction sched with
  | nil => rfl
  | cons l ls ih =>
    have hl : step c s l = none := by
      rcases hs l (List.mem_cons_self ..) with ⟨t, k, rfl⟩ | rfl
      · have h1 := (quiescent_iff c s).mp hq t
        have h2 := tstep_isSome_k c s t k 1
        simp only [en] at h1
        rw [h1] at h2
        simp only [step]
        cases h3 : tstep c s t k with
        | none => rfl
        | some x => rw [h3] at h2; cases h2
      · exact hk
    simp only [run, hl]
    exact ih (fun l' hl' => hs l' (List.mem_cons_of_mem _ hl'))

/-- the configuration of the closed counterexamples and examples of `Properties/C16.lean`: a
16-byte ring, 8-byte blocks -/
def c0 : Cfg := { cap := 16, rblock := 8, wblock := 8 }

theorem c0_wf : WF c0 := ⟨rfl, rfl, rfl, rfl, by decide, by decide, by decide⟩

end Mqtt.Proofs.Lifecycle
