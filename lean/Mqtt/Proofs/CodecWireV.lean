/-
Core A (codec): the decoders accept every well-formed packet in **every** permitted form of the
remaining length (section 2.2.3: one to four bytes, not necessarily the shortest) and return its fields;
the reference encoding (`Wire.encode`, the shortest form) is one of them.
-/
import Mqtt.Proofs.CodecWire


namespace Mqtt.Proofs.Codec

open Mqtt.Model.Codec Mqtt.Iface.Codec Mqtt.Generated
open Mqtt.Spec

/-- `Decode` accepts `p` under every 1-4 byte encoding `V` of its remaining length, followed by anything -/
def AcceptsV (p : Wire.Packet) : Prop :=
  ∀ V : Bytes, Wire.getVarint 4 V = some (p.body.length, []) →
    ∀ rest : Bytes, ∃ d, decodeNew p.type (Wire.encodeV V p ++ rest) = .ok d ∧
      d.n = (Wire.encodeV V p).length ∧ absMsg d.msg = p

theorem encodeV_length (V : Bytes) (p : Wire.Packet) : (Wire.encodeV V p).length = 1 + V.length + p.body.length := by
  unfold Wire.encodeV; rw [List.length_cons, List.length_append]; omega

theorem packet_tfOk (p : Wire.Packet) (hwf : Wire.WF p) : TfOk p.type (UInt8.ofNat (p.type * 16 + p.flags)) := by
  obtain ⟨_, h16, hm16⟩ := packet_tf p hwf
  unfold TfOk
  rw [h16, hm16]
  refine ⟨?_, rfl, ?_, ?_⟩
  · exact (facts_validType _).mpr (packet_type_le p)
  · exact facts_defaultFlags p
  · intro h3
    cases p with
    | publish dup qos ret topic id payload =>
      have hq := (wf_publish hwf).1
      rw [show (Wire.Packet.publish dup qos ret topic id payload).flags / 2 % 4 = qos.toNat from
        (pubFlags_fields dup ret ⟨_, Nat.lt_succ_of_le hq⟩).2.1]
      simp only [validQos, qosAtMostOnce, qosAtLeastOnce, qosExactlyOnce, Bool.or_eq_true, beq_iff_eq]; omega
    | _ => cases h3

/-- the fixed header of a well-formed packet whose remaining length is written as `V`: `header.decode` on a fresh
message of its type, the confinement `src[:hn+remlen]`, and the reading position behind the header -/
theorem wire_header (p : Wire.Packet) (hwf : Wire.WF p) (V rest : Bytes)
    (hV : Wire.getVarint 4 V = some (p.body.length, [])) :
    Hdr.decode (Hdr.new p.type) (Wire.encodeV V p ++ rest) =
      .ok ({ Hdr.new p.type with tf := UInt8.ofNat (p.type * 16 + p.flags), tfInBuf := true, remlen := p.body.length,
                                 dbuf := Wire.encodeV V p }, 1 + V.length) ∧
    sliceTo (Wire.encodeV V p ++ rest) (1 + V.length + p.body.length) = .ok (Wire.encodeV V p) ∧
    Rest (Wire.encodeV V p) (1 + V.length) p.body ∧
    Rest (Wire.encodeV V p ++ rest) (1 + V.length) (p.body ++ rest) := by
  obtain ⟨huv, _, hvl1, hvl4⟩ := uvarint_of_getVarint V p.body.length (p.body ++ rest) hV
  have hok := packet_tfOk p hwf
  have hlen := encodeV_length V p
  have hsrc : Wire.encodeV V p ++ rest = UInt8.ofNat (p.type * 16 + p.flags) :: (V ++ (p.body ++ rest)) := by
    unfold Wire.encodeV; rw [List.cons_append, List.append_assoc]
  have hpos : ∀ X : Bytes, Rest (UInt8.ofNat (p.type * 16 + p.flags) :: (V ++ X)) (1 + V.length) X := fun X =>
    ⟨by rw [List.length_cons, List.length_append]; omega, by rw [Nat.add_comm, List.drop_succ_cons, List.drop_left' rfl]⟩
  refine ⟨?_, sliceTo_eq rfl hlen.symm, hpos _, hsrc ▸ hpos _⟩
  rw [hsrc, hdr_decode_cons, huv, if_pos ⟨by rw [hdrNew_type p.type (packet_type_le p).2]; exact hok, by omega, by omega, by simp⟩,
    ← hsrc]
  simp only [Int.toNat_natCast]
  rw [← hlen, List.take_left' rfl]

theorem acceptsV_ack (p : Wire.Packet) (id : UInt16) (hwf : Wire.WF p)
    (ht : p.type = 4 ∨ p.type = 5 ∨ p.type = 6 ∨ p.type = 7 ∨ p.type = 11) (hb : p.body = Wire.u16 id)
    (habs : ∀ h : Hdr, h.type = p.type → u16of h.pid = id → absMsg (.ack h) = p) : AcceptsV p := by
  intro V hV rest
  obtain ⟨hd, _, _, hR⟩ := wire_header p hwf V rest hV
  rw [hb] at hR
  have hnew : Msg.new p.type = some (.ack (Hdr.new p.type)) := by
    rcases ht with e | e | e | e | e <;> rw [e] <;> rfl
  unfold decodeNew
  rw [hnew]
  simp only [decode, decodeAck]
  rw [sliceFrom_ok (Nat.zero_le _), bind_ok, List.drop_zero, hd, bind_ok]
  simp only []
  rw [if_neg (by rw [hb]; exact fun h => h rfl), hR.slice (k := 2) rfl, bind_ok]
  exact ⟨_, rfl, by rw [encodeV_length, hb]; rfl, habs _ (by exact (packet_tf p hwf).2.1) (u16of_u16 id)⟩

theorem acceptsV_bare (p : Wire.Packet) (hwf : Wire.WF p) (ht : p.type = 12 ∨ p.type = 13 ∨ p.type = 14)
    (hb : p.body = []) (habs : ∀ h : Hdr, h.type = p.type → absMsg (.bare h) = p) : AcceptsV p := by
  intro V hV rest
  obtain ⟨hd, _, _, _⟩ := wire_header p hwf V rest hV
  have hnew : Msg.new p.type = some (.bare (Hdr.new p.type)) := by
    rcases ht with e | e | e <;> rw [e] <;> rfl
  unfold decodeNew
  rw [hnew]
  simp only [decode, decodeBare]
  rw [hd, bind_ok]
  simp only []
  rw [if_neg (by rw [hb]; exact fun h => h rfl)]
  exact ⟨_, rfl, by rw [encodeV_length, hb]; rfl, habs _ (by exact (packet_tf p hwf).2.1)⟩

theorem acceptsV_connack (sp : Bool) (code : UInt8) (hwf : Wire.WF (.connack sp code)) : AcceptsV (.connack sp code) := by
  intro V hV rest
  obtain ⟨hd, _, _, hR⟩ := wire_header _ hwf V rest hV
  have hc := wf_connack hwf
  have hR : Rest _ (1 + V.length) (UInt8.ofNat (Wire.b2n sp) :: code :: rest) := hR
  have hd : (Hdr.new 2).decode _ = _ := hd
  show ∃ d, decodeConnack (Hdr.new 2) _ = .ok d ∧ _
  unfold decodeConnack
  rw [hd, bind_ok]
  simp only []
  rw [if_neg (fun h => h rfl), hR.index, bind_ok,
    if_neg (by cases sp <;> decide), hR.next.index, bind_ok, if_neg (by rw [facts_connackMaxCode]; omega)]
  exact ⟨_, rfl, by rw [encodeV_length]; rfl, by cases sp <;> rfl⟩

theorem acceptsV_suback (id : UInt16) (codes : List UInt8) (hwf : Wire.WF (.suback id codes)) :
    AcceptsV (.suback id codes) := by
  intro V hV rest
  obtain ⟨hd, hs, hR, _⟩ := wire_header _ hwf V rest hV
  have hR : Rest (Wire.encodeV V (.suback id codes)) (1 + V.length) (Wire.u16 id ++ (codes ++ [])) := by
    rw [List.append_nil]; exact hR
  have hd : (Hdr.new 9).decode _ = _ := hd
  show ∃ d, decodeSuback (Hdr.new 9) _ = .ok d ∧ _
  unfold decodeSuback
  rw [sliceFrom_ok (Nat.zero_le _), bind_ok, List.drop_zero, hd, bind_ok]
  simp only []
  have r2 : Rest (Wire.encodeV V (.suback id codes)) (1 + V.length + 2) (codes ++ []) := hR.adv
  have hk : codes.length = (Wire.Packet.suback id codes).body.length - (1 + V.length + 2 - (1 + V.length)) := by
    show _ = (Wire.u16 id ++ codes).length - _; rw [List.length_append]; show _ = 2 + _ - _; omega
  rw [hs, bind_ok, if_neg (by show ¬ (Wire.u16 id ++ codes).length < 2; simp [Wire.u16]), hR.slice (k := 2) rfl, bind_ok,
    r2.slice hk, bind_ok, if_pos (wf_suback hwf).1]
  exact ⟨_, rfl, by rw [encodeV_length]; show 1 + V.length + 2 + codes.length = 1 + V.length + (codes.length + 2); omega,
    by simp only [absMsg]; rw [u16of_u16]⟩

/-- the same block of `decodePublish` as `pubId_total`, on wire input; ONE result pair with the `if` inside, so that
`acceptsV_publish` walks on without splitting on the QoS -/
theorem pubId_wire (h : Hdr) (s R : Bytes) (total : Nat) (qos : UInt8) (id : UInt16) (hq : pubQoS h = qos.toNat)
    (hR : Rest s total ((if qos = 0 then [] else Wire.u16 id) ++ R)) :
    (if pubQoS h ≠ 0 then
        (sliceFrom s total).bind fun rest =>
          if rest.length < 2 then Outcome.err else
          (slice s total (total + 2)).bind fun pid => .ok ({ h with pid := pid, pidOff := some total }, total + 2)
      else .ok (h, total)) =
      .ok ({ h with pid := if qos = 0 then h.pid else Wire.u16 id, pidOff := if qos = 0 then h.pidOff else some total },
           total + (if qos = 0 then [] else Wire.u16 id).length) := by
  by_cases hq0 : qos = 0
  · rw [if_pos hq0, if_pos hq0, if_pos hq0, if_neg (by rw [hq, hq0]; exact fun h => h rfl)]; rfl
  · have hqn : qos.toNat ≠ 0 := fun e => hq0 (UInt8.toNat_inj.mp e)
    rw [if_neg hq0] at hR
    rw [if_neg hq0, if_neg hq0, if_neg hq0, if_pos (by rw [hq]; exact hqn), hR.sliceFrom, bind_ok, if_neg (by simp [Wire.u16]),
      hR.slice (k := 2) rfl, bind_ok]
    rfl

theorem acceptsV_publish (dup : Bool) (qos : UInt8) (ret : Bool) (topic : Bytes) (id : UInt16) (payload : Bytes)
    (hwf : Wire.WF (.publish dup qos ret topic id payload)) :
    AcceptsV (.publish dup qos ret topic id payload) := by
  intro V hV rest
  generalize hp : Wire.Packet.publish dup qos ret topic id payload = p at hV hwf ⊢
  obtain ⟨hd, hs, hR, _⟩ := wire_header p hwf V rest hV
  have hfl := packet_flags_lt p hwf
  have hpt : p.type = 3 := by rw [← hp]; rfl
  rw [hpt] at hd
  obtain ⟨hq, hts, htn, hid, _⟩ := wf_publish (hp ▸ hwf)
  obtain ⟨_, f2, f3, f4⟩ := pubFlags_fields dup ret ⟨_, Nat.lt_succ_of_le hq⟩
  generalize hI : (if qos = 0 then [] else Wire.u16 id) = I
  have hb : p.body = Wire.str topic ++ (I ++ (payload ++ [])) := by
    rw [← hp, ← hI]; simp [Wire.Packet.body]
  have e2 : p.flags = Wire.b2n dup * 8 + qos.toNat * 2 + Wire.b2n ret := by rw [← hp]; rfl
  have htfn : (UInt8.ofNat (3 * 16 + p.flags)).toNat % 16 = p.flags := hpt ▸ (packet_tf p hwf).2.2
  have hfq : p.flags / 2 % 4 = qos.toNat := e2 ▸ f2
  have hfd : decide (p.flags / 8 % 2 = 1) = dup := decide_eq_of_iff (e2 ▸ f3)
  have hfr : decide (p.flags % 2 = 1) = ret := decide_eq_of_iff (e2 ▸ f4)
  rw [hb] at hR
  have hlen := encodeV_length V p
  rw [hpt]
  show ∃ d, decodePublish (Hdr.new 3) _ = .ok d ∧ _
  unfold decodePublish
  rw [sliceFrom_ok (Nat.zero_le _), bind_ok, List.drop_zero, hd, bind_ok]
  simp only []
  rw [hs, bind_ok, hR.sliceFrom, bind_ok, readLP_wire _ _ hts, bind_ok,
    if_neg (by simp [validTopic_of_topicNameOk topic htn])]
  have r2 := str_length topic ▸ hR.adv
  rw [← hI] at r2
  rw [pubId_wire _ _ _ _ qos id ?hq r2, bind_ok, hI]
  case hq => simp only [pubQoS, Hdr.flags, htfn, hfq]
  rw [hI] at r2
  have r3 := r2.adv
  have hbl : p.body.length = 2 + topic.length + (I.length + payload.length) := by
    rw [hb, List.length_append, List.length_append, str_length, List.append_nil]
  have hk : payload.length = p.body.length - (1 + V.length + (2 + topic.length) + I.length - (1 + V.length)) := by omega
  simp only []
  rw [if_neg (by omega), r3.slice hk, bind_ok]
  refine ⟨_, rfl, by rw [hlen]; simp only []; omega, ?_⟩
  simp only [absMsg, pubQoS, pubDup, pubRetain, Hdr.flags, htfn, hfq, hfd, hfr, UInt8.ofNat_toNat]
  rw [← hp]
  by_cases hq0 : qos = 0
  · rw [if_pos (by rw [hq0]; rfl), show id = 0 by rwa [if_pos hq0] at hid]
  · rw [if_neg (show ¬ qos.toNat = 0 from fun e => hq0 (UInt8.toNat_inj.mp e)), if_neg hq0, u16of_u16]

theorem acceptsV_subscribe (id : UInt16) (fs : List (Bytes × UInt8)) (hwf : Wire.WF (.subscribe id fs)) :
    AcceptsV (.subscribe id fs) := by
  intro V hV rest
  obtain ⟨hd, hs, hR, _⟩ := wire_header _ hwf V rest hV
  obtain ⟨hne, hstr, _⟩ := wf_subscribe hwf
  have hR : Rest (Wire.encodeV V (.subscribe id fs)) (1 + V.length) (Wire.u16 id ++ encFilters fs) := hR
  have hd : (Hdr.new 8).decode _ = _ := hd
  have hk : (encFilters fs).length =
      (Wire.Packet.subscribe id fs).body.length - (1 + V.length + 2 - (1 + V.length)) := by
    show _ = (Wire.u16 id ++ encFilters fs).length - _; rw [List.length_append]; show _ = 2 + _ - _; omega
  obtain ⟨vs', hloop⟩ := subLoop_wire _ fs (1 + V.length + 2) [] [] [] hR.adv hstr
  show ∃ d, decodeSubscribe (Hdr.new 8) [] [] _ = .ok d ∧ _
  unfold decodeSubscribe
  rw [sliceFrom_ok (Nat.zero_le _), bind_ok, List.drop_zero, hd, bind_ok]
  simp only []
  rw [hs, bind_ok, if_neg (by show ¬ (Wire.u16 id ++ encFilters fs).length < 2; simp [Wire.u16]),
    hR.slice (k := 2) rfl, bind_ok, ← hk, hloop, bind_ok]
  simp only [List.nil_append]
  rw [if_neg (by cases fs <;> simp at hne ⊢)]
  exact ⟨_, rfl, rfl, by simp only [absMsg]; rw [u16of_u16, ← List.zip_of_prod rfl rfl]⟩

theorem acceptsV_unsubscribe (id : UInt16) (fs : List Bytes) (hwf : Wire.WF (.unsubscribe id fs)) :
    AcceptsV (.unsubscribe id fs) := by
  intro V hV rest
  obtain ⟨hd, hs, hR, _⟩ := wire_header _ hwf V rest hV
  obtain ⟨hne, hstr, _⟩ := wf_unsubscribe hwf
  have hR : Rest (Wire.encodeV V (.unsubscribe id fs)) (1 + V.length) (Wire.u16 id ++ encTopics fs) := hR
  have hd : (Hdr.new 10).decode _ = _ := hd
  have hk : (encTopics fs).length =
      (Wire.Packet.unsubscribe id fs).body.length - (1 + V.length + 2 - (1 + V.length)) := by
    show _ = (Wire.u16 id ++ encTopics fs).length - _; rw [List.length_append]; show _ = 2 + _ - _; omega
  obtain ⟨vs', hloop⟩ := unsubLoop_wire _ fs (1 + V.length + 2) [] [] hR.adv hstr
  show ∃ d, decodeUnsubscribe (Hdr.new 10) [] _ = .ok d ∧ _
  unfold decodeUnsubscribe
  rw [sliceFrom_ok (Nat.zero_le _), bind_ok, List.drop_zero, hd, bind_ok]
  simp only []
  rw [hs, bind_ok, if_neg (by show ¬ (Wire.u16 id ++ encTopics fs).length < 2; simp [Wire.u16]),
    hR.slice (k := 2) rfl, bind_ok, ← hk, hloop, bind_ok]
  simp only [List.nil_append]
  rw [if_neg (by cases fs <;> simp at hne ⊢)]
  exact ⟨_, rfl, rfl, by simp only [absMsg]; rw [u16of_u16]⟩

theorem acceptsV_connect (c : Wire.Connect) (hwf : Wire.WF (.connect c)) : AcceptsV (.connect c) := by
  intro V hV rest
  obtain ⟨hd, hs, hR, _⟩ := wire_header _ hwf V rest hV
  have hd : (Hdr.new 1).decode _ = _ := hd
  obtain ⟨vs, hm⟩ := decodeConnectMessage_wire c hwf (1 + V.length)
  show ∃ d, decodeConnect (Hdr.new 1) {} _ = .ok d ∧ _
  unfold decodeConnect
  rw [sliceFrom_ok (Nat.zero_le _), bind_ok, List.drop_zero, hd, bind_ok]
  simp only []
  rw [hs, bind_ok, hR.sliceFrom, bind_ok, hm, bind_ok]
  simp only []
  rw [if_neg (by rw [encodeV_length]; exact fun h => h rfl)]
  exact ⟨_, rfl, (encodeV_length _ _).symm, abs_fieldsOf _ c (willQos_le_of_wf c hwf)⟩

theorem acceptsV_wf (p : Wire.Packet) (hwf : Wire.WF p) : AcceptsV p := by
  cases p with
  | connect c => exact acceptsV_connect c hwf
  | connack sp code => exact acceptsV_connack sp code hwf
  | publish dup qos ret topic id payload => exact acceptsV_publish _ _ _ _ _ _ hwf
  | puback id => exact acceptsV_ack _ id hwf (.inl rfl) rfl (by intro h ht e; simp [absMsg, show h.type = 4 from ht, e])
  | pubrec id => exact acceptsV_ack _ id hwf (.inr (.inl rfl)) rfl (by intro h ht e; simp [absMsg, show h.type = 5 from ht, e])
  | pubrel id => exact acceptsV_ack _ id hwf (.inr (.inr (.inl rfl))) rfl (by intro h ht e; simp [absMsg, show h.type = 6 from ht, e])
  | pubcomp id => exact acceptsV_ack _ id hwf (.inr (.inr (.inr (.inl rfl)))) rfl (by intro h ht e; simp [absMsg, show h.type = 7 from ht, e])
  | subscribe id fs => exact acceptsV_subscribe id fs hwf
  | suback id codes => exact acceptsV_suback id codes hwf
  | unsubscribe id fs => exact acceptsV_unsubscribe id fs hwf
  | unsuback id => exact acceptsV_ack _ id hwf (.inr (.inr (.inr (.inr rfl)))) rfl (by intro h ht e; simp [absMsg, show h.type = 11 from ht, e])
  | pingreq => exact acceptsV_bare _ (by decide) (by decide) rfl (by intro h ht; simp [absMsg, show h.type = 12 from ht])
  | pingresp => exact acceptsV_bare _ (by decide) (by decide) rfl (by intro h ht; simp [absMsg, show h.type = 13 from ht])
  | disconnect => exact acceptsV_bare _ (by decide) (by decide) rfl (by intro h ht; simp [absMsg, show h.type = 14 from ht])

theorem accepts_encodes (p : Wire.Packet) (hwf : Wire.WF p) (bs : Bytes) (h : Wire.Encodes bs p) (rest : Bytes) :
    ∃ d, decodeNew p.type (bs ++ rest) = .ok d ∧ d.n = bs.length ∧ absMsg d.msg = p := by
  obtain ⟨V, hV, rfl⟩ := h
  exact acceptsV_wf p hwf V hV rest

theorem accepts_wf (p : Wire.Packet) (hwf : Wire.WF p) (rest : Bytes) :
    ∃ d, decodeNew p.type (Wire.encode p ++ rest) = .ok d ∧ d.n = (Wire.encode p).length ∧ absMsg d.msg = p := by
  have hV := getVarint_varint p.body.length (packet_body_le p hwf) []
  rw [List.append_nil] at hV
  exact acceptsV_wf p hwf _ hV rest

end Mqtt.Proofs.Codec
