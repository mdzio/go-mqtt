/-
Representation invariant of the broker model's session bookkeeping, kept by
every event: references held by connections and by the store resolve, the store
maps an identifier to a session object of that identifier, references not
yet issued do not resolve, and a set will flag comes with a will message.
Kept by every primitive move (`linv_prim`), hence by every event.
-/
import Mqtt.Proofs.BrokerMoves

namespace Mqtt.Proofs.BrokerLife
open Mqtt.Iface.Broker Mqtt.Model.Broker
open Mqtt.Proofs.Broker (SessStep Prim step_moves stop_moves)

structure Inv (b : B) : Prop where
  /-- every connection's session reference resolves -/
  conns : ∀ cn ∈ b.conns, ∃ s, b.getSess cn.sess = some s
  /-- references not yet issued do not resolve -/
  fresh : ∀ r, b.nextRef ≤ r → b.getSess r = none
  /-- the store points to existing session objects carrying the identifier they are filed under -/
  store : ∀ p ∈ b.store, ∃ s, b.getSess p.2 = some s ∧ s.cid = p.1
  /-- a set will flag comes with a will message (`stop` never meets the nil will it would recover from) -/
  wills : ∀ r s, b.getSess r = some s → s.willFlag = true → s.will.isSome = true

theorem linv_init : Inv {} :=
  ⟨fun _ h => by simp at h, fun _ _ => rfl, fun _ h => by simp at h, fun _ _ h => by simp [B.getSess] at h⟩

theorem Inv.transfer {b b' : B} (h : Inv b)
    (hs : ∀ r s, b.getSess r = some s → ∃ s', b'.getSess r = some s' ∧ s'.cid = s.cid)
    (hf : ∀ r, b'.nextRef ≤ r → b'.getSess r = none)
    (hc : ∀ cn ∈ b'.conns, (∃ cn0 ∈ b.conns, cn0.sess = cn.sess) ∨ ∃ s, b'.getSess cn.sess = some s)
    (hst : ∀ p ∈ b'.store, p ∈ b.store ∨ ∃ s, b'.getSess p.2 = some s ∧ s.cid = p.1)
    (hw : ∀ r s, b'.getSess r = some s → s.willFlag = true → s.will.isSome = true) : Inv b' := by
  refine ⟨?_, hf, ?_, hw⟩
  · intro cn hcn
    rcases hc cn hcn with ⟨cn0, h0, he⟩ | h1
    · obtain ⟨s, hs0⟩ := h.conns cn0 h0
      obtain ⟨s', hs', _⟩ := hs _ _ hs0
      exact ⟨s', he ▸ hs'⟩
    · exact h1
  · intro p hp
    rcases hst p hp with h0 | h1
    · obtain ⟨s, hs0, hcid⟩ := h.store p h0
      obtain ⟨s', hs', hc'⟩ := hs _ _ hs0
      exact ⟨s', hs', hc'.trans hcid⟩
    · exact h1

theorem linv_frame {b b' : B} (hf : Frame b b') (h : Inv b) : Inv b' := by
  refine h.transfer (fun r s hs => ⟨s, (hf.getSess r).trans hs, rfl⟩) ?_ ?_ ?_
    (fun r s hs => h.wills r s ((hf.getSess r).symm.trans hs))
  · intro r hr; rw [hf.getSess]; exact h.fresh r (hf.nextRef ▸ hr)
  · intro cn hcn; exact .inl ⟨cn, hf.conns ▸ hcn, rfl⟩
  · intro p hp; exact .inl (hf.store ▸ hp)

theorem linv_setSess {b : B} (h : Inv b) {r : Nat} {s s' : Sess} (hs : b.getSess r = some s)
    (hr : s'.ref = r) (hcid : s'.cid = s.cid) (hwl : s'.willFlag = true → s'.will.isSome = true) :
    Inv (b.setSess s') := by
  refine h.transfer ?_ ?_ ?_ ?_ ?_
  · intro r0 s0 h0
    by_cases he : r0 = s'.ref
    · subst he
      refine ⟨s', getSess_setSess b s', ?_⟩
      rw [hr] at h0; rw [hs] at h0; cases h0; exact hcid
    · exact ⟨s0, (getSess_setSess_ne b s' r0 (Ne.symm he)).trans h0, rfl⟩
  · intro r0 hr0
    have hnone := h.fresh r0 hr0
    by_cases he : r0 = s'.ref
    · subst he; rw [hr, hs] at hnone; cases hnone
    · rw [getSess_setSess_ne b s' r0 (Ne.symm he)]; exact hnone
  · intro cn hcn; exact .inl ⟨cn, hcn, rfl⟩
  · intro p hp; exact .inl hp
  · intro r0 t ht
    by_cases he : r0 = s'.ref
    · subst he
      rw [getSess_setSess] at ht; cases ht; exact hwl
    · rw [getSess_setSess_ne b s' r0 (Ne.symm he)] at ht; exact h.wills r0 t ht

theorem linv_markDead {b : B} (h : Inv b) (c : Nat) : Inv (markDead b c) := by
  refine h.transfer (fun r s hs => ⟨s, hs, rfl⟩) h.fresh ?_ (fun p hp => .inl hp) h.wills
  intro cn hcn
  simp only [markDead, List.mem_map] at hcn
  obtain ⟨x, hx, rfl⟩ := hcn
  refine .inl ⟨x, hx, ?_⟩
  split <;> rfl

theorem linv_storeDel {b : B} (h : Inv b) (cid : Bytes) : Inv (b.storeDel cid) := by
  refine h.transfer (fun r s hs => ⟨s, hs, rfl⟩) h.fresh (fun cn hcn => .inl ⟨cn, hcn, rfl⟩) ?_ h.wills
  intro p hp
  simp only [B.storeDel, List.mem_filter] at hp
  exact .inl hp.1

theorem linv_addConn {b : B} (h : Inv b) (c : Nat) {r : Nat} {s : Sess} (hs : b.getSess r = some s) :
    Inv (addConn b c r) := by
  refine h.transfer (fun r s hs => ⟨s, hs, rfl⟩) h.fresh ?_ (fun p hp => .inl hp) h.wills
  intro cn hcn
  simp only [addConn, List.mem_append, List.mem_filter, List.mem_singleton] at hcn
  rcases hcn with ⟨h0, _⟩ | rfl
  · exact .inl ⟨cn, h0, rfl⟩
  · exact .inr ⟨s, hs⟩

theorem linv_newSess {b : B} (h : Inv b) (s : Sess) (hr : s.ref = b.nextRef)
    (hw : s.willFlag = true → s.will.isSome = true) :
    Inv ((({ b with nextRef := b.nextRef + 1 }).setSess s).storeSet s.cid s.ref) := by
  have hg : ∀ r, (B.setSess { b with nextRef := b.nextRef + 1 } s).getSess r =
      if r = s.ref then some s else b.getSess r := getSess_setSess_eq _ s
  have hn : b.getSess s.ref = none := h.fresh _ (Nat.le_of_eq hr.symm)
  refine h.transfer ?_ ?_ (fun cn hcn => .inl ⟨cn, hcn, rfl⟩) ?_ ?_
  · intro r t ht
    refine ⟨t, (hg r).trans ?_, rfl⟩
    rw [if_neg]
    · exact ht
    · intro e; rw [e, hn] at ht; cases ht
  · intro r (hr0 : b.nextRef + 1 ≤ r)
    refine (hg r).trans ?_
    rw [if_neg (by omega)]
    exact h.fresh r (by omega)
  · intro p hp
    rcases List.mem_cons.mp (show p ∈ (s.cid, s.ref) :: b.store.filter (fun p => p.1 != s.cid) from hp) with rfl | hp
    · exact .inr ⟨s, (hg _).trans (if_pos rfl), rfl⟩
    · exact .inl (List.mem_filter.mp hp).1
  · intro r t ht
    have ht := (hg r).symm.trans ht
    split at ht
    · cases ht; exact hw
    · exact h.wills r t ht

theorem _root_.Mqtt.Proofs.Broker.SessStep.life {s s' : Sess} (h : SessStep s s') :
    s'.ref = s.ref ∧ s'.cid = s.cid ∧
    ((s.willFlag = true → s.will.isSome = true) → s'.willFlag = true → s'.will.isSome = true) := by
  cases h with
  | graceful => exact ⟨rfl, rfl, fun _ hf => nomatch hf⟩
  | willSent w => exact ⟨rfl, rfl, fun _ _ => rfl⟩
  | resume req => exact ⟨rfl, rfl, fun _ => initWill_wills req _ rfl rfl⟩
  | _ => exact ⟨rfl, rfl, id⟩

theorem _root_.Mqtt.Proofs.Broker.linv_prim (b b' : B) (h : Inv b) (hp : Prim b b') : Inv b' := by
  cases hp with
  | sess hs hss => exact linv_setSess h hs hss.life.1 hss.life.2.1 (hss.life.2.2 (h.wills _ _ hs))
  | fresh s hr _ hw => exact linv_newSess h s hr hw
  | forget cid => exact linv_storeDel h cid
  | dead c => exact linv_markDead h c
  | conn c hs => exact linv_addConn h c hs
  | ctr n => exact linv_frame (b := b) ⟨rfl, rfl, rfl, rfl⟩ h
  | _ => exact linv_frame (frame_topics _ _) h

theorem linv_stop {b : B} (h : Inv b) (c : Nat) : Inv (stop b c).1 := (stop_moves b c).keeps Broker.linv_prim h

theorem linv_first {b : B} (h : Inv b) (c : Nat) (f : First) (a : Bool) : Inv (first b c f a).1 :=
  (Broker.first_moves b c f a).keeps Broker.linv_prim h

theorem linv_step {b : B} (h : Inv b) (e : Ev) : Inv (step b e).1 := (step_moves b e).keeps Broker.linv_prim h

theorem linv_run {b : B} (h : Inv b) (evs : List Ev) : Inv (run b evs).1 :=
  Mqtt.Proofs.Connect.run_induction (P := Inv) (fun _ e h => linv_step h e) evs h

theorem linv_reachable (evs : List Ev) : Inv (run {} evs).1 := linv_run linv_init evs

theorem Inv.live {b : B} (h : Inv b) {c : Nat} (hl : b.alive c = true) :
    ∃ cn s, b.getConn c = some cn ∧ cn.alive = true ∧ b.getSess cn.sess = some s :=
  Broker.live_of (fun cn hcn _ => Option.isSome_iff_exists.mpr (h.conns cn hcn)) hl

end Mqtt.Proofs.BrokerLife
