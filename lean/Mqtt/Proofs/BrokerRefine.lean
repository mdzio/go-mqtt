/-
The code-shaped broker model refines the reference broker: from related states (`R`), for every
event admitted by `okEv`, the two `step` functions lead to related states and the model's output
lies in the set of outcomes the reference broker's output describes (`Accepts`).
-/
import Mqtt.Proofs.BrokerRefineConnect
import Mqtt.Proofs.BrokerRefineQos2

namespace Mqtt.Proofs.BrokerRefine
open Mqtt.Iface.Broker Mqtt.Model.Broker
open Mqtt.Spec.Broker (Accepts)

theorem step_refines (b : B) (s : Spec.Broker.S) (e : Ev) (h : R b s) (hok : okEv b e = true) :
    R (step b e).1 (Spec.Broker.step s e).1 ∧ Accepts (Spec.Broker.step s e).2 (step b e).2 := by
  rw [spec_step_eq s e]
  cases e with
  | first c f a => exact step_first h c f a hok
  | close c => exact step_close h c
  | srvPub p =>
    simp only [okEv, Bool.and_eq_true, decide_eq_true_eq] at hok
    exact step_srvPub h p hok.1.1 hok.1.2 hok.2
  | srvSub cb f q =>
    simp only [okEv, Bool.and_eq_true, decide_eq_true_eq] at hok
    exact step_srvSub h cb f q hok.1 hok.2
  | srvUnsub cb f =>
    simp only [okEv, Bool.and_eq_true, decide_eq_true_eq] at hok
    exact step_srvUnsub h cb f hok.1 hok.2
  | packet c p =>
    cases hal : b.alive c with
    | false => exact step_packet_dead h c p hal
    | true =>
      cases p with
      | publish pub =>
        have hp : pubOk pub = true := hok
        have hq := (pubOk_iff pub hp).2.2.1
        have : pub.qos = 0 ∨ pub.qos = 1 ∨ pub.qos = 2 := by omega
        rcases this with h0 | h1 | h2
        · exact step_publish01 h c hal pub hp (.inl h0)
        · exact step_publish01 h c hal pub hp (.inr h1)
        · exact step_publish2 h c hal pub hp h2
      | pubrel id => exact step_pubrel h c hal id
      | subscribe id ts => exact step_subscribe h c hal id ts (List.all_eq_true.mp hok)
      | unsubscribe id ts => exact step_unsubscribe h c hal id ts (List.all_eq_true.mp hok)
      | disconnect => exact step_disconnect h c hal
      | pingreq | pubrec _ | puback _ | pubcomp _ | pingresp | suback _ _ | unsuback _ | connack _ _ | connectAgain =>
        exact step_packet_simple h c hal _ rfl

theorem run_refines (es : List Ev) : ∀ (b : B) (s : Spec.Broker.S), R b s → okRun b es = true →
    R (run b es).1 (specRun s es).1 ∧ AcceptsAll (specRun s es).2 (run b es).2 := by
  induction es with
  | nil => intro b s h _; exact ⟨h, .nil⟩
  | cons e rest ih =>
    intro b s h hok
    simp only [okRun, Bool.and_eq_true] at hok
    obtain ⟨r1, a1⟩ := step_refines b s e h hok.1
    obtain ⟨r2, a2⟩ := ih (step b e).1 (Spec.Broker.step s e).1 r1 hok.2
    exact ⟨r2, .cons a1 a2⟩

/-- **The broker model refines the reference broker**: along every history whose events are admitted
in the state the model is in (`okRun`), from the initial states, the output of every event is
accepted by the reference broker's output for it. -/
theorem Broker_refines_spec (es : List Ev) (hok : okRun {} es = true) :
    R (run {} es).1 (specRun {} es).1 ∧ AcceptsAll (specRun {} es).2 (run {} es).2 :=
  run_refines es {} {} R_init hok

theorem AcceptsAll.get {sos : List (List Spec.Broker.SOut)} {os : List (List Out)} (h : AcceptsAll sos os) :
    sos.length = os.length ∧ ∀ i (h1 : i < sos.length) (h2 : i < os.length), Accepts sos[i] os[i] := by
  induction h with
  | nil => exact ⟨rfl, fun i h1 _ => absurd h1 (by simp)⟩
  | cons a _ ih =>
    refine ⟨by simp [ih.1], ?_⟩
    intro i h1 h2
    cases i with
    | zero => exact a
    | succ j => exact ih.2 j (by simpa using h1) (by simpa using h2)

namespace Ex

def mqtt : Bytes := [77, 81, 84, 84]
def conn (id : Bytes) (clean : Bool) (will : Option Will := none) : Connect :=
  { protoName := mqtt, version := 4, clean := clean, will := will, clientId := id }

def tAB : Bytes := [97, 47, 98]      -- "a/b"
def tAplus : Bytes := [97, 47, 43]   -- "a/+"
def tW : Bytes := [119]              -- "w"

/-- two clients: "A" (CleanSession=0, will on "w") subscribes to "a/+" and "w";
"B" (clean) subscribes to "w"; a retained PUBLISH on "a/b" from B (QoS 1); a
QoS 2 exchange from B on "a/b"; A's socket closes (will to B); A reconnects
(session present, subscriptions back), B publishes again; the in-process API
subscribes to "a/#" and publishes; A disconnects; a connection whose first
packet is a PUBLISH is refused;
"B" connects again (CleanSession=0, will on "a/b") while its first connection is still live: that
one is closed (MQTT-3.1.4-2); "B" subscribes, connects a third time: the second connection is
closed, its will published, the session resumed (SessionPresent=1) and the subscription still delivers;
an anonymous client (empty identifier) comes and goes. -/
def history : List Ev :=
  [.first 1 (.connect (conn [65] false (some ⟨tW, [1], 1, false⟩))) true,
   .packet 1 (.subscribe 1 [(tAplus, 1), (tW, 2)]),
   .first 2 (.connect (conn [66] true)) true,
   .packet 2 (.subscribe 1 [(tW, 1)]),
   .packet 2 (.publish { qos := 1, retain := true, topic := tAB, pktid := 7, payload := [7] }),
   .packet 2 (.publish { qos := 2, topic := tAB, pktid := 8, payload := [8] }),
   .packet 2 (.pubrel 8),
   .close 1,
   .first 3 (.connect (conn [65] false)) true,
   .packet 2 (.publish { qos := 0, topic := tAB, payload := [9] }),
   .srvSub 1000 [97, 47, 35] 1,
   .srvPub { qos := 1, topic := tAB, payload := [10] },
   .packet 3 .disconnect,
   .first 4 (.other 3) true,
   .first 6 (.connect (conn [66] false (some ⟨tAB, [2], 0, false⟩))) true,
   .packet 6 (.subscribe 3 [(tAB, 1)]),
   .first 7 (.connect (conn [66] false)) true,
   .srvPub { qos := 1, topic := tAB, payload := [11] },
   .first 5 (.connect (conn [] true)) true,
   .packet 5 (.subscribe 2 [(tW, 0)]),
   .close 5]

theorem history_ok : okRun {} history = true := by decide +kernel

end Ex

example : okRun {} Ex.history = true := Ex.history_ok

/-- what the model does on it: the will reaches B on close; the reconnect is answered
SessionPresent=1 and A gets the next PUBLISH without subscribing again -/
example : (run {} Ex.history).2 =
    [[.send 1 (.connack false 0)],
     [.send 1 (.suback 1 [1, 2])],
     [.send 2 (.connack false 0)],
     [.send 2 (.suback 1 [1])],
     [.send 2 (.puback 7), .send 1 (.publish { qos := 1, topic := Ex.tAB, pktid := 7, payload := [7] })],
     [.send 2 (.pubrec 8)],
     [.send 1 (.publish { qos := 1, topic := Ex.tAB, pktid := 8, payload := [8] }), .send 2 (.pubcomp 8)],
     [.closed 1, .send 2 (.publish { qos := 1, topic := Ex.tW, pktid := 1, payload := [1] })],
     [.send 3 (.connack true 0)],
     [.send 3 (.publish { qos := 0, topic := Ex.tAB, payload := [9] })],
     [.call 1000 { qos := 1, retain := true, topic := Ex.tAB, pktid := 7, payload := [7] }],
     [.send 3 (.publish { qos := 1, topic := Ex.tAB, pktid := 2, payload := [10] }),
      .call 1000 { qos := 1, topic := Ex.tAB, pktid := 2, payload := [10] }],
     [.closed 3],
     [.closed 4],
     [.closed 2, .send 6 (.connack false 0)],
     [.send 6 (.suback 3 [1]), .send 6 (.publish { qos := 1, retain := true, topic := Ex.tAB, pktid := 7, payload := [7] })],
     [.closed 6, .call 1000 { qos := 0, topic := Ex.tAB, payload := [2] }, .send 7 (.connack true 0)],
     [.call 1000 { qos := 1, topic := Ex.tAB, payload := [11] },
      .send 7 (.publish { qos := 1, topic := Ex.tAB, pktid := 3, payload := [11] })],
     [.send 5 (.connack false 0)],
     [.send 5 (.suback 2 [0])],
     [.closed 5]] := by decide +kernel

example : R (run {} Ex.history).1 (specRun {} Ex.history).1 ∧
    AcceptsAll (specRun {} Ex.history).2 (run {} Ex.history).2 :=
  Broker_refines_spec Ex.history Ex.history_ok

end Mqtt.Proofs.BrokerRefine
